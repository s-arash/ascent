import AscentVerif.Proofs.DesugarPWNBase
/-!
# One clause of the repeated-variable pass (`repArgs`): its invariant, the shape of its output, its correctness

`RepInv` relates the environment of the output to that of the input in front of a body item, `RepCl` inside a clause.
`repArgs_correct`: the new argument list followed by the generated tests matches exactly the tuples the documented
left-to-right matching accepts.  A column that is kept matches alike on both sides (`matchArg_keep`).  A replaced column binds
its generated name; its test `x_N.eq(&(arg))` runs after the remaining columns, which leave the variables of `arg` alone
(`ScopedFrom`), so it says what the documented matching tests at the column itself.
-/
namespace AscentVerif.Surface
open AscentVerif AscentVerif.Engine

variable {E B G P A : Type}

def Inv1 (c : Nat) (ρ : Env) : Prop := ∀ k, c ≤ k → Env.get? ρ (gsRep k) = none

theorem Inv1.append {c : Nat} {ρ : Env} (h : Inv1 c ρ) {n : Env} (hn : ∀ p ∈ n, ¬ isRep p.1) : Inv1 c (n ++ ρ) :=
  Unbound.append (gen := gsRep) h hn

theorem lookup_cons (w : Var) (j : Nat) (g : Grounded) (v : Var) :
    Grounded.lookup ((w, j) :: g) v = if w = v then some j else Grounded.lookup g v := rfl

theorem lookup_orInsertAll {g : Grounded} {vs : List Var} {w : Var} {i j : Nat} :
    (orInsertAll g vs i).lookup w = some j ↔ g.lookup w = some j ∨ (g.lookup w = none ∧ w ∈ vs ∧ j = i) := by
  induction vs generalizing g with
  | nil => simp [orInsertAll]
  | cons v vs ih =>
    rw [show orInsertAll g (v :: vs) i = orInsertAll (g.orInsert v i) vs i from rfl, ih]
    unfold Grounded.orInsert
    cases hv : g.lookup v with
    | some l =>
      by_cases hwv : w = v
      · simp [hwv, hv]
      · simp [hwv]
    | none =>
      by_cases hwv : v = w
      · subst hwv
        simp [lookup_cons, hv, eq_comm]
      · simp [lookup_cons, hwv, Ne.symm hwv]

/-- between the environment `ρ` of the output and the environment `σ` of the input, in front of a body item or between two
arguments of a clause: they agree off the generated names, of which those from `gsRep c` on are unbound; the variable of every
grounded entry is bound -/
structure RepInv (g : Grounded) (c : Nat) (ρ σ : Env) : Prop where
  rel : GenRel gsRep c ρ σ
  bound : ∀ v j, g.lookup v = some j → Env.get? σ v ≠ none

theorem RepInv.nil (c : Nat) : RepInv [] c [] [] := ⟨GenRel.nil _ _, fun _ _ h => nomatch h⟩

theorem RepInv.append {g : Grounded} {c : Nat} {ρ σ : Env} (h : RepInv g c ρ σ) {n : Env}
    (hn : ∀ p ∈ n, ¬ GenOf gsRep p.1) : RepInv g c (n ++ ρ) (n ++ σ) :=
  ⟨h.rel.append hn, fun v j hl => get?_append_ne_none (h.bound v j hl) n⟩

theorem RepInv.frameRel {vs : List Var} (hvs : ∀ v ∈ vs, ¬ GenOf gsRep v) (g : Grounded) (c : Nat) :
    FrameRel vs (RepInv g c) :=
  fun _ _ h => ⟨h.rel.1.agree hvs, fun _ hk => h.append fun p hp => hvs _ (hk p hp)⟩

theorem RepInv.insert {g : Grounded} {c : Nat} {ρ σ : Env} (h : RepInv g c ρ σ) (i : Nat) {vs : List Var}
    (hvs : ∀ v ∈ vs, Env.get? σ v ≠ none) : RepInv (orInsertAll g vs i) c ρ σ :=
  ⟨h.rel, fun v j hl => (lookup_orInsertAll.1 hl).elim (h.bound v j) fun hn => hvs v hn.2.1⟩

theorem RepInv.cons_gen {g : Grounded} {c : Nat} {ρ σ : Env} (h : RepInv g c ρ σ) (x : Val) :
    RepInv g (c + 1) ((gsRep c, x) :: ρ) σ :=
  ⟨h.rel.cons_gen (gs_inj 0) x, h.bound⟩

/-- the core argument behind a variable / expression argument; the other forms, which a core-shaped body does not have
(`IsVE`), go to a dummy -/
def SArg.toArg : SArg E P → Arg E
  | .var v => .var v
  | .expr e => .expr e
  | _ => .var 0

def IsVE (a : SArg E P) : Prop := (∃ v, a = SArg.var v) ∨ ∃ e, a = SArg.expr e

theorem mapM_toCore_of_VE (as : List (SArg E P)) (h : ∀ a ∈ as, IsVE a) : as.mapM SArg.toCore = some (as.map SArg.toArg) := by
  induction as with
  | nil => simp
  | cons a as ih =>
    rw [mapM_cons_eq_some]
    refine ⟨a.toArg, as.map SArg.toArg, ?_, ih (fun b hb => h b (List.mem_cons_of_mem _ hb)), rfl⟩
    rcases h a (by simp) with ⟨v, rfl⟩ | ⟨e, rfl⟩ <;> rfl

theorem any_lookup_false {ops : Ops E B G A} {a : SArg E P} {g : Grounded} {i : Nat}
    (h : ¬ ((a.vars ops).any fun v => g.lookup v == some i) = true) : ∀ v ∈ a.vars ops, g.lookup v ≠ some i :=
  fun v hv hl => h (List.any_eq_true.2 ⟨v, hv, by rw [hl]; exact beq_self_eq_true _⟩)

theorem repArgs_cons_pos (ops : Ops E B G A) (i : Nat) (a : SArg E P) (as : List (SArg E P)) (g : Grounded) (c : Nat)
    (h : ((a.vars ops).any fun v => g.lookup v == some i) = true) :
    repArgs ops i (a :: as) g c =
      ⟨.var (gsRep c) :: (repArgs ops i as g (c + 1)).args,
       .ifc (ops.eqB (gsRep c) (a.toE ops)) :: (repArgs ops i as g (c + 1)).conds,
       (repArgs ops i as g (c + 1)).g, (repArgs ops i as g (c + 1)).c⟩ :=
  if_pos h

theorem repArgs_cons_neg (ops : Ops E B G A) (i : Nat) (a : SArg E P) (as : List (SArg E P)) (g : Grounded) (c : Nat)
    (h : ¬ ((a.vars ops).any fun v => g.lookup v == some i) = true) :
    repArgs ops i (a :: as) g c =
      ⟨a :: (repArgs ops i as (orInsertAll g (SArg.varCol a) i) c).args, (repArgs ops i as (orInsertAll g (SArg.varCol a) i) c).conds,
       (repArgs ops i as (orInsertAll g (SArg.varCol a) i) c).g, (repArgs ops i as (orInsertAll g (SArg.varCol a) i) c).c⟩ :=
  (if_neg h).trans (by cases a <;> rfl)

theorem repArgs_args_mem (ops : Ops E B G A) (i : Nat) (as : List (SArg E P)) (g : Grounded) (c : Nat) :
    ∀ a ∈ (repArgs (B := B) ops i as g c).args, (∃ k, a = SArg.var (gsRep k)) ∨ a ∈ as := by
  induction as generalizing g c with
  | nil => intro a ha; cases ha
  | cons b as ih =>
    intro a ha
    by_cases h : ((b.vars ops).any fun v => g.lookup v == some i) = true
    · rw [repArgs_cons_pos ops i b as g c h] at ha
      rcases List.mem_cons.1 ha with rfl | ha
      · exact .inl ⟨c, rfl⟩
      · exact (ih _ _ a ha).imp id (List.mem_cons_of_mem _)
    · rw [repArgs_cons_neg ops i b as g c h] at ha
      rcases List.mem_cons.1 ha with rfl | ha
      · exact .inr List.mem_cons_self
      · exact (ih _ _ a ha).imp id (List.mem_cons_of_mem _)

theorem repArgs_args_VE (ops : Ops E B G A) (i : Nat) (as : List (SArg E P)) (g : Grounded) (c : Nat)
    (has : ∀ a ∈ as, IsVE a) : ∀ a ∈ (repArgs (B := B) ops i as g c).args, IsVE a := fun a ha =>
  (repArgs_args_mem ops i as g c a ha).elim (fun ⟨_, hk⟩ => .inl ⟨_, hk⟩) (has a)

theorem repArgs_bvars (ops : Ops E B G A) (i : Nat) (as : List (SArg E P)) (g : Grounded) (c : Nat)
    (has : ∀ a ∈ as, IsVE a) :
    ∀ v ∈ ((repArgs (B := B) ops i as g c).args.map SArg.toArg).flatMap Arg.bvars,
      GenOf gsRep v ∨ v ∈ as.flatMap SArg.varCol := by
  intro v hv
  obtain ⟨b, hb, hvb⟩ := List.mem_flatMap.1 hv
  obtain ⟨a, ha, rfl⟩ := List.mem_map.1 hb
  rcases repArgs_args_mem ops i as g c a ha with ⟨k, rfl⟩ | hmem
  · exact .inl ⟨k, List.mem_singleton.1 hvb⟩
  · refine .inr (List.mem_flatMap.2 ⟨a, hmem, ?_⟩)
    rcases has a hmem with ⟨w, rfl⟩ | ⟨e, rfl⟩
    · exact hvb
    · cases hvb

theorem matchArgs_get? {I : Interp E B G P A} {varsE : E → List Var} {varsB : B → List Var} {varsG : G → List Var}
    (hV : VarsSound I varsE varsB varsG) {args : List (Arg E)} {t : Tuple} {ρ₀ ρ ρ₁ : Env}
    (h : matchArgs I ρ₀ args t ρ = some ρ₁) {v : Var} (hv : Env.get? ρ v ≠ none ∨ v ∉ args.flatMap Arg.bvars) :
    Env.get? ρ₁ v = Env.get? ρ v := by
  have hkey : ∃ n, ρ₁ = n ++ ρ ∧ ∀ p ∈ n, p.1 ≠ v := by
    rcases hv with hv | hv
    · obtain ⟨n, e, hk, _, _⟩ := matchArgs_frame hV [v] args t ρ₀ ρ ρ₁ (fun _ hw => List.mem_singleton.mp hw ▸ hv) h
      exact ⟨n, e, fun p hp he => of_decide_eq_true (List.mem_filter.mp (hk p hp)).2 (List.mem_singleton.mpr he)⟩
    · obtain ⟨n, e, hk, _, _⟩ := matchArgs_frame hV [] args t ρ₀ ρ ρ₁ (fun _ hw => nomatch hw) h
      exact ⟨n, e, fun p hp he => hv (he ▸ (List.mem_filter.mp (hk p hp)).1)⟩
  obtain ⟨n, rfl, hk⟩ := hkey
  exact get?_append_of_not_key hk ρ

/-- inside clause `i`, in front of the arguments `as`; `ρ₀` is the environment of the output before the clause, in which its
expression arguments are evaluated: it agrees with `σ` on what this clause has not grounded -/
structure RepCl (varsE : E → List Var) (ρ₀ : Env) (i : Nat) (as : List (SArg E P)) (g : Grounded) (c : Nat) (ρ σ : Env) :
    Prop where
  inv : RepInv g c ρ σ
  old : ∀ v, ¬ GenOf gsRep v → g.lookup v ≠ some i → Env.get? ρ₀ v = Env.get? σ v
  scope : ScopedFrom varsE (fun v => Env.get? σ v ≠ none) as

section
variable {varsE : E → List Var} {ρ₀ : Env} {i : Nat} {a : SArg E P} {as : List (SArg E P)} {g : Grounded} {c : Nat} {ρ σ : Env}

theorem RepCl.keep (h : RepCl varsE ρ₀ i (a :: as) g c ρ σ) {n : Env}
    (hn : ∀ p ∈ n, ¬ GenOf gsRep p.1 ∧ p.1 ∈ SArg.varCol a ∧ g.lookup p.1 = none)
    (ha : ∀ v ∈ SArg.varCol a, Env.get? (n ++ σ) v ≠ none) :
    RepCl varsE ρ₀ i as (orInsertAll g (SArg.varCol a) i) c (n ++ ρ) (n ++ σ) where
  inv := (h.inv.append fun p hp => (hn p hp).1).insert i ha
  old v hv hl := by
    have hk : ∀ p ∈ n, p.1 ≠ v := by
      rintro p hp rfl
      exact hl (lookup_orInsertAll.2 (.inr ⟨(hn p hp).2.2, (hn p hp).2.1, rfl⟩))
    rw [get?_append_of_not_key hk]
    exact h.old v hv fun hl' => hl (lookup_orInsertAll.2 (.inl hl'))
  scope := h.scope.2.mono fun v hv => hv.elim (fun hv => get?_append_ne_none hv n) (ha v)

theorem RepCl.rep (h : RepCl varsE ρ₀ i (a :: as) g c ρ σ) (ha : ∀ v ∈ SArg.varCol a, Env.get? σ v ≠ none) (x : Val) :
    RepCl varsE ρ₀ i as g (c + 1) ((gsRep c, x) :: ρ) σ :=
  ⟨h.inv.cons_gen x, h.old, h.scope.2.mono fun v hv => hv.elim id (ha v)⟩

end

theorem toE_vars {I : Interp E B G P A} {ops : Ops E B G A} (hS : SugarSound I ops) {a : SArg E P} (ha : IsVE a) :
    ops.varsE (a.toE ops) = a.vars ops := by
  rcases ha with ⟨v, rfl⟩ | ⟨e, rfl⟩
  · exact hS.varsE_varE v
  · rfl

theorem vars_eq_mentions (ops : Ops E B G A) {a : SArg E P} (ha : IsVE a) : a.vars ops = SArg.mentions ops.varsE a := by
  rcases ha with ⟨v, rfl⟩ | ⟨e, rfl⟩ <;> rfl

theorem matchSArg_test {I : Interp E B G P A} {ops : Ops E B G A} (hS : SugarSound I ops) {a : SArg E P} (x : Val) {σ : Env}
    (ha : (∃ v, a = SArg.var v ∧ Env.get? σ v ≠ none) ∨ ∃ e, a = SArg.expr e) :
    matchSArg I a x σ = if I.expr (a.toE ops) σ = x then some σ else none := by
  rcases ha with ⟨v, rfl, hv⟩ | ⟨e, rfl⟩
  · cases hσ : Env.get? σ v with
    | none => exact absurd hσ hv
    | some y => simp only [matchSArg, hσ, SArg.toE, hS.varE v σ y hσ, eq_comm]
  · rfl

theorem matchArg_keep {I : Interp E B G P A} {ops : Ops E B G A} {varsB : B → List Var} {varsG : G → List Var}
    (hV : VarsSound I ops.varsE varsB varsG) {ρ₀ : Env} {i : Nat} {a : SArg E P} {as : List (SArg E P)} {g : Grounded} {c : Nat}
    {ρ σ : Env} (h : RepCl ops.varsE ρ₀ i (a :: as) g c ρ σ) (haVE : IsVE a) (hares : ∀ v ∈ a.vars ops, ¬ GenOf gsRep v)
    (hrep : ∀ v ∈ a.vars ops, g.lookup v ≠ some i) (x : Val) :
    OptRel (RepCl ops.varsE ρ₀ i as (orInsertAll g (SArg.varCol a) i) c) (matchArg I ρ₀ a.toArg x ρ) (matchSArg I a x σ) := by
  rcases haVE with ⟨v, rfl⟩ | ⟨e, rfl⟩
  · have hv : ¬ GenOf gsRep v := hares v (List.mem_singleton.2 rfl)
    simp only [SArg.toArg, matchArg, matchSArg, h.inv.rel.1 v hv]
    cases hσ : Env.get? σ v with
    | none =>
      refine h.keep (n := [(v, x)]) (fun p hp => ?_) fun w hw => ?_
      · cases List.mem_singleton.1 hp
        refine ⟨hv, List.mem_singleton.2 rfl, ?_⟩
        cases hl : g.lookup v with
        | none => rfl
        | some j => exact absurd hσ (h.inv.bound v j hl)
      · cases List.mem_singleton.1 hw
        simp [get?_cons]
    | some y =>
      by_cases hxy : x = y
      · simp only [if_pos hxy]
        refine h.keep (n := []) (fun _ hp => nomatch hp) fun w hw => ?_
        cases List.mem_singleton.1 hw
        simp [hσ]
      · simp only [if_neg hxy]
        trivial
  · have hexpr : I.expr e ρ₀ = I.expr e σ := hV.expr e _ _ fun v hv => h.old v (hares v hv) (hrep v hv)
    simp only [SArg.toArg, matchArg, matchSArg, hexpr]
    by_cases hx : I.expr e σ = x
    · simp only [if_pos hx]
      exact h.keep (n := []) (fun _ hp => nomatch hp) fun w hw => nomatch hw
    · simp only [if_neg hx]
      trivial

theorem repArgs_correct {I : Interp E B G P A} {ops : Ops E B G A} {varsB : B → List Var} {varsG : G → List Var}
    (hS : SugarSound I ops) (hV : VarsSound I ops.varsE varsB varsG) (i : Nat) (ρ₀ : Env) (as : List (SArg E P)) :
    ∀ (t : Tuple) (g : Grounded) (c : Nat) (ρ σ : Env), (∀ a ∈ as, IsVE a) →
      (∀ v ∈ as.flatMap (SArg.mentions ops.varsE), ¬ GenOf gsRep v) → RepCl ops.varsE ρ₀ i as g c ρ σ →
      OptRel (RepInv (repArgs (B := B) ops i as g c).g (repArgs (B := B) ops i as g c).c)
        ((matchArgs I ρ₀ ((repArgs (B := B) ops i as g c).args.map SArg.toArg) t ρ).bind
          (satConds I (repArgs ops i as g c).conds))
        (matchSArgs I as t σ) := by
  induction as with
  | nil =>
    intro t g c ρ σ _ _ h
    cases t with
    | nil => exact h.inv
    | cons x xs => trivial
  | cons a as ih =>
    intro t g c ρ σ hVE hres h
    have hVE' := fun b hb => hVE b (List.mem_cons_of_mem _ hb)
    have hres' := fun v hv => hres v (List.mem_append_right _ hv)
    have haVE := hVE a List.mem_cons_self
    have hares : ∀ v ∈ a.vars ops, ¬ GenOf gsRep v := fun v hv =>
      hres v (List.mem_append_left _ (vars_eq_mentions ops haVE ▸ hv))
    by_cases hrep : ((a.vars ops).any fun v => g.lookup v == some i) = true
    · rw [repArgs_cons_pos ops i a as g c hrep]
      cases t with
      | nil => simp only [List.map_cons, matchArgs_cons_nil, matchSArgs_cons_nil]; trivial
      | cons x xs =>
        -- on the side of the input the column is a test: a variable column was grounded by this clause
        have hb : (∃ v, a = SArg.var v ∧ Env.get? σ v ≠ none) ∨ ∃ e, a = SArg.expr e := by
          rcases haVE with ⟨v, rfl⟩ | ⟨e, rfl⟩
          · refine .inl ⟨v, rfl, h.inv.bound v i ?_⟩
            simpa [SArg.vars] using hrep
          · exact .inr ⟨e, rfl⟩
        have hcol : ∀ v ∈ SArg.varCol a, Env.get? σ v ≠ none := by
          rcases hb with ⟨v, rfl, hv⟩ | ⟨e, rfl⟩
          · intro w hw
            cases List.mem_singleton.1 hw
            exact hv
          · intro w hw
            cases hw
        -- no later column binds a variable of this one
        have hvars : ∀ v ∈ a.vars ops, Env.get? σ v ≠ none ∨ v ∉ as.flatMap SArg.varCol := by
          rcases hb with ⟨w, rfl, hw⟩ | ⟨e, rfl⟩
          · intro v hv
            cases List.mem_singleton.1 hv
            exact .inl hw
          · intro v hv
            by_cases hin : v ∈ as.flatMap SArg.varCol
            · exact .inl (h.scope.1 e rfl v hv hin)
            · exact .inr hin
        have h' := h.rep hcol x
        -- so the generated test says in the final environment what the documented matching tests here
        have hkey : ∀ ρ₁, matchArgs I ρ₀ ((repArgs (B := B) ops i as g (c + 1)).args.map SArg.toArg) xs ((gsRep c, x) :: ρ) = some ρ₁ →
            satConds I (Cond.ifc (ops.eqB (gsRep c) (a.toE ops)) :: (repArgs ops i as g (c + 1)).conds) ρ₁ =
              if I.expr (a.toE ops) σ = x then satConds I (repArgs ops i as g (c + 1)).conds ρ₁ else none := by
          intro ρ₁ hm
          have hx : Env.get? ρ₁ (gsRep c) = some x := by
            rw [matchArgs_get? hV hm (.inl (by simp [get?_cons]))]
            simp [get?_cons]
          have he : I.expr (a.toE ops) ρ₁ = I.expr (a.toE ops) σ := by
            refine hV.expr _ _ _ fun v hv => ?_
            rw [toE_vars hS haVE] at hv
            rw [matchArgs_get? hV hm ?_, h'.inv.rel.1 v (hares v hv)]
            rcases hvars v hv with hb | hn
            · exact .inl (by rw [h'.inv.rel.1 v (hares v hv)]; exact hb)
            · exact .inr fun hin => (repArgs_bvars ops i as g (c + 1) hVE' v hin).elim (hares v hv) hn
          simp only [satConds, satCond, hS.eqB _ _ _ x hx, he, decide_eq_true_eq, eq_comm (a := x)]
          split <;> rfl
        simp only [List.map_cons, SArg.toArg, matchArgs, h.inv.rel.2 c (Nat.le_refl c)]
        rw [Option.bind_congr hkey, matchSArgs_cons, matchSArg_test hS x hb]
        by_cases hx : I.expr (a.toE ops) σ = x
        · simp only [if_pos hx, Option.bind_some]
          exact ih xs g (c + 1) _ σ hVE' hres' h'
        · simp only [if_neg hx, Option.bind_none, Option.bind_fun_none]
          trivial
    · rw [repArgs_cons_neg ops i a as g c hrep]
      cases t with
      | nil => simp only [List.map_cons, matchArgs_cons_nil, matchSArgs_cons_nil]; trivial
      | cons x xs =>
        simp only [List.map_cons]
        rw [matchArgs_cons, matchSArgs_cons, Option.bind_assoc]
        exact (matchArg_keep hV h haVE hares (any_lookup_false hrep) x).bind fun ρ₁ σ₁ h₁ => ih xs _ c ρ₁ σ₁ hVE' hres' h₁

end AscentVerif.Surface
