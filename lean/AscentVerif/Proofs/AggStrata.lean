import AscentVerif.Proofs.AggLatSem
/-!
# Programs without lattice relations, with aggregation: a valid, stratified SCC order

For every engine of the shape `SccsG Pass` (`Proofs/AggScc.lean`).  By the frame property alone (`FramePass`,
`Proofs/AggLatInv.lean`), for a valid stratified order the relation an aggregation item ranges over is final when the item's
SCC starts (`agg_rel_final`).  A relation is a lattice relation without a value column (`trivLat`): `Dominated` is membership,
every program is monotone and the least model `DerA` is one of the databases to stay below, so the invariants of
`Proofs/AggLatSem.lean` say "every row is derivable, the rows are the input followed by distinct derived tuples" (`PInv.lat`,
`pinv_of_lat`), and its theorems give `sccG_spec`, `sccPreG_good`, `sccsG_prefix_spec` from `PassOK`, what a pass has to
establish.  In `runG_spec` (`run_spec` for the serial engine) the per-item aggregation view is read from the FINAL program
value; `PInv.eq_model` reads the result as "value = least model".
-/
namespace AscentVerif.Engine.Agg
open AscentVerif AscentVerif.Engine

variable {E B G P A : Type}

theorem agg_rel_final {Pass : List RelId → List (Rule E B G P A) → SccSt → SccSt → Prop} (hf : FramePass Pass)
    {p : Program E B G P A} {pre post : SccOrder} {scc : List Nat} {st st' : St}
    (ho : validOrder p (pre ++ scc :: post) = true)
    (hs : ∀ s ∈ pre ++ scc :: post, aggOverDynamic p s = false)
    (hpost : SccsG Pass p (scc :: post) st st')
    {rule : Rule E B G P A} (hrule : rule ∈ sccRules p scc) {a : AggClause E A} (ha : Item.agg a ∈ rule.body) :
    relSt st' a.rel = relSt st a.rel :=
  sccsG_stable hf a.rel hpost (agg_rel_not_later p pre post scc ho hs rule hrule a ha)

theorem facts_lt_of_len {st : St} {n : Nat} (hlen : st.length = n) {f : Fact} (hf : factsOf st f) : f.rel < n := by
  have := lt_of_mem_rows st f.rel f.args hf
  rw [hlen] at this; exact this

section Rel
variable {I : Interp E B G P A} {p : Program E B G P A} {L : LatOrder I} {aggv : AggClause E A → List Tuple}
  {inp : RelId → List Tuple} (hl : ∀ d ∈ p.rels, d.lat = false)
include hl

theorem dominated_iff (M : DB) (f : Fact) : Dominated I L p M f ↔ M f := dominated_rel I L p (declOf_lat p hl f.rel)

theorem monoI_of_rel (aggv : AggClause E A → List Tuple) : ALS.MonoI I L p aggv := by
  intro M M' _ _ hle rule _ ρ hsat
  exact ⟨ρ, SatA.mono (fun f hf => (dominated_iff hl M' f).mp (hle f hf)) hsat, fun h _ => Dominated.of_mem I L p rfl⟩

/-- the least model is one of the databases the engine must stay below -/
theorem tgt_derA (aggv : AggClause E A → List Tuple) (inp : RelId → List Tuple) :
    ALS.Tgt I L p aggv inp (DerA I p.rules aggv (inDB p inp)) := by
  refine ⟨monoI_of_rel hl aggv, ?_, fun f hf => Dominated.of_mem I L p (derA_input hf),
    fun rule hr ρ hsat h hh => Dominated.of_mem I L p (derA_cons ⟨rule, hr, ρ, hsat, h, hh, rfl⟩)⟩
  intro r _ _ hlat
  rw [isLat_eq, declOf_lat p hl r] at hlat
  cases hlat

theorem closedRules_iff_lat {rules : List (Rule E B G P A)} {D : DB} :
    ClosedForA I aggv (Dominated I L p) rules D ↔ ClosedRules I aggv rules D :=
  forall₂_congr fun _ _ => forall₂_congr fun _ _ => forall₂_congr fun _ _ => dominated_iff hl _ _

theorem good_of_lat {dynR : List RelId} {s : SccSt} (h : LInvT I L p inp dynR (ALS.Tgt I L p aggv inp) s) :
    Good I p inp aggv p.rels.length s :=
  fun r hr => ⟨fun t ht => (dominated_iff hl _ ⟨r, t⟩).mp (h.below _ (tgt_derA hl aggv inp) ⟨r, t⟩ ht),
    h.relset r hr (declOf_lat p hl r)⟩

theorem pinv_of_lat {K : Prop} {st : St} (hp : ALS.LPInv I L p aggv inp K st) : PInv I p inp aggv K p.rels.length st :=
  ⟨hp.len, fun r hr => ⟨fun t ht => (dominated_iff hl _ ⟨r, t⟩).mp (hp.below _ (tgt_derA hl aggv inp) ⟨r, t⟩ ht),
    hp.relset r hr (declOf_lat p hl r)⟩, hp.idxAll, fun hk r => hp.idxNd hk r (declOf_lat p hl r)⟩

theorem PInv.lat {K : Prop} {st : St} (hp : PInv I p inp aggv K p.rels.length st) : ALS.LPInv I L p aggv inp K st := by
  refine ⟨hp.len, fun r hlat => ?_, fun r hr _ => (hp.good r hr).2, hp.idxAll, ?_, fun hk r _ => hp.idxNd hk r⟩
  · rw [declOf_lat p hl r] at hlat
    cases hlat
  · -- a derivable fact is in every closed database
    intro M hM f hf
    refine (dominated_iff hl M f).mpr (derA_least I p.rules aggv (inDB p inp) M ⟨?_, ?_⟩ f ?_)
    · exact fun g hg => (dominated_iff hl M g).mp (hM.2.2.1 g hg)
    · rintro g ⟨rule, hr, ρ, hsat, h, hh, rfl⟩
      exact (dominated_iff hl M _).mp (hM.2.2.2 rule hr ρ hsat h hh)
    · exact (hp.good f.rel (facts_lt_of_len hp.len hf)).1 f.args hf

end Rel

section Strata
variable {I : Interp E B G P A} {cfg : Config} {p : Program E B G P A} {inp : RelId → List Tuple} {K : Prop}
  {aggv : AggClause E A → List Tuple}
  {Pass : List RelId → List (Rule E B G P A) → SccSt → SccSt → Prop}

/-- what the theorems below ask of the pass of SCC `scc`: when the aggregation items of the SCC range over non-dynamic
relations and read `aggv` from the SCC's entry value, a pass establishes `LPassOK` (with `K`: the index bags stay
duplicate-free) -/
def PassOK (I : Interp E B G P A) (cfg : Config) (p : Program E B G P A) (inp : RelId → List Tuple)
    (aggv : AggClause E A → List Tuple) (K : Prop)
    (Pass : List RelId → List (Rule E B G P A) → SccSt → SccSt → Prop) (scc : List Nat) : Prop :=
  ∀ st, (∀ rule ∈ sccRules p scc, ∀ a, Item.agg a ∈ rule.body →
      (dynRels p scc).contains a.rel = false ∧ aggOf cfg p st a = aggv a) →
    LPassOK I (trivLat I) p inp K (ALS.Tgt I (trivLat I) p aggv inp) aggv (DBLe I (trivLat I) p)
      (Dominated I (trivLat I) p) Pass st (dynRels p scc) (sccRules p scc)

variable (hl : ∀ d ∈ p.rels, d.lat = false)
  (hh : ∀ r ∈ p.rules, ∀ h ∈ r.heads, h.rel < p.rels.length)

include hl hh in
/-- **one SCC**, provided its aggregation items range over non-dynamic relations and read `aggv` from the program
value at SCC entry -/
theorem sccG_spec {scc : List Nat} {st st' : St} (hp : PInv I p inp aggv K p.rels.length st)
    (hagg : ∀ rule ∈ sccRules p scc, ∀ a, Item.agg a ∈ rule.body →
      (dynRels p scc).contains a.rel = false ∧ aggOf cfg p st a = aggv a)
    (hpass : PassOK I cfg p inp aggv K Pass scc) (h : SccG Pass p scc st st') :
    PInv I p inp aggv K p.rels.length st' ∧
      (∀ r, (dynRels p scc).contains r = false → relSt st' r = relSt st r) ∧
      (∀ r t, t ∈ (relSt st r).rows → t ∈ (relSt st' r).rows) ∧
      ClosedRules I aggv (sccRules p scc) (factsOf st') := by
  obtain ⟨h1, h2, h4, h3⟩ := sccG_spec' (alongDominated I (trivLat I) p) hh (hpass st hagg)
    (PInv.lat (L := trivLat I) hl hp) h
  exact ⟨pinv_of_lat hl h1, h2,
    fun r t ht => (dominated_iff hl _ ⟨r, t⟩).mp (h3 ⟨r, t⟩ ht), (closedRules_iff_lat hl).mp h4⟩

include hl hh in
/-- an SCC abandoned after whole iterations: the rows are derivable and extend the input -/
theorem sccPreG_good {scc : List Nat} {st : St} {s1 a' : SccSt} (hp : PInv I p inp aggv K p.rels.length st)
    (hagg : ∀ rule ∈ sccRules p scc, ∀ a, Item.agg a ∈ rule.body →
      (dynRels p scc).contains a.rel = false ∧ aggOf cfg p st a = aggv a)
    (hpass : PassOK I cfg p inp aggv K Pass scc) (h : SccPreG Pass p scc st s1 a') :
    WF p.rels.length (dynRels p scc) a' ∧ Good I p inp aggv p.rels.length a' := by
  have hlp := PInv.lat (L := trivLat I) hl hp
  obtain ⟨_, _, hg, _, hcase⟩ := sccPreG_track (alongDominated I (trivLat I) p)
    (hlp.enter (dynRels p scc) (dynRels_lt p hh scc)) (hlp.enter_nd _) (hpass st hagg) h
  rcases hcase with ⟨_, rfl⟩ | ⟨_, rfl⟩
  · exact ⟨hg.inv.wf, good_of_lat hl hg.inv⟩
  · exact ⟨WF_shift hg.inv.wf, good_of_lat hl (LInvT_shift hg.inv)⟩

include hl in
theorem detPass_ok (scc : List Nat) : PassOK I cfg p inp aggv K (detPass I cfg p) scc := by
  rw [detPass_cfg I cfg p hl]
  exact fun st hag => ALS.detPass_ok (sccRules p scc) (sccRules_sub p scc) hag (dynRels_heads p scc)

variable {o : SccOrder} (ho : validOrder p o = true) (hs : ∀ s ∈ o, aggOverDynamic p s = false)
  (hf : FramePass Pass)

include hl hh ho hs hf in
/-- a prefix `done ++ rest` of the order has been run (`post` has not): the view `aggv` must be what the items of the
SCCs that are run read from the value `st'` reached -/
theorem sccsG_prefix_spec (hpass : ∀ scc, PassOK I cfg p inp aggv K Pass scc)
    (post : SccOrder) {rest : SccOrder} {st st' : St} (hrun : SccsG Pass p rest st st') : ∀ (done : SccOrder),
    done ++ (rest ++ post) = o → PInv I p inp aggv K p.rels.length st →
    (∀ scc ∈ done, ClosedRules I aggv (sccRules p scc) (factsOf st)) →
    (∀ scc ∈ rest, ∀ rule ∈ sccRules p scc, ∀ a, Item.agg a ∈ rule.body → aggOf cfg p st' a = aggv a) →
    PInv I p inp aggv K p.rels.length st' ∧
      ∀ scc ∈ done ++ rest, ClosedRules I aggv (sccRules p scc) (factsOf st') := by
  intro done hdone hp hcl hfin
  obtain ⟨h1, h2, _⟩ := ALS.sccsG_spec' hh o ho hs hf hpass post hrun done hdone (PInv.lat (L := trivLat I) hl hp)
    (fun s hs => (closedRules_iff_lat hl).mpr (hcl s hs)) hfin
  exact ⟨pinv_of_lat hl h1, fun s hs => (closedRules_iff_lat hl).mp (h2 s hs)⟩

/-- after `updateIndices` the stored index of every relation holds exactly its row numbers
(each once: the indices are rebuilt, whatever they held before) -/
theorem PInv_start (I : Interp E B G P A) (K : Prop) (aggv : AggClause E A → List Tuple) {s : St} (hst : WFSt' p s)
    (hinp : ∀ r, r < p.rels.length → (relSt s r).rows = inp r) :
    PInv I p inp aggv K p.rels.length (updateIndices s) := by
  refine ⟨by simpa [updateIndices] using hst.1, ?_, ?_, ?_⟩
  · intro r hr
    rw [relSt_updateIndices]
    simp only [hinp r hr]
    refine ⟨fun t ht => derA_input ⟨hr, ht⟩, [], by simp, List.nodup_nil, fun t ht => by simp at ht⟩
  · intro r i
    rw [relSt_updateIndices]
    simp only [List.mem_range]
  · intro _ r
    rw [relSt_updateIndices]
    exact List.nodup_range

include hl hh ho hs hf in
theorem runG_spec (hpass : ∀ aggv scc, PassOK I cfg p inp aggv K Pass scc) {s s' : St} (hst : WFSt' p s)
    (hinp : ∀ r, r < p.rels.length → (relSt s r).rows = inp r)
    (hrun : SccsG Pass p o (updateIndices s) s') :
    PInv I p inp (aggOf cfg p s') K p.rels.length s' ∧ ClosedRules I (aggOf cfg p s') p.rules (factsOf s') := by
  have h := sccsG_prefix_spec hl hh ho hs hf (hpass (aggOf cfg p s')) [] hrun [] (by simp)
    (PInv_start I K _ hst hinp) (fun _ hscc => nomatch hscc) (fun _ _ _ _ _ _ => rfl)
  exact ⟨h.1, forall_rules_of_valid p o ho h.2⟩

end Strata

section Final
variable {I : Interp E B G P A} {p : Program E B G P A} {inp : RelId → List Tuple} {aggv : AggClause E A → List Tuple}
  {K : Prop} {st : St}

theorem PInv.inp_sub (hp : PInv I p inp aggv K p.rels.length st) : ∀ f, inDB p inp f → factsOf st f := by
  rintro f ⟨hr, hf⟩
  obtain ⟨_, derived, hrows, _, _⟩ := hp.good f.rel hr
  show f.args ∈ (relSt st f.rel).rows
  rw [hrows]; exact List.mem_append_left _ hf

theorem PInv.sound (hp : PInv I p inp aggv K p.rels.length st) :
    ∀ f, factsOf st f → DerA I p.rules aggv (inDB p inp) f := by
  intro f hf
  have := (hp.good f.rel (facts_lt_of_len hp.len hf)).1 f.args hf
  cases f; exact this

theorem PInv.eq_model (hp : PInv I p inp aggv K p.rels.length st) (hcl : ClosedRules I aggv p.rules (factsOf st)) :
    ∀ f, factsOf st f ↔ DerA I p.rules aggv (inDB p inp) f := by
  refine fun f => ⟨hp.sound f, derA_least I p.rules aggv _ _ ⟨hp.inp_sub, ?_⟩ f⟩
  rintro f ⟨rule, hrule, ρ, hsat, h, hhd, rfl⟩
  exact hcl rule hrule ρ hsat h hhd

theorem PInv.wfSt (h : PInv I p inp aggv K p.rels.length st) : WFSt' p st :=
  wfSt'_of_idx p h.len fun r i hi => (h.idxAll r i).mpr hi

end Final

section Serial
variable (I : Interp E B G P A) (cfg : Config) (p : Program E B G P A) (inp : RelId → List Tuple) (K : Prop)
  (hl : ∀ d ∈ p.rels, d.lat = false)
  (hh : ∀ r ∈ p.rules, ∀ h ∈ r.heads, h.rel < p.rels.length)
  (o : SccOrder) (ho : validOrder p o = true) (hs : ∀ s ∈ o, aggOverDynamic p s = false)
  (dl : Deadline) (fuel : Nat) (s : St) (ps : ProgSt) (hst : WFSt' p s)
  (hinp : ∀ r, r < p.rels.length → (relSt s r).rows = inp r)
  (hrun : runTimeout I cfg p o dl fuel s = .done ps)

include hl hh ho hs hst hinp hrun in
/-- everything the final theorems need about a completed run (any deadline oracle) -/
theorem run_spec : PInv I p inp (aggOf cfg p ps.st) K p.rels.length ps.st ∧
    ClosedRules I (aggOf cfg p ps.st) p.rules (factsOf ps.st) :=
  runG_spec hl hh ho hs (detPass_frame I cfg p hl) (fun _ => detPass_ok hl) hst hinp (runSccs_sccsG I cfg p hrun)

include hl hh ho hs hst hinp hrun in
theorem runFrom_idx : (∀ r i, i < (relSt ps.st r).rows.length ↔ i ∈ (relSt ps.st r).idx) ∧
    (K → ∀ r, (relSt ps.st r).idx.Nodup) :=
  let h := (run_spec I cfg p inp K hl hh o ho hs dl fuel s ps hst hinp hrun).1
  ⟨h.idxAll, h.idxNd⟩

end Serial

end AscentVerif.Engine.Agg
