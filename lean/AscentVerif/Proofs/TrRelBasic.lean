import AscentVerif.Model.TrRelUF
import AscentVerif.Spec.UFSpec
import AscentVerif.Proofs.ListBasics
/-!
The building blocks of `Model/TrRelUF.lean`, as they are READ: association lists (`alGet` after `alSet` / `alRemove`),
membership in the list sets after each set primitive, and the set-valued maps behind `set_connections` /
`reverse_set_connections`.  Such a map is only ever read through `rel m a b` ("`b` is in the set stored under key `a`");
each map primitive gets its effect on `rel`, and its preservation of an upper bound `MapLe G m` ("every stored pair
satisfies `G`").  `addNodeNew_run` is `add_node_new` as it runs; every statement about `add_node_new` starts from it.
The reference side: reachability over the added pairs (`Reach`), histories in which no pair closes a cycle (`AcyclicFrom`).
-/
namespace AscentVerif.TrRel

@[simp] theorem Res.bind_ok {α β : Type} (a : α) (f : α → Res β) : (Res.ok a >>= f) = f a := rfl
@[simp] theorem Res.bind_panic {α β : Type} (f : α → Res β) : ((Res.panic : Res α) >>= f) = .panic := rfl
@[simp] theorem Res.pure_eq {α : Type} (a : α) : (pure a : Res α) = .ok a := rfl

instance : LawfulMonad Res := LawfulMonad.mk'
  (id_map := fun x => by cases x <;> rfl)
  (pure_bind := fun _ _ => rfl)
  (bind_assoc := fun x _ _ => by cases x <;> rfl)

theorem Res.bind_eq_ok {α β : Type} {x : Res α} {f : α → Res β} {b : β} (h : (x >>= f) = .ok b) :
    ∃ a, x = .ok a ∧ f a = .ok b := by
  cases x with
  | ok a => exact ⟨a, rfl, h⟩
  | panic => cases h

theorem unwrap_eq_ok {α : Type} {o : Option α} {a : α} (h : unwrap o = .ok a) : o = some a := by
  cases o with
  | none => cases h
  | some b => cases h; rfl

section AL
variable {κ β : Type} [DecidableEq κ]

theorem alGet_alSet (m : List (κ × β)) (k : κ) (v : β) (k' : κ) :
    alGet (alSet m k v) k' = if k = k' then some v else alGet m k' := by
  induction m with
  | nil =>
    simp only [alSet, alGet]
  | cons a t ih =>
    obtain ⟨a1, a2⟩ := a
    simp only [alSet]
    by_cases h : a1 = k
    · subst h
      simp only [if_true, alGet]
      by_cases h' : a1 = k' <;> simp [h']
    · simp only [if_neg h, alGet, ih]
      by_cases h' : a1 = k'
      · subst h'; simp [Ne.symm h]
      · simp [h']

theorem alGet_alRemove (m : List (κ × β)) (k k' : κ) :
    alGet (alRemove m k) k' = if k = k' then none else alGet m k' := by
  induction m with
  | nil => simp [alRemove, alGet]
  | cons a t ih =>
    obtain ⟨a1, a2⟩ := a
    unfold alRemove at ih ⊢
    by_cases h : a1 = k
    · subst h
      simp only [List.filter_cons, ne_eq, not_true_eq_false, decide_false, Bool.false_eq_true, if_false, ih]
      by_cases h' : a1 = k'
      · simp [h']
      · simp [h', alGet]
    · simp only [List.filter_cons, ne_eq, h, not_false_eq_true, decide_true, if_true, alGet, ih]
      by_cases h' : a1 = k'
      · subst h'; simp [Ne.symm h]
      · simp [h']

theorem alGet_alSet_some {m : List (κ × β)} {k k' : κ} {v w : β} (h : alGet (alSet m k v) k' = some w) :
    (k = k' ∧ v = w) ∨ (k ≠ k' ∧ alGet m k' = some w) := by
  rw [alGet_alSet] at h
  split at h
  · next e => exact Or.inl ⟨e, Option.some.inj h⟩
  · next e => exact Or.inr ⟨e, h⟩

theorem alSet_self {m : List (κ × β)} {k : κ} {v : β} (h : alGet m k = some v) : alSet m k v = m := by
  induction m with
  | nil => cases h
  | cons a rest ih =>
    obtain ⟨a1, a2⟩ := a
    simp only [alGet] at h
    simp only [alSet]
    split
    · next e => rw [if_pos e] at h; cases h; rfl
    · next e => rw [if_neg e] at h; rw [ih h]

theorem alSet_ne_nil (m : List (κ × β)) (k : κ) (v : β) : alSet m k v ≠ [] := by
  cases m with
  | nil => simp [alSet]
  | cons a t =>
    obtain ⟨a1, a2⟩ := a
    simp only [alSet]
    split <;> simp

theorem isSome_alSet (m : List (κ × β)) (k : κ) (v : β) (k' : κ) :
    (alGet (alSet m k v) k').isSome = true ↔ ((alGet m k').isSome = true ∨ k' = k) := by
  rw [alGet_alSet]
  by_cases h : k = k'
  · subst h; simp
  · have : ¬ k' = k := fun e => h e.symm
    simp [h, this]

theorem alSet_length_of_some {m : List (κ × β)} {k : κ} {v' : β} (v : β) (h : alGet m k = some v') :
    (alSet m k v).length = m.length := by
  induction m with
  | nil => simp [alGet] at h
  | cons a t ih =>
    obtain ⟨a1, a2⟩ := a
    simp only [alSet]
    by_cases hk : a1 = k
    · simp [hk]
    · simp only [alGet, if_neg hk] at h
      simp [hk, ih h]

theorem alSet_length_of_none {m : List (κ × β)} {k : κ} (v : β) (h : alGet m k = none) :
    (alSet m k v).length = m.length + 1 := by
  induction m with
  | nil => simp [alSet]
  | cons a t ih =>
    obtain ⟨a1, a2⟩ := a
    simp only [alSet]
    by_cases hk : a1 = k
    · simp [alGet, hk] at h
    · simp only [alGet, if_neg hk] at h
      simp [hk, ih h]

theorem length_le_alSet (m : List (κ × β)) (k : κ) (v : β) : m.length ≤ (alSet m k v).length := by
  cases h : alGet m k with
  | none => rw [alSet_length_of_none v h]; exact Nat.le_succ _
  | some v' => rw [alSet_length_of_some v h]; exact Nat.le_refl _

theorem length_le_foldl_alSet (l : List κ) (v : β) (m : List (κ × β)) :
    m.length ≤ (l.foldl (fun m s => alSet m s v) m).length := by
  induction l generalizing m with
  | nil => exact Nat.le_refl _
  | cons s rest ih => exact Nat.le_trans (length_le_alSet m s v) (ih _)

theorem mem_of_alGet_some {m : List (κ × β)} {k : κ} {v : β} (h : alGet m k = some v) :
    (k, v) ∈ m := by
  induction m with
  | nil => simp [alGet] at h
  | cons a t ih =>
    obtain ⟨a1, a2⟩ := a
    simp only [alGet] at h
    by_cases hk : a1 = k
    · rw [if_pos hk] at h; cases h; subst hk; exact List.mem_cons_self ..
    · rw [if_neg hk] at h; exact List.mem_cons_of_mem _ (ih h)

theorem alGet_foldl_alRemove (l : List κ) (m : List (κ × β)) (k : κ) :
    alGet (l.foldl alRemove m) k = if k ∈ l then none else alGet m k := by
  induction l generalizing m with
  | nil => rfl
  | cons s rest ih =>
    rw [List.foldl_cons, ih, alGet_alRemove]
    by_cases hs : s = k
    · simp [hs]
    · have : ¬ k = s := fun e => hs e.symm
      simp [hs, this]

theorem alGet_foldl_alSet (l : List κ) (v : β) (m : List (κ × β)) (k : κ) :
    alGet (l.foldl (fun m s => alSet m s v) m) k = if k ∈ l then some v else alGet m k := by
  induction l generalizing m with
  | nil => rfl
  | cons s rest ih =>
    rw [List.foldl_cons, ih, alGet_alSet]
    by_cases hs : s = k
    · simp [hs]
    · have : ¬ k = s := fun e => hs e.symm
      simp [hs, this]

end AL

theorem mem_nsInsert (s : NSet) (x y : Nat) : y ∈ (nsInsert s x).1 ↔ y ∈ s ∨ y = x := by
  by_cases h : x ∈ s
  · simp only [nsInsert, List.contains_eq_mem, h, decide_true, if_true]
    exact ⟨Or.inl, fun h' => h'.elim id fun e => e ▸ h⟩
  · simp [nsInsert, h]

theorem mem_nsRemove (s : NSet) (x y : Nat) : y ∈ nsRemove s x ↔ y ∈ s ∧ y ≠ x := by
  simp [nsRemove]

theorem mem_nsDiff (a b : NSet) (y : Nat) : y ∈ nsDiff a b ↔ y ∈ a ∧ y ∉ b := by
  simp [nsDiff]

theorem mem_nsInter (a b : NSet) (y : Nat) : y ∈ nsInter a b ↔ y ∈ a ∧ y ∈ b := by
  simp [nsInter]

theorem mem_nsExtend (s : NSet) (xs : List Nat) (y : Nat) : y ∈ nsExtend s xs ↔ y ∈ s ∨ y ∈ xs := by
  unfold nsExtend
  induction xs generalizing s with
  | nil => simp
  | cons x t ih => simp only [List.foldl_cons, ih, mem_nsInsert, List.mem_cons, or_assoc]

theorem mem_foldl_nsRemove (sub : List Nat) (s : NSet) (y : Nat) : y ∈ sub.foldl nsRemove s ↔ y ∈ s ∧ y ∉ sub := by
  induction sub generalizing s with
  | nil => simp
  | cons x t ih =>
    simp only [List.foldl_cons, ih, mem_nsRemove, List.mem_cons, not_or]
    constructor
    · rintro ⟨⟨h1, h2⟩, h3⟩; exact ⟨h1, h2, h3⟩
    · rintro ⟨h1, h2, h3⟩; exact ⟨⟨h1, h2⟩, h3⟩

theorem mem_keepDifference (s sub : NSet) (y : Nat) : y ∈ keepDifference s sub ↔ y ∈ s ∧ y ∉ sub := by
  unfold keepDifference
  split
  · exact mem_foldl_nsRemove sub s y
  · simp

theorem mem_pushNew {α : Type} [BEq α] [LawfulBEq α] (a : List α) (x v : α) :
    v ∈ (if a.contains x then a else a ++ [x]) ↔ v ∈ a ∨ v = x := by
  split
  · next h => exact ⟨Or.inl, fun h' => h'.elim id fun e => e ▸ List.contains_iff_mem.mp h⟩
  · simp

theorem mem_mergeSets (a b : List Int) (v : Int) : v ∈ mergeSets a b ↔ v ∈ a ∨ v ∈ b := by
  have key : ∀ (b a : List Int), v ∈ b.foldl (fun acc x => if acc.contains x then acc else acc ++ [x]) a ↔ v ∈ a ∨ v ∈ b := by
    intro b
    induction b with
    | nil => simp
    | cons x t ih => intro a; rw [List.foldl_cons, ih, mem_pushNew, List.mem_cons, or_assoc]
  unfold mergeSets
  by_cases h : a.length < b.length
  · simp only [h, if_true, key]; exact Or.comm
  · simp only [h, if_false, key]

theorem mem_dedupConsecutive_iff : ∀ (l : List Nat) (s : Nat), s ∈ TrRel.dedupConsecutive l ↔ s ∈ l := by
  intro l s
  induction l with
  | nil => exact Iff.rfl
  | cons x l ih =>
    cases l with
    | nil => exact Iff.rfl
    | cons y rest =>
      rw [TrRel.dedupConsecutive]
      split
      · next hxy => simp only [hxy, List.mem_cons, ih, or_self_left]
      · simp only [List.mem_cons, ih]

def rel (m : NMap) (a b : Nat) : Prop := ∃ s, alGet m a = some s ∧ b ∈ s

theorem rel_alSet (m : NMap) (k : Nat) (s : NSet) (a b : Nat) :
    rel (alSet m k s) a b ↔ if k = a then b ∈ s else rel m a b := by
  unfold rel; rw [alGet_alSet]
  by_cases h : k = a
  · simp [h]
  · simp [h]

theorem mem_iff_rel {m : NMap} {k : Nat} {s : NSet} (h : alGet m k = some s) (x : Nat) : x ∈ s ↔ rel m k x := by
  unfold rel; rw [h]; simp

theorem mem_alGet_getD (m : NMap) (k x : Nat) : x ∈ (alGet m k).getD [] ↔ rel m k x := by
  unfold rel
  cases alGet m k <;> simp

theorem any_contains_iff_rel (m : NMap) (a b : Nat) : (alGet m a).any (fun s => s.contains b) = true ↔ rel m a b := by
  unfold rel
  cases alGet m a with
  | none => simp
  | some s => simp

theorem rel_alSet_restrict {m : NMap} {k : Nat} {s s' : NSet} {P : Nat → Prop} (hs : alGet m k = some s)
    (hs' : ∀ x, x ∈ s' ↔ x ∈ s ∧ P x) (a b : Nat) : rel (alSet m k s') a b ↔ rel m a b ∧ (a = k → P b) := by
  rw [rel_alSet]
  by_cases h : k = a
  · subst h
    rw [if_pos rfl, hs', mem_iff_rel hs]
    simp only [true_imp_iff]
  · have : ¬ a = k := fun e => h e.symm
    simp only [if_neg h, this, false_imp_iff, and_true]

theorem rel_foldl_alRemove (l : List Nat) (m : NMap) (a b : Nat) : rel (l.foldl alRemove m) a b ↔ a ∉ l ∧ rel m a b := by
  unfold rel
  rw [alGet_foldl_alRemove]
  by_cases h : a ∈ l
  · rw [if_pos h]
    exact ⟨fun ⟨_, hs, _⟩ => (nomatch hs), fun h' => absurd h h'.1⟩
  · rw [if_neg h]
    exact ⟨fun h' => ⟨h, h'⟩, fun h' => h'.2⟩

theorem entryOrDefault_snd (m : NMap) (k : Nat) : (entryOrDefault m k).2 = (alGet m k).getD [] := by
  unfold entryOrDefault; cases alGet m k <;> rfl

theorem rel_entryOrDefault (m : NMap) (k a b : Nat) : rel (entryOrDefault m k).1 a b ↔ rel m a b := by
  unfold entryOrDefault
  cases h : alGet m k with
  | some s => rfl
  | none =>
    simp only []
    rw [rel_alSet]
    by_cases hk : k = a
    · subst hk; simp [rel, h]
    · simp [hk]

theorem alGet_entryOrDefault_self (m : NMap) (k : Nat) :
    alGet (entryOrDefault m k).1 k = some ((alGet m k).getD []) := by
  unfold entryOrDefault
  cases h : alGet m k with
  | some s => simp [h]
  | none => simp [alGet_alSet]

theorem alGet_entryOrDefault_of_some {m : NMap} {k : Nat} {s : NSet} (k' : Nat) (h : alGet m k = some s) :
    alGet (entryOrDefault m k').1 k = some s := by
  unfold entryOrDefault
  cases hk : alGet m k' with
  | some s' => exact h
  | none =>
    simp only
    rw [alGet_alSet]
    have : k' ≠ k := by intro e; subst e; rw [h] at hk; cases hk
    rw [if_neg this]; exact h

theorem alGet_entryInsert_self (m : NMap) (k x : Nat) : ∃ s, alGet (entryInsert m k x).1 k = some s := by
  unfold entryInsert
  exact ⟨_, by simp only; rw [alGet_alSet, if_pos rfl]⟩

theorem mem_entryOrDefault_snd (m : NMap) (k b : Nat) : b ∈ (entryOrDefault m k).2 ↔ rel m k b := by
  rw [entryOrDefault_snd]
  exact mem_alGet_getD m k b

/-- `map.entry(k).or_default()` followed by an update `g` that adds the members satisfying `P`;
`insert` and `extend` are the two instances -/
theorem rel_entry_update (m : NMap) (k : Nat) (g : NSet → NSet) (P : Nat → Prop)
    (hg : ∀ s b, b ∈ g s ↔ b ∈ s ∨ P b) (a b : Nat) :
    rel (alSet (entryOrDefault m k).1 k (g (entryOrDefault m k).2)) a b ↔ rel m a b ∨ (a = k ∧ P b) := by
  rw [rel_alSet]
  by_cases h : k = a
  · subst h; simp only [if_true, hg, mem_entryOrDefault_snd, true_and]
  · simp only [if_neg h, rel_entryOrDefault, Ne.symm h, false_and, or_false]

theorem rel_entryInsert (m : NMap) (k x a b : Nat) :
    rel (entryInsert m k x).1 a b ↔ rel m a b ∨ (a = k ∧ b = x) :=
  rel_entry_update m k (fun s => (nsInsert s x).1) (· = x) (fun s b => mem_nsInsert s x b) a b

theorem entryInsert_snd (m : NMap) (k x : Nat) : (entryInsert m k x).2 = true ↔ ¬ rel m k x := by
  rw [← mem_entryOrDefault_snd]
  by_cases h : x ∈ (entryOrDefault m k).2 <;> simp [entryInsert, nsInsert, h]

theorem entryInsert_of_rel {m : NMap} {k x : Nat} (h : rel m k x) : entryInsert m k x = (m, false) := by
  obtain ⟨s, hs, hx⟩ := h
  simp [entryInsert, entryOrDefault, hs, nsInsert, hx, alSet_self hs]

theorem rel_foldl_insert (l : List Nat) (to : Nat) (m : NMap) (a c : Nat) :
    rel (l.foldl (fun c z => (entryInsert c z to).1) m) a c ↔ rel m a c ∨ (a ∈ l ∧ c = to) := by
  induction l generalizing m with
  | nil => simp
  | cons x t ih => rw [List.foldl_cons, ih, rel_entryInsert, List.mem_cons, or_assoc, ← or_and_right]

theorem rel_foldl_insert_val_mem (l : List Nat) (f : Nat) (m : NMap) {z : Nat} (hz : z ∈ l) :
    rel (l.foldl (fun c y' => (entryInsert c y' f).1) m) z f := (rel_foldl_insert l f m z f).mpr (Or.inr ⟨hz, rfl⟩)

theorem rel_entryExtend (m : NMap) (k : Nat) (xs : List Nat) (a b : Nat) :
    rel (entryExtend m k xs) a b ↔ rel m a b ∨ (a = k ∧ b ∈ xs) :=
  rel_entry_update m k (nsExtend · xs) (· ∈ xs) (fun s b => mem_nsExtend s xs b) a b

def MapLe (G : Nat → Nat → Prop) (m : NMap) : Prop := ∀ a b, rel m a b → G a b

theorem MapLe.insert {G : Nat → Nat → Prop} {m : NMap} (h : MapLe G m) {k x : Nat} (hg : G k x) :
    MapLe G (entryInsert m k x).1 := by
  intro a b hr
  rcases (rel_entryInsert m k x a b).mp hr with h' | ⟨rfl, rfl⟩
  · exact h a b h'
  · exact hg

theorem MapLe.extend {G : Nat → Nat → Prop} {m : NMap} (h : MapLe G m) {k : Nat} {xs : List Nat}
    (hg : ∀ x ∈ xs, G k x) : MapLe G (entryExtend m k xs) := by
  intro a b hr
  rcases (rel_entryExtend m k xs a b).mp hr with h' | ⟨rfl, hb⟩
  · exact h a b h'
  · exact hg b hb

theorem MapLe.set {G : Nat → Nat → Prop} {m : NMap} (h : MapLe G m) {k : Nat} {s : NSet}
    (hg : ∀ x ∈ s, G k x) : MapLe G (alSet m k s) := by
  intro a b hr
  rw [rel_alSet] at hr
  by_cases hk : k = a
  · subst hk; rw [if_pos rfl] at hr; exact hg b hr
  · rw [if_neg hk] at hr; exact h a b hr

theorem MapLe.orDefault {G : Nat → Nat → Prop} {m : NMap} (h : MapLe G m) (k : Nat) :
    MapLe G (entryOrDefault m k).1 := fun a b hr => h a b ((rel_entryOrDefault m k a b).mp hr)

theorem MapLe.of_orDefault_snd {G : Nat → Nat → Prop} {m : NMap} (h : MapLe G m) (k : Nat) :
    ∀ x ∈ (entryOrDefault m k).2, G k x := fun x hx => h k x ((mem_entryOrDefault_snd m k x).mp hx)

theorem MapLe.foldl_insert_key {G : Nat → Nat → Prop} (l : List Nat) (to : Nat) {m : NMap} (h : MapLe G m)
    (hg : ∀ z ∈ l, G z to) : MapLe G (l.foldl (fun c z => (TrRel.entryInsert c z to).1) m) :=
  foldl_inv (P := MapLe G) (fun _ z hz hc => hc.insert (hg z hz)) h

/-- the state after `add_node_new` created a fresh singleton set for `x` -/
def withNew (t : TrRel) (x : Int) : TrRel :=
  { t with sets := t.sets ++ [[x]], elemIds := alSet t.elemIds x t.sets.length }

theorem getElem?_withNew (t : TrRel) (x : Int) (d : Nat) :
    (withNew t x).sets[d]? = if d = t.sets.length then some [x] else t.sets[d]? := by
  show (t.sets ++ [[x]])[d]? = _
  rcases Nat.lt_trichotomy d t.sets.length with h | h | h
  · rw [List.getElem?_append_left h, if_neg (Nat.ne_of_lt h)]
  · rw [h, List.getElem?_concat_length, if_pos rfl]
  · rw [List.getElem?_eq_none (by rw [List.length_append]; exact h), if_neg (Nat.ne_of_gt h),
      List.getElem?_eq_none (Nat.le_of_lt h)]

/-- the state after `add_node_new` found the entry `id` of a known `x`: `subs'` and `dom` are what
`get_dominant_id_mut(id)` returned, and a stale entry is redirected to `dom` -/
def withOld (t : TrRel) (x : Int) (id : Nat) (subs' : List (Nat × Nat)) (dom : Nat) : TrRel :=
  if id ≠ dom then { t with subs := subs', elemIds := alSet t.elemIds x dom } else { t with subs := subs' }

theorem withOld_subs (t : TrRel) (x : Int) (id : Nat) (subs' : List (Nat × Nat)) (dom : Nat) :
    (withOld t x id subs' dom).subs = subs' := by
  unfold withOld; split <;> rfl

theorem Res.guard_not {α : Type} (d : Bool) (a : α) :
    (if (!d) = true then (Res.panic : Res α) else pure a) = if d = true then .ok a else .panic := by
  cases d <;> rfl

/-- `add_node_new` as it runs: it returns one of these two states, provided `assert_disjoint_invariant` holds of it -/
theorem addNodeNew_run (t : TrRel) (x : Int) :
    t.addNodeNew x =
      match alGet t.elemIds x with
      | none => if (withNew t x).disjointInvariant then .ok (withNew t x, t.sets.length, true) else .panic
      | some id =>
        match TrRel.getDominantIdMutAux t.subs id (t.subs.length + 1) with
        | .panic => .panic
        | .ok (subs', dom) =>
          if (withOld t x id subs' dom).disjointInvariant then .ok (withOld t x id subs' dom, dom, false) else .panic := by
  unfold TrRel.addNodeNew TrRel.elemSetUpdate TrRel.getDominantIdMut
  cases alGet t.elemIds x with
  | none => exact Res.guard_not _ _
  | some id =>
    simp only []
    generalize TrRel.getDominantIdMutAux t.subs id (t.subs.length + 1) = r
    cases r with
    | panic => rfl
    | ok r => exact Res.guard_not _ _

theorem addNodeNew_nil {t t' : TrRel} (h : t.subs = []) {x : Int} {id : Nat} {isNew : Bool}
    (he : t.addNodeNew x = .ok (t', id, isNew)) :
    t'.disjointInvariant = true ∧
      ((alGet t.elemIds x = some id ∧ isNew = false ∧ t' = t) ∨
       (alGet t.elemIds x = none ∧ isNew = true ∧ id = t.sets.length ∧ t' = withNew t x)) := by
  rw [addNodeNew_run] at he
  cases hx : alGet t.elemIds x with
  | none =>
    simp only [hx] at he
    split at he
    · next hd => cases he; exact ⟨hd, Or.inr ⟨rfl, rfl, rfl, rfl⟩⟩
    · cases he
  | some id0 =>
    have ht : withOld t x id0 [] id0 = t := by
      cases t; simp only at h; subst h; simp [withOld]
    simp only [hx, h, TrRel.getDominantIdMutAux, alGet, ht] at he
    split at he
    · next hd => cases he; exact ⟨hd, Or.inl ⟨rfl, rfl, rfl⟩⟩
    · cases he

end AscentVerif.TrRel

namespace AscentVerif

theorem ReflTransGen.trans {α : Type} {r : α → α → Prop} {a b c : α} (h1 : ReflTransGen r a b)
    (h2 : ReflTransGen r b c) : ReflTransGen r a c := by
  induction h2 with
  | refl => exact h1
  | tail _ hr ih => exact .tail ih hr

theorem ReflTransGen.single {α : Type} {r : α → α → Prop} {a b : α} (h : r a b) : ReflTransGen r a b :=
  .tail (.refl a) h

theorem ReflTransGen.mono {α : Type} {r r' : α → α → Prop} (h : ∀ a b, r a b → r' a b) {a b : α}
    (e : ReflTransGen r a b) : ReflTransGen r' a b := by
  induction e with
  | refl => exact .refl _
  | tail _ hr ih => exact .tail ih (h _ _ hr)

namespace TrRel

def Reach (ps : List (Int × Int)) : Int → Int → Prop := ReflTransGen fun a b => (a, b) ∈ ps

theorem Reach.mono {ps ps' : List (Int × Int)} (h : ∀ p, p ∈ ps → p ∈ ps') {a b : Int} (e : Reach ps a b) :
    Reach ps' a b := ReflTransGen.mono (fun _ _ hp => h _ hp) e

theorem reach_trans (ps : List (Int × Int)) (a b c : Int) (h1 : Reach ps a b) (h2 : Reach ps b c) : Reach ps a c :=
  ReflTransGen.trans h1 h2

theorem mentioned_append (ps : List (Int × Int)) (x y z : Int) :
    Mentioned (ps ++ [(x, y)]) z ↔ Mentioned ps z ∨ z = x ∨ z = y := by
  unfold Mentioned
  constructor
  · rintro ⟨p, hp, h⟩
    rcases List.mem_append.mp hp with hp | hp
    · exact Or.inl ⟨p, hp, h⟩
    · simp at hp; subst hp
      rcases h with h | h
      · exact Or.inr (Or.inl h.symm)
      · exact Or.inr (Or.inr h.symm)
  · rintro (⟨p, hp, h⟩ | rfl | rfl)
    · exact ⟨p, List.mem_append_left _ hp, h⟩
    · exact ⟨(z, y), by simp, Or.inl rfl⟩
    · exact ⟨(x, z), by simp, Or.inr rfl⟩

theorem reach_from_unmentioned {ps : List (Int × Int)} {x y : Int} (h : ¬ Mentioned ps x) (r : Reach ps x y) : x = y := by
  induction r with
  | refl => rfl
  | tail _ hbc ih => subst ih; exact absurd ⟨_, hbc, Or.inl rfl⟩ h

theorem reach_to_unmentioned {ps : List (Int × Int)} {x y : Int} (h : ¬ Mentioned ps y) (r : Reach ps x y) : x = y := by
  cases r with
  | refl => rfl
  | tail _ hbc => exact absurd ⟨_, hbc, Or.inr rfl⟩ h

theorem reach_append_mono {ps : List (Int × Int)} (x0 y0 : Int) {u v : Int} (h : Reach ps u v) :
    Reach (ps ++ [(x0, y0)]) u v := h.mono fun _ hp => List.mem_append_left _ hp

theorem reach_append_iff (ps : List (Int × Int)) (x0 y0 u v : Int) :
    Reach (ps ++ [(x0, y0)]) u v ↔ Reach ps u v ∨ (Reach ps u x0 ∧ Reach ps y0 v) := by
  constructor
  · intro h
    induction h with
    | refl => exact Or.inl (.refl _)
    | @tail b c _ hbc ih =>
      rcases List.mem_append.mp hbc with hbc | hbc
      · rcases ih with ih | ⟨ih1, ih2⟩
        · exact Or.inl (.tail ih hbc)
        · exact Or.inr ⟨ih1, .tail ih2 hbc⟩
      · simp only [List.mem_singleton, Prod.mk.injEq] at hbc
        obtain ⟨rfl, rfl⟩ := hbc
        rcases ih with ih | ⟨ih1, _⟩
        · exact Or.inr ⟨ih, .refl _⟩
        · exact Or.inr ⟨ih1, .refl _⟩
  · rintro (h | ⟨h1, h2⟩)
    · exact reach_append_mono x0 y0 h
    · exact reach_trans _ _ _ _ (reach_append_mono x0 y0 h1)
        (reach_trans _ _ _ _ (ReflTransGen.single (by simp)) (reach_append_mono x0 y0 h2))

theorem reach_append_of_reach {ps : List (Int × Int)} {x0 y0 : Int} (h : Reach ps x0 y0) (u v : Int) :
    Reach (ps ++ [(x0, y0)]) u v ↔ Reach ps u v := by
  rw [reach_append_iff]
  exact ⟨fun h' => h'.elim id fun ⟨h1, h2⟩ => reach_trans _ _ _ _ h1 (reach_trans _ _ _ _ h h2), Or.inl⟩

theorem reach_src_of_append {ps : List (Int × Int)} {x0 y0 u v : Int} (hr : Reach (ps ++ [(x0, y0)]) u v)
    (hv : Reach ps v x0) : Reach ps u x0 :=
  ((reach_append_iff ps x0 y0 u v).mp hr).elim (fun h => reach_trans _ _ _ _ h hv) fun h => h.1

theorem reach_tgt_of_append {ps : List (Int × Int)} {x0 y0 u v : Int} (hr : Reach (ps ++ [(x0, y0)]) u v)
    (hu : Reach ps y0 u) : Reach ps y0 v :=
  ((reach_append_iff ps x0 y0 u v).mp hr).elim (fun h => reach_trans _ _ _ _ hu h) fun h => h.2

/-- a cycle of the extended history is one of the old history, or runs through the new edge: then both elements lie
between `y0` and `x0` -/
theorem reach_append_scc {ps : List (Int × Int)} {x0 y0 u v : Int} (h1 : Reach (ps ++ [(x0, y0)]) u v)
    (h2 : Reach (ps ++ [(x0, y0)]) v u) :
    (Reach ps u v ∧ Reach ps v u) ∨ ((Reach ps y0 u ∧ Reach ps u x0) ∧ (Reach ps y0 v ∧ Reach ps v x0)) := by
  rw [reach_append_iff] at h1 h2
  rcases h1 with h1 | ⟨h1, h1'⟩ <;> rcases h2 with h2 | ⟨h2, h2'⟩
  · exact Or.inl ⟨h1, h2⟩
  · exact Or.inr ⟨⟨h2', reach_trans _ _ _ _ h1 h2⟩, reach_trans _ _ _ _ h2' h1, h2⟩
  · exact Or.inr ⟨⟨reach_trans _ _ _ _ h1' h2, h1⟩, h1', reach_trans _ _ _ _ h2 h1⟩
  · exact Or.inr ⟨⟨h2', h1⟩, h1', h2⟩

/-- no pair of `rest`, added after `done` and the pairs before it, closes a cycle -/
def AcyclicFrom (done : List (Int × Int)) : List (Int × Int) → Prop
  | [] => True
  | (x, y) :: rest => (x = y ∨ ¬ Reach done y x) ∧ AcyclicFrom (done ++ [(x, y)]) rest

end TrRel
end AscentVerif
