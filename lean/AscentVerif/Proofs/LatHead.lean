import AscentVerif.Proofs.LatBasics
/-!
# The lattice head update (`headLat`, serial mode), case by case (C03)

`headLat` looks the key of the row up in the three bags (`keyRow`) and then appends the row (`pushRow`), joins into the
row found (`joinSt`) or does nothing: `headLat_eq`, and `headLat_cases` for bags that cover exactly the rows.
-/
namespace AscentVerif.Engine
open AscentVerif

variable {E B G P A : Type}

def keyRow (rows : List Tuple) (d : Dyn) (key : Tuple) : Option Nat :=
  (findKey rows d.new key).orElse fun _ => (findKey rows d.delta key).orElse fun _ => findKey rows d.total key

def joinRows (rows : List Tuple) (i : Nat) (x : Val) : List Tuple :=
  setNth rows i (keyOf (rowAt rows i) ++ [x])

def joinSt (s : SccSt) (r : RelId) (d : Dyn) (i : Nat) (x : Val) : SccSt :=
  { rels := setNth s.rels r { relSt s.rels r with rows := joinRows (rowsOf s r) i x }
    dyn := if !d.new.contains i then setDyn s.dyn { d with new := d.new ++ [i] } else s.dyn
    changed := true }

theorem headLat_eq (I : Interp E B G P A) (s : SccSt) (r : RelId) (row : Tuple) :
    headLat I {} s r row =
      match findDyn s.dyn r with
      | none => s
      | some d =>
        match keyRow (rowsOf s r) d (keyOf row) with
        | some i =>
          if (I.joinMut r (valOf (rowAt (rowsOf s r) i)) (valOf row)).2 then
            joinSt s r d i (I.joinMut r (valOf (rowAt (rowsOf s r) i)) (valOf row)).1
          else s
        | none => pushRow s r d row := by
  unfold headLat
  cases findDyn s.dyn r with
  | none => rfl
  | some d => rfl

section Rows
variable {rows : List Tuple} {d : Dyn} {key : Tuple} {i : Nat}

theorem keyRow_some (h : keyRow rows d key = some i) :
    (i ∈ d.total ∨ i ∈ d.delta ∨ i ∈ d.new) ∧ keyOf (rowAt rows i) = key := by
  simp only [keyRow, Option.orElse_eq_or, Option.or_eq_some_iff] at h
  rcases h with h | ⟨-, h | ⟨-, h⟩⟩
  · exact ⟨.inr (.inr (findKey_some h).1), (findKey_some h).2⟩
  · exact ⟨.inr (.inl (findKey_some h).1), (findKey_some h).2⟩
  · exact ⟨.inl (findKey_some h).1, (findKey_some h).2⟩

theorem keyRow_none (h : keyRow rows d key = none) :
    ∀ i, (i ∈ d.total ∨ i ∈ d.delta ∨ i ∈ d.new) → keyOf (rowAt rows i) ≠ key := by
  simp only [keyRow, Option.orElse_eq_or, Option.or_eq_none_iff] at h
  rintro i (hi | hi | hi)
  · exact findKey_none h.2.2 i hi
  · exact findKey_none h.2.1 i hi
  · exact findKey_none h.1 i hi

theorem keyRow_found (hcov : ∀ i, i < rows.length ↔ (i ∈ d.total ∨ i ∈ d.delta ∨ i ∈ d.new))
    (h : keyRow rows d key = some i) : i < rows.length ∧ keyOf (rowAt rows i) = key :=
  ⟨(hcov i).mpr (keyRow_some h).1, (keyRow_some h).2⟩

theorem keyRow_fresh (hcov : ∀ i, i < rows.length ↔ (i ∈ d.total ∨ i ∈ d.delta ∨ i ∈ d.new))
    (h : keyRow rows d key = none) : ∀ t ∈ rows, keyOf t ≠ key := by
  intro t ht
  obtain ⟨i, hi, rfl⟩ := (mem_iff_rowAt _ _).mp ht
  exact keyRow_none h i ((hcov i).mp hi)

theorem nodup_keys_push (hk : (rows.map keyOf).Nodup) {row : Tuple} (hf : ∀ t ∈ rows, keyOf t ≠ keyOf row) :
    ((rows ++ [row]).map keyOf).Nodup := by
  rw [List.map_append, List.nodup_append]
  refine ⟨hk, by simp, ?_⟩
  intro a ha b hb
  simp only [List.map_cons, List.map_nil, List.mem_singleton] at hb
  subst hb
  obtain ⟨t, ht, rfl⟩ := List.mem_map.mp ha
  exact hf t ht

theorem joinRows_length (i : Nat) (x : Val) : (joinRows rows i x).length = rows.length := by
  simp [joinRows]

theorem joinRows_keys (i : Nat) (x : Val) : (joinRows rows i x).map keyOf = rows.map keyOf :=
  map_keyOf_setNth rows i _ (keyOf_snoc _ _)

theorem joinRows_at_self (x : Val) (hi : i < rows.length) :
    rowAt (joinRows rows i x) i = keyOf (rowAt rows i) ++ [x] :=
  rowAt_setNth_self rows i _ hi

theorem joinRows_at_ne {j : Nat} (x : Val) (h : j ≠ i) : rowAt (joinRows rows i x) j = rowAt rows j :=
  rowAt_setNth_ne rows i j _ h

theorem joinRows_unchanged (hi : i < rows.length) (hne : rowAt rows i ≠ []) :
    joinRows rows i (valOf (rowAt rows i)) = rows := by
  rw [joinRows, snoc_key_val hne]
  exact setNth_getD_self [] rows i hi

theorem keyRow_none_new (h : keyRow rows d key = none) : findKey rows d.new key = none := by
  simp only [keyRow, Option.orElse_eq_or, Option.or_eq_none_iff] at h
  exact h.1

theorem keyRow_new (h : findKey rows d.new key = some i) : keyRow rows d key = some i := by
  unfold keyRow
  rw [h]; rfl

end Rows

theorem joinSt_rows_self {s : SccSt} {r : RelId} {d : Dyn} {i : Nat} {x : Val} (hr : r < s.rels.length) :
    rowsOf (joinSt s r d i x) r = joinRows (rowsOf s r) i x := by
  simp [joinSt, rowsOf, relSt_setNth_self _ _ _ hr]

theorem joinSt_rows_ne {s : SccSt} {r r' : RelId} {d : Dyn} {i : Nat} {x : Val} (hne : r' ≠ r) :
    rowsOf (joinSt s r d i x) r' = rowsOf s r' := by
  simp [joinSt, rowsOf, relSt_setNth_ne _ _ _ _ hne]

theorem headLat_cases (I : Interp E B G P A) {s : SccSt} {r : RelId} {d : Dyn} (row : Tuple)
    (hd : findDyn s.dyn r = some d)
    (hcov : ∀ i, i < (rowsOf s r).length ↔ (i ∈ d.total ∨ i ∈ d.delta ∨ i ∈ d.new)) :
    ((∀ t ∈ rowsOf s r, keyOf t ≠ keyOf row) ∧ headLat I {} s r row = pushRow s r d row) ∨
    ∃ i, i < (rowsOf s r).length ∧ keyOf (rowAt (rowsOf s r) i) = keyOf row ∧
      ((I.joinMut r (valOf (rowAt (rowsOf s r) i)) (valOf row)).2 = true ∧
          headLat I {} s r row = joinSt s r d i (I.joinMut r (valOf (rowAt (rowsOf s r) i)) (valOf row)).1 ∨
        (I.joinMut r (valOf (rowAt (rowsOf s r) i)) (valOf row)).2 = false ∧ headLat I {} s r row = s) := by
  rw [headLat_eq, hd]
  simp only []
  cases hkr : keyRow (rowsOf s r) d (keyOf row) with
  | none => exact .inl ⟨keyRow_fresh hcov hkr, rfl⟩
  | some i =>
    obtain ⟨hi, hkey⟩ := keyRow_found hcov hkr
    refine .inr ⟨i, hi, hkey, ?_⟩
    by_cases hj : (I.joinMut r (valOf (rowAt (rowsOf s r) i)) (valOf row)).2 = true
    · exact .inl ⟨hj, if_pos hj⟩
    · exact .inr ⟨Bool.eq_false_iff.mpr hj, if_neg hj⟩

theorem joinRows_up {I : Interp E B G P A} (L : LatOrder I) (r : RelId) {rows : List Tuple} {i : Nat} {x : Val}
    (hi : i < rows.length) (hx : L.le r (valOf (rowAt rows i)) x) (j : Nat) :
    keyOf (rowAt (joinRows rows i x) j) = keyOf (rowAt rows j) ∧
      L.le r (valOf (rowAt rows j)) (valOf (rowAt (joinRows rows i x) j)) := by
  by_cases hji : j = i
  · subst hji
    rw [joinRows_at_self x hi, keyOf_snoc, valOf_snoc]
    exact ⟨rfl, hx⟩
  · rw [joinRows_at_ne x hji]
    exact ⟨rfl, L.refl _ _⟩

/-- `headLat_spec` of `Props/C03` (where the claim is explained), with only the hypotheses the proof uses -/
theorem headLat_spec' (I : Interp E B G P A) (L : LatOrder I) (s : SccSt) (r : RelId) (row : Tuple)
    (d : Dyn) (hd : findDyn s.dyn r = some d)
    (hidx : ∀ i ∈ d.total ++ d.delta ++ d.new, i < (rowsOf s r).length)
    (hall : ∀ i, i < (rowsOf s r).length → i ∈ d.total ++ d.delta ++ d.new)
    (hr : r < s.rels.length)
    (hk : ((rowsOf s r).map keyOf).Nodup) :
    ((rowsOf (headLat I {} s r row) r).map keyOf).Nodup ∧
    (rowsOf s r).length ≤ (rowsOf (headLat I {} s r row) r).length ∧
    (∀ i, i < (rowsOf s r).length →
      keyOf (rowAt (rowsOf (headLat I {} s r row) r) i) = keyOf (rowAt (rowsOf s r) i) ∧
      L.le r (valOf (rowAt (rowsOf s r) i)) (valOf (rowAt (rowsOf (headLat I {} s r row) r) i))) ∧
    (∃ t ∈ rowsOf (headLat I {} s r row) r, keyOf t = keyOf row ∧ L.le r (valOf row) (valOf t)) := by
  have hcov : ∀ i, i < (rowsOf s r).length ↔ (i ∈ d.total ∨ i ∈ d.delta ∨ i ∈ d.new) := fun i =>
    ⟨fun h => by simpa only [List.mem_append, or_assoc] using hall i h,
     fun h => hidx i (by simpa only [List.mem_append, or_assoc] using h)⟩
  rcases headLat_cases I row hd hcov with ⟨hf, h⟩ | ⟨i, hi, hkey, ⟨-, h⟩ | ⟨hj, h⟩⟩
  · rw [h, pushRow_rows_self hr]
    refine ⟨nodup_keys_push hk hf, by simp, ?_, row, by simp, rfl, L.refl _ _⟩
    intro i hi
    rw [rowAt_append_left _ _ _ hi]
    exact ⟨rfl, L.refl _ _⟩
  · rw [h, joinSt_rows_self hr]
    refine ⟨by rw [joinRows_keys]; exact hk, by rw [joinRows_length]; exact Nat.le_refl _,
      fun j _ => joinRows_up L r hi (L.join_left _ _ _) j,
      rowAt (joinRows (rowsOf s r) i _) i, rowAt_mem _ _ (by rw [joinRows_length]; exact hi), ?_⟩
    rw [joinRows_at_self _ hi, keyOf_snoc, valOf_snoc]
    exact ⟨hkey, L.join_right _ _ _⟩
  · rw [h]
    exact ⟨hk, Nat.le_refl _, fun j _ => ⟨rfl, L.refl _ _⟩, rowAt (rowsOf s r) i, rowAt_mem _ _ hi, hkey, L.flag_false _ _ _ hj⟩

end AscentVerif.Engine
