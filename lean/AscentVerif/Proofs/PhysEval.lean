import AscentVerif.Model.EnginePhys
import AscentVerif.Spec.Datalog
import AscentVerif.Proofs.EvalBody
import AscentVerif.Proofs.PhysIdx
import AscentVerif.Props.C01Plan
/-!
# Evaluating a rule over the physical indices = evaluating its plan over the bags

`ViewSpec`: what the evaluation needs to know about the index versions a clause reads (`index_get`, `iter_all`,
`len_estimate` against the bag of row numbers of the abstract engine).  Under it `Phys.evalFrom` has exactly the members
of `Plan.evalFrom` (`evalFrom_memA`), provided every clause has a usable index (`ClOk`, which the compiler's check `ruleOk`
gives) and every aggregation item yields the environments of the filter semantics (`AgOk`; nothing to show for an
aggregation-free body).  The empty-relation guard skips only a body without environments, the `len_estimate` swap is taken
only for a reorderable join.  The head rows of a whole rule are compared in `Proofs/PhysAggRun.lean`.
-/
namespace AscentVerif.Phys
open AscentVerif AscentVerif.Engine AscentVerif.Index

variable {E B G P A : Type}

structure ViewSpec (arity : Nat) (rows : List Tuple) (bag : List Nat) (w : View) (cols : List Nat) : Prop where
  get : ∀ key t, t ∈ getV arity w cols key ↔ ∃ i ∈ bag, rowAt rows i = t ∧ Plan.proj cols t = key
  all : ∀ k t, (∃ kr ∈ allV arity w cols, kr.1 = k ∧ t ∈ kr.2) ↔ ∃ i ∈ bag, rowAt rows i = t ∧ Plan.proj cols t = k
  len : lenV arity w cols = 0 ↔ bag = []

section ViewSpec
variable {ixr : List (List Nat)} {rows : List Tuple} {bag b₁ b₂ : List Nat} {full f₁ f₂ : FIx}
  {idxs i₁ i₂ : List (List Nat × PIx)} {arity : Nat} {cols : List Nat} (hc : ColsOk arity cols)
  (hix : cols.length = arity ∨ cols ∈ ixr)

include hc hix

theorem ViewSpec.of_one (hv : VerOk ixr rows bag full idxs) (hty : ∀ i ∈ bag, (rowAt rows i).length = arity) :
    ViewSpec arity rows bag (.one full idxs) cols :=
  ⟨fun key t => get1_spec arity cols key hv hc hix hty t, fun k t => all1_spec arity cols hv hc hix hty k t,
    len1_eq_zero arity cols hv hix⟩

theorem ViewSpec.of_stored {pr : PRel} (hv : VerOk ixr rows bag pr.full pr.idxs)
    (hty : ∀ i ∈ bag, (rowAt rows i).length = arity) : ViewSpec arity rows bag (.stored pr) cols :=
  let h := ViewSpec.of_one hc hix hv hty
  ⟨h.get, h.all, h.len⟩

theorem ViewSpec.of_two (hv₁ : VerOk ixr rows b₁ f₁ i₁) (hv₂ : VerOk ixr rows b₂ f₂ i₂)
    (hty₁ : ∀ i ∈ b₁, (rowAt rows i).length = arity) (hty₂ : ∀ i ∈ b₂, (rowAt rows i).length = arity) :
    ViewSpec arity rows (b₁ ++ b₂) (.two f₁ i₁ f₂ i₂) cols := by
  refine ⟨fun key t => ?_, fun k t => ?_, ?_⟩
  · show t ∈ get1 arity f₁ i₁ cols key ++ get1 arity f₂ i₂ cols key ↔ _
    rw [List.mem_append, get1_spec arity cols key hv₁ hc hix hty₁ t, get1_spec arity cols key hv₂ hc hix hty₂ t]
    exact (exists_mem_append b₁ b₂ _).symm
  · show (∃ kr ∈ all1 arity f₁ i₁ cols ++ all1 arity f₂ i₂ cols, kr.1 = k ∧ t ∈ kr.2) ↔ _
    rw [exists_mem_append, all1_spec arity cols hv₁ hc hix hty₁ k t, all1_spec arity cols hv₂ hc hix hty₂ k t]
    exact (exists_mem_append b₁ b₂ _).symm
  · show len1 arity f₁ i₁ cols + len1 arity f₂ i₂ cols = 0 ↔ _
    rw [Nat.add_eq_zero_iff, len1_eq_zero arity cols hv₁ hix, len1_eq_zero arity cols hv₂ hix, List.append_eq_nil_iff]

end ViewSpec

theorem rowStep_congr (I : Interp E B G P A) (skip : Nat → Var → Bool) (args : List (Arg E)) (conds : List (Cond E B P))
    (ρ : Env) (k k' : Env → List Env) (hk : ∀ ρ' x, x ∈ k ρ' ↔ x ∈ k' ρ') (row : Tuple) (x : Env) :
    x ∈ Plan.rowStep I skip args conds ρ k row ↔ x ∈ Plan.rowStep I skip args conds ρ k' row := by
  unfold Plan.rowStep
  cases Plan.bindArgs skip 0 args row ρ with
  | none => exact Iff.rfl
  | some ρ₁ =>
    show (x ∈ match satConds I conds ρ₁ with
      | none => []
      | some ρ₂ => k ρ₂) ↔ (x ∈ match satConds I conds ρ₁ with
      | none => []
      | some ρ₂ => k' ρ₂)
    cases satConds I conds ρ₁ with
    | none => exact Iff.rfl
    | some ρ₂ => exact hk ρ₂ x

theorem physClauseStep_eq (I : Interp E B G P A) (matching : List Tuple) (pre : List Var) (args : List (Arg E))
    (conds : List (Cond E B P)) (ρ : Env) (k : Env → List Env) :
    clauseStep I matching pre args conds ρ k = matching.flatMap (Plan.rowStep I (fun _ v => pre.contains v) args conds ρ k) := rfl

theorem physJoinStep_eq (I : Interp E B G P A) (allA : List (List Val × List Tuple)) (colsA : List Nat)
    (argsA : List (Arg E)) (condsA : List (Cond E B P)) (getB : List Val → List Tuple) (colsB : List Nat)
    (argsB : List (Arg E)) (condsB : List (Cond E B P)) (preB : List Var) (ρ : Env) (k : Env → List Env) :
    joinStep I allA colsA argsA condsA getB colsB argsB condsB preB ρ k =
      allA.flatMap fun kr => kr.2.flatMap fun rowA =>
        Plan.rowStep I (fun j _ => colsA.contains j) argsA condsA (Plan.bindKey argsA colsA kr.1 ρ)
          (fun ρ₂ => (getB (Plan.keyOf I (Plan.bindKey argsA colsA kr.1 ρ) argsB colsB)).flatMap
            (Plan.rowStep I (fun _ v => preB.contains v) argsB condsB ρ₂ k)) rowA := rfl

theorem mem_flatMap_rows {β : Type} (rows : List Tuple) (lP : List Tuple) (lQ : List Nat) (f g : Tuple → List β)
    (hl : ∀ t, t ∈ lP ↔ ∃ i ∈ lQ, rowAt rows i = t) (hfg : ∀ t x, x ∈ f t ↔ x ∈ g t) (x : β) :
    x ∈ lP.flatMap f ↔ x ∈ lQ.flatMap fun i => g (rowAt rows i) := by
  simp only [List.mem_flatMap]
  constructor
  · rintro ⟨t, ht, hx⟩
    obtain ⟨i, hi, rfl⟩ := (hl t).mp ht
    exact ⟨i, hi, (hfg _ x).mp hx⟩
  · rintro ⟨i, hi, hx⟩
    exact ⟨rowAt rows i, (hl _).mpr ⟨i, hi, rfl⟩, (hfg _ x).mpr hx⟩

theorem iterAll_group (rows : List Tuple) (bag cols : List Nat) (key : List Val) (ia : Nat) :
    (∃ kr ∈ Plan.iterAll rows bag cols, kr.1 = key ∧ ia ∈ kr.2) ↔ ia ∈ bag ∧ Plan.proj cols (rowAt rows ia) = key := by
  obtain ⟨_, h2, _, h4⟩ := Plan.iterAll_spec rows bag cols
  constructor
  · rintro ⟨kr, hkr, rfl, hia⟩
    exact (h2 kr hkr).2.2 ia hia
  · rintro ⟨hia, rfl⟩
    obtain ⟨rs, hrs, hmem⟩ := h4 ia hia
    exact ⟨_, hrs, rfl, hmem⟩

theorem getV_idxGet {rows : List Tuple} {bag cols : List Nat} {g : List Val → List Tuple}
    (hg : ∀ key t, t ∈ g key ↔ ∃ i ∈ bag, rowAt rows i = t ∧ Plan.proj cols t = key) (key : List Val) (t : Tuple) :
    t ∈ g key ↔ ∃ i ∈ Plan.idxGet rows bag cols key, rowAt rows i = t := by
  rw [hg]
  constructor
  · rintro ⟨i, hi, rfl, hk⟩
    exact ⟨i, ((Plan.idxGet_spec rows bag cols key).2.1 i).mpr ⟨hi, hk⟩, rfl⟩
  · rintro ⟨i, hi, rfl⟩
    obtain ⟨h1, h2⟩ := ((Plan.idxGet_spec rows bag cols key).2.1 i).mp hi
    exact ⟨i, h1, rfl, h2⟩

theorem clauseStep_mem (I : Interp E B G P A) {rows : List Tuple} {bag cols : List Nat} {g : List Val → List Tuple}
    (hg : ∀ key t, t ∈ g key ↔ ∃ i ∈ bag, rowAt rows i = t ∧ Plan.proj cols t = key) (pre : List Var) (args : List (Arg E))
    (conds : List (Cond E B P)) (ρ : Env) (k k' : Env → List Env) (hk : ∀ ρ' x, x ∈ k ρ' ↔ x ∈ k' ρ') (x : Env) :
    x ∈ clauseStep I (g (Plan.keyOf I ρ args cols)) pre args conds ρ k ↔
      x ∈ Plan.clauseStep I rows bag cols pre args conds ρ k' := by
  rw [physClauseStep_eq, Plan.clauseStep_rows]
  exact mem_flatMap_rows rows _ _ _ _ (getV_idxGet hg _) (fun t x => rowStep_congr I _ args conds ρ k k' hk t x) x

/-- `aA`: any enumeration of the keys and rows of clause `A` (`iter_all`); `gB`: any reader of clause `B` (`index_get`) -/
theorem joinStep_mem (I : Interp E B G P A) {rowsA rowsB : List Tuple} {bagA bagB colsA colsB : List Nat}
    {aA : List (List Val × List Tuple)} {gB : List Val → List Tuple}
    (haA : ∀ k t, (∃ kr ∈ aA, kr.1 = k ∧ t ∈ kr.2) ↔ ∃ i ∈ bagA, rowAt rowsA i = t ∧ Plan.proj colsA t = k)
    (hgB : ∀ key t, t ∈ gB key ↔ ∃ i ∈ bagB, rowAt rowsB i = t ∧ Plan.proj colsB t = key)
    (argsA : List (Arg E)) (condsA : List (Cond E B P))
    (argsB : List (Arg E)) (condsB : List (Cond E B P)) (preB : List Var) (ρ : Env) (k k' : Env → List Env)
    (hk : ∀ ρ' x, x ∈ k ρ' ↔ x ∈ k' ρ') (x : Env) :
    x ∈ joinStep I aA colsA argsA condsA gB colsB argsB condsB preB ρ k ↔
      x ∈ Plan.joinStep I rowsA bagA colsA argsA condsA rowsB bagB colsB argsB condsB preB ρ k' := by
  rw [physJoinStep_eq, Plan.joinStep_eq]
  let FP : List Val → Tuple → List Env := fun key t =>
    Plan.rowStep I (fun j _ => colsA.contains j) argsA condsA (Plan.bindKey argsA colsA key ρ)
      (fun ρ₂ => (gB (Plan.keyOf I (Plan.bindKey argsA colsA key ρ) argsB colsB)).flatMap
        (Plan.rowStep I (fun _ v => preB.contains v) argsB condsB ρ₂ k)) t
  let FQ : List Val → Tuple → List Env := fun key t =>
    Plan.rowStep I (fun j _ => colsA.contains j) argsA condsA (Plan.bindKey argsA colsA key ρ)
      (fun ρ₂ => (Plan.idxGet rowsB bagB colsB (Plan.keyOf I (Plan.bindKey argsA colsA key ρ) argsB colsB)).flatMap
        fun ib => Plan.rowStep I (fun _ v => preB.contains v) argsB condsB ρ₂ k' (rowAt rowsB ib)) t
  have hinner : ∀ (key : List Val) (t : Tuple) (x : Env), x ∈ FP key t ↔ x ∈ FQ key t := by
    intro key t x
    apply rowStep_congr
    intro ρ₂ y
    exact mem_flatMap_rows rowsB _ _ _ _ (getV_idxGet hgB _)
      (fun t x => rowStep_congr I _ argsB condsB ρ₂ k k' hk t x) y
  refine (mem_groups aA FP x).trans
    (Iff.trans ?_ (mem_groups (Plan.iterAll rowsA bagA colsA) (fun key ia => FQ key (rowAt rowsA ia)) x).symm)
  constructor
  · rintro ⟨key, t, hg, hx⟩
    obtain ⟨ia, hia, rfl, hkey⟩ := (haA key t).mp hg
    exact ⟨key, ia, (iterAll_group rowsA bagA colsA key ia).mpr ⟨hia, hkey⟩, (hinner _ _ _).mp hx⟩
  · rintro ⟨key, ia, hg, hx⟩
    obtain ⟨hia, hkey⟩ := (iterAll_group rowsA bagA colsA key ia).mp hg
    exact ⟨key, rowAt rowsA ia, (haA key _).mpr ⟨ia, hia, rfl, hkey⟩, (hinner _ _ _).mpr hx⟩

/-- the clause at body position `j` has a usable index -/
def PosOk (p : Program E B G P A) (ix : IxSets) (h : Hir.HRule) (j : Nat) : Item E B G P A → Prop
  | .clause rel args _ => ColsOk (arityOf p rel) (Plan.colsAt h j) ∧
      ((Plan.colsAt h j).length = arityOf p rel ∨ Plan.colsAt h j ∈ ix rel) ∧ args.length = arityOf p rel
  | _ => True

def ClOk (p : Program E B G P A) (ix : IxSets) (h : Hir.HRule) (i : Nat) (body : List (Item E B G P A)) : Prop :=
  ∀ k it, body[k]? = some it → PosOk p ix h (i + k) it

theorem ClOk.head {p : Program E B G P A} {ix : IxSets} {h : Hir.HRule} {i : Nat} {it : Item E B G P A}
    {rest : List (Item E B G P A)} (hc : ClOk p ix h i (it :: rest)) : PosOk p ix h i it := by
  simpa using hc 0 it rfl

theorem ClOk.tail {p : Program E B G P A} {ix : IxSets} {h : Hir.HRule} {i : Nat} {it : Item E B G P A}
    {rest : List (Item E B G P A)} (hc : ClOk p ix h i (it :: rest)) : ClOk p ix h (i + 1) rest := by
  intro k it' hk
  have := hc (k + 1) it' hk
  rwa [show i + (k + 1) = i + 1 + k from Nat.add_right_comm i k 1] at this

/-- the interface between the evaluation and the simulation relation -/
def ViewsOk (cfg : Config) (p : Program E B G P A) (ix : IxSets) (a : SccSt) (ph : PScc) : Prop :=
  ∀ r v cols, ColsOk (arityOf p r) cols → (cols.length = arityOf p r ∨ cols ∈ ix r) →
    ViewSpec (arityOf p r) (relSt a.rels r).rows (clauseRows cfg p a r v) (viewOf ph r v) cols

theorem ViewsOk.head {cfg : Config} {p : Program E B G P A} {ix : IxSets} {a : SccSt} {ph : PScc} {h : Hir.HRule}
    (hV : ViewsOk cfg p ix a ph) {i : Nat} {r : RelId} {args : List (Arg E)} {conds : List (Cond E B P)}
    {rest : List (Item E B G P A)} (hok : ClOk p ix h i (.clause r args conds :: rest)) (v : Option Ver) :
    ViewSpec (arityOf p r) (relSt a.rels r).rows (clauseRows cfg p a r v) (viewOf ph r v) (Plan.colsAt h i) :=
  have hp : PosOk p ix h i (.clause r args conds) := hok.head
  hV r v _ hp.1 hp.2.1

theorem evalFrom_join (I : Interp E B G P A) (p : Program E B G P A) (s : PScc) (h : Hir.HRule) (swap : Bool) (i : Nat)
    (r : RelId) (args : List (Arg E)) (conds : List (Cond E B P)) (r2 : RelId) (args2 : List (Arg E))
    (conds2 : List (Cond E B P)) (rest2 : List (Item E B G P A)) (vs : List (Option Ver)) (ρ : Env)
    (hsj : h.simpleJoinStart = some i) :
    evalFrom I p s h swap i (.clause r args conds :: .clause r2 args2 conds2 :: rest2) vs ρ =
      if swap then
        joinStep I (allV (arityOf p r2) (viewOf s r2 (vs.tail.headD none)) (Plan.colsAt h (i + 1))) (Plan.colsAt h (i + 1))
          args2 conds2 (getV (arityOf p r) (viewOf s r (vs.headD none)) (Plan.colsAt h i)) (Plan.colsAt h i) args conds
          (Plan.preVars h i ++ h.bound.getD (i + 1) []) ρ fun ρ' => evalFrom I p s h swap (i + 2) rest2 vs.tail.tail ρ'
      else
        joinStep I (allV (arityOf p r) (viewOf s r (vs.headD none)) (Plan.colsAt h i)) (Plan.colsAt h i) args conds
          (getV (arityOf p r2) (viewOf s r2 (vs.tail.headD none)) (Plan.colsAt h (i + 1))) (Plan.colsAt h (i + 1))
          args2 conds2 (Plan.preVars h (i + 1)) ρ fun ρ' => evalFrom I p s h swap (i + 2) rest2 vs.tail.tail ρ' := by
  rw [evalFrom, if_pos hsj]

theorem evalFrom_clause (I : Interp E B G P A) (p : Program E B G P A) (s : PScc) (h : Hir.HRule) (swap : Bool) (i : Nat)
    (r : RelId) (args : List (Arg E)) (conds : List (Cond E B P)) (rest : List (Item E B G P A)) (vs : List (Option Ver))
    (ρ : Env) (hne : h.simpleJoinStart = some i → ∀ r2 a2 c2 rest2, rest ≠ .clause r2 a2 c2 :: rest2) :
    evalFrom I p s h swap i (.clause r args conds :: rest) vs ρ =
      clauseStep I (getV (arityOf p r) (viewOf s r (vs.headD none)) (Plan.colsAt h i) (Plan.keyOf I ρ args (Plan.colsAt h i)))
        (Plan.preVars h i) args conds ρ fun ρ' => evalFrom I p s h swap (i + 1) rest vs.tail ρ' := by
  cases rest with
  | nil => simp only [evalFrom]
  | cons it rest2 =>
    cases it with
    | clause r2 a2 c2 => rw [evalFrom, if_neg fun hh => hne hh r2 a2 c2 rest2 rfl]
    | _ => simp only [evalFrom]

theorem aggFreeL_tail {it : Item E B G P A} {rest : List (Item E B G P A)} (h : aggFreeL (it :: rest) = true) :
    aggFreeL rest = true := by
  simp only [aggFreeL, List.all_cons, Bool.and_eq_true] at h; exact h.2

def AgOk (I : Interp E B G P A) (cfg : Config) (p : Program E B G P A) (a : SccSt) (ph : PScc) (h : Hir.HRule) (i : Nat)
    (body : List (Item E B G P A)) : Prop :=
  ∀ k ag, body[k]? = some (.agg ag) → ∀ ρ,
    aggEnvs I ag ρ (aggRows I p ph h (i + k) ag ρ) = aggEnvs I ag ρ (aggTuples cfg p a ag)

section AgOk
variable {I : Interp E B G P A} {cfg : Config} {p : Program E B G P A} {a : SccSt} {ph : PScc} {h : Hir.HRule} {i : Nat}
  {it : Item E B G P A} {rest : List (Item E B G P A)}

theorem AgOk.head {ag : AggClause E A} (hc : AgOk I cfg p a ph h i (.agg ag :: rest)) (ρ : Env) :
    aggEnvs I ag ρ (aggRows I p ph h i ag ρ) = aggEnvs I ag ρ (aggTuples cfg p a ag) :=
  hc 0 ag rfl ρ

theorem AgOk.tail (hc : AgOk I cfg p a ph h i (it :: rest)) : AgOk I cfg p a ph h (i + 1) rest := by
  intro k ag hk ρ
  have := hc (k + 1) ag hk ρ
  rwa [show i + (k + 1) = i + 1 + k from Nat.add_right_comm i k 1] at this

theorem AgOk.of_aggFree {body : List (Item E B G P A)} (haf : aggFreeL body = true) : AgOk I cfg p a ph h i body := by
  intro k ag hk
  cases List.all_eq_true.mp haf _ (List.mem_of_getElem? hk)

end AgOk

theorem evalFrom_memA (I : Interp E B G P A) (cfg : Config) (p : Program E B G P A) (ix : IxSets) (a : SccSt) (ph : PScc)
    (hV : ViewsOk cfg p ix a ph) (h : Hir.HRule) (swap : Bool) (i : Nat) (body : List (Item E B G P A))
    (vs : List (Option Ver)) (ρ : Env) : ClOk p ix h i body → AgOk I cfg p a ph h i body →
    ∀ x, x ∈ evalFrom I p ph h swap i body vs ρ ↔ x ∈ Plan.evalFrom I cfg p a h swap i body vs ρ := by
  -- along the cases of `evalFrom`: a simple join consumes two items at once
  induction i, body, vs, ρ using evalFrom.induct I ph h swap with
  | case1 =>
    intro _ _ x
    rw [evalFrom, Plan.evalFrom]
  | case2 i r args conds r2 a2 c2 rest2 vs ρ hsj hsw ih =>
    intro hok hag x
    rw [evalFrom, Plan.evalFrom, if_pos hsj, if_pos hsj, if_pos hsw, if_pos hsw]
    exact joinStep_mem I (hV.head hok.tail _).all (hV.head hok _).get a2 c2 args conds _ ρ _ _
      (fun ρ' => ih ρ' hok.tail.tail hag.tail.tail) x
  | case3 i r args conds r2 a2 c2 rest2 vs ρ hsj hsw ih =>
    intro hok hag x
    rw [evalFrom, Plan.evalFrom, if_pos hsj, if_pos hsj, if_neg hsw, if_neg hsw]
    exact joinStep_mem I (hV.head hok _).all (hV.head hok.tail _).get args conds a2 c2 _ ρ _ _
      (fun ρ' => ih ρ' hok.tail.tail hag.tail.tail) x
  | case4 i r args conds r2 a2 c2 rest2 vs ρ hsj ih =>
    intro hok hag x
    rw [evalFrom, Plan.evalFrom, if_neg hsj, if_neg hsj]
    exact clauseStep_mem I (hV.head hok _).get _ args conds ρ _ _ (fun ρ' => ih ρ' hok.tail hag.tail) x
  | case5 i r args conds rest vs ρ hne ih =>
    intro hok hag x
    rw [evalFrom, Plan.evalFrom]
    · exact clauseStep_mem I (hV.head hok _).get _ args conds ρ _ _ (fun ρ' => ih ρ' hok.tail hag.tail) x
    · exact hne
    · exact hne
  | case6 i c rest vs ρ hc =>
    intro _ _ x
    rw [evalFrom, Plan.evalFrom, hc]
  | case7 i c rest vs ρ ρ₁ hc ih =>
    intro hok hag x
    rw [evalFrom, Plan.evalFrom, hc]
    exact ih hok.tail hag.tail x
  | case8 i v g rest vs ρ ih =>
    intro hok hag x
    rw [evalFrom, Plan.evalFrom]
    exact mem_flatMap_congr (fun _ => Iff.rfl) (fun y => ih y hok.tail hag.tail) x
  | case9 i ag rest vs ρ ih =>
    intro hok hag x
    rw [evalFrom, Plan.evalFrom, hag.head ρ]
    exact mem_flatMap_congr (fun _ => Iff.rfl) (fun y => ih y hok.tail hag.tail) x

theorem evalFrom_mem (I : Interp E B G P A) (cfg : Config) (p : Program E B G P A) (ix : IxSets) (a : SccSt) (ph : PScc)
    (hV : ViewsOk cfg p ix a ph) (h : Hir.HRule) (swap : Bool) :
    ∀ (n : Nat) (body : List (Item E B G P A)) (i : Nat) (vs : List (Option Ver)) (ρ : Env), body.length ≤ n →
      ClOk p ix h i body → aggFreeL body = true →
      ∀ x, x ∈ evalFrom I p ph h swap i body vs ρ ↔ x ∈ Plan.evalFrom I cfg p a h swap i body vs ρ :=
  fun _ body i vs ρ _ hok haf => evalFrom_memA I cfg p ix a ph hV h swap i body vs ρ hok (.of_aggFree haf)

theorem clausesOf_ok {p : Program E B G P A} {ix : IxSets} {h : Hir.HRule} :
    ∀ (body : List (Item E B G P A)) (i : Nat) (vs : List (Option Ver)), ClOk p ix h i body →
      ∀ c ∈ clausesOf i body vs, ColsOk (arityOf p c.2.1) (Plan.colsAt h c.1) ∧
        ((Plan.colsAt h c.1).length = arityOf p c.2.1 ∨ Plan.colsAt h c.1 ∈ ix c.2.1) := by
  intro body
  induction body with
  | nil => exact fun _ _ _ _ hc => nomatch hc
  | cons it rest ih =>
    intro i vs hok c hc
    cases it with
    | clause r args conds =>
      rcases List.mem_cons.mp hc with rfl | hc
      · obtain ⟨h1, h2, _⟩ : PosOk p ix h i (.clause r args conds) := hok.head
        exact ⟨h1, h2⟩
      · exact ih (i + 1) vs.tail hok.tail c hc
    | _ => exact ih (i + 1) vs.tail hok.tail c hc

theorem clause_view_of_SatV {I : Interp E B G P A} {view : RelId → Option Ver → Tuple → Prop}
    {aggv : AggClause E A → List Tuple} {body : List (Item E B G P A)} {vs : List (Option Ver)} {ρ ρ' : Env}
    (hs : Agg.SatV I view aggv body vs ρ ρ') : ∀ i, ∀ c ∈ clausesOf i body vs, ∃ t, view c.2.1 c.2.2 t := by
  induction hs with
  | nil => exact fun _ _ hc => nomatch hc
  | clause t hd _ _ _ ih =>
    intro i c hc
    rcases List.mem_cons.mp hc with rfl | hc
    · exact ⟨t, hd⟩
    · exact ih (i + 1) c hc
  | cond _ _ ih => exact fun i c hc => ih (i + 1) c hc
  | gen _ _ _ ih => exact fun i c hc => ih (i + 1) c hc
  | aggr _ _ ih => exact fun i c hc => ih (i + 1) c hc

theorem evalBody_nil_of_empty (I : Interp E B G P A) (cfg : Config) (p : Program E B G P A) (a : SccSt) :
    ∀ (body : List (Item E B G P A)) (i : Nat) (vs : List (Option Ver)) (ρ : Env),
      (∃ c ∈ clausesOf i body vs, clauseRows cfg p a c.2.1 c.2.2 = []) → evalBody I cfg p a body vs ρ = [] := by
  rintro body i vs ρ ⟨c, hc, he⟩
  refine List.eq_nil_iff_forall_not_mem.mpr fun x hx => ?_
  obtain ⟨t, j, hj, _⟩ := clause_view_of_SatV (Agg.SatV_of_evalBody I cfg p a body vs ρ x hx) i c hc
  rw [he] at hj
  cases hj

theorem anyEmpty_sound (I : Interp E B G P A) (cfg : Config) (p : Program E B G P A) (ix : IxSets) (a : SccSt) (ph : PScc)
    (hV : ViewsOk cfg p ix a ph) (h : Hir.HRule) (body : List (Item E B G P A)) (vs : List (Option Ver))
    (hok : ClOk p ix h 0 body) (he : anyEmpty p ph h body vs = true) : evalBody I cfg p a body vs [] = [] := by
  simp only [anyEmpty, Bool.and_eq_true, List.any_eq_true] at he
  obtain ⟨_, c, hc, hemp⟩ := he
  apply evalBody_nil_of_empty I cfg p a body 0 vs [] ⟨c, hc, ?_⟩
  obtain ⟨h1, h2⟩ := clausesOf_ok body 0 vs hok c hc
  have hv := hV c.2.1 c.2.2 _ h1 h2
  apply hv.len.mp
  simpa [isEmptyV] using hemp

theorem chooseSwap_reorderable (p : Program E B G P A) (s : PScc) (h : Hir.HRule) (body : List (Item E B G P A))
    (vs : List (Option Ver)) (hs : chooseSwap p s h body vs = true) : Plan.reorderable h = true := by
  unfold chooseSwap at hs
  split at hs
  · cases hs
  · split at hs
    · cases hs
    · rename_i hr
      simpa using hr

theorem increasing_colsOk {arity : Nat} {cols : List Nat} (h1 : increasing cols = true)
    (h2 : cols.all (· < arity) = true) : ColsOk arity cols :=
  ⟨h1, fun j hj => by simpa using List.all_eq_true.mp h2 j hj⟩

theorem clOk_of_ruleOk (V : Hir.VarsOf E B) (p : Program E B G P A) (ix : IxSets) (r : Rule E B G P A)
    (h : ruleOk V p ix r = true) : ClOk p ix (Hir.compileRule V r) 0 r.body := by
  intro k it hk
  rw [Nat.zero_add]
  have ⟨hlt, _⟩ := List.getElem?_eq_some_iff.mp hk
  have hk' := List.all_eq_true.mp h k (List.mem_range.mpr hlt)
  rw [hk] at hk'
  cases it with
  | clause rel args conds =>
    show ColsOk (arityOf p rel) (Plan.colsAt (Hir.compileRule V r) k) ∧ _ ∧ _
    unfold Plan.colsAt
    cases hi : (Hir.compileRule V r).items[k]? with
    | none => rw [hi] at hk'; cases hk'
    | some hit =>
      rw [hi] at hk'
      cases hit with
      | clause rel' cols dp =>
        simp only [Bool.and_eq_true, Bool.or_eq_true, beq_iff_eq, List.contains_iff_mem] at hk'
        obtain ⟨⟨⟨⟨_, h2⟩, h3⟩, h4⟩, h5⟩ := hk'
        exact ⟨increasing_colsOk h3 h4, h5, h2⟩
      | _ => cases hk'
  | _ => trivial

end AscentVerif.Phys
