import AscentVerif.Proofs.EvalBody
/-!
# The head update of a relation (`headRel`) and the invariants it keeps

`WF`: intrinsic well-formedness of an SCC state (index entries cover exactly the row numbers).
`Ext s₀ s`: what stays fixed between the start of a pass (`s₀`) and a later state `s`.
`GoodRows` (and `Agg.GoodRows`, over a per-item aggregation view): all rows derivable; row vector = input prefix ++
duplicate-free derived part.
`pushRow`: the one way `headRel` changes a state, and what it keeps of `WF` and `Ext`; it is an instance of `upd` (new rows
and a new dynamic part for one relation: also the shape of the lattice join, `Proofs/LatInv.lean`), which keeps `WF` when the
new bags cover the new rows (`WF_upd`).
-/
namespace AscentVerif.Engine
open AscentVerif

variable {E B G P A : Type}

/-- the input database of a fresh program value (same as `inputDB` of `Props/C01`) -/
def inDB (p : Program E B G P A) (inp : RelId → List Tuple) : DB :=
  fun f => f.rel < p.rels.length ∧ f.args ∈ inp f.rel

def rowsOf (s : SccSt) (r : RelId) : List Tuple := (relSt s.rels r).rows

def FactsS (s : SccSt) : DB := fun f => f.args ∈ rowsOf s f.rel

structure WF (n : Nat) (dynR : List RelId) (s : SccSt) : Prop where
  len : s.rels.length = n
  dyn_iff : ∀ r, (findDyn s.dyn r).isSome = dynR.contains r
  uniq : ∀ d ∈ s.dyn, findDyn s.dyn d.rel = some d
  cover : ∀ r d, findDyn s.dyn r = some d →
    ∀ i, i < (rowsOf s r).length ↔ (i ∈ d.total ∨ i ∈ d.delta ∨ i ∈ d.new)
  cover_nd : ∀ r, findDyn s.dyn r = none → ∀ i, i < (rowsOf s r).length ↔ i ∈ (relSt s.rels r).idx

structure Ext (s₀ s : SccSt) : Prop where
  idx : ∀ r, (relSt s.rels r).idx = (relSt s₀.rels r).idx
  rows : ∀ r, ∃ extra, rowsOf s r = rowsOf s₀ r ++ extra
  nondyn : ∀ r, findDyn s₀.dyn r = none → findDyn s.dyn r = none ∧ relSt s.rels r = relSt s₀.rels r
  td : ∀ r d₀, findDyn s₀.dyn r = some d₀ →
    ∃ d, findDyn s.dyn r = some d ∧ d.total = d₀.total ∧ d.delta = d₀.delta
  unchanged : s.changed = false → s = s₀

theorem WF.findDyn_none {n : Nat} {dynR : List RelId} {s : SccSt} (h : WF n dynR s) {r : RelId}
    (hr : dynR.contains r = false) : findDyn s.dyn r = none := by
  cases hd : findDyn s.dyn r with
  | none => rfl
  | some d =>
    have := h.dyn_iff r
    rw [hd, hr] at this
    cases this

theorem WF.contains_of_none {n : Nat} {dynR : List RelId} {s : SccSt} (h : WF n dynR s) {r : RelId}
    (hd : findDyn s.dyn r = none) : dynR.contains r = false := by
  rw [← h.dyn_iff r, hd]
  rfl

/-- the membership test of `headRel` (`total`, `delta`, `new` in turn) decides membership in the rows -/
theorem WF.mem_rows_iff {n : Nat} {dynR : List RelId} {s : SccSt} (h : WF n dynR s) {r : RelId} {d : Dyn}
    (hd : findDyn s.dyn r = some d) (row : Tuple) :
    ((bagTuples (rowsOf s r) d.total).contains row || (bagTuples (rowsOf s r) d.delta).contains row
      || (bagTuples (rowsOf s r) d.new).contains row) = true ↔ row ∈ rowsOf s r := by
  rw [Bool.or_eq_true, Bool.or_eq_true, mem_bagTuples, mem_bagTuples, mem_bagTuples, mem_iff_rowAt]
  simp only [h.cover r d hd, or_and_right, exists_or, or_assoc]

theorem Ext.refl (s : SccSt) : Ext s s :=
  ⟨fun _ => rfl, fun _ => ⟨[], by simp⟩, fun _ h => ⟨h, rfl⟩, fun _ d h => ⟨d, h, rfl, rfl⟩, fun _ => rfl⟩

/-- the one way a head update changes the row vector of a relation (`GoodRows.append`, `Agg.GoodRows.append`, `SetRows.append`) -/
theorem ext_append {old rows : List Tuple} {t : Tuple}
    (h : ∃ derived, rows = old ++ derived ∧ derived.Nodup ∧ ∀ x ∈ derived, x ∉ old) (hn : t ∉ rows) :
    ∃ derived, rows ++ [t] = old ++ derived ∧ derived.Nodup ∧ ∀ x ∈ derived, x ∉ old := by
  obtain ⟨derived, rfl, hnd, hdis⟩ := h
  rw [List.mem_append, not_or] at hn
  refine ⟨derived ++ [t], List.append_assoc .., List.nodup_append.mpr ⟨hnd, List.pairwise_singleton _ t, ?_⟩,
    List.forall_mem_append.mpr ⟨hdis, List.forall_mem_singleton.mpr hn.1⟩⟩
  intro a ha b hb hab
  cases List.mem_singleton.mp hb
  exact hn.2 (hab ▸ ha)

section Good
variable (I : Interp E B G P A) (p : Program E B G P A) (inp : RelId → List Tuple)

def GoodRows (r : RelId) (rows : List Tuple) : Prop :=
  (∀ t ∈ rows, Derivable I p.rules nAgg (inDB p inp) ⟨r, t⟩) ∧
  ∃ derived, rows = inp r ++ derived ∧ derived.Nodup ∧ ∀ t ∈ derived, t ∉ inp r

theorem GoodRows.append {r : RelId} {rows : List Tuple} {t : Tuple} (h : GoodRows I p inp r rows)
    (hn : t ∉ rows) (hd : Derivable I p.rules nAgg (inDB p inp) ⟨r, t⟩) : GoodRows I p inp r (rows ++ [t]) :=
  ⟨List.forall_mem_append.mpr ⟨h.1, List.forall_mem_singleton.mpr hd⟩, ext_append h.2 hn⟩

def Good (n : Nat) (s : SccSt) : Prop := ∀ r, r < n → GoodRows I p inp r (rowsOf s r)

end Good

def pushRow (s : SccSt) (r : RelId) (d : Dyn) (row : Tuple) : SccSt :=
  { rels := setNth s.rels r { relSt s.rels r with rows := (relSt s.rels r).rows ++ [row] }
    dyn := setDyn s.dyn { d with new := d.new ++ [(relSt s.rels r).rows.length] }
    changed := true }

/-- the common shape of `pushRow` and `joinSt` (`pushRow_eq_upd`, `joinSt_eq_upd`) -/
def upd (s : SccSt) (r : RelId) (d' : Dyn) (rows' : List Tuple) : SccSt :=
  { rels := setNth s.rels r { relSt s.rels r with rows := rows' }, dyn := setDyn s.dyn d', changed := true }

theorem pushRow_eq_upd (s : SccSt) (r : RelId) (d : Dyn) (row : Tuple) :
    pushRow s r d row = upd s r { d with new := d.new ++ [(rowsOf s r).length] } (rowsOf s r ++ [row]) := rfl

section Upd
variable {n : Nat} {dynR : List RelId} {s : SccSt} {r : RelId} {d d' : Dyn} {rows' : List Tuple}

theorem upd_rows_self (hr : r < s.rels.length) : rowsOf (upd s r d' rows') r = rows' := by
  simp [upd, rowsOf, relSt_setNth_self _ _ _ hr]

theorem upd_relSt_ne {r' : RelId} (hne : r' ≠ r) : relSt (upd s r d' rows').rels r' = relSt s.rels r' := by
  simp [upd, relSt_setNth_ne _ _ _ _ hne]

theorem upd_rows_ne {r' : RelId} (hne : r' ≠ r) : rowsOf (upd s r d' rows') r' = rowsOf s r' := by
  simp [rowsOf, upd_relSt_ne hne]

theorem upd_dyn_self (hd : findDyn s.dyn r = some d) (hrel : d'.rel = r) :
    findDyn (upd s r d' rows').dyn r = some d' := by
  subst hrel
  exact findDyn_setDyn_self s.dyn d' d hd

theorem upd_dyn_ne (hrel : d'.rel = r) {r' : RelId} (hne : r' ≠ r) :
    findDyn (upd s r d' rows').dyn r' = findDyn s.dyn r' := by
  subst hrel
  exact findDyn_setDyn_ne s.dyn _ r' hne

theorem forall_rows_upd {Q : RelId → List Tuple → Prop} (hr : r < s.rels.length) (h : ∀ r', Q r' (rowsOf s r'))
    (hnew : Q r rows') (r' : RelId) : Q r' (rowsOf (upd s r d' rows') r') := by
  by_cases hne : r' = r
  · subst hne; rw [upd_rows_self hr]; exact hnew
  · rw [upd_rows_ne hne]; exact h r'

theorem WF_upd (hwf : WF n dynR s) (hd : findDyn s.dyn r = some d) (hr : r < n) (hrel : d'.rel = r)
    (hcov : ∀ i, i < rows'.length ↔ (i ∈ d'.total ∨ i ∈ d'.delta ∨ i ∈ d'.new)) :
    WF n dynR (upd s r d' rows') := by
  have hr' : r < s.rels.length := by rw [hwf.len]; exact hr
  refine ⟨by simp [upd, hwf.len], ?_, ?_, ?_, ?_⟩
  · intro r'
    by_cases hne : r' = r
    · subst hne
      rw [upd_dyn_self hd hrel, ← hwf.dyn_iff, hd]; rfl
    · rw [upd_dyn_ne hrel hne]; exact hwf.dyn_iff r'
  · intro y hy
    obtain ⟨x, hx, rfl⟩ := List.mem_map.mp hy
    subst hrel
    by_cases hxr : x.rel = d'.rel
    · rw [if_pos (beq_iff_eq.mpr hxr)]
      exact upd_dyn_self hd rfl
    · rw [if_neg fun h => hxr (beq_iff_eq.mp h), upd_dyn_ne rfl hxr]
      exact hwf.uniq x hx
  · intro r' d'' hd'' i
    by_cases hne : r' = r
    · subst hne
      rw [upd_dyn_self hd hrel] at hd''
      cases hd''
      rw [upd_rows_self hr']; exact hcov i
    · rw [upd_dyn_ne hrel hne] at hd''
      rw [upd_rows_ne hne]
      exact hwf.cover r' d'' hd'' i
  · intro r' hd'' i
    have hne : r' ≠ r := by
      intro h; subst h
      rw [upd_dyn_self hd hrel] at hd''; cases hd''
    rw [upd_dyn_ne hrel hne] at hd''
    rw [upd_rows_ne hne, upd_relSt_ne hne]
    exact hwf.cover_nd r' hd'' i

end Upd

theorem cover_push {rows : List Tuple} {d : Dyn} (row : Tuple)
    (hcov : ∀ i, i < rows.length ↔ (i ∈ d.total ∨ i ∈ d.delta ∨ i ∈ d.new)) :
    ∀ i, i < (rows ++ [row]).length ↔ (i ∈ d.total ∨ i ∈ d.delta ∨ i ∈ d.new ++ [rows.length]) := by
  intro i
  simp only [List.length_append, List.length_singleton, List.mem_append, List.mem_singleton, Nat.lt_succ_iff_lt_or_eq,
    hcov i, or_assoc]

theorem headRel_eq (s : SccSt) (r : RelId) (row : Tuple) :
    headRel s r row =
      match findDyn s.dyn r with
      | none => s
      | some d =>
        if (bagTuples (rowsOf s r) d.total).contains row || (bagTuples (rowsOf s r) d.delta).contains row
            || (bagTuples (rowsOf s r) d.new).contains row then s
        else pushRow s r d row := by
  unfold headRel
  cases findDyn s.dyn r <;> rfl

section Push
variable {n : Nat} {dynR : List RelId} {s : SccSt} {r : RelId} {d : Dyn} {row : Tuple}

theorem pushRow_rows_self (hr : r < s.rels.length) :
    rowsOf (pushRow s r d row) r = rowsOf s r ++ [row] :=
  upd_rows_self hr

theorem pushRow_idx_self (hr : r < s.rels.length) :
    (relSt (pushRow s r d row).rels r).idx = (relSt s.rels r).idx := by
  simp [pushRow, relSt_setNth_self _ _ _ hr]

theorem pushRow_relSt_ne {r' : RelId} (hne : r' ≠ r) :
    relSt (pushRow s r d row).rels r' = relSt s.rels r' :=
  upd_relSt_ne hne

theorem pushRow_rows_ne {r' : RelId} (hne : r' ≠ r) :
    rowsOf (pushRow s r d row) r' = rowsOf s r' :=
  upd_rows_ne hne

theorem pushRow_dyn_self (hd : findDyn s.dyn r = some d) :
    findDyn (pushRow s r d row).dyn r = some { d with new := d.new ++ [(rowsOf s r).length] } :=
  upd_dyn_self (d' := { d with new := d.new ++ [(rowsOf s r).length] }) hd (findDyn_rel hd : d.rel = r)

theorem pushRow_dyn_ne (hd : findDyn s.dyn r = some d) {r' : RelId} (hne : r' ≠ r) :
    findDyn (pushRow s r d row).dyn r' = findDyn s.dyn r' :=
  upd_dyn_ne (s := s) (d' := { d with new := d.new ++ [(rowsOf s r).length] }) (rows' := rowsOf s r ++ [row])
    (findDyn_rel hd : d.rel = r) hne

theorem WF_pushRow (hwf : WF n dynR s) (hd : findDyn s.dyn r = some d) (hr : r < n) :
    WF n dynR (pushRow s r d row) := by
  -- the new row number `(rowsOf s r).length` is exactly the entry appended to `new`
  rw [pushRow_eq_upd]
  exact WF_upd hwf hd hr (findDyn_rel hd : d.rel = r) (cover_push row (hwf.cover r d hd))

theorem Ext_pushRow {s₀ : SccSt} (hwf : WF n dynR s) (hext : Ext s₀ s) (hd : findDyn s.dyn r = some d) (hr : r < n) :
    Ext s₀ (pushRow s r d row) := by
  have hr' : r < s.rels.length := hwf.len ▸ hr
  refine ⟨?_, ?_, ?_, ?_, fun h => nomatch h⟩
  · intro r'
    by_cases hne : r' = r
    · subst hne
      exact (pushRow_idx_self hr').trans (hext.idx r')
    · rw [pushRow_relSt_ne hne]
      exact hext.idx r'
  · intro r'
    obtain ⟨ex, hex⟩ := hext.rows r'
    by_cases hne : r' = r
    · subst hne
      exact ⟨ex ++ [row], by rw [pushRow_rows_self hr', hex, List.append_assoc]⟩
    · exact ⟨ex, by rw [pushRow_rows_ne hne, hex]⟩
  · intro r' h0
    obtain ⟨h1, h2⟩ := hext.nondyn r' h0
    have hne : r' ≠ r := by
      rintro rfl
      rw [hd] at h1
      cases h1
    exact ⟨(pushRow_dyn_ne hd hne).trans h1, (pushRow_relSt_ne hne).trans h2⟩
  · intro r' d₀ h0
    obtain ⟨d1, h1, h2, h3⟩ := hext.td r' d₀ h0
    by_cases hne : r' = r
    · subst hne
      rw [hd] at h1
      cases h1
      exact ⟨_, pushRow_dyn_self hd, h2, h3⟩
    · exact ⟨d1, (pushRow_dyn_ne hd hne).trans h1, h2, h3⟩

end Push

end AscentVerif.Engine

/-! Rows of a program with aggregation items: derivability is `DerA … aggv` for a per-item aggregation view. -/
namespace AscentVerif.Engine.Agg
open AscentVerif AscentVerif.Engine

variable {E B G P A : Type}

theorem aggTuples_congr (cfg : Config) (p : Program E B G P A) {s s' : SccSt} (a : AggClause E A)
    (h : relSt s.rels a.rel = relSt s'.rels a.rel) : aggTuples cfg p s a = aggTuples cfg p s' a := by
  simp only [aggTuples, h]

section Good
variable (I : Interp E B G P A) (p : Program E B G P A) (inp : RelId → List Tuple)
  (aggv : AggClause E A → List Tuple)

def GoodRows (r : RelId) (rows : List Tuple) : Prop :=
  (∀ t ∈ rows, DerA I p.rules aggv (inDB p inp) ⟨r, t⟩) ∧
  ∃ derived, rows = inp r ++ derived ∧ derived.Nodup ∧ ∀ t ∈ derived, t ∉ inp r

theorem GoodRows.append {r : RelId} {rows : List Tuple} {t : Tuple} (h : GoodRows I p inp aggv r rows)
    (hn : t ∉ rows) (hd : DerA I p.rules aggv (inDB p inp) ⟨r, t⟩) : GoodRows I p inp aggv r (rows ++ [t]) :=
  ⟨List.forall_mem_append.mpr ⟨h.1, List.forall_mem_singleton.mpr hd⟩, ext_append h.2 hn⟩

def Good (n : Nat) (s : SccSt) : Prop := ∀ r, r < n → GoodRows I p inp aggv r (rowsOf s r)

end Good

end AscentVerif.Engine.Agg
