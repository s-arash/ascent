import AscentVerif.Model.EnginePhys
import AscentVerif.Props.C19
import AscentVerif.Proofs.StBasics
/-!
# The physical indices of one relation version against the bag of row numbers of the engine model

`IxB ts cols m`: the hash index `m` (key = projection on `cols`, value = the other columns) holds exactly the tuples `ts`,
each as often as it occurs; `FullOk`: the full index holds exactly the tuples of a bag.  `update_indices` establishes both,
the head update and `merge_delta_to_total_new_to_delta` (through C19's `mergeStep`) keep them.  `IxOk rows bag cols m` is
what `IxB` says about membership when `ts` are the rows numbered by `bag`: all that `index_get` / `iter_all` /
`len_estimate` need, and all that the lattice towers, which carry no multiplicities, keep.
-/
namespace AscentVerif.Phys
open AscentVerif AscentVerif.Engine AscentVerif.Index

def ColsOk (arity : Nat) (cols : List Nat) : Prop := increasing cols = true ∧ ∀ j ∈ cols, j < arity

/-- key and value of a row give the row back, whatever the index columns (`ColsOk` is not needed) -/
theorem rebuild_proj' (cols : List Nat) (row : Tuple) :
    rebuild cols row.length (Plan.proj cols row) (projC cols row) = row := by
  apply List.ext_getElem
  · simp [rebuild]
  · intro j h1 h2
    simp only [rebuild, List.getElem_map, List.getElem_range]
    cases ht : cols.idxOf? j with
    | some t =>
      obtain ⟨htl, heq, _⟩ := List.findIdx?_eq_some_iff_getElem.mp ht
      have hc : cols[t] = j := by simpa using heq
      simp only [Plan.proj, List.getD_eq_getElem?_getD, List.getElem?_map, List.getElem?_eq_getElem htl, hc,
        List.getElem?_eq_getElem h2, Option.map_some, Option.getD_some]
    | none =>
      have hnot : j ∉ cols := List.idxOf?_eq_none_iff.mp ht
      have hp : (fun i => !cols.contains i) j = true := by simpa using hnot
      have := filter_range_getElem? (fun i => !cols.contains i) row.length j h2 hp
      simp only [projC, rank, List.getD_eq_getElem?_getD, List.getElem?_map, this, List.getElem?_eq_getElem h2,
        Option.map_some, Option.getD_some]

theorem rebuild_proj (cols : List Nat) (row : Tuple) (h : ColsOk row.length cols) :
    rebuild cols row.length (Plan.proj cols row) (projC cols row) = row := by
  have _ := h
  exact rebuild_proj' cols row

theorem increasing_cons_cons {a b : Nat} {t : List Nat} (h : increasing (a :: b :: t) = true) :
    a < b ∧ increasing (b :: t) = true := by
  simpa [increasing] using h

theorem increasing_bound (t : List Nat) : ∀ (a hi : Nat), increasing (a :: t) = true → (∀ x ∈ a :: t, x < hi) →
    a + (t.length + 1) ≤ hi := by
  induction t with
  | nil => exact fun a hi _ hb => hb a List.mem_cons_self
  | cons b t ih =>
    intro a hi h hb
    obtain ⟨hab, hi2⟩ := increasing_cons_cons h
    have := ih b hi hi2 fun x hx => hb x (List.mem_cons_of_mem _ hx)
    rw [List.length_cons]
    omega

theorem increasing_eq_range' (t : List Nat) : ∀ (a : Nat), increasing (a :: t) = true →
    (∀ x ∈ a :: t, x < a + (t.length + 1)) → a :: t = List.range' a (t.length + 1) := by
  induction t with
  | nil => exact fun _ _ _ => rfl
  | cons b t ih =>
    intro a h hb
    obtain ⟨hab, hi2⟩ := increasing_cons_cons h
    have hb' : ∀ x ∈ b :: t, x < a + (t.length + 1 + 1) := fun x hx => hb x (List.mem_cons_of_mem _ hx)
    have hba : b = a + 1 := by
      have := increasing_bound t b _ hi2 hb'
      omega
    subst hba
    exact congrArg (a :: ·) (ih (a + 1) hi2 fun x hx => by have := hb' x hx; omega)

theorem cols_full (arity : Nat) (cols : List Nat) (h : ColsOk arity cols) (hl : cols.length = arity) :
    cols = List.range arity := by
  obtain ⟨hinc, hlt⟩ := h
  cases cols with
  | nil => subst hl; rfl
  | cons a t =>
    have h1 := increasing_bound t a arity hinc hlt
    rw [List.length_cons] at hl
    have ha : a = 0 := by omega
    subst ha
    rw [increasing_eq_range' t 0 hinc fun x hx => by have := hlt x hx; omega, List.range_eq_range', hl]

theorem proj_range (row : Tuple) : Plan.proj (List.range row.length) row = row := by
  apply List.ext_getElem
  · simp [Plan.proj]
  · intro j h1 h2
    simp [Plan.proj, List.getD_eq_getElem?_getD, List.getElem?_eq_getElem h2]

def IxOk (rows : List Tuple) (bag : List Nat) (cols : List Nat) (m : PIx) : Prop :=
  NoDupKeys m ∧ (∀ kv ∈ m, kv.2 ≠ []) ∧
  ∀ k x, (k, x) ∈ Idx.entries m ↔ ∃ i ∈ bag, k = Plan.proj cols (rowAt rows i) ∧ x = projC cols (rowAt rows i)

def FullOk (rows : List Tuple) (bag : List Nat) (m : FIx) : Prop :=
  NoDupKeys m ∧ ∀ t, FullIdx.containsKey m t = true ↔ t ∈ bagTuples rows bag

/-- one version of all the indices of a relation whose non-full index column sets are `ixr` -/
def VerOk (ixr : List (List Nat)) (rows : List Tuple) (bag : List Nat) (full : FIx) (idxs : List (List Nat × PIx)) : Prop :=
  FullOk rows bag full ∧ idxs.map (·.1) = ixr ∧ ∀ ci ∈ idxs, IxOk rows bag ci.1 ci.2

section hmap
variable {K V : Type} [DecidableEq K]

theorem mem_entries_iff_vals {V : Type} (m : Idx K V) (hn : NoDupKeys m) (k : K) (x : V) :
    (k, x) ∈ Idx.entries m ↔ x ∈ Idx.vals m k := by
  rw [mem_entries]
  unfold Idx.vals Idx.get
  constructor
  · rintro ⟨vs, hm, hx⟩
    rw [get?_eq_some_of_mem m k vs hn hm]
    exact hx
  · intro hx
    cases hg : HMap.get? m k with
    | none => rw [hg] at hx; cases hx
    | some vs =>
      rw [hg] at hx
      exact ⟨vs, mem_of_get?_eq_some m k vs hg, hx⟩

theorem containsKey_foldl_insert {V : Type} (ops : List K) (v : V) (m : FullIdx K V) (hn : NoDupKeys m) :
    NoDupKeys (ops.foldl (fun m k => FullIdx.insert m k v) m) ∧
      ∀ t, FullIdx.containsKey (ops.foldl (fun m k => FullIdx.insert m k v) m) t = true ↔
        (FullIdx.containsKey m t = true ∨ t ∈ ops) := by
  induction ops generalizing m with
  | nil => exact ⟨hn, fun t => by rw [List.foldl_nil, or_iff_left List.not_mem_nil]⟩
  | cons hd tl ih =>
    obtain ⟨h1, h2⟩ := ih (FullIdx.insert m hd v) (HMap.nodup_keys_upsert _ _ _ hn)
    refine ⟨h1, fun t => ?_⟩
    rw [List.foldl_cons, h2 t, List.mem_cons, ← or_assoc]
    unfold FullIdx.containsKey FullIdx.insert
    rw [HMap.get?_upsert]
    by_cases ht : t = hd
    · rw [if_pos ht]
      exact ⟨fun _ => .inl (.inr ht), fun _ => .inl rfl⟩
    · rw [if_neg ht, or_iff_left ht]

theorem containsKey_iff_mem_keys {V : Type} (m : FullIdx K V) (k : K) :
    FullIdx.containsKey m k = true ↔ k ∈ m.map (·.1) := HMap.get?_isSome_iff m k

theorem fullMerge_get {V : Type} (new delta total : FullIdx K V) (hd : NoDupKeys delta)
    (ht : NoDupKeys total) (hag : ∀ k v w, HMap.get? total k = some v → HMap.get? delta k = some w → v = w) (k : K) (v : V) :
    HMap.get? (FullIdx.mergeStep new delta total).2.2 k = some v ↔
      (HMap.get? total k = some v ∨ HMap.get? delta k = some v) := by
  simp only [FullIdx.mergeStep, FullIdx.moveContents_eq]
  split
  · rw [get?_drainInto _ _ _ ht]
    cases h1 : HMap.get? total k with
    | none => simp
    | some a =>
      cases h2 : HMap.get? delta k with
      | none => simp
      | some b =>
        have := hag k a b h1 h2
        subst this
        simp
  · rw [get?_drainInto _ _ _ hd]
    cases h2 : HMap.get? delta k with
    | none => simp
    | some b =>
      cases h1 : HMap.get? total k with
      | none => simp
      | some a =>
        have := hag k a b h1 h2
        subst this
        simp

end hmap

theorem mem_bagTuples' (rows : List Tuple) (bag : List Nat) (t : Tuple) :
    t ∈ bagTuples rows bag ↔ ∃ i ∈ bag, rowAt rows i = t := by
  simp [bagTuples]

theorem bagTuples_rows_append {rows : List Tuple} {bag : List Nat} (t : Tuple) (hb : ∀ i ∈ bag, i < rows.length) :
    bagTuples (rows ++ [t]) bag = bagTuples rows bag := by
  unfold bagTuples
  apply List.map_congr_left
  intro i hi
  exact rowAt_append_left rows [t] i (hb i hi)

theorem bagTuples_push {rows : List Tuple} {bag : List Nat} (t : Tuple) (hb : ∀ i ∈ bag, i < rows.length) :
    bagTuples (rows ++ [t]) (bag ++ [rows.length]) = bagTuples rows bag ++ [t] := by
  have := bagTuples_rows_append (rows := rows) (bag := bag) t hb
  unfold bagTuples at this ⊢
  rw [List.map_append, this]
  simp [rowAt_length_append]

theorem bagTuples_append (rows : List Tuple) (a b : List Nat) :
    bagTuples rows (a ++ b) = bagTuples rows a ++ bagTuples rows b := by simp [bagTuples]

/-- under every key the bucket is, as a multiset, the values of the tuples of `ts` with that key -/
def IxMT (ts : List Tuple) (cols : List Nat) (m : PIx) : Prop :=
  ∀ k, (Idx.vals m k).Perm ((ts.filter fun t => Plan.proj cols t == k).map (projC cols))

theorem IxMT_nil (cols : List Nat) : IxMT [] cols [] := by
  intro k
  simp [Idx.vals, Idx.get, HMap.get?_nil]

theorem IxMT_insert {ts : List Tuple} {cols : List Nat} {m : PIx} (t : Tuple) (h : IxMT ts cols m) :
    IxMT (ts ++ [t]) cols (Idx.insert m (Plan.proj cols t) (projC cols t)) := by
  intro k
  rw [Idx.vals_insert, List.filter_append, List.map_append]
  by_cases hk : k = Plan.proj cols t
  · subst hk
    rw [if_pos rfl]
    have h1 : ([t].filter fun t' => Plan.proj cols t' == Plan.proj cols t) = [t] := by simp
    rw [h1]
    exact (h _).append_right _
  · rw [if_neg hk]
    have h1 : ([t].filter fun t' => Plan.proj cols t' == k) = [] := by
      simp only [List.filter_cons, List.filter_nil]
      have : (Plan.proj cols t == k) = false := by simpa using fun e => hk e.symm
      rw [this]; rfl
    rw [h1]
    simpa using h k

/-- the hash index `m` on `cols` holds exactly the tuples `ts`, each as often as it occurs: distinct keys, no empty bucket
(`len_estimate` and `is_empty` count keys), and under every key one value per tuple with that key.  The row numbers of the
bag engine play no part; `IxOk` (membership) and the multiplicities an aggregator sees both follow. -/
structure IxB (ts : List Tuple) (cols : List Nat) (m : PIx) : Prop where
  nd : NoDupKeys m
  ne : ∀ kv ∈ m, kv.2 ≠ []
  vals : IxMT ts cols m

theorem IxB.ok {rows : List Tuple} {bag cols : List Nat} {m : PIx} (h : IxB (bagTuples rows bag) cols m) :
    IxOk rows bag cols m := by
  refine ⟨h.nd, h.ne, fun k x => ?_⟩
  -- with distinct keys the entries under `k` are the members of `vals m k`
  rw [mem_entries_iff_vals m h.nd, (h.vals k).mem_iff]
  simp only [List.mem_map, List.mem_filter, beq_iff_eq, mem_bagTuples']
  constructor
  · rintro ⟨t, ⟨⟨i, hi, rfl⟩, rfl⟩, rfl⟩
    exact ⟨i, hi, rfl, rfl⟩
  · rintro ⟨i, hi, rfl, rfl⟩
    exact ⟨_, ⟨⟨i, hi, rfl⟩, rfl⟩, rfl⟩

theorem IxB.nil (cols : List Nat) : IxB [] cols [] :=
  ⟨List.nodup_nil, fun _ h => (nomatch h), IxMT_nil cols⟩

theorem IxB.perm {ts ts' : List Tuple} {cols : List Nat} {m : PIx} (hp : ts.Perm ts') (h : IxB ts cols m) : IxB ts' cols m :=
  ⟨h.nd, h.ne, fun k => (h.vals k).trans ((hp.filter _).map _)⟩

/-- head update: `index_insert(new, key, value)` of the pushed row -/
theorem IxB.insert {ts : List Tuple} {cols : List Nat} {m : PIx} (h : IxB ts cols m) (t : Tuple) :
    IxB (ts ++ [t]) cols (Idx.insert m (Plan.proj cols t) (projC cols t)) :=
  ⟨Idx.insert_noDup _ _ _ h.nd, insert_nonempty _ _ _ h.ne, IxMT_insert t h.vals⟩

/-- `update_indices` -/
theorem IxB.build (cols : List Nat) (rows : List Tuple) : IxB rows cols (buildIx cols rows) := by
  have : ∀ (rows ts : List Tuple) (m : PIx), IxB ts cols m →
      IxB (ts ++ rows) cols (rows.foldl (fun m row => Idx.insert m (Plan.proj cols row) (projC cols row)) m) := by
    intro rows
    induction rows with
    | nil =>
      intro ts m h
      rwa [List.append_nil]
    | cons r rows ih =>
      intro ts m h
      have := ih (ts ++ [r]) _ (h.insert r)
      rwa [List.append_assoc] at this
  exact this rows [] [] (.nil cols)

/-- `merge_delta_to_total_new_to_delta` on one non-full index, bucket by bucket: what `IxB.shift` and `IxOk_shift` share -/
theorem shiftIx_spec {t : Tri PIx} (ht : NoDupKeys t.total) (hd : NoDupKeys t.delta) (ht' : ∀ kv ∈ t.total, kv.2 ≠ [])
    (hd' : ∀ kv ∈ t.delta, kv.2 ≠ []) :
    NoDupKeys (shiftIx t).total ∧ (∀ kv ∈ (shiftIx t).total, kv.2 ≠ []) ∧
      (∀ k, (Idx.vals (shiftIx t).total k).Perm (Idx.vals t.total k ++ Idx.vals t.delta k)) ∧
      (shiftIx t).delta = t.new ∧ (shiftIx t).new = [] := by
  obtain ⟨s1, s2, s3, s4, _⟩ := Idx.mergeStep_spec t.new t.delta t.total hd ht
  have hne := Idx.mergeStep_nonempty t.new t.delta t.total
    (fun k vs h => hd' (k, vs) (mem_of_get?_eq_some _ _ _ h))
    (fun k vs h => ht' (k, vs) (mem_of_get?_eq_some _ _ _ h))
  exact ⟨s3, fun kv hkv => hne kv.1 kv.2 (get?_eq_some_of_mem _ _ _ s3 hkv), s4, s2, s1⟩

/-- `merge_delta_to_total_new_to_delta` on one non-full index -/
theorem IxB.shift {tt td tn : List Tuple} {cols : List Nat} {t : Tri PIx}
    (ht : IxB tt cols t.total) (hd : IxB td cols t.delta) (hn : IxB tn cols t.new) :
    IxB (tt ++ td) cols (shiftIx t).total ∧ IxB tn cols (shiftIx t).delta ∧ IxB [] cols (shiftIx t).new := by
  obtain ⟨s1, s2, s3, s4, s5⟩ := shiftIx_spec ht.nd hd.nd ht.ne hd.ne
  refine ⟨⟨s1, s2, fun k => ?_⟩, s4 ▸ hn, s5 ▸ .nil cols⟩
  rw [List.filter_append, List.map_append]
  exact (s3 k).trans ((ht.vals k).append (hd.vals k))

theorem IxOk_nil (rows : List Tuple) (cols : List Nat) : IxOk rows [] cols [] :=
  IxB.ok (rows := rows) (bag := []) (.nil cols)

theorem FullOk_nil (rows : List Tuple) : FullOk rows [] [] := by
  refine ⟨List.nodup_nil, fun t => ⟨fun h => ?_, fun h => ?_⟩⟩
  · cases h
  · cases h

theorem IxOk_build (cols : List Nat) (rows : List Tuple) : IxOk rows (List.range rows.length) cols (buildIx cols rows) :=
  IxB.ok (by rw [bagTuples_range]; exact .build cols rows)

theorem FullOk_build (rows : List Tuple) : FullOk rows (List.range rows.length) (buildFull rows) := by
  obtain ⟨h1, h2⟩ := containsKey_foldl_insert rows () ([] : FIx) List.nodup_nil
  refine ⟨h1, fun t => ?_⟩
  unfold buildFull
  rw [h2 t, bagTuples_range]
  exact or_iff_right (fun h => nomatch h)

theorem bag_rowAt_append {rows : List Tuple} {bag : List Nat} (t : Tuple) (hb : ∀ i ∈ bag, i < rows.length)
    (P : Tuple → Prop) : (∃ i ∈ bag, P (rowAt (rows ++ [t]) i)) ↔ ∃ i ∈ bag, P (rowAt rows i) := by
  constructor
  · rintro ⟨i, hi, h⟩; exact ⟨i, hi, by rwa [rowAt_append_left rows [t] i (hb i hi)] at h⟩
  · rintro ⟨i, hi, h⟩; exact ⟨i, hi, by rwa [rowAt_append_left rows [t] i (hb i hi)]⟩

theorem IxOk_rows_append {rows : List Tuple} {bag cols : List Nat} {m : PIx} (t : Tuple) (h : IxOk rows bag cols m)
    (hb : ∀ i ∈ bag, i < rows.length) : IxOk (rows ++ [t]) bag cols m := by
  obtain ⟨h1, h2, h3⟩ := h
  refine ⟨h1, h2, fun k x => ?_⟩
  rw [h3 k x]
  exact (bag_rowAt_append t hb (fun r => k = Plan.proj cols r ∧ x = projC cols r)).symm

theorem FullOk_rows_append {rows : List Tuple} {bag : List Nat} {m : FIx} (t : Tuple) (h : FullOk rows bag m)
    (hb : ∀ i ∈ bag, i < rows.length) : FullOk (rows ++ [t]) bag m := by
  refine ⟨h.1, fun u => ?_⟩
  rw [h.2 u, bagTuples_rows_append t hb]

theorem exists_mem_append_singleton (bag : List Nat) (n : Nat) (P : Nat → Prop) :
    (∃ i ∈ bag ++ [n], P i) ↔ (∃ i ∈ bag, P i) ∨ P n :=
  (exists_mem_append bag [n] P).trans (or_congr_right (by simp))

/-- head update, non-full index: `index_insert(new, key, value)` of the pushed row -/
theorem IxOk_insert {rows : List Tuple} {bag cols : List Nat} {m : PIx} (t : Tuple) (h : IxOk rows bag cols m)
    (hb : ∀ i ∈ bag, i < rows.length) :
    IxOk (rows ++ [t]) (bag ++ [rows.length]) cols (Idx.insert m (Plan.proj cols t) (projC cols t)) := by
  obtain ⟨h1, h2, h3⟩ := IxOk_rows_append t h hb
  refine ⟨Idx.insert_noDup _ _ _ h1, insert_nonempty _ _ _ h2, fun k x => ?_⟩
  rw [(Idx.entries_insert m _ _).mem_iff, List.mem_append, List.mem_singleton, h3 k x,
    exists_mem_append_singleton bag rows.length
      (fun i => k = Plan.proj cols (rowAt (rows ++ [t]) i) ∧ x = projC cols (rowAt (rows ++ [t]) i)),
    rowAt_length_append, Prod.mk.injEq]

/-- head update, full index: `insert_if_not_present(new, row)` on a row that is not there -/
theorem FullOk_insertIfNotPresent {rows : List Tuple} {bag : List Nat} {m : FIx} (t : Tuple) (h : FullOk rows bag m)
    (hb : ∀ i ∈ bag, i < rows.length) (hnot : FullIdx.containsKey m t = false) :
    (FullIdx.insertIfNotPresent m t ()).2 = true ∧
      FullOk (rows ++ [t]) (bag ++ [rows.length]) (FullIdx.insertIfNotPresent m t ()).1 := by
  obtain ⟨s1, _, s3, s4⟩ := FullIdx.insertIfNotPresent_spec m t ()
  have hg : HMap.get? m t = none := by
    cases hh : HMap.get? m t with
    | none => rfl
    | some x =>
      rw [FullIdx.containsKey, hh] at hnot
      cases hnot
  obtain ⟨h1, h2⟩ := FullOk_rows_append t h hb
  refine ⟨s1.mpr hg, s4 h1, fun u => ?_⟩
  rw [mem_bagTuples', exists_mem_append_singleton bag rows.length (fun i => rowAt (rows ++ [t]) i = u),
    rowAt_length_append, ← mem_bagTuples', ← h2 u]
  unfold FullIdx.containsKey
  rw [s3 u]
  by_cases hu : u = t
  · rw [if_pos hu]
    exact ⟨fun _ => .inr hu.symm, fun _ => rfl⟩
  · rw [if_neg hu, or_iff_left fun e => hu e.symm]

theorem insertIfNotPresent_present {m : FIx} {t : Tuple} (h : FullIdx.containsKey m t = true) :
    FullIdx.insertIfNotPresent m t () = (m, false) := by
  obtain ⟨x, hx⟩ := Option.isSome_iff_exists.mp h
  unfold FullIdx.insertIfNotPresent
  rw [hx]

theorem contains_eq_of_fullOk {rows : List Tuple} {bag : List Nat} {m : FIx} (h : FullOk rows bag m) (row : Tuple) :
    FullIdx.containsKey m row = (bagTuples rows bag).contains row := by
  rw [Bool.eq_iff_iff, h.2, List.contains_iff_mem]

/-- the head update of a relation takes the same branch over the three full indices as over the three bags: both leave things as
they are (`x` against `a`), or both go on (`x'` against `a'`), the physical side after inserting the row into the `new` full index -/
theorem headRel_branch {rows : List Tuple} {bt bd bn : List Nat} {ft fd fn : FIx} (hT : FullOk rows bt ft)
    (hD : FullOk rows bd fd) (hN : FullOk rows bn fn) (hbN : ∀ i ∈ bn, i < rows.length) (row : Tuple) {α β : Type}
    (R : α → β → Prop) {a a' : α} {x x' : β} (h0 : R a x)
    (h1 : FullOk (rows ++ [row]) (bn ++ [rows.length]) (FullIdx.insertIfNotPresent fn row ()).1 → R a' x') :
    R (if (bagTuples rows bt).contains row || (bagTuples rows bd).contains row || (bagTuples rows bn).contains row then a else a')
      (if FullIdx.containsKey ft row || FullIdx.containsKey fd row then x
        else if !(FullIdx.insertIfNotPresent fn row ()).2 then x else x') := by
  rw [← contains_eq_of_fullOk hT row, ← contains_eq_of_fullOk hD row, ← contains_eq_of_fullOk hN row]
  cases FullIdx.containsKey ft row || FullIdx.containsKey fd row with
  | true => exact h0
  | false =>
    cases hNw : FullIdx.containsKey fn row with
    | true =>
      rw [insertIfNotPresent_present hNw]
      exact h0
    | false =>
      obtain ⟨hi2, hfull⟩ := FullOk_insertIfNotPresent row hN hbN hNw
      rw [hi2]
      exact h1 hfull

/-- `merge_delta_to_total_new_to_delta` on one non-full index -/
theorem IxOk_shift {rows : List Tuple} {bt bd bn cols : List Nat} {t : Tri PIx}
    (ht : IxOk rows bt cols t.total) (hd : IxOk rows bd cols t.delta) (hn : IxOk rows bn cols t.new) :
    IxOk rows (bt ++ bd) cols (shiftIx t).total ∧ IxOk rows bn cols (shiftIx t).delta ∧ IxOk rows [] cols (shiftIx t).new := by
  obtain ⟨s1, s2, s3, s4, s5⟩ := shiftIx_spec ht.1 hd.1 ht.2.1 hd.2.1
  refine ⟨⟨s1, s2, fun k x => ?_⟩, s4 ▸ hn, s5 ▸ IxOk_nil rows cols⟩
  rw [mem_entries_iff_vals _ s1, (s3 k).mem_iff, List.mem_append, ← mem_entries_iff_vals _ ht.1,
    ← mem_entries_iff_vals _ hd.1, ht.2.2, hd.2.2]
  exact (exists_mem_append bt bd
    (fun i => k = Plan.proj cols (rowAt rows i) ∧ x = projC cols (rowAt rows i))).symm

theorem FullOk_shift {rows : List Tuple} {bt bd bn : List Nat} {t : Tri FIx}
    (ht : FullOk rows bt t.total) (hd : FullOk rows bd t.delta) (hn : FullOk rows bn t.new) :
    FullOk rows (bt ++ bd) (shiftFull t).total ∧ FullOk rows bn (shiftFull t).delta ∧ FullOk rows [] (shiftFull t).new := by
  obtain ⟨ht1, ht2⟩ := ht
  obtain ⟨hd1, hd2⟩ := hd
  obtain ⟨s1, s2, s3, s4, _⟩ := FullIdx.mergeStep_spec t.new t.delta t.total hd1 ht1
  refine ⟨⟨s3, ?_⟩, ?_, (show (shiftFull t).new = [] from s1) ▸ FullOk_nil rows⟩
  · intro u
    show (HMap.get? (FullIdx.mergeStep t.new t.delta t.total).2.2 u).isSome = true ↔ _
    rw [s4 u, Bool.or_eq_true, bagTuples_append, List.mem_append, ← ht2 u, ← hd2 u]
    rfl
  · show FullOk rows bn (FullIdx.mergeStep t.new t.delta t.total).2.1
    rw [s2]
    exact hn

theorem lookupIx_of {P : List Nat → PIx → Prop} {ixr : List (List Nat)} {idxs : List (List Nat × PIx)} {cols : List Nat}
    (hm : idxs.map (·.1) = ixr) (hc : cols ∈ ixr) (h : ∀ ci ∈ idxs, P ci.1 ci.2) : P cols (lookupIx idxs cols) := by
  unfold lookupIx
  cases hf : idxs.find? (·.1 == cols) with
  | none =>
    rw [← hm, List.mem_map] at hc
    obtain ⟨ci, hci, e⟩ := hc
    have := List.find?_eq_none.mp hf ci hci
    simp [e] at this
  | some ci =>
    have e : ci.1 = cols := by simpa using List.find?_some hf
    exact e ▸ h ci (List.mem_of_find?_eq_some hf)

/-- the `cols.length = arity` branch of `get1` / `all1`: the key is a whole row, the full index answers -/
theorem full_branch {rows : List Tuple} {bag : List Nat} {full : FIx} (arity : Nat) (hf : FullOk rows bag full)
    (hty : ∀ i ∈ bag, (rowAt rows i).length = arity) (k : List Val) (t : Tuple) :
    (∃ i ∈ bag, rowAt rows i = t ∧ Plan.proj (List.range arity) t = k) ↔
      (t = k ∧ FullIdx.containsKey full k = true) := by
  constructor
  · rintro ⟨i, hi, e, hk⟩
    have hlen : t.length = arity := by rw [← e]; exact hty i hi
    have hkt : t = k := by rw [← hk, ← hlen, proj_range]
    refine ⟨hkt, ?_⟩
    rw [← hkt]
    exact (hf.2 t).mpr ((mem_bagTuples' rows bag t).mpr ⟨i, hi, e⟩)
  · rintro ⟨e, hck⟩
    subst e
    obtain ⟨i, hi, e⟩ := (mem_bagTuples' rows bag t).mp ((hf.2 t).mp hck)
    refine ⟨i, hi, e, ?_⟩
    have hlen : t.length = arity := by rw [← e]; exact hty i hi
    rw [← hlen, proj_range]

/-- the other branch: a hash index on `cols`, whose values are rebuilt into rows -/
theorem ix_branch {rows : List Tuple} {bag cols : List Nat} {m : PIx} (arity : Nat) (hm : IxOk rows bag cols m)
    (hty : ∀ i ∈ bag, (rowAt rows i).length = arity) (k : List Val) (t : Tuple) :
    (∃ i ∈ bag, rowAt rows i = t ∧ Plan.proj cols t = k) ↔
      ∃ x, (k, x) ∈ Idx.entries m ∧ rebuild cols arity k x = t := by
  have hr : ∀ i ∈ bag, rebuild cols arity (Plan.proj cols (rowAt rows i)) (projC cols (rowAt rows i)) = rowAt rows i := by
    intro i hi
    rw [← hty i hi]
    exact rebuild_proj' cols (rowAt rows i)
  constructor
  · rintro ⟨i, hi, e, hk⟩
    subst e
    subst hk
    exact ⟨projC cols (rowAt rows i), (hm.2.2 _ _).mpr ⟨i, hi, rfl, rfl⟩, hr i hi⟩
  · rintro ⟨x, hx, e⟩
    obtain ⟨i, hi, e1, e2⟩ := (hm.2.2 _ _).mp hx
    subst e1
    subst e2
    rw [hr i hi] at e
    subst e
    exact ⟨i, hi, rfl, rfl⟩

/-- `index_get` -/
theorem get1_spec {ixr : List (List Nat)} {rows : List Tuple} {bag : List Nat} {full : FIx} {idxs : List (List Nat × PIx)}
    (arity : Nat) (cols : List Nat) (key : List Val) (hv : VerOk ixr rows bag full idxs) (hc : ColsOk arity cols)
    (hix : cols.length = arity ∨ cols ∈ ixr) (hty : ∀ i ∈ bag, (rowAt rows i).length = arity) (t : Tuple) :
    t ∈ get1 arity full idxs cols key ↔ ∃ i ∈ bag, rowAt rows i = t ∧ Plan.proj cols t = key := by
  unfold get1
  by_cases hl : cols.length = arity
  · rw [if_pos (beq_iff_eq.mpr hl), cols_full arity cols hc hl, full_branch arity hv.1 hty key t]
    cases FullIdx.containsKey full key with
    | false => exact ⟨fun h => (nomatch h), fun h => (nomatch h.2)⟩
    | true => exact ⟨fun h => ⟨List.mem_singleton.mp h, rfl⟩, fun h => List.mem_singleton.mpr h.1⟩
  · have hok := lookupIx_of (P := IxOk rows bag) hv.2.1 (hix.resolve_left hl) hv.2.2
    rw [if_neg fun h => hl (beq_iff_eq.mp h), ix_branch arity hok hty key t, List.mem_map]
    exact exists_congr fun x => and_congr_left' (mem_entries_iff_vals _ hok.1 key x).symm

/-- `iter_all` -/
theorem all1_spec {ixr : List (List Nat)} {rows : List Tuple} {bag : List Nat} {full : FIx} {idxs : List (List Nat × PIx)}
    (arity : Nat) (cols : List Nat) (hv : VerOk ixr rows bag full idxs) (hc : ColsOk arity cols)
    (hix : cols.length = arity ∨ cols ∈ ixr) (hty : ∀ i ∈ bag, (rowAt rows i).length = arity) (k : List Val) (t : Tuple) :
    (∃ kr ∈ all1 arity full idxs cols, kr.1 = k ∧ t ∈ kr.2) ↔ ∃ i ∈ bag, rowAt rows i = t ∧ Plan.proj cols t = k := by
  unfold all1
  by_cases hl : cols.length = arity
  · rw [if_pos (beq_iff_eq.mpr hl), cols_full arity cols hc hl, full_branch arity hv.1 hty k t, containsKey_iff_mem_keys]
    constructor
    · rintro ⟨kr, hkr, e1, e2⟩
      obtain ⟨kv, hkv, rfl⟩ := List.mem_map.mp hkr
      cases e1
      exact ⟨List.mem_singleton.mp e2, List.mem_map.mpr ⟨kv, hkv, rfl⟩⟩
    · rintro ⟨rfl, hk⟩
      obtain ⟨kv, hkv, rfl⟩ := List.mem_map.mp hk
      exact ⟨_, List.mem_map.mpr ⟨kv, hkv, rfl⟩, rfl, List.mem_singleton.mpr rfl⟩
  · have hok := lookupIx_of (P := IxOk rows bag) hv.2.1 (hix.resolve_left hl) hv.2.2
    rw [if_neg fun h => hl (beq_iff_eq.mp h), ix_branch arity hok hty k t]
    constructor
    · rintro ⟨kr, hkr, e1, e2⟩
      obtain ⟨⟨a, vs⟩, hkv, rfl⟩ := List.mem_map.mp hkr
      cases e1
      obtain ⟨x, hx, e⟩ := List.mem_map.mp e2
      exact ⟨x, (mem_entries _ a x).mpr ⟨vs, hkv, hx⟩, e⟩
    · rintro ⟨x, hx, e⟩
      obtain ⟨vs, hvs, hxv⟩ := (mem_entries _ k x).mp hx
      exact ⟨(k, vs.map (rebuild cols arity k)), List.mem_map.mpr ⟨(k, vs), hvs, rfl⟩, rfl,
        List.mem_map.mpr ⟨x, hxv, e⟩⟩

theorem FullOk.nil_iff {rows : List Tuple} {bag : List Nat} {m : FIx} (h : FullOk rows bag m) : m = [] ↔ bag = [] := by
  constructor
  · intro e
    subst e
    cases bag with
    | nil => rfl
    | cons i b => cases (h.2 (rowAt rows i)).mpr ((mem_bagTuples' _ _ _).mpr ⟨i, List.mem_cons_self, rfl⟩)
  · intro e
    subst e
    cases m with
    | nil => rfl
    | cons hd tl => cases (h.2 hd.1).mp ((containsKey_iff_mem_keys _ _).mpr List.mem_cons_self)

theorem IxOk.nil_iff {rows : List Tuple} {bag cols : List Nat} {m : PIx} (h : IxOk rows bag cols m) : m = [] ↔ bag = [] := by
  obtain ⟨_, h2, h3⟩ := h
  constructor
  · intro e
    subst e
    cases bag with
    | nil => rfl
    | cons i b => cases (h3 _ _).mpr ⟨i, List.mem_cons_self, rfl, rfl⟩
  · intro e
    subst e
    cases m with
    | nil => rfl
    | cons hd tl =>
      obtain ⟨a, vs⟩ := hd
      cases vs with
      | nil => exact absurd rfl (h2 (a, []) List.mem_cons_self)
      | cons v vs =>
        have h1 : (a, v) ∈ Idx.entries ((a, v :: vs) :: tl) := by
          rw [Idx.entries_cons]
          exact List.mem_append_left _ List.mem_cons_self
        obtain ⟨i, hi, _⟩ := (h3 _ _).mp h1
        cases hi

/-- `len_estimate` is zero exactly on an empty version (so `is_empty` is exact) -/
theorem len1_eq_zero {ixr : List (List Nat)} {rows : List Tuple} {bag : List Nat} {full : FIx} {idxs : List (List Nat × PIx)}
    (arity : Nat) (cols : List Nat) (hv : VerOk ixr rows bag full idxs) (hix : cols.length = arity ∨ cols ∈ ixr) :
    len1 arity full idxs cols = 0 ↔ bag = [] := by
  unfold len1
  by_cases hl : cols.length = arity
  · rw [if_pos (beq_iff_eq.mpr hl), List.length_eq_zero_iff]
    exact hv.1.nil_iff
  · rw [if_neg fun h => hl (beq_iff_eq.mp h), List.length_eq_zero_iff]
    exact (lookupIx_of (P := IxOk rows bag) hv.2.1 (hix.resolve_left hl) hv.2.2).nil_iff

#print axioms rebuild_proj
#print axioms cols_full
#print axioms proj_range
#print axioms IxOk_build
#print axioms FullOk_build
#print axioms IxOk_rows_append
#print axioms FullOk_rows_append
#print axioms IxOk_insert
#print axioms FullOk_insertIfNotPresent
#print axioms insertIfNotPresent_present
#print axioms IxOk_shift
#print axioms FullOk_shift
#print axioms get1_spec
#print axioms all1_spec
#print axioms len1_eq_zero

end AscentVerif.Phys
