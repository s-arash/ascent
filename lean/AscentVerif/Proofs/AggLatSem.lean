import AscentVerif.Proofs.AggLatInv
import AscentVerif.Spec.LatticeLfpAgg
/-!
# Semantics of mixed (lattice + aggregation) programs: invariants, pass, SCC, strata

Namespace `Engine.ALS`: the lattice proof (`Proofs/LatInv.lean` … `LatScc.lean`) for programs with aggregation items, whose
bodies are evaluated (`Agg.SatA` / `Agg.SatV`) over a fixed per-ITEM view `aggv`.  `LInv` is `LInvT` at the targets `Tgt … aggv`
— key-unique, closed (`LClosedI`) and monotone (`MonoI`) w.r.t. `aggv` — plus the field `keep`: the relations that are not
heads of the SCC are as its entry value `st` had them.  `keep` makes every aggregation item of the SCC's rules read
`Agg.aggOf {} p st a` in every state, which in a stratified program is `aggv a` for `aggv` = what the item reads from the FINAL
value (the aggregated relation is complete when the SCC starts).  `detPass_ok`: the pass of the serial engine satisfies
`LPassOK`; `sccsG_spec'` is `sccsG_track` at these targets, for any engine `Agg.SccsG Pass`; `run_spec'` is what
`Props/C04LatSem.lean` takes from here.  Programs without lattice relations are a special case (`Proofs/AggStrata.lean`).
-/
namespace AscentVerif.Engine.ALS
open AscentVerif AscentVerif.Engine

variable {E B G P A : Type}

def LClosedI (I : Interp E B G P A) (L : LatOrder I) (p : Program E B G P A) (aggv : AggClause E A → List Tuple)
    (inp M : DB) : Prop :=
  DBLe I L p inp M ∧
  ∀ rule ∈ p.rules, ∀ ρ, Agg.SatA I M aggv rule.body [] ρ → ∀ h ∈ rule.heads, Dominated I L p M (headFact I h ρ)

def MonoI (I : Interp E B G P A) (L : LatOrder I) (p : Program E B G P A) (aggv : AggClause E A → List Tuple) : Prop :=
  ∀ M M' : DB, KeyUnique p M → KeyUnique p M' → DBLe I L p M M' →
    ∀ rule ∈ p.rules, ∀ ρ, Agg.SatA I M aggv rule.body [] ρ →
      ∃ ρ', Agg.SatA I M' aggv rule.body [] ρ' ∧
        ∀ h ∈ rule.heads, Dominated I L p (fun f => f = headFact I h ρ') (headFact I h ρ)

section Inv
variable (I : Interp E B G P A) (L : LatOrder I) (p : Program E B G P A) (aggv : AggClause E A → List Tuple)
  (inp : RelId → List Tuple) (dynR : List RelId) (st : St)

/-- the databases the result must stay below (nothing, unless the program is monotone) -/
def Tgt (M : DB) : Prop := MonoI I L p aggv ∧ KeyUnique p M ∧ LClosedI I L p aggv (inDB p inp) M

def Below (s : SccSt) : Prop := ∀ M, Tgt I L p aggv inp M → DBLe I L p (FactsS s) M

def BelowF (f : Fact) : Prop := ∀ M, Tgt I L p aggv inp M → Dominated I L p M f

structure LInv (s : SccSt) : Prop where
  wf : WF p.rels.length dynR s
  dlt : ∀ r, dynR.contains r = true → r < p.rels.length
  keys : ∀ r, (declOf p r).lat = true → ((rowsOf s r).map keyOf).Nodup
  relset : ∀ r, r < p.rels.length → (declOf p r).lat = false → SetRows inp r (rowsOf s r)
  below : Below I L p aggv inp s
  keep : ∀ r, dynR.contains r = false → relSt s.rels r = relSt st r

variable {I L p aggv inp dynR st}

theorem LInv.toT {s : SccSt} (h : LInv I L p aggv inp dynR st s) : LInvT I L p inp dynR (Tgt I L p aggv inp) s :=
  ⟨h.wf, h.dlt, h.keys, h.relset, h.below⟩

theorem LInv.keyUnique {s : SccSt} (h : LInv I L p aggv inp dynR st s) : KeyUnique p (FactsS s) :=
  keyUnique_of_keys h.keys

theorem LInv.rel_lt {s : SccSt} (h : LInv I L p aggv inp dynR st s) {r : RelId} {t : Tuple} (ht : t ∈ rowsOf s r) :
    r < p.rels.length :=
  h.wf.rel_lt ht

/-- `keep`: the non-dynamic relations stay as they are along any `LExt` step -/
theorem headUpdate_step {s : SccSt} (hinv : LInv I L p aggv inp dynR st s) (h : HeadClause E) (ρ : Env)
    (hdyn : dynR.contains h.rel = true) (hbf : BelowF I L p aggv inp (headFact I h ρ)) :
    LInv I L p aggv inp dynR st (headUpdate I {} p s h ρ) ∧ LExt I L p s (headUpdate I {} p s h ρ) ∧
      Dominated I L p (FactsS (headUpdate I {} p s h ρ)) (headFact I h ρ) :=
  have ⟨h1, hext, hdom⟩ := headUpdate_stepT hinv.toT (fun _ hM => hM.2.1) h ρ hdyn hbf
  ⟨⟨h1.wf, h1.dlt, h1.keys, h1.relset, h1.below,
    fun r hr => ((hext.nondyn r (hinv.wf.findDyn_none hr)).2).trans (hinv.keep r hr)⟩, hext, hdom⟩

end Inv

section Iter
variable {I : Interp E B G P A} {L : LatOrder I} {p : Program E B G P A} {aggv : AggClause E A → List Tuple} {inp : RelId → List Tuple}
  {dynR : List RelId} {st : St}

/- the rules of a pass: rules of the program whose aggregation items read non-head relations, for which the entry value
`st` hands them `aggv`, and whose heads are dynamic -/
variable (rules : List (Rule E B G P A)) (hrules : ∀ rule ∈ rules, rule ∈ p.rules)
  (hag : ∀ rule ∈ rules, ∀ a, Item.agg a ∈ rule.body → dynR.contains a.rel = false ∧ Agg.aggOf {} p st a = aggv a)
  (hdyn : ∀ rule ∈ rules, ∀ h ∈ rule.heads, dynR.contains h.rel = true)
include hag in
/-- every state of the pass hands `aggv` to the aggregation items: their relations are as `st` had them -/
theorem aggTuples_of_keep {s : SccSt} (hs : LInv I L p aggv inp dynR st s) :
    ∀ rule ∈ rules, ∀ a, Item.agg a ∈ rule.body → aggTuples {} p s a = aggv a := by
  intro rule hr a ha
  rw [← (hag rule hr a ha).2]
  exact Agg.aggTuples_congr {} p a (hs.keep a.rel (hag rule hr a ha).1)

include hrules hag in
theorem belowF_of_evalBody {s : SccSt} (hs : LInv I L p aggv inp dynR st s) {rule : Rule E B G P A} (hr : rule ∈ rules)
    {vs : List (Option Ver)} {ρ : Env} (hρ : ρ ∈ evalBody I {} p s rule.body vs []) :
    ∀ h ∈ rule.heads, BelowF I L p aggv inp (headFact I h ρ) := by
  intro h hh M hM
  have hsv := (Agg.SatV_of_evalBody I {} p s rule.body vs [] ρ hρ).congr_agg (aggTuples_of_keep rules hag hs rule hr)
  have hsat : Agg.SatA I (FactsS s) aggv rule.body [] ρ :=
    Agg.SatV.toSatA (fun r v t hv => view_sub_rows {} p hs.wf hv) hsv
  obtain ⟨ρ', hsat', hdom⟩ := hM.1 (FactsS s) M hs.keyUnique hM.2.1 (hs.below M hM) rule (hrules rule hr) ρ hsat
  exact Dominated.single (hdom h hh) (hM.2.2.2 rule (hrules rule hr) ρ' hsat' h hh)

include hag in
/-- an instance over the stable part of a later state of the pass is enumerated in the earlier state -/
theorem evalBody_of_PView {s s' : SccSt} (hs : LInv I L p aggv inp dynR st s) (hext : LExt I L p s s')
    {rule : Rule E B G P A} (hr : rule ∈ rules) {vs : List (Option Ver)} {ρ : Env}
    (hρ : Agg.SatV I (PView s') aggv rule.body vs [] ρ) : ρ ∈ evalBody I {} p s rule.body vs [] :=
  Agg.evalBody_of_SatV I {} p s
    ((Agg.SatV.mono (fun _ _ _ hv => PView_sub_view {} p (PView_anti hext hv)) hρ).congr_agg
      fun a ha => (aggTuples_of_keep rules hag hs rule hr a ha).symm)

include hrules hag hdyn in
theorem evalRules_spec' {K : Prop} (s : SccSt) (hinv : LInv I L p aggv inp dynR st s) (hnd : NdB p K s) :
    (LInv I L p aggv inp dynR st (evalRules I {} p dynR rules s) ∧ NdB p K (evalRules I {} p dynR rules s)) ∧
      LExt I L p s (evalRules I {} p dynR rules s) ∧
      ∀ rule ∈ rules, ∀ vs ∈ variants dynR rule, DoneVA I aggv (Dominated I L p) rule vs (evalRules I {} p dynR rules s) := by
  have ⟨h1, h2, h3⟩ := evalRules_track I {} p dynR rules (Inv := fun s => LInv I L p aggv inp dynR st s ∧ NdB p K s)
    (R := LExt I L p) (Q := fun rule ρ => ∀ h ∈ rule.heads, BelowF I L p aggv inp (headFact I h ρ))
    (Done := fun _ ρ h s => Dominated I L p (FactsS s) (headFact I h ρ))
    (LExt.refl I L p) (fun _ _ _ => LExt.trans) (fun _ _ _ _ _ hd hle => Dominated.mono hd hle.dble)
    (fun s rule vs ρ hs hr hρ => belowF_of_evalBody rules hrules hag hs.1 hr hρ)
    (fun s rule ρ h hs hr hq hh =>
      have hu := headUpdate_step hs.1 h ρ (hdyn rule hr h hh) (hq h hh)
      ⟨⟨hu.1, NdB_headUpdate I hs.1.wf hs.2 h ρ (hdyn rule hr h hh)⟩, hu.2⟩) s ⟨hinv, hnd⟩
  refine ⟨h1, h2, ?_⟩
  intro rule hr vs hvs ρ hρ h hh
  obtain ⟨sv, hsv, hext, hdone⟩ := h3 rule hr vs hvs
  exact hdone ρ (evalBody_of_PView rules hag hsv.1 hext hr hρ) h hh

include hrules hag hdyn in
theorem detPass_ok {K : Prop} :
    LPassOK I L p inp K (Tgt I L p aggv inp) aggv (DBLe I L p) (Dominated I L p) (Agg.detPass I {} p) st dynR rules := by
  rintro s _ hinv hb hnd rfl
  obtain ⟨h1, h2, h3⟩ := evalRules_spec' rules hrules hag hdyn { s with changed := false }
    ⟨WF_reset _ _ hinv.wf, hinv.dlt, hinv.keys, hinv.relset, hinv.below, hb⟩ hnd
  exact ⟨h1.1.toT, ⟨h2, h2.dble⟩, h3, h1.2⟩

end Iter

/-- the invariant of every program value between SCCs -/
abbrev LPInv (I : Interp E B G P A) (L : LatOrder I) (p : Program E B G P A) (aggv : AggClause E A → List Tuple)
    (inp : RelId → List Tuple) (K : Prop) (st : St) : Prop :=
  LPInvT I L p inp K (Tgt I L p aggv inp) st

section Strata
variable {I : Interp E B G P A} {L : LatOrder I} {p : Program E B G P A} {aggv : AggClause E A → List Tuple} {inp : RelId → List Tuple} {st : St}
  {K : Prop} {Pass : List RelId → List (Rule E B G P A) → SccSt → SccSt → Prop}

/-- The SCCs `rest` of a valid stratified order `done ++ rest ++ post`.  `hf` is the frame property of the engine (a pass
writes only dynamic relations), `hpass` what its pass establishes when the aggregation items of the SCC read `aggv` from the
SCC's entry value; the items of `rest` must read `aggv` from the value `st'` reached (`hagg`). -/
theorem sccsG_spec'
    (hh : ∀ r ∈ p.rules, ∀ h ∈ r.heads, h.rel < p.rels.length)
    (o : SccOrder) (ho : validOrder p o = true) (hs : ∀ s ∈ o, aggOverDynamic p s = false)
    (hf : Agg.FramePass Pass)
    (hpass : ∀ scc st, (∀ rule ∈ sccRules p scc, ∀ a, Item.agg a ∈ rule.body →
        (dynRels p scc).contains a.rel = false ∧ Agg.aggOf {} p st a = aggv a) →
      LPassOK I L p inp K (Tgt I L p aggv inp) aggv (DBLe I L p) (Dominated I L p) Pass st (dynRels p scc) (sccRules p scc))
    (post : SccOrder) {rest : SccOrder} {st st' : St} (hrun : Agg.SccsG Pass p rest st st') (done : SccOrder)
    (hdone : done ++ (rest ++ post) = o) (hp : LPInv I L p aggv inp K st)
    (hcl : ∀ scc ∈ done, ClosedForA I aggv (Dominated I L p) (sccRules p scc) (factsOf st))
    (hagg : ∀ scc ∈ rest, ∀ rule ∈ sccRules p scc, ∀ a, Item.agg a ∈ rule.body → Agg.aggOf {} p st' a = aggv a) :
    LPInv I L p aggv inp K st' ∧ (∀ scc ∈ done ++ rest, ClosedForA I aggv (Dominated I L p) (sccRules p scc) (factsOf st')) ∧
      DBLe I L p (factsOf st) (factsOf st') := by
  refine sccsG_track (alongDominated I L p) hh ho
    (fun rest stF => ∀ scc ∈ rest, ∀ rule ∈ sccRules p scc, ∀ a, Item.agg a ∈ rule.body → Agg.aggOf {} p stF a = aggv a)
    (fun _ _ _ h s hs => h s (List.mem_cons_of_mem _ hs)) post ?_ hrun done hdone hp hcl hagg
  intro done scc rest st stF hdone hp hrunG hfin
  have ho' : validOrder p (done ++ scc :: (rest ++ post)) = true := by rw [hdone]; exact ho
  have hs' : ∀ s ∈ done ++ scc :: (rest ++ post), aggOverDynamic p s = false := by rw [hdone]; exact hs
  refine hpass scc st fun rule hrule a ha => ?_
  -- what the items of `scc` read now is what they read from `stF`: nothing later writes their relation
  have hnl := Agg.agg_rel_not_later p done (rest ++ post) scc ho' hs' rule hrule a ha
  refine ⟨hnl scc List.mem_cons_self, ?_⟩
  rw [← hfin scc List.mem_cons_self rule hrule a ha]
  refine (Agg.aggOf_congr {} p a (Agg.sccsG_stable hf a.rel hrunG fun scc' hscc' => hnl scc' ?_)).symm
  rcases List.mem_cons.mp hscc' with e | e
  · exact e ▸ List.mem_cons_self
  · exact List.mem_cons_of_mem _ (List.mem_append_left _ e)

theorem run_spec'
    (hh : ∀ r ∈ p.rules, ∀ h ∈ r.heads, h.rel < p.rels.length)
    (hi1 : ∀ r, r < p.rels.length → (declOf p r).lat = true → ((inp r).map keyOf).Nodup)
    (o : SccOrder) (ho : validOrder p o = true) (hs : ∀ s ∈ o, aggOverDynamic p s = false) (fuel : Nat) (ps : ProgSt)
    (hrun : run I {} p o fuel (initSt p inp) = .done ps) :
    LPInv I L p (Agg.aggOf {} p ps.st) inp K ps.st ∧ ClosedForA I (Agg.aggOf {} p ps.st) (Dominated I L p) p.rules (factsOf ps.st) ∧
      DBLe I L p (inDB p inp) (factsOf ps.st) := by
  obtain ⟨hp0, hin0⟩ := LPInvT.of_rows (I := I) (L := L) (K := K) (Tg := Tgt I L p (Agg.aggOf {} p ps.st) inp)
    (fun _ hM => hM.2.2.1) (initSt p inp) (WFSt_initSt p inp).1 (rows_initSt p inp) hi1
  have h := sccsG_spec' (aggv := Agg.aggOf {} p ps.st) hh o ho hs
    (Agg.detPass_frame' I p)
    (fun scc st hag => detPass_ok (sccRules p scc) (sccRules_sub p scc) hag (dynRels_heads p scc)) []
    (Agg.runSccs_sccsG I {} p hrun) [] (by simp) hp0 (fun _ hscc => nomatch hscc) (fun _ _ _ _ _ _ => rfl)
  exact ⟨h.1, forall_rules_of_valid p o ho fun scc hscc => h.2.1 scc (by simpa using hscc), DBLe.trans hin0 h.2.2⟩

end Strata

end AscentVerif.Engine.ALS
