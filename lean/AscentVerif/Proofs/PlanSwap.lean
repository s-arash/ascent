import AscentVerif.Proofs.PlanPair
/-!
The simple join with the two clauses swapped.  The swapped copy of a reorderable rule is the ordinary join step for
(clause 2, clause 1): `JoinCtx` holds for that pair as well (`SwapCtx.flip`).  What remains is a fact about the filter
semantics alone (`semPair_comm`): on every pair of rows, matching the two clauses in either order reaches look-up-equal
environments or none, when the interpreted functions depend only on the variables `VarsOf` reports (`Supp`).  Either order
puts blocks of bindings over the start environment (`sem_nf`): per clause the new variables, taken from the valuation
`zrow` of its row, and the bindings of its conditions.  The key comparison of the clause that comes second tests that the
two rows agree on the variables they share (`RowsJoin`).  If they do not, either order is empty; if they do, the blocks read
like one valuation whichever clause came first.  Each fact is stated once, for an ordered pair of clauses `A`, `B`.
-/
namespace AscentVerif.Plan
open AscentVerif AscentVerif.Engine AscentVerif.Hir

variable {E B G P A : Type}

/-- expressions and tests depend only on the variables `VarsOf` reports for them -/
structure Supp (I : Interp E B G P A) (V : VarsOf E B) : Prop where
  expr : ∀ e ρ ρ', (∀ v ∈ V.e e, Env.get? ρ v = Env.get? ρ' v) → I.expr e ρ = I.expr e ρ'
  test : ∀ b ρ ρ', (∀ v ∈ V.b b, Env.get? ρ v = Env.get? ρ' v) → I.test b ρ = I.test b ρ'

theorem Supp.c {I : Interp E B G P A} {V : VarsOf E B} (hS : Supp I V) : ExtC I :=
  ⟨fun e ρ ρ' h => hS.expr e ρ ρ' fun v _ => h v, fun b ρ ρ' h => hS.test b ρ ρ' fun v _ => h v⟩

theorem cblock_congr (I : Interp E B G P A) (V : VarsOf E B) (hS : Supp I V) (c : Cond E B P) (ρ ρ' : Env)
    (h : ∀ v ∈ Cond.exprVars V c, Env.get? ρ v = Env.get? ρ' v) : cblock I c ρ = cblock I c ρ' := by
  cases c with
  | ifc b => simp only [cblock]; rw [hS.test b ρ ρ' h]
  | letc _ e | ifLet _ _ e => simp only [cblock]; rw [hS.expr e ρ ρ' h]

theorem condBlock_congr (I : Interp E B G P A) (V : VarsOf E B) (hS : Supp I V) :
    ∀ (cs : List (Cond E B P)) (S : List Var) (ρ ρ' : Env), condsIn V S cs = true →
      (∀ v ∈ S, Env.get? ρ v = Env.get? ρ' v) → condBlock I cs ρ = condBlock I cs ρ' := by
  intro cs
  induction cs with
  | nil => exact fun _ _ _ _ _ => rfl
  | cons c cs ih =>
    intro S ρ ρ' hin hag
    simp only [condsIn, Bool.and_eq_true, List.all_eq_true] at hin
    have hc : cblock I c ρ = cblock I c ρ' :=
      cblock_congr I V hS c ρ ρ' fun v hv => hag v (List.contains_iff_mem.1 (hin.1 v hv))
    simp only [condBlock]
    rw [← hc]
    cases hb : cblock I c ρ with
    | none => rfl
    | some b =>
      simp only [Option.bind_some]
      rw [ih (S ++ Cond.boundVars c) (b ++ ρ) (b ++ ρ') hin.2]
      intro v hv
      rw [get?_append, get?_append]
      cases hg : Env.get? b v with
      | some x => rfl
      | none =>
        have hvb : v ∉ keys b := (get?_eq_none_iff b v).1 hg
        rw [cblock_keys I c ρ b hb] at hvb
        rcases List.mem_append.1 hv with h | h
        · exact hag v h
        · exact absurd h hvb

theorem keycond_iff (I : Interp E B G P A) (σ : Env) (args : List (Arg E)) (row : Tuple) (cols : List Nat) (X : List Var)
    (hcols : ∀ j, j ∈ cols ↔ ∃ v, args[j]? = some (Arg.var v) ∧ v ∈ X) (hlen : row.length = args.length) :
    (proj cols row == keyOf I σ args cols) = true ↔
      ∀ v x, (v, x) ∈ zrow args row → v ∈ X → x = (Env.get? σ v).getD .unit := by
  rw [beq_iff_eq]
  unfold proj keyOf
  rw [List.map_inj_left]
  constructor
  · intro h v x hz hX
    obtain ⟨t, h1, h2⟩ := (mem_zrow args row v x).1 hz
    have := h t ((hcols t).2 ⟨v, h1, hX⟩)
    rw [h1, List.getD_eq_getElem?_getD, h2] at this
    exact this
  · intro h j hj
    obtain ⟨v, h1, hX⟩ := (hcols j).1 hj
    rw [h1]
    have hjl : j < row.length := by rw [hlen]; exact (List.getElem?_eq_some_iff.1 h1).1
    exact h v _ ((mem_zrow args row v _).2 ⟨j, h1, getElem?_getD hjl⟩) hX

/-- what the swapped copy needs on top of `JoinCtx`: the `reorderable` guard (`guardV`, `guardC`), no condition of the
second clause rebinds a variable of the first clause or of its conditions (`d2`), the conditions of the first clause only
mention variables in scope (`s1`), those of the second only its own variables (`s2`, checked by the compiler) -/
structure SwapCtx (V : VarsOf E B) (gk gk1 : List Var) (a1 : List (Arg E)) (c1 : List (Cond E B P)) (a2 : List (Arg E))
    (c2 : List (Cond E B P)) (cols1 cols2 : List Nat) (pre2 preSw : List Var) : Prop where
  base : JoinCtx gk gk1 a1 c1 a2 cols1 cols2 pre2
  guardV : ∀ v ∈ a2.filterMap argVar?, v ∉ gk
  guardC : ∀ v ∈ c2.flatMap Cond.boundVars, v ∉ gk
  d2 : ∀ v ∈ c2.flatMap Cond.boundVars, v ∉ a1.filterMap argVar? ∧ v ∉ c1.flatMap Cond.boundVars
  s1 : condsIn V (gk ++ a1.filterMap argVar?) c1 = true
  s2 : condsIn V (a2.filterMap argVar?) c2 = true
  nd2all : (a2.filterMap argVar?).Nodup
  hpreSw : ∀ v, v ∈ preSw ↔ v ∈ gk ∨ v ∈ a2.filterMap argVar? ∨ v ∈ c2.flatMap Cond.boundVars

theorem get?_app_some {a b : Env} {v : Var} {x : Val} (h : Env.get? a v = some x) : Env.get? (a ++ b) v = some x := by
  rw [get?_append, h, Option.some_or]

theorem get?_drop {a c b : Env} {v : Var} (h : v ∉ keys c) : Env.get? (a ++ (c ++ b)) v = Env.get? (a ++ b) v := by
  rw [get?_append, get?_app_none h, ← get?_append]

theorem Functional.append {z₁ z₂ : Env} (h₁ : Functional z₁) (h₂ : Functional z₂)
    (h : ∀ v x y, (v, x) ∈ z₁ → (v, y) ∈ z₂ → x = y) : Functional (z₁ ++ z₂) := by
  intro v x y hx hy
  rcases List.mem_append.1 hx with hx | hx
  · rcases List.mem_append.1 hy with hy | hy
    · exact h₁ v x y hx hy
    · exact h v x y hx hy
  · rcases List.mem_append.1 hy with hy | hy
    · exact (h v y x hy hx).symm
    · exact h₂ v x y hx hy

/-- The test a key comparison makes on the valuation `za` of its row (`keycond_iff`), when the environment `σ` the key
is built in reads the variables shared with `zb` from `zb`: the two valuations agree on the variables they share. -/
theorem join_iff {za zb σ : Env} {X : List Var} (hb : Functional zb) (hX : ∀ v ∈ keys za, v ∈ X ↔ v ∈ keys zb)
    (hσ : ∀ v ∈ keys za, v ∈ keys zb → Env.get? σ v = Env.get? zb v) :
    (∀ v x, (v, x) ∈ za → v ∈ X → x = (Env.get? σ v).getD .unit) ↔
      ∀ v x y, (v, x) ∈ za → (v, y) ∈ zb → x = y := by
  constructor
  · intro h v x y hx hy
    rw [h v x hx ((hX v (mem_keys hx)).2 (mem_keys hy)), hσ v (mem_keys hx) (mem_keys hy), hb.get? hy]
    rfl
  · intro h v x hx hv
    have hkb := (hX v (mem_keys hx)).1 hv
    obtain ⟨p, hp, rfl⟩ := List.mem_map.1 hkb
    rw [hσ _ (mem_keys hx) hkb, hb.get? hp]
    exact h _ x p.2 hx hp

theorem semPair_len (I : Interp E B G P A) (ρ : Env) (a1 : List (Arg E)) (c1 : List (Cond E B P)) (a2 : List (Arg E))
    (c2 : List (Cond E B P)) (row1 row2 : Tuple) (h : ¬ (row1.length = a1.length ∧ row2.length = a2.length)) :
    semPair I ρ a1 c1 a2 c2 row1 row2 = none := by
  unfold semPair
  by_cases h1 : row1.length = a1.length
  · simp only [matchArgs_none I _ a2 row2 _ fun h2 => h ⟨h1, h2⟩, Option.bind_none, Option.bind_fun_none]
  · rw [matchArgs_none I ρ a1 row1 ρ h1]; rfl

def RowsJoin (a1 a2 : List (Arg E)) (row1 row2 : Tuple) : Prop :=
  ∀ v x y, (v, x) ∈ zrow a1 row1 → (v, y) ∈ zrow a2 row2 → x = y

theorem mem_keys_pair {a1 a2 : List (Arg E)} (row1 row2 : Tuple) (hl1 : row1.length = a1.length) (hl2 : row2.length = a2.length) (v : Var) :
    v ∈ keys (zrow a1 row1 ++ zrow a2 row2) ↔ v ∈ a1.filterMap argVar? ∨ v ∈ a2.filterMap argVar? := by
  rw [keys_append, List.mem_append, keys_zrow a1 row1 hl1, keys_zrow a2 row2 hl2]

section
variable {gk gkA gkB : List Var} {aA aB : List (Arg E)} {cA cB : List (Cond E B P)}
  {colsA colsB colsA' colsB' : List Nat} {preA preB : List Var}

theorem pair_functional (jAB : JoinCtx gk gkA aA cA aB colsA colsB preB) (jBA : JoinCtx gk gkB aB cB aA colsB' colsA' preA)
    {rowA rowB : Tuple} (hlA : rowA.length = aA.length) (hlB : rowB.length = aB.length)
    (hJ : RowsJoin aA aB rowA rowB) : Functional (zrow aA rowA ++ zrow aB rowB) :=
  (jAB.functional hlA).append (jBA.functional hlB) hJ

theorem RowsJoin.symm {rowA rowB : Tuple} (h : RowsJoin aA aB rowA rowB) : RowsJoin aB aA rowB rowA :=
  fun v x y hx hy => (h v y x hy hx).symm

/-- the key comparison of the look-up of `B` after `A` and its conditions: the two rows agree on the shared variables -/
theorem keyB_iff (I : Interp E B G P A) (jAB : JoinCtx gk gkA aA cA aB colsA colsB preB)
    (jBA : JoinCtx gk gkB aB cB aA colsB' colsA' preA) (ρ : Env) (rowA rowB : Tuple) (hlA : rowA.length = aA.length)
    (hlB : rowB.length = aB.length) (CA : Env) (hCA : ∀ v, v ∈ keys CA ↔ v ∈ cA.flatMap Cond.boundVars) :
    (proj colsB rowB == keyOf I (CA ++ (blk gk aA rowA ++ ρ)) aB colsB) = true ↔
      RowsJoin aA aB rowA rowB := by
  rw [keycond_iff I _ aB rowB colsB gkA jAB.cols2_iff hlB]
  refine (join_iff (zb := zrow aA rowA) (jAB.functional hlA) (fun v h2 => ?_) fun v h2 h1 => ?_).trans
    ⟨RowsJoin.symm, RowsJoin.symm⟩
  · rw [keys_zrow aB rowB hlB] at h2
    rw [keys_zrow aA rowA hlA]
    exact ⟨jAB.grounded (jBA.new h2) h2, fun h1 => (jAB.hgk1 v).2 (.inr (.inl h1))⟩
  · rw [keys_zrow aB rowB hlB] at h2
    rw [keys_zrow aA rowA hlA] at h1
    rw [get?_app_none fun h => jAB.a2_notc1 h2 ((hCA v).1 h)]
    exact get?_of_sub (jAB.functional hlA) (blk_sub_zrow _ aA rowA)
      ((mem_keys_blk gk aA rowA hlA v).2 ⟨h1, jAB.new h1⟩) ρ

/-- after both clauses (conditions apart) the environment reads like the two rows' valuations over `ρ` -/
theorem read_pair (jAB : JoinCtx gk gkA aA cA aB colsA colsB preB) (jBA : JoinCtx gk gkB aB cB aA colsB' colsA' preA)
    (ρ : Env) (rowA rowB : Tuple) (hlA : rowA.length = aA.length) (hlB : rowB.length = aB.length)
    (hJ : RowsJoin aA aB rowA rowB) (v : Var) :
    Env.get? (blk preB aB rowB ++ (blk gk aA rowA ++ ρ)) v =
      Env.get? ((zrow aA rowA ++ zrow aB rowB) ++ ρ) v := by
  rw [← List.append_assoc]
  refine get?_valuation (pair_functional jAB jBA hlA hlB hJ) (List.append_subset.2
    ⟨List.subset_append_of_subset_right _ (blk_sub_zrow _ aB rowB),
      List.subset_append_of_subset_left _ (blk_sub_zrow _ aA rowA)⟩) ρ fun hz => ?_
  rw [keys_append, List.mem_append]
  by_cases h1 : v ∈ aA.filterMap argVar?
  · exact .inr ((mem_keys_blk gk aA rowA hlA v).2 ⟨h1, jAB.new h1⟩)
  · have h2 := ((mem_keys_pair rowA rowB hlA hlB v).1 hz).resolve_left h1
    exact .inl ((mem_keys_blk preB aB rowB hlB v).2
      ⟨h2, fun hp => h1 (jAB.grounded (jBA.new h2) h2 ((jAB.hpre2 v).1 hp))⟩)

/-- … so on the variables grounded before the join and on those of `B` it reads like `B` matched first -/
theorem agree_pair (jAB : JoinCtx gk gkA aA cA aB colsA colsB preB) (jBA : JoinCtx gk gkB aB cB aA colsB' colsA' preA)
    (ρ : Env) (rowA rowB : Tuple) (hlA : rowA.length = aA.length) (hlB : rowB.length = aB.length)
    (hJ : RowsJoin aA aB rowA rowB) (CA : Env) (v : Var) (hvC : v ∉ keys CA)
    (hv : v ∈ gk ∨ v ∈ aB.filterMap argVar?) :
    Env.get? (blk preB aB rowB ++ (CA ++ (blk gk aA rowA ++ ρ))) v =
      Env.get? (blk gk aB rowB ++ ρ) v := by
  rw [get?_drop hvC, read_pair jAB jBA ρ rowA rowB hlA hlB hJ v]
  refine (get?_valuation (pair_functional jAB jBA hlA hlB hJ)
    (List.subset_append_of_subset_right _ (blk_sub_zrow _ aB rowB)) ρ fun hz => ?_).symm
  rw [mem_keys_blk gk aB rowB hlB v]
  rcases hv with hg | h2
  · rcases (mem_keys_pair rowA rowB hlA hlB v).1 hz with h | h
    · exact absurd hg (jAB.new h)
    · exact absurd hg (jBA.new h)
  · exact ⟨h2, jBA.new h2⟩

theorem final_pair (jAB : JoinCtx gk gkA aA cA aB colsA colsB preB) (jBA : JoinCtx gk gkB aB cB aA colsB' colsA' preA)
    (ρ : Env) (rowA rowB : Tuple) (hlA : rowA.length = aA.length) (hlB : rowB.length = aB.length)
    (hJ : RowsJoin aA aB rowA rowB) (CA CB : Env) (hCA : ∀ v, v ∈ keys CA ↔ v ∈ cA.flatMap Cond.boundVars)
    (hCB : ∀ v, v ∈ keys CB ↔ v ∈ cB.flatMap Cond.boundVars)
    (d : ∀ v ∈ cB.flatMap Cond.boundVars, v ∉ cA.flatMap Cond.boundVars) :
    EnvEq
      (CB ++ (blk preB aB rowB ++ (CA ++ (blk gk aA rowA ++ ρ))))
      (CA ++ (blk preA aA rowA ++ (CB ++ (blk gk aB rowB ++ ρ)))) := by
  intro v
  by_cases hcB : v ∈ keys CB
  · have hnA : v ∉ keys CA := fun h => d v ((hCB v).1 hcB) ((hCA v).1 h)
    have hNA : v ∉ keys (blk preA aA rowA) := fun h =>
      jBA.a2_notc1 ((mem_keys_blk preA aA rowA hlA v).1 h).1 ((hCB v).1 hcB)
    obtain ⟨x, hx⟩ := get?_of_key hcB
    rw [get?_app_some hx, get?_app_none hnA, get?_app_none hNA, get?_app_some hx]
  · rw [get?_app_none hcB]
    by_cases hcA : v ∈ keys CA
    · have hNB : v ∉ keys (blk preB aB rowB) := fun h =>
        jAB.a2_notc1 ((mem_keys_blk preB aB rowB hlB v).1 h).1 ((hCA v).1 hcA)
      obtain ⟨x, hx⟩ := get?_of_key hcA
      rw [get?_app_none hNB, get?_app_some hx, get?_app_some hx]
    · rw [get?_drop hcA, get?_app_none hcA, get?_drop hcB, read_pair jAB jBA ρ rowA rowB hlA hlB hJ v,
        read_pair jBA jAB ρ rowB rowA hlB hlA hJ.symm v]
      exact get?_valuation (pair_functional jBA jAB hlB hlA hJ.symm)
        (List.append_subset.2 ⟨List.subset_append_right _ _, List.subset_append_left _ _⟩) ρ fun hz => by
          rw [keys_append, List.mem_append] at hz ⊢; exact hz.symm

/-- the filter semantics of `A` then `B` on a pair of rows, as blocks of bindings over the start environment -/
theorem sem_nf (I : Interp E B G P A) (jAB : JoinCtx gk gkA aA cA aB colsA colsB preB) (ρ : Env) (hdom : DomEq ρ gk)
    (rowA rowB : Tuple) (hlA : rowA.length = aA.length) (hlB : rowB.length = aB.length) :
    semPair I ρ aA cA aB cB rowA rowB =
      (condBlock I cA (blk gk aA rowA ++ ρ)).bind fun CA =>
        if proj colsB rowB == keyOf I (CA ++ (blk gk aA rowA ++ ρ)) aB colsB then
          (condBlock I cB (blk preB aB rowB ++ (CA ++ (blk gk aA rowA ++ ρ)))).map fun CB =>
            CB ++ (blk preB aB rowB ++ (CA ++ (blk gk aA rowA ++ ρ)))
        else none := by
  have hm := matchArgs_blk I ρ gk hdom aA jAB.a1vars jAB.nd1 rowA hlA
  unfold semPair
  rw [hm]
  simp only [Option.bind_some, satConds_eq]
  cases hX : condBlock I cA (blk gk aA rowA ++ ρ) with
  | none => rfl
  | some CA =>
    simp only [Option.map_some, Option.bind_some]
    have hdom2 : DomEq (CA ++ (blk gk aA rowA ++ ρ)) gkA :=
      domEq_clause I hdom jAB.hgk1 hm (by rw [satConds_eq, hX]; rfl)
    rw [← clause_row_eq I _ gkA preB hdom2 jAB.hpre2 aB colsB jAB.hcols2 jAB.nd2 rowB]
    split
    · rw [bindArgs_blk _ aB rowB _ hlB]
      exact satConds_eq I cB _
    · rfl

theorem sem_nojoin (I : Interp E B G P A) (jAB : JoinCtx gk gkA aA cA aB colsA colsB preB)
    (jBA : JoinCtx gk gkB aB cB aA colsB' colsA' preA) (ρ : Env) (hdom : DomEq ρ gk) (rowA rowB : Tuple)
    (hlA : rowA.length = aA.length) (hlB : rowB.length = aB.length) (hJ : ¬ RowsJoin aA aB rowA rowB) :
    semPair I ρ aA cA aB cB rowA rowB = none := by
  rw [sem_nf I jAB ρ hdom rowA rowB hlA hlB]
  cases hX : condBlock I cA (blk gk aA rowA ++ ρ) with
  | none => rfl
  | some CA =>
    simp only [Option.bind_some]
    rw [if_neg fun h => hJ ((keyB_iff I jAB jBA ρ rowA rowB hlA hlB CA (condBlock_keys I cA _ CA hX)).1 h)]

/-- on rows that join, the conditions of `B` add the block they add when `B` is matched first, if they only mention
variables (`S`) grounded before the join or bound by `B`'s arguments and rebound by no condition of `A`: each clause
contributes its own two blocks, whichever comes first -/
theorem sem_join (I : Interp E B G P A) {V : VarsOf E B} (hS : Supp I V) (jAB : JoinCtx gk gkA aA cA aB colsA colsB preB)
    (jBA : JoinCtx gk gkB aB cB aA colsB' colsA' preA) (ρ : Env) (hdom : DomEq ρ gk) (rowA rowB : Tuple)
    (hlA : rowA.length = aA.length) (hlB : rowB.length = aB.length) (hJ : RowsJoin aA aB rowA rowB) (S : List Var)
    (hin : condsIn V S cB = true) (hS1 : ∀ v ∈ S, v ∈ gk ∨ v ∈ aB.filterMap argVar?)
    (hS2 : ∀ v ∈ S, v ∉ cA.flatMap Cond.boundVars) :
    semPair I ρ aA cA aB cB rowA rowB =
      (condBlock I cA (blk gk aA rowA ++ ρ)).bind fun CA =>
        (condBlock I cB (blk gk aB rowB ++ ρ)).map fun CB => CB ++ (blk preB aB rowB ++ (CA ++ (blk gk aA rowA ++ ρ))) := by
  rw [sem_nf I jAB ρ hdom rowA rowB hlA hlB]
  cases hX : condBlock I cA (blk gk aA rowA ++ ρ) with
  | none => rfl
  | some CA =>
    have hCA := condBlock_keys I cA _ CA hX
    simp only [Option.bind_some]
    rw [if_pos ((keyB_iff I jAB jBA ρ rowA rowB hlA hlB CA hCA).2 hJ),
      condBlock_congr I V hS cB S _ _ hin fun v hv =>
        agree_pair jAB jBA ρ rowA rowB hlA hlB hJ CA v (fun h => hS2 v hv ((hCA v).1 h)) (hS1 v hv)]

end

section
variable {V : VarsOf E B} {gk gk1 : List Var} {a1 : List (Arg E)} {c1 : List (Cond E B P)} {a2 : List (Arg E)}
  {c2 : List (Cond E B P)} {cols1 cols2 : List Nat} {pre2 preSw : List Var}

/-- the compiler's guarantees for a reorderable simple join hold for the pair (clause 2, clause 1) as well -/
theorem SwapCtx.flip (sc : SwapCtx V gk gk1 a1 c1 a2 c2 cols1 cols2 pre2 preSw) :
    JoinCtx gk preSw a2 c2 a1 cols2 cols1 preSw where
  a1vars a ha := by
    obtain ⟨v, rfl, _⟩ := sc.base.a2vars a ha
    exact ⟨v, rfl, sc.guardV v (List.mem_filterMap.2 ⟨_, ha, rfl⟩)⟩
  nd1 := List.Pairwise.filter _ sc.nd2all
  hcols1 j := by
    rw [sc.base.cols2_iff j]
    have hv {v} (ha : a2[j]? = some (Arg.var v)) : v ∈ a2.filterMap argVar? := (mem_vars_iff a2 v).2 ⟨j, ha⟩
    exact ⟨fun ⟨v, ha, hg⟩ => ⟨v, ha, sc.base.grounded (sc.guardV v (hv ha)) (hv ha) hg⟩,
      fun ⟨v, ha, h1⟩ => ⟨v, ha, (sc.base.hgk1 v).2 (.inr (.inl h1))⟩⟩
  a2vars a ha := by
    obtain ⟨v, rfl, _⟩ := sc.base.a1vars a ha
    exact ⟨v, rfl, fun h => (sc.d2 v h).1 (List.mem_filterMap.2 ⟨_, ha, rfl⟩)⟩
  hgk1 := sc.hpreSw
  hcols2 j := by
    rw [sc.base.hcols1 j]
    constructor
    · rintro ⟨v, ha, h2⟩
      exact ⟨_, ha, List.contains_iff_mem.2 ((sc.hpreSw v).2 (.inr (.inl h2)))⟩
    · rintro ⟨a, ha, hi⟩
      obtain ⟨v, rfl, hn⟩ := sc.base.a1vars a (List.mem_of_getElem? ha)
      refine ⟨v, ha, ?_⟩
      rcases (sc.hpreSw v).1 (List.contains_iff_mem.1 hi) with h | h | h
      · exact absurd h hn
      · exact h
      · exact absurd ((mem_vars_iff a1 v).2 ⟨j, ha⟩) (sc.d2 v h).1
  nd2 := List.Pairwise.filter _ sc.base.nodup1
  hpre2 _ := Iff.rfl

/-- The filter semantics of two adjacent clauses that do not use what the other binds does not depend on their order. -/
theorem semPair_comm (I : Interp E B G P A) (hS : Supp I V) (sc : SwapCtx V gk gk1 a1 c1 a2 c2 cols1 cols2 pre2 preSw)
    (ρ : Env) (hdom : DomEq ρ gk) (row1 row2 : Tuple) :
    OptEnvEq (semPair I ρ a2 c2 a1 c1 row2 row1) (semPair I ρ a1 c1 a2 c2 row1 row2) := by
  by_cases hl : row1.length = a1.length ∧ row2.length = a2.length
  case neg =>
    rw [semPair_len I ρ a2 c2 a1 c1 row2 row1 fun h => hl h.symm, semPair_len I ρ a1 c1 a2 c2 row1 row2 hl]
    trivial
  obtain ⟨hl1, hl2⟩ := hl
  have j12 := sc.base
  have j21 := sc.flip
  by_cases hJ : RowsJoin a1 a2 row1 row2
  case neg =>
    rw [sem_nojoin I j21 j12 ρ hdom row2 row1 hl2 hl1 fun h => hJ h.symm, sem_nojoin I j12 j21 ρ hdom row1 row2 hl1 hl2 hJ]
    trivial
  rw [sem_join I hS j21 j12 ρ hdom row2 row1 hl2 hl1 hJ.symm _ sc.s1 (fun _ => List.mem_append.1)
      fun v hv h => (List.mem_append.1 hv).elim (sc.guardC v h) (sc.d2 v h).1,
    sem_join I hS j12 j21 ρ hdom row1 row2 hl1 hl2 hJ _ sc.s2 (fun _ => .inr) fun _ hv => sc.base.a2_notc1 hv]
  cases hX1 : condBlock I c1 (blk gk a1 row1 ++ ρ) with
  | none => cases condBlock I c2 (blk gk a2 row2 ++ ρ) <;> trivial
  | some C1 =>
    cases hX2 : condBlock I c2 (blk gk a2 row2 ++ ρ) with
    | none => trivial
    | some C2 =>
      exact final_pair j21 j12 ρ row2 row1 hl2 hl1 hJ.symm C2 C1 (condBlock_keys I c2 _ C2 hX2) (condBlock_keys I c1 _ C1 hX1)
        fun v h1 h2 => (sc.d2 v h2).2 h1

/-- the swapped order: the join code run on (clause 2, clause 1) against the filter semantics of (clause 1, clause 2) -/
theorem pairS (I : Interp E B G P A) (hS : Supp I V) (sc : SwapCtx V gk gk1 a1 c1 a2 c2 cols1 cols2 pre2 preSw)
    (ρ : Env) (hdom : DomEq ρ gk) (row1 row2 : Tuple) :
    OptEnvEq (planPair I cols2 a2 c2 cols1 a1 c1 preSw ρ row2 row1) (semPair I ρ a1 c1 a2 c2 row1 row2) :=
  (pairN I hS.c sc.flip c1 ρ hdom row2 row1).trans (semPair_comm I hS sc ρ hdom row1 row2)

end

/-- the conditions attached to a clause only mention variables in scope (grounded before the clause, arguments of the
clause, bound by an earlier condition of the clause), and bind no variable that is grounded before the clause.  The
front end guarantees more: `extend_grounded_vars` rejects a condition that binds ANY grounded variable ("variable being
shadowed"), and an expression mentioning a variable that is not in scope does not compile. -/
def clauseScoped (V : VarsOf E B) (g : List Var) (args : List (Arg E)) (conds : List (Cond E B P)) : Bool :=
  condsIn V (g ++ args.filterMap argVar?) conds && (conds.flatMap Cond.boundVars).all fun v => !g.contains v

def scopedFrom (V : VarsOf E B) : List Var → List (Item E B G P A) → Bool
  | _, [] => true
  | g, it :: rest =>
    (match it with
      | .clause _ args conds => clauseScoped V g args conds
      | _ => true) && scopedFrom V (g ++ itemBound it) rest

/-- every clause of the body is `clauseScoped`: what gives a reorderable simple join the fields `d2`, `s1` of `SwapCtx` -/
def WellScoped (V : VarsOf E B) (r : Rule E B G P A) : Bool := scopedFrom V [] r.body

theorem scopedFrom_append (V : VarsOf E B) : ∀ (l₁ l₂ : List (Item E B G P A)) (g : List Var),
    scopedFrom V g (l₁ ++ l₂) = true → scopedFrom V (g ++ l₁.flatMap itemBound) l₂ = true := by
  intro l₁ l₂
  induction l₁ with
  | nil => intro g h; simpa using h
  | cons it l₁ ih =>
    intro g h
    simp only [List.cons_append, scopedFrom, Bool.and_eq_true] at h
    have := ih _ h.2
    simpa [List.append_assoc] using this

end AscentVerif.Plan
