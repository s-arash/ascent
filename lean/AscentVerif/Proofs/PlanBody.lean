import AscentVerif.Proofs.PlanPair
/-!
Whole bodies.  `evalFrom_append` carries `clauseStep_eq` along a stretch of the body in which no simple join starts,
keeping the domain invariant `DomEq` and the position in the compiled rule (`Agree`); `evalFrom_eq_evalBody` is the case
of a body without a simple join.  The body of a rule compiled with a simple join at position `k` is
`pre ++ c1 :: c2 :: rest` with no clause in `pre`, and the compiler's checks on `c1`, `c2` give `JoinSetup`
(`compile_join`).  `pre` is evaluated exactly as `evalBody` does, the join by the join step of `Props/C01Plan.lean` in the
order `swap` selects (`join_permEq` is common to both), and `rest` by `evalFrom_eq_evalBody` from an environment that is
look-up-equal to `evalBody`'s.
-/
namespace AscentVerif.Plan
open AscentVerif AscentVerif.Engine AscentVerif.Hir

variable {E B G P A : Type}

theorem argsOk_nodup (V : VarsOf E B) (dg : List Var) (as : List (Arg E)) (here : List Var)
    (h : argsOk V dg as here = true) :
    (∀ w ∈ (as.filterMap argVar?).filter (fun v => !dg.contains v), w ∉ here) ∧
    ((as.filterMap argVar?).filter fun v => !dg.contains v).Nodup := by
  induction as generalizing here with
  | nil => simp
  | cons a as ih =>
    cases a with
    | expr e =>
      simp only [argsOk, Bool.and_eq_true] at h
      exact ih here h.2
    | var v =>
      simp only [argsOk, Bool.and_eq_true, Bool.not_eq_true'] at h
      obtain ⟨ih1, ih2⟩ := ih _ h.2
      simp only [List.filterMap_cons, argVar?, List.filter_cons]
      cases hc : dg.contains v with
      | true =>
        simp only [hereStep, hc, if_true] at ih1
        exact ⟨ih1, ih2⟩
      | false =>
        simp only [hereStep, hc, Bool.false_eq_true, if_false, List.mem_append, List.mem_singleton, not_or] at ih1
        simp only [Bool.not_false, if_true, List.forall_mem_cons, List.nodup_cons]
        exact ⟨⟨fun hm => by rw [List.contains_iff_mem.2 hm] at h; exact Bool.noConfusion h.1, fun w hw => (ih1 w hw).1⟩,
          fun hm => (ih1 v hm).2 rfl, ih2⟩

theorem freshVars_nodup (V : VarsOf E B) (gd : List Var × List Var) (hgd : GdOk gd) (args : List (Arg E))
    (hok : argsOk V gd.2 args [] = true) : (freshVars gd.1 args).Nodup := by
  have h := (argsOk_nodup V gd.2 args [] hok).2
  have : freshVars gd.1 args =
      ((args.filterMap argVar?).filter fun v => !gd.2.contains v).filter fun v => !gd.1.contains v := by
    unfold freshVars
    rw [List.filter_filter]
    apply List.filter_congr
    intro v _
    cases hg : gd.1.contains v with
    | true => rfl
    | false =>
      rw [contains_false_of_not_mem fun hm => by rw [List.contains_iff_mem.2 (hgd v hm)] at hg; cases hg]; rfl
  rw [this]
  exact List.Pairwise.filter _ h

/-- from position `i` on, the compiled rule `h` starts with what `gd` and the body items `its` say -/
structure Agree (V : VarsOf E B) (h : HRule) (i : Nat) (gd : List Var × List Var) (its : List (Item E B G P A)) : Prop where
  items : hitems V gd its <+: h.items.drop i
  pre : ∀ v, v ∈ preVars h i ↔ v ∈ gd.1
  bound : its.map itemBound <+: h.bound.drop i

theorem prefix_drop_cons {α : Type} {l : List α} {i : Nat} {x : α} {xs : List α} (h : x :: xs <+: l.drop i) :
    l[i]? = some x ∧ xs <+: l.drop (i + 1) := by
  obtain ⟨t, ht⟩ := h
  have hlt : i < l.length := by
    apply Classical.byContradiction; intro hn
    rw [List.drop_eq_nil_of_le (Nat.le_of_not_lt hn)] at ht; cases ht
  rw [List.drop_eq_getElem_cons hlt] at ht
  obtain ⟨hx, ht⟩ := List.cons.inj ht
  exact ⟨hx ▸ List.getElem?_eq_getElem hlt, t, ht⟩

theorem Agree.step {V : VarsOf E B} {h : HRule} {i : Nat} {gd : List Var × List Var} {it : Item E B G P A}
    {its : List (Item E B G P A)} (ha : Agree V h i gd (it :: its)) (hgd : GdOk gd) (hok : itemOk V gd it = true) :
    h.items[i]? = some (hitemOf V gd it) ∧ Agree V h (i + 1) (gdStep V gd it) its := by
  obtain ⟨h1, h2⟩ := prefix_drop_cons ha.items
  obtain ⟨h3, h4⟩ := prefix_drop_cons ha.bound
  refine ⟨h1, ⟨h2, fun v => ?_, h4⟩⟩
  obtain ⟨hlt, hb⟩ := List.getElem?_eq_some_iff.1 h3
  have := ha.pre v
  unfold preVars at this ⊢
  rw [← List.take_append_getElem hlt, List.flatten_append, List.mem_append, hb, this, (gdStep_spec V gd hgd it hok).2 v,
    List.flatten_singleton]

theorem Agree.of_body {V : VarsOf E B} {h : HRule} (pre its suf : List (Item E B G P A))
    (hb : h.bound = (pre ++ (its ++ suf)).map itemBound) (hd : desugFrom V ([], []) (pre ++ (its ++ suf)) = true)
    (hi : hitems V (gdFold V ([], []) pre) its <+: h.items.drop pre.length) :
    Agree V h pre.length (gdFold V ([], []) pre) its := by
  refine ⟨hi, fun v => ?_, ?_⟩
  · rw [(gdFold_spec V pre ([], []) _ gdOk_nil hd).2.2 v]
    simp only [preVars, hb, List.map_append, List.take_left' (List.length_map _), List.not_mem_nil, false_or]
    exact Iff.rfl
  · rw [hb, List.map_append, List.drop_left' (List.length_map _), List.map_append]
    exact List.prefix_append _ _

theorem colsAt_of {h : HRule} {i : Nat} {r : RelId} {cols : List Nat} {b : Bool}
    (hi : h.items[i]? = some (.clause r cols b)) : colsAt h i = cols := by
  unfold colsAt; rw [hi]

theorem evalFrom_clause_ne (I : Interp E B G P A) (cfg : Config) (p : Program E B G P A) (s : SccSt) (h : HRule)
    (swap : Bool) (i : Nat) (r : RelId) (args : List (Arg E)) (conds : List (Cond E B P)) (rest : List (Item E B G P A))
    (vs : List (Option Ver)) (ρ : Env) (hne : h.simpleJoinStart ≠ some i) :
    evalFrom I cfg p s h swap i (.clause r args conds :: rest) vs ρ =
      clauseStep I (relSt s.rels r).rows (clauseRows cfg p s r (vs.headD none)) (colsAt h i) (preVars h i) args conds ρ
        fun ρ' => evalFrom I cfg p s h swap (i + 1) rest vs.tail ρ' := by
  cases rest with
  | nil => rfl
  | cons it rest' =>
    cases it with
    | clause r2 a2 c2 => simp only [evalFrom, hne, if_false]
    | cond _ | gen _ _ | agg _ => rfl

/-- a stretch of the body in which no simple join starts is evaluated item by item as the filter evaluation does, from
any position and any environment whose domain is the grounded set; what follows it (`suf`) may be evaluated differently,
up to a relation `R` that nested loops respect -/
theorem evalFrom_append {R : List Env → List Env → Prop} (hR : LoopCongr R) (I : Interp E B G P A) (cfg : Config)
    (p : Program E B G P A) (s : SccSt) (V : VarsOf E B) (h : HRule) (swap : Bool) (suf : List (Item E B G P A))
    (its : List (Item E B G P A)) (i : Nat) (gd : List Var × List Var) (vs : List (Option Ver)) (ρ : Env)
    (hgd : GdOk gd) (hd : desugFrom V gd (its ++ suf) = true) (hdom : DomEq ρ gd.1) (ha : Agree V h i gd its)
    (hsj : ∀ j, i ≤ j → j < i + its.length → h.simpleJoinStart ≠ some j)
    (hsuf : ∀ vs' ρ', DomEq ρ' (gdFold V gd its).1 →
      R (evalFrom I cfg p s h swap (i + its.length) suf vs' ρ') (evalBody I cfg p s suf vs' ρ')) :
    R (evalFrom I cfg p s h swap i (its ++ suf) vs ρ) (evalBody I cfg p s (its ++ suf) vs ρ) := by
  induction its generalizing i gd vs ρ with
  | nil => exact hsuf vs ρ hdom
  | cons it its ih =>
    simp only [List.cons_append, desugFrom, Bool.and_eq_true] at hd
    obtain ⟨hit, ha'⟩ := ha.step hgd hd.1
    obtain ⟨hgd', hg'⟩ := gdStep_spec V gd hgd _ hd.1
    have e : i + (it :: its).length = i + 1 + its.length := by rw [List.length_cons]; omega
    have next : ∀ ρ', DomEq ρ' (gdStep V gd it).1 →
        R (evalFrom I cfg p s h swap (i + 1) (its ++ suf) vs.tail ρ') (evalBody I cfg p s (its ++ suf) vs.tail ρ') :=
      fun ρ' hdom' => ih (i + 1) _ vs.tail ρ' hgd' hd.2 hdom' ha' (fun j h1 h2 => hsj j (by omega) (by omega))
        (fun vs' ρ'' => e ▸ hsuf vs' ρ'')
    cases it with
    | clause r args conds =>
      rw [List.cons_append, evalFrom_clause_ne I cfg p s h swap i r args conds _ vs ρ (hsj i (Nat.le_refl _) (by omega)),
        evalBody_clause, colsAt_of hit,
        clauseStep_eq I _ _ ρ gd.1 (preVars h i) hdom ha.pre args conds _ (scanOf_spec V gd hgd args hd.1).1
          (freshVars_nodup V gd hgd args hd.1)]
      exact semClause_congr hR I _ _ args conds ρ _ _ fun row ρ₁ ρ₂ hm hc =>
        next ρ₂ (domEq_clause I hdom (fun v => (hg' v).trans (or_congr_right List.mem_append)) hm hc)
    | cond c =>
      simp only [List.cons_append, evalFrom, evalBody]
      cases hc : satCond I c ρ with
      | none => exact hR.nil
      | some ρ₁ =>
        obtain ⟨bl, e, k⟩ := satCond_form I c ρ ρ₁ hc
        refine next ρ₁ fun v => ?_
        rw [e, keys_append, List.mem_append, k, hg' v, hdom v]
        exact Or.comm
    | gen w g =>
      simp only [List.cons_append, evalFrom, evalBody]
      refine hR.flatMap _ fun x _ => next _ fun v => ?_
      rw [hg' v, ← hdom v]
      simp only [keys, List.map_cons, List.mem_cons, itemBound, List.not_mem_nil, or_false]
      exact Or.comm
    | agg a =>
      simp only [List.cons_append, evalFrom, evalBody]
      refine hR.flatMap _ fun ρ₁ hρ₁ => next ρ₁ fun v => ?_
      rw [aggEnvs_keys I a ρ _ ρ₁ hρ₁ v, hg' v, hdom v]
      rfl

theorem evalFrom_eq_evalBody (I : Interp E B G P A) (cfg : Config) (p : Program E B G P A) (s : SccSt)
    (V : VarsOf E B) (h : HRule) (swap : Bool) (rest : List (Item E B G P A)) (i : Nat) (gd : List Var × List Var)
    (vs : List (Option Ver)) (ρ : Env) (hgd : GdOk gd) (hd : desugFrom V gd rest = true) (hdom : DomEq ρ gd.1)
    (ha : Agree V h i gd rest) (hsj : ∀ j, i ≤ j → h.simpleJoinStart ≠ some j) :
    evalFrom I cfg p s h swap i rest vs ρ = evalBody I cfg p s rest vs ρ := by
  have := evalFrom_append LoopCongr.eq I cfg p s V h swap [] rest i gd vs ρ hgd (by rw [List.append_nil]; exact hd) hdom ha
    (fun j hj _ => hsj j hj) fun _ _ _ => rfl
  rwa [List.append_nil] at this

theorem evalFrom_join (I : Interp E B G P A) (cfg : Config) (p : Program E B G P A) (s : SccSt) (h : HRule)
    (swap : Bool) (i : Nat) (r : RelId) (args : List (Arg E)) (conds : List (Cond E B P)) (r2 : RelId)
    (args2 : List (Arg E)) (conds2 : List (Cond E B P)) (rest2 : List (Item E B G P A)) (vs : List (Option Ver)) (ρ : Env)
    (hsj : h.simpleJoinStart = some i) :
    evalFrom I cfg p s h swap i (.clause r args conds :: .clause r2 args2 conds2 :: rest2) vs ρ =
      if swap = true then
        joinStep I (relSt s.rels r2).rows (clauseRows cfg p s r2 (vs.tail.headD none)) (colsAt h (i + 1)) args2 conds2
          (relSt s.rels r).rows (clauseRows cfg p s r (vs.headD none)) (colsAt h i) args conds
          (preVars h i ++ h.bound.getD (i + 1) []) ρ fun ρ' => evalFrom I cfg p s h swap (i + 2) rest2 vs.tail.tail ρ'
      else
        joinStep I (relSt s.rels r).rows (clauseRows cfg p s r (vs.headD none)) (colsAt h i) args conds
          (relSt s.rels r2).rows (clauseRows cfg p s r2 (vs.tail.headD none)) (colsAt h (i + 1)) args2 conds2
          (preVars h (i + 1)) ρ fun ρ' => evalFrom I cfg p s h swap (i + 2) rest2 vs.tail.tail ρ' := by
  rw [evalFrom, if_pos hsj]

theorem DomEq.of_envEq {ρ ρ' : Env} {g : List Var} (h : DomEq ρ' g) (he : EnvEq ρ ρ') : DomEq ρ g := by
  intro v
  rw [← h v, ← get?_isSome_iff, ← get?_isSome_iff, he v]

/-- what the evaluation proofs need of a rule compiled with a simple join -/
structure JoinSetup (V : VarsOf E B) (h : HRule) (pre : List (Item E B G P A))
    (a1 : List (Arg E)) (c1 : List (Cond E B P)) (a2 : List (Arg E)) (c2 : List (Cond E B P))
    (rest : List (Item E B G P A)) (gdk gdk1 gdk2 : List Var × List Var) : Prop where
  agree0 : Agree V h 0 ([], []) pre
  gok2 : GdOk gdk2
  hgk : ∀ v, v ∈ gdk.1 ↔ v ∈ pre.flatMap itemBound
  ctx : JoinCtx gdk.1 gdk1.1 a1 c1 a2 (colsAt h pre.length) (colsAt h (pre.length + 1)) (preVars h (pre.length + 1))
  hgk2 : ∀ v, v ∈ gdk2.1 ↔ v ∈ gdk1.1 ∨ v ∈ a2.filterMap argVar? ∨ v ∈ c2.flatMap Cond.boundVars
  desug : desugFrom V gdk2 rest = true
  agree : Agree V h (pre.length + 2) gdk2 rest
  preK : ∀ v, v ∈ preVars h pre.length ↔ v ∈ gdk.1
  bound2 : h.bound.getD (pre.length + 1) [] = a2.filterMap argVar? ++ c2.flatMap Cond.boundVars
  nd2all : (a2.filterMap argVar?).Nodup
  conds2 : condsIn V (a2.filterMap argVar?) c2 = true

theorem nodup_of_filter_parts {α : Type} (p : α → Bool) (l : List α) (h1 : (l.filter p).Nodup)
    (h2 : (l.filter fun a => !p a).Nodup) : l.Nodup :=
  (List.filter_append_perm p l).nodup_iff.1 (List.nodup_append.2 ⟨h1, h2, fun a ha b hb e => by
    subst e
    rw [List.mem_filter] at ha hb
    simp [ha.2] at hb⟩)

theorem mem_indicesGiven (args : List (Arg E)) (vars : List Var) (j : Nat) :
    j ∈ indicesGiven args vars ↔ ∃ a, args[j]? = some a ∧ isIdx vars a = true := by
  unfold indicesGiven
  rw [List.mem_filter, List.mem_range]
  constructor
  · rintro ⟨hlt, h⟩
    rw [List.getElem?_eq_getElem hlt] at h
    refine ⟨args[j], List.getElem?_eq_getElem hlt, ?_⟩
    cases ha : args[j] with
    | var v => rw [ha] at h; exact h
    | expr e => rfl
  · rintro ⟨a, ha, hi⟩
    refine ⟨(List.getElem?_eq_some_iff.1 ha).1, ?_⟩
    rw [ha]
    cases a with
    | var v => exact hi
    | expr e => rfl

/-- A desugared rule compiled with a simple join at position `k`: the body is `pre ++ c1 :: c2 :: rest` with `pre` of
length `k`.  The `simple` flag survived the scans of `c1` and `c2` (`clause_simple`), which gives the facts of `JoinCtx`
about their arguments; `Agree` then places the compiled items and bound variables at positions `0`, `k`, `k + 1`, `k + 2`. -/
theorem compile_join (V : VarsOf E B) (r : Rule E B G P A) (k : Nat) (hd : Desugared V r = true)
    (hs : (compileRule V r).simpleJoinStart = some k) :
    ∃ pre r1 a1 c1 r2 a2 c2 rest, pre.length = k ∧ r.body = pre ++ .clause r1 a1 c1 :: .clause r2 a2 c2 :: rest ∧
      JoinSetup V (compileRule V r) pre a1 c1 a2 c2 rest (gdFold V ([], []) pre)
        (gdStep V (gdFold V ([], []) pre) (.clause r1 a1 c1 : Item E B G P A))
        (gdStep V (gdStep V (gdFold V ([], []) pre) (.clause r1 a1 c1 : Item E B G P A))
          (.clause r2 a2 c2 : Item E B G P A)) := by
  -- `k` is the position of the first clause and the fold ended with the flag set (`hc.1`); the flag starts as `simple0`
  -- and is never set again, so position `k + 1` holds a clause too
  have hset := congrArg HRule.items (compileRule_eq V r)
  rw [compileRule_eq] at hs
  dsimp only at hs hset
  rw [hs] at hset
  split at hs
  case isFalse => cases hs
  rename_i hc
  rw [Bool.and_eq_true] at hc
  obtain ⟨hk, hp, _⟩ := List.findIdx?_eq_some_iff_getElem.1 hs
  obtain ⟨r1, a1, c1, h1⟩ := (isClause_iff _).1 hp
  have hbk : r.body[k]? = some (.clause r1 a1 c1) := by rw [List.getElem?_eq_getElem hk, h1]
  have hs0 : simple0 r.body = true := fold_simple_mono V r.body _ _ _ hc.1
  simp only [simple0, hs] at hs0
  cases hbk1 : r.body[k + 1]? with
  | none => rw [hbk1] at hs0; cases hs0
  | some y =>
    rw [hbk1] at hs0
    obtain ⟨r2, a2, c2, rfl⟩ := (isClause_iff y).1 hs0
    simp only [hbk, hbk1] at hset
    obtain ⟨hb, hlen⟩ := decomp_two r.body k _ _ hbk hbk1
    generalize r.body.take k = pre at hb hlen
    generalize r.body.drop (k + 2) = rest at hb
    subst hlen
    have hd' : desugFrom V ([], []) (pre ++ .clause r1 a1 c1 :: .clause r2 a2 c2 :: rest) = true := hb ▸ hd
    have hsim : ((zipFrom 0 (pre ++ .clause r1 a1 c1 :: .clause r2 a2 c2 :: rest)).foldl
        (stepC V r.body (firstClauseInd r.body)) { simple := simple0 r.body }).simple = true := by
      rw [← hb, ← zip_range_eq]; exact hc.1
    obtain ⟨gok, hdk, hgk⟩ := gdFold_spec V pre ([], []) _ gdOk_nil hd'
    simp only [desugFrom, Bool.and_eq_true] at hdk
    obtain ⟨hok1, hok2, hdrest⟩ := hdk
    obtain ⟨gok1, hg1⟩ := gdStep_spec V _ gok (.clause r1 a1 c1 : Item E B G P A) hok1
    obtain ⟨gok2, hg2⟩ := gdStep_spec V _ gok1 (.clause r2 a2 c2 : Item E B G P A) hok2
    -- the `simple` flag survived positions `k` and `k + 1`
    obtain ⟨stk, ek, hk1⟩ := fold_at V r.body _ pre _ _ _ hsim
    obtain ⟨hv1, _⟩ := clause_simple ek gok hok1 (by rw [hs]; simp) hk1
    rw [List.append_cons] at hsim
    obtain ⟨stk1, ek1, hk2⟩ := fold_at V r.body _ (pre ++ [_]) _ _ _ hsim
    rw [gdFold_snoc] at ek1
    obtain ⟨hv2, hX⟩ := clause_simple ek1 gok1 hok2 (by rw [hs]; simp; omega) hk2
    obtain ⟨hX1, hX2, hX3⟩ := hX (by rw [hs]; simp)
    have hcv : cl1CondVars r.body (firstClauseInd r.body) = c1.flatMap Cond.boundVars := by
      simp only [cl1CondVars, hs, Option.bind_some, hbk]
    have args1 : ∀ a ∈ a1, ∃ v, a = Arg.var v ∧ v ∉ (gdFold V ([], []) pre).1 := fun a ha => by
      obtain ⟨v, hv, hn⟩ := hv1 a ha
      exact ⟨v, hv, hn hs⟩
    have args2 : ∀ a ∈ a2, ∃ v, a = Arg.var v ∧ v ∉ c1.flatMap Cond.boundVars := fun a ha => by
      obtain ⟨v, rfl, _⟩ := hv2 a ha
      have := List.any_eq_false.1 hX1 _ ha
      rw [hcv] at this
      exact ⟨v, rfl, fun hm => this (List.contains_iff_mem.2 hm)⟩
    have conds2 : condsIn V (a2.filterMap argVar?) c2 = true := by
      rw [condsIn_congr V c2 _ (a2.filterMap argVar?).eraseDups fun v => List.mem_eraseDups.symm, ← condsOk_eq]
      exact hX3
    -- the compiled rule at positions 0, k, k + 1 and k + 2
    have hbound := compile_bound V r
    have hL : (hitems V ([], []) pre).length = pre.length := hitems_length V pre _
    have hits : (compileRule V r).items = hitems V ([], []) pre ++ HItem.clause r1 (indicesGiven a1 (a2.filterMap argVar?)) false ::
        hitems V (gdStep V (gdFold V ([], []) pre) (.clause r1 a1 c1 : Item E B G P A)) (.clause r2 a2 c2 :: rest) := by
      rw [hset, hb, hitems_append, List.set_append_right _ _ (Nat.le_of_eq hL), hL, Nat.sub_self]
      rfl
    rw [hb] at hbound
    refine ⟨pre, r1, a1, c1, r2, a2, c2, rest, rfl, hb, ?_⟩
    clear hset
    generalize compileRule V r = h at hbound hits ⊢
    have ag0 : Agree V h 0 ([], []) pre := Agree.of_body [] pre _ hbound hd' ⟨_, hits.symm⟩
    have agk := Agree.of_body pre [] _ hbound hd' List.nil_prefix
    have ag1 : Agree V h (pre.length + 1) (gdStep V (gdFold V ([], []) pre) (.clause r1 a1 c1 : Item E B G P A))
        (.clause r2 a2 c2 :: rest) := by
      have := Agree.of_body (V := V) (h := h) (pre ++ [.clause r1 a1 c1]) (.clause r2 a2 c2 :: rest) []
        (by simpa using hbound) (by simpa using hd')
        (by rw [gdFold_snoc, hits, List.append_cons (hitems V ([], []) pre), List.drop_left' (by simp [hL])]; exact List.prefix_refl _)
      rwa [gdFold_snoc, List.length_append] at this
    obtain ⟨hik1, ag2⟩ := ag1.step gok1 hok2
    have hik : h.items[pre.length]? = some (HItem.clause r1 (indicesGiven a1 (a2.filterMap argVar?)) false) := by
      rw [hits, List.getElem?_append_right (Nat.le_of_eq hL), hL, Nat.sub_self]; rfl
    have hbg : h.bound.getD (pre.length + 1) [] = itemBound (.clause r2 a2 c2 : Item E B G P A) := by
      rw [List.getD_eq_getElem?_getD, (prefix_drop_cons ag1.bound).1]; rfl
    refine ⟨ag0, gok2, fun v => by rw [hgk v]; simp, ?_, fun v => by rw [hg2 v]; simp only [itemBound, List.mem_append],
      hdrest, ag2, agk.pre, hbg,
      nodup_of_filter_parts _ _ (nodup_of_eraseDups_length _ (eq_of_beq hX2)) (argsOk_nodup V _ a2 [] hok2).2, conds2⟩
    refine ⟨args1, freshVars_nodup V _ gok a1 hok1, fun j => ?_, args2, fun v => by rw [hg1 v]; simp only [itemBound, List.mem_append],
      fun j => ?_, freshVars_nodup V _ gok1 a2 hok2, ag1.pre⟩
    · rw [colsAt_of hik, mem_indicesGiven]
      constructor
      · rintro ⟨a, ha, hi⟩
        obtain ⟨v, rfl, _⟩ := args1 a (List.mem_of_getElem? ha)
        exact ⟨v, ha, List.contains_iff_mem.1 hi⟩
      · rintro ⟨v, ha, hv⟩
        exact ⟨_, ha, List.contains_iff_mem.2 hv⟩
    · rw [colsAt_of hik1]
      exact (scanOf_spec V _ gok1 a2 hok2).1 j

/-- a rule compiled with a simple join: the items before it and after it are evaluated as the filter evaluation does,
so the whole body is a permutation of the filter evaluation as soon as the join step (in the order `swap` selects) is -/
theorem join_permEq (I : Interp E B G P A) (hI : Ext I) (cfg : Config) (p : Program E B G P A) (s : SccSt)
    (V : VarsOf E B) (h : HRule) (swap : Bool) {pre : List (Item E B G P A)}
    {r1 : RelId} {a1 : List (Arg E)} {c1 : List (Cond E B P)} {r2 : RelId} {a2 : List (Arg E)} {c2 : List (Cond E B P)}
    {rest : List (Item E B G P A)} (hsj : h.simpleJoinStart = some pre.length)
    (hd : desugFrom V ([], []) (pre ++ .clause r1 a1 c1 :: .clause r2 a2 c2 :: rest) = true)
    {gdk1 gdk2 : List Var × List Var} (js : JoinSetup V h pre a1 c1 a2 c2 rest (gdFold V ([], []) pre) gdk1 gdk2)
    (hjoin : ∀ rows1 bag1 rows2 bag2 ρ kp ks, DomEq ρ (gdFold V ([], []) pre).1 →
      (∀ ρp ρs, EnvEq ρp ρs → DomEq ρs gdk2.1 → PermEq (kp ρp) (ks ρs)) →
      PermEq
        (if swap = true then
          joinStep I rows2 bag2 (colsAt h (pre.length + 1)) a2 c2 rows1 bag1 (colsAt h pre.length) a1 c1
            (preVars h pre.length ++ h.bound.getD (pre.length + 1) []) ρ kp
        else
          joinStep I rows1 bag1 (colsAt h pre.length) a1 c1 rows2 bag2 (colsAt h (pre.length + 1)) a2 c2
            (preVars h (pre.length + 1)) ρ kp)
        (semClause I rows1 bag1 a1 c1 ρ fun ρ₂ => semClause I rows2 bag2 a2 c2 ρ₂ ks))
    (vs : List (Option Ver)) :
    PermEq (evalFrom I cfg p s h swap 0 (pre ++ .clause r1 a1 c1 :: .clause r2 a2 c2 :: rest) vs [])
      (evalBody I cfg p s (pre ++ .clause r1 a1 c1 :: .clause r2 a2 c2 :: rest) vs []) := by
  apply evalFrom_append .permEq I cfg p s V _ swap _ pre 0 ([], []) vs [] gdOk_nil hd (by intro v; simp [keys]) js.agree0
    (fun j _ hj => by rw [hsj]; intro h; cases h; omega)
  intro vs' ρ' hdom'
  rw [Nat.zero_add, evalFrom_join I cfg p s _ swap pre.length r1 a1 c1 r2 a2 c2 rest vs' ρ' hsj, evalBody_clause]
  simp only [evalBody_clause]
  apply hjoin _ _ _ _ ρ' _ _ hdom'
  intro ρp ρs heq hdoms
  rw [evalFrom_eq_evalBody I cfg p s V _ swap rest (pre.length + 2) _ vs'.tail.tail ρp js.gok2 js.desug
    (hdoms.of_envEq heq) js.agree (fun j hj => by rw [hsj]; intro h; cases h; omega)]
  exact PermEq.of_envsEq (evalBody_envEq I hI cfg p s rest _ heq)

end AscentVerif.Plan
