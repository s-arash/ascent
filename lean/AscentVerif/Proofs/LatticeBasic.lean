import AscentVerif.Spec.LatticeLaws
/-!
Consequences of `LawfulLat` / `LawfulLinOrd`, and ways of obtaining them: `le` against `pcmp`; what `join`/`meet`
and their in-place versions return on comparable arguments; lawfulness carried along an injective map that
commutes with the operations (`lawful_transfer`, `lawfulLinOrd_of_key`), to a smaller invariant (`lawful_restrict`,
`lawful_point`), and from Lean's `Ord` classes (`lawfulLinOrd_of_ord`).  Used by `LatticeProduct` and `Props/C16Basic`.
-/
namespace AscentVerif.Lat

section derived
variable {α : Type} [Lat α] {WF : α → Prop}

theorem le_iff_pcmp {a b : α} : le a b = true ↔ pcmp a b = some .lt ∨ pcmp a b = some .eq := by
  unfold le; simp

theorem le_of_pcmp_some {a b : α} {o : Ordering} (e : pcmp a b = some o) : le a b = true ↔ o ≠ .gt := by
  unfold le; rw [e]; cases o <;> decide

theorem le_of_pcmp_lt {a b : α} (e : pcmp a b = some .lt) : le a b = true :=
  (le_of_pcmp_some e).2 nofun
theorem le_of_pcmp_eq {a b : α} (e : pcmp a b = some .eq) : le a b = true :=
  (le_of_pcmp_some e).2 nofun
theorem not_le_of_pcmp_gt {a b : α} (e : pcmp a b = some .gt) : le a b = false :=
  Bool.eq_false_iff.2 fun h => (le_of_pcmp_some e).1 h rfl
theorem not_le_of_pcmp_none {a b : α} (e : pcmp a b = none) : le a b = false := by
  unfold le; rw [e]; rfl

theorem le_of_pcmp_gt (h : LawfulLat α WF) {a b : α} (ha : WF a) (hb : WF b)
    (e : pcmp a b = some .gt) : le b a = true :=
  le_of_pcmp_lt ((h.pcmp_swap a b ha hb).trans (congrArg (Option.map Ordering.swap) e))

theorem le_refl' (h : LawfulLat α WF) (a : α) (ha : WF a) : le a a = true :=
  le_of_pcmp_eq (h.pcmp_refl a ha)

theorem le_of_eq' (h : LawfulLat α WF) (a b : α) (ha : WF a) (e : a = b) : le a b = true := by
  subst e; exact le_refl' h a ha

theorem le_antisymm' (h : LawfulLat α WF) (a b : α) (ha : WF a) (hb : WF b)
    (h1 : le a b = true) (h2 : le b a = true) : a = b := by
  rcases le_iff_pcmp.1 h1 with e | e
  · rw [not_le_of_pcmp_gt ((h.pcmp_swap a b ha hb).trans (congrArg (Option.map Ordering.swap) e))] at h2
    cases h2
  · exact h.eq_of_pcmp_eq a b ha hb e

theorem join_eq_of_le (h : LawfulLat α WF) (a b : α) (ha : WF a) (hb : WF b) (hab : le a b = true) :
    join a b = b :=
  le_antisymm' h _ _ (h.join_wf a b ha hb) hb
    (h.join_le a b b ha hb hb hab (le_refl' h b hb)) (h.le_join_right a b ha hb)

theorem join_eq_of_ge (h : LawfulLat α WF) (a b : α) (ha : WF a) (hb : WF b) (hab : le b a = true) :
    join a b = a :=
  le_antisymm' h _ _ (h.join_wf a b ha hb) ha
    (h.join_le a b a ha hb ha (le_refl' h a ha) hab) (h.le_join_left a b ha hb)

/-- the laws are symmetric: each one for `Dual<T>` is the mirror image of one for `T`
(so every `meet` fact below is the `join` fact of the dual) -/
theorem lawfulLat_dual (h : LawfulLat α WF) : LawfulLat (Dual α) (fun d => WF d.val) where
  pcmp_refl a ha := h.pcmp_refl a.val ha
  eq_of_pcmp_eq a b ha hb e := congrArg Dual.mk (h.eq_of_pcmp_eq b.val a.val hb ha e).symm
  pcmp_swap a b ha hb := h.pcmp_swap b.val a.val hb ha
  le_trans a b c ha hb hc h1 h2 := h.le_trans c.val b.val a.val hc hb ha h2 h1
  join_wf a b := h.meet_wf a.val b.val
  meet_wf a b := h.join_wf a.val b.val
  le_join_left a b := h.meet_le_left a.val b.val
  le_join_right a b := h.meet_le_right a.val b.val
  join_le a b c := h.le_meet a.val b.val c.val
  meet_le_left a b := h.le_join_left a.val b.val
  meet_le_right a b := h.le_join_right a.val b.val
  le_meet a b c := h.join_le a.val b.val c.val
  joinMut_fst a b ha hb := congrArg Dual.mk (h.meetMut_fst a.val b.val ha hb)
  joinMut_snd a b ha hb :=
    (h.meetMut_snd a.val b.val ha hb).trans (not_congr ⟨congrArg Dual.mk, congrArg Dual.val⟩)
  meetMut_fst a b ha hb := congrArg Dual.mk (h.joinMut_fst a.val b.val ha hb)
  meetMut_snd a b ha hb :=
    (h.joinMut_snd a.val b.val ha hb).trans (not_congr ⟨congrArg Dual.mk, congrArg Dual.val⟩)

theorem meet_eq_of_le (h : LawfulLat α WF) (a b : α) (ha : WF a) (hb : WF b) (hab : le a b = true) :
    meet a b = a :=
  congrArg Dual.val (join_eq_of_ge (lawfulLat_dual h) ⟨a⟩ ⟨b⟩ ha hb hab)

theorem meet_eq_of_ge (h : LawfulLat α WF) (a b : α) (ha : WF a) (hb : WF b) (hab : le b a = true) :
    meet a b = b :=
  congrArg Dual.val (join_eq_of_le (lawfulLat_dual h) ⟨a⟩ ⟨b⟩ ha hb hab)

theorem ne_of_pcmp_lt (h : LawfulLat α WF) {a b : α} (ha : WF a) (e : pcmp a b = some .lt) : b ≠ a := by
  intro e2; subst e2; rw [h.pcmp_refl b ha] at e; cases e

theorem joinMut_of_join_eq (h : LawfulLat α WF) {a b : α} (ha : WF a) (hb : WF b) (e : join a b = a) :
    joinMut a b = (a, false) :=
  Prod.ext ((h.joinMut_fst a b ha hb).trans e)
    (Bool.eq_false_iff.2 fun hc => (h.joinMut_snd a b ha hb).1 hc e)

theorem joinMut_of_join_ne (h : LawfulLat α WF) {a b : α} (ha : WF a) (hb : WF b) (e : join a b ≠ a) :
    joinMut a b = (join a b, true) :=
  Prod.ext (h.joinMut_fst a b ha hb) ((h.joinMut_snd a b ha hb).2 e)

theorem meetMut_of_meet_eq (h : LawfulLat α WF) {a b : α} (ha : WF a) (hb : WF b) (e : meet a b = a) :
    meetMut a b = (a, false) :=
  Prod.ext ((h.meetMut_fst a b ha hb).trans e)
    (Bool.eq_false_iff.2 fun hc => (h.meetMut_snd a b ha hb).1 hc e)

theorem meetMut_of_meet_ne (h : LawfulLat α WF) {a b : α} (ha : WF a) (hb : WF b) (e : meet a b ≠ a) :
    meetMut a b = (meet a b, true) :=
  Prod.ext (h.meetMut_fst a b ha hb) ((h.meetMut_snd a b ha hb).2 e)

end derived

section lin
variable {α : Type} [LinOrd α]

theorem LawfulLinOrd.gt_iff (h : LawfulLinOrd α) (a b : α) : LinOrd.cmp a b = .gt ↔ LinOrd.cmp b a = .lt := by
  rw [h.cmp_swap a b]; cases LinOrd.cmp a b <;> decide

theorem LawfulLinOrd.eq_iff (h : LawfulLinOrd α) (a b : α) : LinOrd.cmp a b = .eq ↔ a = b :=
  ⟨h.eq_of_cmp_eq a b, fun e => e ▸ h.cmp_refl a⟩

theorem LawfulLinOrd.le_trans (h : LawfulLinOrd α) (a b c : α)
    (h1 : LinOrd.cmp a b ≠ .gt) (h2 : LinOrd.cmp b c ≠ .gt) : LinOrd.cmp a c ≠ .gt := by
  cases e1 : LinOrd.cmp a b with
  | gt => exact absurd e1 h1
  | eq => have := h.eq_of_cmp_eq a b e1; subst this; exact h2
  | lt =>
    cases e2 : LinOrd.cmp b c with
    | gt => exact absurd e2 h2
    | eq => have := h.eq_of_cmp_eq b c e2; subst this; rw [e1]; nofun
    | lt => rw [h.lt_trans a b c e1 e2]; nofun

end lin

theorem lawfulLinOrd_of_ord {α : Type} [Ord α] [Std.TransOrd α] [Std.LawfulEqOrd α] [LinOrd α]
    (hc : ∀ a b : α, LinOrd.cmp a b = compare a b) : LawfulLinOrd α where
  cmp_refl a := by rw [hc]; exact Std.ReflCmp.compare_self
  eq_of_cmp_eq a b := by rw [hc]; exact Std.LawfulEqCmp.eq_of_compare
  cmp_swap a b := by rw [hc, hc]; exact Std.OrientedCmp.eq_swap
  lt_trans a b c := by rw [hc, hc, hc]; exact Std.TransCmp.lt_trans

theorem lawfulLinOrd_of_key {α β : Type} [LinOrd α] [LinOrd β] (h : LawfulLinOrd β) (key : α → β)
    (kinj : ∀ a b, key a = key b → a = b)
    (hc : ∀ a b : α, LinOrd.cmp a b = LinOrd.cmp (key a) (key b)) : LawfulLinOrd α where
  cmp_refl a := by rw [hc]; exact h.cmp_refl _
  eq_of_cmp_eq a b e := by rw [hc] at e; exact kinj _ _ (h.eq_of_cmp_eq _ _ e)
  cmp_swap a b := by rw [hc, hc]; exact h.cmp_swap _ _
  lt_trans a b c := by rw [hc, hc, hc]; exact h.lt_trans _ _ _

section transfer
variable {α β : Type} [Lat α] [Lat β] {WF : α → Prop}

theorem lawful_transfer (h : LawfulLat α WF) (key : β → α)
    (kinj : ∀ a b, key a = key b → a = b)
    (hp : ∀ a b : β, pcmp a b = pcmp (key a) (key b))
    (hj : ∀ a b : β, WF (key a) → WF (key b) → key (join a b) = join (key a) (key b))
    (hm : ∀ a b : β, WF (key a) → WF (key b) → key (meet a b) = meet (key a) (key b))
    (hjm : ∀ a b : β, WF (key a) → WF (key b) →
      (key (joinMut a b).1, (joinMut a b).2) = joinMut (key a) (key b))
    (hmm : ∀ a b : β, WF (key a) → WF (key b) →
      (key (meetMut a b).1, (meetMut a b).2) = meetMut (key a) (key b)) :
    LawfulLat β (fun b => WF (key b)) :=
  have hle : ∀ a b : β, le a b = le (key a) (key b) := by
    intro a b; unfold le; rw [hp]
  have hne : ∀ a b : β, key a ≠ key b ↔ a ≠ b :=
    fun a b => ⟨fun n e => n (congrArg key e), fun n e => n (kinj a b e)⟩
  { pcmp_refl := fun a ha => by rw [hp]; exact h.pcmp_refl _ ha
    eq_of_pcmp_eq := fun a b ha hb e => by rw [hp] at e; exact kinj _ _ (h.eq_of_pcmp_eq _ _ ha hb e)
    pcmp_swap := fun a b ha hb => by rw [hp, hp]; exact h.pcmp_swap _ _ ha hb
    le_trans := fun a b c ha hb hc => by rw [hle, hle, hle]; exact h.le_trans _ _ _ ha hb hc
    join_wf := fun a b ha hb => by rw [hj a b ha hb]; exact h.join_wf _ _ ha hb
    meet_wf := fun a b ha hb => by rw [hm a b ha hb]; exact h.meet_wf _ _ ha hb
    le_join_left := fun a b ha hb => by rw [hle, hj a b ha hb]; exact h.le_join_left _ _ ha hb
    le_join_right := fun a b ha hb => by rw [hle, hj a b ha hb]; exact h.le_join_right _ _ ha hb
    join_le := fun a b c ha hb hc => by rw [hle, hle, hle, hj a b ha hb]; exact h.join_le _ _ _ ha hb hc
    meet_le_left := fun a b ha hb => by rw [hle, hm a b ha hb]; exact h.meet_le_left _ _ ha hb
    meet_le_right := fun a b ha hb => by rw [hle, hm a b ha hb]; exact h.meet_le_right _ _ ha hb
    le_meet := fun a b c ha hb hc => by rw [hle, hle, hle, hm a b ha hb]; exact h.le_meet _ _ _ ha hb hc
    joinMut_fst := fun a b ha hb => kinj _ _ <| by
      rw [hj a b ha hb, ← h.joinMut_fst _ _ ha hb, ← hjm a b ha hb]
    joinMut_snd := fun a b ha hb => by
      rw [← hne, hj a b ha hb, ← h.joinMut_snd _ _ ha hb, ← hjm a b ha hb]
    meetMut_fst := fun a b ha hb => kinj _ _ <| by
      rw [hm a b ha hb, ← h.meetMut_fst _ _ ha hb, ← hmm a b ha hb]
    meetMut_snd := fun a b ha hb => by
      rw [← hne, hm a b ha hb, ← h.meetMut_snd _ _ ha hb, ← hmm a b ha hb] }

theorem lawful_point {α : Type} [Lat α] {WF : α → Prop} (pt : α) (hwf : WF pt) (only : ∀ a, WF a → a = pt)
    (hp : pcmp pt pt = some .eq) (hj : join pt pt = pt) (hm : meet pt pt = pt)
    (hjm : joinMut pt pt = (pt, false)) (hmm : meetMut pt pt = (pt, false)) : LawfulLat α WF :=
  have hle : le pt pt = true := le_of_pcmp_eq hp
  { pcmp_refl := fun a ha => by rw [only a ha, hp]
    eq_of_pcmp_eq := fun a b ha hb _ => by rw [only a ha, only b hb]
    pcmp_swap := fun a b ha hb => by rw [only a ha, only b hb, hp]; rfl
    le_trans := fun a b c ha _ hc _ _ => by rw [only a ha, only c hc, hle]
    join_wf := fun a b ha hb => by rw [only a ha, only b hb, hj]; exact hwf
    meet_wf := fun a b ha hb => by rw [only a ha, only b hb, hm]; exact hwf
    le_join_left := fun a b ha hb => by rw [only a ha, only b hb, hj, hle]
    le_join_right := fun a b ha hb => by rw [only a ha, only b hb, hj, hle]
    join_le := fun a b c ha hb hc _ _ => by rw [only a ha, only b hb, only c hc, hj, hle]
    meet_le_left := fun a b ha hb => by rw [only a ha, only b hb, hm, hle]
    meet_le_right := fun a b ha hb => by rw [only a ha, only b hb, hm, hle]
    le_meet := fun a b c ha hb hc _ _ => by rw [only a ha, only b hb, only c hc, hm, hle]
    joinMut_fst := fun a b ha hb => by rw [only a ha, only b hb, hjm, hj]
    joinMut_snd := fun a b ha hb => by
      rw [only a ha, only b hb, hjm, hj]; exact iff_of_false nofun (fun n => n rfl)
    meetMut_fst := fun a b ha hb => by rw [only a ha, only b hb, hmm, hm]
    meetMut_snd := fun a b ha hb => by
      rw [only a ha, only b hb, hmm, hm]; exact iff_of_false nofun (fun n => n rfl) }

theorem lawful_restrict {α : Type} [Lat α] {WF WF' : α → Prop} (h : LawfulLat α WF)
    (sub : ∀ a, WF' a → WF a)
    (hj : ∀ a b, WF' a → WF' b → WF' (join a b))
    (hm : ∀ a b, WF' a → WF' b → WF' (meet a b)) : LawfulLat α WF' where
  pcmp_refl a ha := h.pcmp_refl a (sub a ha)
  eq_of_pcmp_eq a b ha hb := h.eq_of_pcmp_eq a b (sub a ha) (sub b hb)
  pcmp_swap a b ha hb := h.pcmp_swap a b (sub a ha) (sub b hb)
  le_trans a b c ha hb hc := h.le_trans a b c (sub a ha) (sub b hb) (sub c hc)
  join_wf := hj
  meet_wf := hm
  le_join_left a b ha hb := h.le_join_left a b (sub a ha) (sub b hb)
  le_join_right a b ha hb := h.le_join_right a b (sub a ha) (sub b hb)
  join_le a b c ha hb hc := h.join_le a b c (sub a ha) (sub b hb) (sub c hc)
  meet_le_left a b ha hb := h.meet_le_left a b (sub a ha) (sub b hb)
  meet_le_right a b ha hb := h.meet_le_right a b (sub a ha) (sub b hb)
  le_meet a b c ha hb hc := h.le_meet a b c (sub a ha) (sub b hb) (sub c hc)
  joinMut_fst a b ha hb := h.joinMut_fst a b (sub a ha) (sub b hb)
  joinMut_snd a b ha hb := h.joinMut_snd a b (sub a ha) (sub b hb)
  meetMut_fst a b ha hb := h.meetMut_fst a b (sub a ha) (sub b hb)
  meetMut_snd a b ha hb := h.meetMut_snd a b (sub a ha) (sub b hb)

end transfer

end AscentVerif.Lat
