import AscentVerif.Model.EnginePhysTimeout
import AscentVerif.Proofs.PhysAggRun
import AscentVerif.Proofs.NDAggRestart
import AscentVerif.Proofs.Rows
/-!
# `run_timeout` over the physical indices: what the two ways it can return leave; stratified restart

From `runTimeout_sim` (`Proofs/PhysAggRun.lean`), on stratified programs: a call that returned `true` leaves an `Exec`
(`runTimeout_doneA`), one that returned `false` a `PreExec` (`runTimeout_timedOutA`): the rows of the SCC state in which a prefix
`Agg.RunPreND` of an execution ends, which `abandonScc` keeps.  Without aggregation every such prefix keeps the least-model
invariants (`runPreND_good`), so every row vector left is `GoodRows` (`runTimeout_timedOut`).  With aggregation the restart
theory of the nondeterministic engine (`Proofs/NDAggRestart.lean`) is said once for the values that `Exec` / `PreExec`
describe, whichever call of whichever engine made them (`Exec.wf_extends`, `.restart`, `.timeout_false`, `.rerun`):
`Props/C13PhysAgg.lean` takes the instances, the parallel tower reads them through `erase`.
-/
namespace AscentVerif.Phys
open AscentVerif AscentVerif.Engine AscentVerif.Index

variable {E B G P A : Type}

theorem abandon_length (p : Program E B G P A) (scc : List Nat) (ph : PScc) :
    (abandonScc p scc ph).length = ph.rels.length :=
  (List.length_map _).trans List.length_range

theorem abandon_rows (p : Program E B G P A) (scc : List Nat) (ph : PScc) (r : RelId) :
    (prel (abandonScc p scc ph) r).rows = (prel ph.rels r).rows :=
  prel_rangeMap_rows (fun r => by split <;> rfl) r

/-- **`run_timeout` returned `true`**: an execution of the nondeterministic engine with the same rows -/
theorem runTimeout_doneA (I : Interp E B G P A) (hI : Plan.Ext I) (V : Hir.VarsOf E B) (hS : Plan.Supp I V)
    (hperm : ∀ (fn : A) (l l' : List Tuple), l.Perm l' → I.agg fn l = I.agg fn l')
    (p : Program E B G P A) (ix : IxSets) (order : SccOrder) (dl : Deadline) (s : PSt) (fuel : Nat) (o : ProgStT)
    (hp : RelationalAgg p) (hst : Stratified p order)
    (hplan : planOk V p ix = true) (hagg : aggPlanOk V p ix = true)
    (hd : ∀ r ∈ p.rules, Hir.Desugared V r = true ∧ Plan.WellScoped V r = true)
    (hs : WFPSt p s)
    (hrun : runTimeout I V p ix order dl fuel s = .done o) :
    ∃ st', RunND I {} p order (absSt s) st' ∧ SimSt p ix st' o.st :=
  runTimeout_exec I hI V hS p ix order dl s fuel o hp hst (ruleFitA_of_planOk V p ix hplan hagg hd)
    (fun _ _ ag _ => hperm ag.fn) hs hrun

/-- what a call that returned `false` leaves: the value `o` has the rows of the SCC state in which a prefix of an execution of the
nondeterministic engine from the rows of `s` ends, and they are typed -/
def PreExec (I : Interp E B G P A) (p : Program E B G P A) (order : SccOrder) (s o : PSt) : Prop :=
  ∃ a', Agg.RunPreND I {} p order (absSt s) a' ∧ a'.rels.length = o.length ∧
    (∀ r, (relSt a'.rels r).rows = (prel o r).rows) ∧ (∀ r, ∀ t ∈ (prel o r).rows, t.length = arityOf p r)

/-- **`run_timeout` returned `false`** -/
theorem runTimeout_timedOutA (I : Interp E B G P A) (hI : Plan.Ext I) (V : Hir.VarsOf E B) (hS : Plan.Supp I V)
    (p : Program E B G P A) (ix : IxSets) (order : SccOrder) (dl : Deadline) (s : PSt) (fuel : Nat) (o : ProgStT)
    (hp : RelationalAgg p) (hst : Stratified p order) (hR : ∀ r ∈ p.rules, RuleFitA V p ix r) (hperm : PermOn I p.rules)
    (hs : WFPSt p s) (hrun : runTimeout I V p ix order dl fuel s = .timedOut o) : PreExec I p order s o.st := by
  have := runTimeout_sim I hI V hS p ix order dl s fuel hp hst hR hperm hs
  rw [hrun] at this
  obtain ⟨done, scc, rest, stMid, ho, hdone, a', ph, hpre, hsim, hab⟩ := this
  refine ⟨a', ⟨done, scc, rest, stMid, ho, hdone, hpre⟩, ?_, ?_, ?_⟩
  · rw [hab, abandon_length]; exact hsim.len
  · intro r
    rw [hab, abandon_rows]; exact hsim.rows r
  · intro r t ht
    rw [hab, abandon_rows, ← hsim.rows] at ht
    exact hsim.typed r t ht

section Relational
variable (I : Interp E B G P A) (cfg : Config) (p : Program E B G P A) (hp : Relational p) (inp : RelId → List Tuple)

include hp

theorem runPreND_good (order : SccOrder) (s : St) (hs : WFSt' p s) (hinp : ∀ r, r < p.rels.length → (relSt s r).rows = inp r)
    {a' : SccSt} (h : Agg.RunPreND I cfg p order s a') : a'.rels.length = p.rels.length ∧ Good I p inp p.rels.length a' := by
  obtain ⟨done, scc, rest, stMid, -, hdone, hpre⟩ := h
  obtain ⟨s1, hpre⟩ := Agg.sccPreND_sccPreG hpre
  obtain ⟨hwf, hgood⟩ := sccsPreG_good (aggv := fun a => nAgg a.rel) hp.1 hp.2.1 hp.2.2 (Agg.passND_ok I cfg p hp.2.1) hs hinp
    (Agg.sccsND_sccsG I cfg p hdone) hpre
  exact ⟨hwf.len, hgood⟩

end Relational

/-- **`run_timeout` returned `false`** on an aggregation-free program: the value left is typed, holds only derivable rows, and
keeps the start rows as a prefix of every row vector (`GoodRows`) -/
theorem runTimeout_timedOut (I : Interp E B G P A) (hI : Plan.Ext I) (V : Hir.VarsOf E B) (hS : Plan.Supp I V)
    (p : Program E B G P A) (ix : IxSets) (order : SccOrder) (dl : Deadline) (s : PSt) (fuel : Nat) (o : ProgStT)
    (hp : Relational p) (hplan : planOk V p ix = true)
    (hd : ∀ r ∈ p.rules, Hir.Desugared V r = true ∧ Plan.WellScoped V r = true)
    (hs : WFPSt p s) (hrun : runTimeout I V p ix order dl fuel s = .timedOut o) :
    WFPSt p o.st ∧ ∀ r, r < p.rels.length → GoodRows I p (fun r => (prel s r).rows) r (prel o.st r).rows := by
  obtain ⟨hpa, hst, hR, hperm⟩ := Relational.toAgg hp (ruleFit_of_planOk V p ix hp hplan hd) I order
  obtain ⟨a', hpre, hlen, hrows, htyped⟩ := runTimeout_timedOutA I hI V hS p ix order dl s fuel o hpa hst hR hperm hs hrun
  obtain ⟨hlen', hgood⟩ := runPreND_good I {} p hp _ order (absSt s) (wfSt'_absSt p s hs) (fun r _ => relSt_absSt s r) hpre
  exact ⟨⟨hlen ▸ hlen', htyped⟩, fun r hr => hrows r ▸ hgood r hr⟩

/-- `t` extends `s`: every declared relation keeps its rows as a prefix and gains new, distinct ones (`ExtendsP` of
`Props/C13PhysAgg.lean`) -/
def PExt (p : Program E B G P A) (s t : PSt) : Prop :=
  ∀ r, r < p.rels.length → ∃ extra : List Tuple,
    (prel t r).rows = (prel s r).rows ++ extra ∧ extra.Nodup ∧ ∀ x ∈ extra, x ∉ (prel s r).rows

theorem PExt.abs {p : Program E B G P A} {s t : PSt} (h : PExt p s t) : Agg.ExtSt p (absSt s) (absSt t) := by
  intro r hr
  obtain ⟨extra, he, hn, hd⟩ := h r hr
  refine ⟨extra, ?_, hn, ?_⟩
  · rw [relSt_absSt, relSt_absSt]; exact he
  · intro x hx
    rw [relSt_absSt]; exact hd x hx

theorem PExt.refl (p : Program E B G P A) (s : PSt) : PExt p s s :=
  fun _ _ => ⟨[], by simp, List.nodup_nil, fun x hx => by simp at hx⟩

theorem PExt.facts {p : Program E B G P A} {s t : PSt} (h : PExt p s t) (hs : WFPSt p s) :
    ∀ f, factsOf s f → factsOf t f := by
  intro f hf
  obtain ⟨extra, he, _, _⟩ := h f.rel (hs.1 ▸ lt_of_mem_prel s f.rel f.args hf)
  show f.args ∈ (prel t f.rel).rows
  rw [he]; exact List.mem_append_left _ hf

theorem PExt.of_abs {p : Program E B G P A} {s o : PSt} {st' : St} (hr : ∀ r, (relSt st' r).rows = (prel o r).rows)
    (h : Agg.ExtSt p (absSt s) st') : PExt p s o := by
  intro r hr'
  obtain ⟨extra, he, hn, hdj⟩ := h r hr'
  rw [hr r, relSt_absSt] at he
  rw [relSt_absSt] at hdj
  exact ⟨extra, he, hn, hdj⟩

theorem sound_abs {t oM : PSt} {stM : St} (hrM : ∀ r, (relSt stM r).rows = (prel oM r).rows)
    (hsound : ∀ f, factsOf t f → factsOf oM f) : ∀ f, Engine.factsOf (absSt t) f → Engine.factsOf stM f := by
  intro f hf
  rw [factsOf_absSt] at hf
  show f.args ∈ (relSt stM f.rel).rows
  rw [hrM]
  exact hsound f hf

section Exec
variable {I : Interp E B G P A} {p : Program E B G P A} {ix : IxSets} {order : SccOrder}
  (hp : RelationalAgg p) (ho : validOrder p order = true) (hst : Stratified p order)
include hp ho hst

theorem Exec.wf_extends {s o : PSt} (h : Exec I p ix order s o) (hs : WFPSt p s) : WFPSt p o ∧ PExt p s o := by
  obtain ⟨st', hnd, hsim⟩ := h
  obtain ⟨hw, hext, _⟩ := Agg.runND_wf_extends I {} p order hp.1 hp.2 ho hst (absSt s) st' (wfSt'_absSt p s hs) hnd
  exact ⟨hsim.wfP hw.1, PExt.of_abs hsim.rows hext⟩

/-- **stratified restart**: an execution from a value between `s` and the value `oM` of a reference execution from `s` ends with
the facts of `oM` -/
theorem Exec.restart (hperm : Agg.PermInv I) {s t oM o : PSt} (hM : Exec I p ix order s oM)
    (h : Exec I p ix order t o) (hs : WFPSt p s) (ht : WFPSt p t) (hext : PExt p s t)
    (hsound : ∀ f, factsOf t f → factsOf oM f) : ∀ f, factsOf o f ↔ factsOf oM f := by
  obtain ⟨stM, hMnd, hsimM⟩ := hM
  obtain ⟨st', hnd, hsim⟩ := h
  rw [← hsim.facts, ← hsimM.facts]
  exact Agg.restartND_facts I {} p order hp.1 hp.2 ho hst hperm (absSt s) (absSt t) stM st' (wfSt'_absSt p s hs)
    (wfSt'_absSt p t ht) hMnd hext.abs (sound_abs hsimM.rows hsound) hnd

/-- **a prefix of an execution from a value between `s` and the value `oM` of a reference execution from `s`** leaves a typed
value that extends `s` and holds only facts of `oM` -/
theorem Exec.timeout_false (hperm : Agg.PermInv I) {s t oM o : PSt} (hM : Exec I p ix order s oM) (h : PreExec I p order t o)
    (hs : WFPSt p s) (ht : WFPSt p t) (hext : PExt p s t) (hsound : ∀ f, factsOf t f → factsOf oM f) :
    WFPSt p o ∧ PExt p s o ∧ (∀ f, factsOf o f → factsOf oM f) := by
  obtain ⟨stM, hMnd, hsimM⟩ := hM
  obtain ⟨a', hpre, hlen, hrows, htyped⟩ := h
  obtain ⟨h1, h2, h3⟩ := Agg.timeoutND_sound_from I {} p order hp.1 hp.2 ho hst hperm (absSt s) (absSt t) stM a'
    (wfSt'_absSt p s hs) (wfSt'_absSt p t ht) hMnd hext.abs (sound_abs hsimM.rows hsound) hpre
  refine ⟨⟨hlen ▸ h1, htyped⟩, PExt.of_abs hrows h2, fun f hf => ?_⟩
  rw [← hsimM.facts]
  exact h3 f (show f.args ∈ (relSt a'.rels f.rel).rows from hrows f.rel ▸ hf)

/-- **a second execution adds nothing**: from the value an execution left, another one leaves the same row vectors -/
theorem Exec.rerun (hperm : Agg.PermInv I) {s o₁ o₂ : PSt} (h₁ : Exec I p ix order s o₁) (h₂ : Exec I p ix order o₁ o₂)
    (hs : WFPSt p s) :
    (∀ r, r < p.rels.length → (prel o₂ r).rows = (prel o₁ r).rows) ∧ (∀ f, factsOf o₂ f ↔ factsOf o₁ f) := by
  obtain ⟨hw₁, hext₁⟩ := h₁.wf_extends hp ho hst hs
  have hfacts := Exec.restart hp ho hst hperm h₁ h₂ hs hw₁ hext₁ fun _ hf => hf
  exact ⟨fun r hr => Rows.eq_of_ext_of_subset ((h₂.wf_extends hp ho hst hw₁).2 r hr) fun t ht => (hfacts ⟨r, t⟩).mp ht,
    hfacts⟩

end Exec

end AscentVerif.Phys
