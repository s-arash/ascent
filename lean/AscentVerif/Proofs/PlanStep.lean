import AscentVerif.Proofs.PlanHir
import AscentVerif.Proofs.EnvSim
/-!
The ordinary clause step.  `clauseStep_eq`: from ANY environment whose domain is the grounded set `g`, for a clause whose
index columns are the expression arguments and the grounded variables, whose new variable arguments are pairwise distinct
and whose `pre_clause_vars` list has the members of `g`, the index look-up followed by the new-variable assignments is,
row by row, what `matchArgs` does on every row of the version.  Then the bindings that conditions add, as a block in front
of the environment (`condBlock`, `satConds_form`), and the domain after a clause (`domEq_clause`).  Last, for an `Ext`
interpretation `evalBody` maps `EnvEq` start environments to pointwise-`EnvEq` results (`evalBody_envEq`): the simple-join
code binds the variables of the first clause in another order than `matchArgs`, after which plan and filter semantics
go on from environments that are `EnvEq` and not equal.
-/
namespace AscentVerif.Plan
open AscentVerif AscentVerif.Engine AscentVerif.Hir

variable {E B G P A : Type}

def DomEq (ρ : Env) (g : List Var) : Prop := ∀ v, v ∈ keys ρ ↔ v ∈ g

def freshVars (g : List Var) (args : List (Arg E)) : List Var :=
  (args.filterMap argVar?).filter fun v => !g.contains v

/-- the check the index look-up performs, argument by argument -/
def keyOk (I : Interp E B G P A) (g : List Var) (ρ₀ : Env) : List (Arg E) → Tuple → Bool
  | a :: as, x :: xs => (!isIdx g a || x == argVal I ρ₀ a) && keyOk I g ρ₀ as xs
  | _, _ => true

theorem freshVars_cons_expr (g : List Var) (e : E) (as : List (Arg E)) :
    freshVars g (Arg.expr e :: as) = freshVars g as := rfl

theorem freshVars_cons_mem (g : List Var) (v : Var) (as : List (Arg E)) (hv : v ∈ g) :
    freshVars g (Arg.var v :: as) = freshVars g as := by
  show List.filter _ (v :: List.filterMap argVar? as) = _
  rw [List.filter_cons, List.contains_iff_mem.2 hv]; rfl

theorem freshVars_cons_not_mem (g : List Var) (v : Var) (as : List (Arg E)) (hv : v ∉ g) :
    freshVars g (Arg.var v :: as) = v :: freshVars g as := by
  show List.filter _ (v :: List.filterMap argVar? as) = _
  rw [List.filter_cons, contains_false_of_not_mem hv]; rfl

/-- `matchArgs`, `bindArgs`, `bl` and `keyOk` all walk a clause's arguments and a row in step: induction along that walk -/
theorem args_row_induction {motive : List (Arg E) → Tuple → Prop} (nil : motive [] [])
    (nil_cons : ∀ x xs, motive [] (x :: xs)) (cons_nil : ∀ a as, motive (a :: as) [])
    (var : ∀ v as x xs, motive as xs → motive (.var v :: as) (x :: xs))
    (expr : ∀ e as x xs, motive as xs → motive (.expr e :: as) (x :: xs)) : ∀ as xs, motive as xs := by
  intro as
  induction as with
  | nil => intro xs; cases xs with | nil => exact nil | cons x xs => exact nil_cons x xs
  | cons a as ih =>
    intro xs
    cases xs with
    | nil => exact cons_nil a as
    | cons x xs => cases a with | var v => exact var v as x xs (ih xs) | expr e => exact expr e as x xs (ih xs)

theorem length_ne_of_cons {α β : Type} {a : α} {as : List α} {x : β} {xs : List β}
    (h : (x :: xs).length ≠ (a :: as).length) : xs.length ≠ as.length := fun e => h (congrArg (· + 1) e)

theorem matchArgs_none (I : Interp E B G P A) (ρ₀ : Env) (as : List (Arg E)) (xs : Tuple) (acc : Env)
    (h : xs.length ≠ as.length) : matchArgs I ρ₀ as xs acc = none := by
  induction as, xs using args_row_induction generalizing acc with
  | nil => exact absurd rfl h
  | nil_cons => rfl
  | cons_nil a => cases a <;> rfl
  | var v as x xs ih =>
    simp only [matchArgs]
    cases Env.get? acc v with
    | some y =>
      dsimp only
      split
      · exact ih acc (length_ne_of_cons h)
      · rfl
    | none => exact ih _ (length_ne_of_cons h)
  | expr e as x xs ih =>
    simp only [matchArgs]
    split
    · exact ih acc (length_ne_of_cons h)
    · rfl

theorem bindArgs_none (skip : Nat → Var → Bool) (as : List (Arg E)) (xs : Tuple) (j : Nat) (acc : Env)
    (h : xs.length ≠ as.length) : bindArgs skip j as xs acc = none := by
  induction as, xs using args_row_induction generalizing j acc with
  | nil => exact absurd rfl h
  | nil_cons => rfl
  | cons_nil a => cases a <;> rfl
  | var _ as x xs ih | expr _ as x xs ih => exact ih (j + 1) _ (length_ne_of_cons h)

/-- `matchArgs` = the look-up's check, then the assignments of the new variables -/
theorem matchArgs_eq_bind (I : Interp E B G P A) (ρ₀ : Env) (g pre : List Var) (hdom : DomEq ρ₀ g)
    (hpre : ∀ v, v ∈ pre ↔ v ∈ g) (as : List (Arg E)) (xs : Tuple) (j : Nat) (bl : Env)
    (h1 : ∀ v ∈ keys bl, v ∉ g) (h2 : ∀ v ∈ keys bl, Arg.var v ∉ as) (h3 : (freshVars g as).Nodup) :
    matchArgs I ρ₀ as xs (bl ++ ρ₀) =
      if keyOk I g ρ₀ as xs then bindArgs (fun _ v => pre.contains v) j as xs (bl ++ ρ₀) else none := by
  induction as, xs using args_row_induction generalizing j bl with
  | nil | nil_cons => rfl
  | cons_nil a => cases a <;> rfl
  | var v as x xs ih =>
    have h2' : ∀ w ∈ keys bl, Arg.var w ∉ as := fun w hw hm => h2 w hw (List.mem_cons_of_mem _ hm)
    by_cases hv : v ∈ g
    · -- an index column: `matchArgs` finds `v` bound and compares, as the look-up did
      obtain ⟨y, hy⟩ := get?_of_key ((hdom v).2 hv)
      have hget : Env.get? (bl ++ ρ₀) v = some y := by
        rw [get?_append, (get?_eq_none_iff bl v).2 fun h => h1 v h hv, Option.none_or, hy]
      simp only [matchArgs, keyOk, bindArgs, hget, hy, isIdx, argVal, Option.getD_some,
        List.contains_iff_mem.2 ((hpre v).2 hv), List.contains_iff_mem.2 hv, if_true, Bool.not_true, Bool.false_or,
        ih (j + 1) bl h1 h2' (freshVars_cons_mem g v as hv ▸ h3)]
      by_cases hxy : x = y
      · simp only [hxy, if_true, beq_self_eq_true, Bool.true_and]
      · simp only [hxy, if_false, beq_false_of_ne hxy, Bool.false_and, Bool.false_eq_true]
    · -- a new variable: bound by both
      have hget : Env.get? (bl ++ ρ₀) v = none := by
        rw [get?_append, (get?_eq_none_iff bl v).2 fun h => h2 v h List.mem_cons_self, Option.none_or]
        exact (get?_eq_none_iff ρ₀ v).2 fun h => hv ((hdom v).1 h)
      rw [freshVars_cons_not_mem g v as hv, List.nodup_cons] at h3
      have hnot : Arg.var v ∉ as := fun hm => h3.1 (by
        simp only [freshVars, List.mem_filter, List.mem_filterMap]
        exact ⟨⟨_, hm, rfl⟩, by rw [contains_false_of_not_mem hv]; rfl⟩)
      simp only [matchArgs, keyOk, bindArgs, hget, isIdx, contains_false_of_not_mem hv,
        contains_false_of_not_mem fun h => hv ((hpre v).1 h), Bool.not_false, Bool.true_or, Bool.true_and,
        Bool.false_eq_true, if_false]
      exact ih (j + 1) ((v, x) :: bl) (fun w hw => (List.mem_cons.1 hw).elim (fun e => e ▸ hv) (h1 w))
        (fun w hw => (List.mem_cons.1 hw).elim (fun e => e ▸ hnot) (h2' w)) h3.2
  | expr e as x xs ih =>
    simp only [matchArgs, keyOk, bindArgs, isIdx, argVal, Bool.not_true, Bool.false_or,
      ih (j + 1) bl h1 (fun w hw hm => h2 w hw (List.mem_cons_of_mem _ hm)) h3]
    by_cases hxy : I.expr e ρ₀ = x
    · simp only [hxy, if_true, beq_self_eq_true, Bool.true_and]
    · simp only [hxy, if_false, beq_false_of_ne (Ne.symm hxy), Bool.false_and, Bool.false_eq_true]

theorem keyOk_iff (I : Interp E B G P A) (g : List Var) (ρ₀ : Env) (as : List (Arg E)) (xs : Tuple)
    (h : xs.length = as.length) :
    keyOk I g ρ₀ as xs = true ↔ ∀ j a, as[j]? = some a → isIdx g a = true → xs.getD j .unit = argVal I ρ₀ a := by
  induction as generalizing xs with
  | nil => exact iff_of_true rfl fun j a h => by rw [List.getElem?_nil] at h; cases h
  | cons a as ih =>
    cases xs with
    | nil => cases h
    | cons x xs =>
      rw [forall_nat_succ]
      simp only [keyOk, Bool.and_eq_true, ih xs (Nat.succ.inj h), List.getElem?_cons_zero, List.getElem?_cons_succ,
        Option.some.injEq, forall_eq', List.getD_cons_zero, List.getD_cons_succ]
      cases isIdx g a with
      | false => simp only [Bool.not_false, Bool.true_or, true_and, Bool.false_eq_true, false_implies]
      | true => simp only [Bool.not_true, Bool.false_or, beq_iff_eq, forall_const]

theorem proj_eq_key (I : Interp E B G P A) (g : List Var) (ρ₀ : Env) (as : List (Arg E)) (xs : Tuple) (cols : List Nat)
    (hcols : ∀ j, j ∈ cols ↔ ∃ a, as[j]? = some a ∧ isIdx g a = true) (hlen : xs.length = as.length) :
    (proj cols xs == keyOf I ρ₀ as cols) = keyOk I g ρ₀ as xs := by
  rw [Bool.eq_iff_iff, beq_iff_eq, keyOk_iff I g ρ₀ as xs hlen]
  unfold proj keyOf
  rw [List.map_inj_left]
  constructor
  · intro h j a ha hi
    have := h j ((hcols j).2 ⟨a, ha, hi⟩)
    rw [ha] at this
    exact this
  · intro h j hj
    obtain ⟨a, ha, hi⟩ := (hcols j).1 hj
    rw [ha]
    exact h j a ha hi

theorem clause_row_eq (I : Interp E B G P A) (ρ₀ : Env) (g pre : List Var) (hdom : DomEq ρ₀ g)
    (hpre : ∀ v, v ∈ pre ↔ v ∈ g) (as : List (Arg E)) (cols : List Nat)
    (hcols : ∀ j, j ∈ cols ↔ ∃ a, as[j]? = some a ∧ isIdx g a = true) (hnd : (freshVars g as).Nodup) (xs : Tuple) :
    (if proj cols xs == keyOf I ρ₀ as cols then bindArgs (fun _ v => pre.contains v) 0 as xs ρ₀ else none) =
      matchArgs I ρ₀ as xs ρ₀ := by
  by_cases hlen : xs.length = as.length
  · rw [proj_eq_key I g ρ₀ as xs cols hcols hlen]
    have := matchArgs_eq_bind I ρ₀ g pre hdom hpre as xs 0 [] (fun _ h => by cases h) (fun _ h => by cases h) hnd
    simpa using this.symm
  · rw [bindArgs_none _ as xs 0 ρ₀ hlen, matchArgs_none I ρ₀ as xs ρ₀ hlen, ite_self]

/-- the clause case of `evalBody`, with the rest of the body as a continuation -/
def semClause (I : Interp E B G P A) (rows : List Tuple) (bag : List Nat) (args : List (Arg E))
    (conds : List (Cond E B P)) (ρ : Env) (k : Env → List Env) : List Env :=
  bag.flatMap fun i =>
    match matchArgs I ρ args (rowAt rows i) ρ with
    | none => []
    | some ρ₁ =>
      match satConds I conds ρ₁ with
      | none => []
      | some ρ₂ => k ρ₂

theorem evalBody_clause (I : Interp E B G P A) (cfg : Config) (p : Program E B G P A) (s : SccSt) (r : RelId)
    (args : List (Arg E)) (conds : List (Cond E B P)) (rest : List (Item E B G P A)) (vs : List (Option Ver)) (ρ : Env) :
    evalBody I cfg p s (.clause r args conds :: rest) vs ρ =
      semClause I (relSt s.rels r).rows (clauseRows cfg p s r (vs.headD none)) args conds ρ
        fun ρ' => evalBody I cfg p s rest vs.tail ρ' := rfl

theorem clauseStep_eq (I : Interp E B G P A) (rows : List Tuple) (bag : List Nat) (ρ : Env) (g pre : List Var)
    (hdom : DomEq ρ g) (hpre : ∀ v, v ∈ pre ↔ v ∈ g) (args : List (Arg E)) (conds : List (Cond E B P)) (cols : List Nat)
    (hcols : ∀ j, j ∈ cols ↔ ∃ a, args[j]? = some a ∧ isIdx g a = true) (hnd : (freshVars g args).Nodup)
    (k : Env → List Env) :
    clauseStep I rows bag cols pre args conds ρ k = semClause I rows bag args conds ρ k := by
  unfold clauseStep semClause idxGet
  rw [filter_flatMap_eq]
  apply flatMap_congr
  intro i _
  rw [← clause_row_eq I ρ g pre hdom hpre args cols hcols hnd (rowAt rows i)]
  split <;> rfl

theorem matchArgs_keys (I : Interp E B G P A) (ρ₀ : Env) (as : List (Arg E)) (xs : Tuple) (acc ρ' : Env)
    (h : matchArgs I ρ₀ as xs acc = some ρ') (v : Var) : v ∈ keys ρ' ↔ v ∈ keys acc ∨ v ∈ as.filterMap argVar? := by
  induction as, xs using args_row_induction generalizing acc with
  | nil => cases h; simp only [List.filterMap_nil, List.not_mem_nil, or_false]
  | nil_cons => cases h
  | cons_nil a => cases a <;> cases h
  | var w as x xs ih =>
    simp only [matchArgs] at h
    simp only [List.filterMap_cons, argVar?, List.mem_cons]
    cases hg : Env.get? acc w with
    | some y =>
      rw [hg] at h
      dsimp only at h
      split at h
      · have hw : w ∈ keys acc := (get?_isSome_iff acc w).1 (by rw [hg]; rfl)
        rw [ih acc h]
        exact ⟨fun h => h.elim .inl (.inr ∘ .inr), fun h => h.elim .inl fun h => h.elim (fun e => .inl (e ▸ hw)) .inr⟩
      · cases h
    | none =>
      rw [hg] at h
      rw [ih _ h, keys, List.map_cons, List.mem_cons, or_assoc, or_left_comm]
      rfl
  | expr e as x xs ih =>
    simp only [matchArgs] at h
    split at h
    · exact ih acc h
    · cases h

/-- the block of bindings a condition puts in front of the environment (`satCond_eq`) -/
def cblock (I : Interp E B G P A) : Cond E B P → Env → Option Env
  | .ifc b, ρ => if I.test b ρ then some [] else none
  | .letc v e, ρ => some [(v, I.expr e ρ)]
  | .ifLet p vs e, ρ => (I.pat p (I.expr e ρ)).bind fun xs => if xs.length = vs.length then some (vs.zip xs) else none

def condBlock (I : Interp E B G P A) : List (Cond E B P) → Env → Option Env
  | [], _ => some []
  | c :: cs, ρ => (cblock I c ρ).bind fun b => (condBlock I cs (b ++ ρ)).map (· ++ b)

theorem satCond_eq (I : Interp E B G P A) (c : Cond E B P) (ρ : Env) : satCond I c ρ = (cblock I c ρ).map (· ++ ρ) := by
  cases c with
  | ifc b =>
    simp only [satCond, cblock]
    by_cases h : I.test b ρ = true
    · rw [if_pos h, if_pos h]; rfl
    · rw [if_neg h, if_neg h]; rfl
  | letc v e => rfl
  | ifLet pt vs e =>
    simp only [satCond, cblock]
    cases I.pat pt (I.expr e ρ) with
    | none => rfl
    | some xs =>
      simp only [Option.bind_some]
      by_cases h : xs.length = vs.length
      · rw [if_pos h, if_pos h]; rfl
      · rw [if_neg h, if_neg h]; rfl

theorem satConds_eq (I : Interp E B G P A) :
    ∀ (cs : List (Cond E B P)) (ρ : Env), satConds I cs ρ = (condBlock I cs ρ).map (· ++ ρ) := by
  intro cs
  induction cs with
  | nil => exact fun _ => rfl
  | cons c cs ih =>
    intro ρ
    simp only [satConds, condBlock, satCond_eq]
    cases cblock I c ρ with
    | none => rfl
    | some b =>
      simp only [Option.map_some, Option.bind_some]
      rw [ih (b ++ ρ)]
      cases condBlock I cs (b ++ ρ) with
      | none => rfl
      | some x => simp

theorem cblock_keys (I : Interp E B G P A) (c : Cond E B P) (ρ b : Env) (h : cblock I c ρ = some b) :
    keys b = Cond.boundVars c := by
  cases c with
  | ifc t =>
    simp only [cblock] at h
    by_cases ht : I.test t ρ = true
    · rw [if_pos ht] at h; cases h; rfl
    · rw [if_neg ht] at h; cases h
  | letc v e => simp only [cblock, Option.some.injEq] at h; subst h; rfl
  | ifLet pt vs e =>
    simp only [cblock] at h
    cases hp : I.pat pt (I.expr e ρ) with
    | none => rw [hp] at h; cases h
    | some xs =>
      rw [hp] at h
      simp only [Option.bind_some] at h
      by_cases hl : xs.length = vs.length
      · rw [if_pos hl] at h; cases h; exact keys_zip vs xs hl
      · rw [if_neg hl] at h; cases h

theorem condBlock_keys (I : Interp E B G P A) :
    ∀ (cs : List (Cond E B P)) (ρ C : Env), condBlock I cs ρ = some C → ∀ v, v ∈ keys C ↔ v ∈ cs.flatMap Cond.boundVars := by
  intro cs
  induction cs with
  | nil => intro _ C h; simp only [condBlock, Option.some.injEq] at h; subst h; simp [keys]
  | cons c cs ih =>
    intro ρ C h
    simp only [condBlock] at h
    cases hb : cblock I c ρ with
    | none => rw [hb] at h; cases h
    | some b =>
      rw [hb] at h
      simp only [Option.bind_some] at h
      cases hx : condBlock I cs (b ++ ρ) with
      | none => rw [hx] at h; cases h
      | some x =>
        rw [hx] at h
        simp only [Option.map_some, Option.some.injEq] at h
        subst h
        intro v
        rw [keys_append, List.mem_append, ih _ x hx v, cblock_keys I c ρ b hb]
        simp only [List.flatMap_cons, List.mem_append]
        exact Or.comm

theorem satCond_form (I : Interp E B G P A) (c : Cond E B P) (ρ ρ' : Env) (h : satCond I c ρ = some ρ') :
    ∃ bl, ρ' = bl ++ ρ ∧ keys bl = Cond.boundVars c := by
  rw [satCond_eq] at h
  obtain ⟨b, hb, rfl⟩ := Option.map_eq_some_iff.1 h
  exact ⟨b, rfl, cblock_keys I c ρ b hb⟩

theorem satConds_form (I : Interp E B G P A) (cs : List (Cond E B P)) (ρ ρ' : Env) (h : satConds I cs ρ = some ρ') :
    ∃ bl, ρ' = bl ++ ρ ∧ ∀ v, v ∈ keys bl ↔ v ∈ cs.flatMap Cond.boundVars := by
  rw [satConds_eq] at h
  obtain ⟨C, hC, rfl⟩ := Option.map_eq_some_iff.1 h
  exact ⟨C, rfl, condBlock_keys I cs ρ C hC⟩

theorem satConds_keys (I : Interp E B G P A) (cs : List (Cond E B P)) (ρ ρ' : Env) (h : satConds I cs ρ = some ρ') :
    ∀ v, v ∈ keys ρ' ↔ v ∈ keys ρ ∨ v ∈ cs.flatMap Cond.boundVars := by
  obtain ⟨bl, e, k⟩ := satConds_form I cs ρ ρ' h
  intro v
  rw [e, keys_append, List.mem_append, k v]
  exact Or.comm

theorem aggEnvs_keys (I : Interp E B G P A) (a : AggClause E A) (ρ : Env) (tuples : List Tuple) (ρ' : Env)
    (h : ρ' ∈ aggEnvs I a ρ tuples) : ∀ v, v ∈ keys ρ' ↔ v ∈ keys ρ ∨ v ∈ a.outs := by
  simp only [aggEnvs, List.mem_filterMap] at h
  obtain ⟨out, _, ho⟩ := h
  by_cases hl : out.length = a.outs.length
  · rw [if_pos hl] at ho
    cases ho
    intro v
    rw [keys_append, List.mem_append, keys_zip _ _ hl]
    exact Or.comm
  · rw [if_neg hl] at ho; cases ho

theorem domEq_clause (I : Interp E B G P A) {ρ ρ₁ ρ₂ : Env} {g g' : List Var} {row : Tuple}
    {args : List (Arg E)} {conds : List (Cond E B P)} (hdom : DomEq ρ g)
    (hg' : ∀ v, v ∈ g' ↔ v ∈ g ∨ v ∈ args.filterMap argVar? ∨ v ∈ conds.flatMap Cond.boundVars)
    (hm : matchArgs I ρ args row ρ = some ρ₁) (hc : satConds I conds ρ₁ = some ρ₂) : DomEq ρ₂ g' := by
  intro v
  rw [satConds_keys I conds ρ₁ ρ₂ hc v, matchArgs_keys I ρ args row ρ ρ₁ hm v, hg' v, hdom v, or_assoc]

theorem semClause_congr {R : List Env → List Env → Prop} (hR : LoopCongr R) (I : Interp E B G P A) (rows : List Tuple)
    (bag : List Nat) (args : List (Arg E)) (conds : List (Cond E B P)) (ρ : Env) (k k' : Env → List Env)
    (hk : ∀ row ρ₁ ρ₂, matchArgs I ρ args row ρ = some ρ₁ → satConds I conds ρ₁ = some ρ₂ → R (k ρ₂) (k' ρ₂)) :
    R (semClause I rows bag args conds ρ k) (semClause I rows bag args conds ρ k') := by
  apply hR.flatMap
  intro i _
  cases hm : matchArgs I ρ args (rowAt rows i) ρ with
  | none => exact hR.nil
  | some ρ₁ =>
    dsimp only
    cases hc : satConds I conds ρ₁ with
    | none => exact hR.nil
    | some ρ₂ => exact hk _ ρ₁ ρ₂ hm hc

/-- the interpreted functions see an environment only through look-up -/
structure Ext (I : Interp E B G P A) : Prop where
  expr : ∀ e ρ ρ', EnvEq ρ ρ' → I.expr e ρ = I.expr e ρ'
  test : ∀ b ρ ρ', EnvEq ρ ρ' → I.test b ρ = I.test b ρ'
  gen : ∀ g ρ ρ', EnvEq ρ ρ' → I.gen g ρ = I.gen g ρ'

/-- what conditions see of an interpretation (a `Supp` interpretation has it too, with no assumption on generators) -/
structure ExtC (I : Interp E B G P A) : Prop where
  expr : ∀ e ρ ρ', EnvEq ρ ρ' → I.expr e ρ = I.expr e ρ'
  test : ∀ b ρ ρ', EnvEq ρ ρ' → I.test b ρ = I.test b ρ'

theorem Ext.c {I : Interp E B G P A} (h : Ext I) : ExtC I := ⟨h.expr, h.test⟩

def OptEnvEq : Option Env → Option Env → Prop
  | none, none => True
  | some a, some b => EnvEq a b
  | _, _ => False

theorem OptEnvEq.refl : ∀ o : Option Env, OptEnvEq o o
  | none => trivial
  | some a => EnvEq.refl a

theorem OptEnvEq.trans : ∀ {a b c : Option Env}, OptEnvEq a b → OptEnvEq b c → OptEnvEq a c
  | none, none, _, _, h' => h'
  | some _, some _, some _, h, h' => EnvEq.trans h h'

theorem OptEnvEq.bind {o o' : Option Env} {f f' : Env → Option Env} (h : OptEnvEq o o')
    (hf : ∀ a b, o = some a → o' = some b → EnvEq a b → OptEnvEq (f a) (f' b)) : OptEnvEq (o.bind f) (o'.bind f') := by
  cases o with
  | none => cases o' with
    | none => trivial
    | some b => exact h.elim
  | some a => cases o' with
    | none => exact h.elim
    | some b => exact hf a b rfl rfl h

def optK (k : Env → List Env) : Option Env → List Env
  | none => []
  | some ρ => k ρ

theorem OptEnvEq.optK {R : List Env → List Env → Prop} (hR : LoopCongr R) {o o' : Option Env} {k k' : Env → List Env}
    (h : OptEnvEq o o') (hk : ∀ a b, o = some a → o' = some b → EnvEq a b → R (k a) (k' b)) :
    R (optK k o) (optK k' o') := by
  cases o with
  | none => cases o' with
    | none => exact hR.nil
    | some b => exact h.elim
  | some a => cases o' with
    | none => exact h.elim
    | some b => exact hk a b rfl rfl h

theorem optEnvEq_iff {o o' : Option Env} : OptEnvEq o o' ↔ Surface.OptRel EnvEq o o' := by
  cases o <;> cases o' <;> exact Iff.rfl

/-- `EnvEq` as an instance of the relations of Proofs/EnvSim.lean: nothing is renamed -/
theorem envSim_envEq : EnvSim id id (fun _ => True) EnvEq :=
  ⟨fun h _ => by rw [Option.map_id]; exact (h _).symm, fun h _ x => h.cons _ x⟩

theorem ExtC.interpSim {I : Interp E B G P A} (hI : ExtC I) :
    InterpSim id (fun _ => True) EnvEq I I id id (fun _ => []) (fun _ => []) :=
  ⟨fun h _ => (hI.expr _ _ _ h).symm, fun h _ => (hI.test _ _ _ h).symm,
   pat_map_id I⟩

theorem matchArgs_envEq (I : Interp E B G P A) (hI : Ext I) {ρ₀ ρ₀' : Env} (h0 : EnvEq ρ₀ ρ₀') (as : List (Arg E))
    (xs : Tuple) (acc acc' : Env) (h : EnvEq acc acc') :
    OptEnvEq (matchArgs I ρ₀ as xs acc) (matchArgs I ρ₀' as xs acc') := by
  have := matchArgs_sim (s := id) (fun _ _ e => e) envSim_envEq hI.c.interpSim h0 as (fun _ _ => trivial) xs h
  rw [Arg.ren_id, List.map_id, List.map_id] at this
  exact optEnvEq_iff.2 this

theorem satCond_envEq (I : Interp E B G P A) (hI : ExtC I) (c : Cond E B P) {ρ ρ' : Env} (h : EnvEq ρ ρ') :
    OptEnvEq (satCond I c ρ) (satCond I c ρ') := by
  have := satCond_sim envSim_envEq hI.interpSim h c fun _ _ => trivial
  rw [Cond.ren_id] at this
  exact optEnvEq_iff.2 this

theorem satConds_envEq (I : Interp E B G P A) (hI : ExtC I) (cs : List (Cond E B P)) {ρ ρ' : Env} (h : EnvEq ρ ρ') :
    OptEnvEq (satConds I cs ρ) (satConds I cs ρ') := by
  have := satConds_sim envSim_envEq hI.interpSim cs (fun _ _ => trivial) h
  rw [Cond.ren_id, List.map_id] at this
  exact optEnvEq_iff.2 this

theorem bindArgs_envEq (skip : Nat → Var → Bool) (as : List (Arg E)) (xs : Tuple) (j : Nat) (acc acc' : Env)
    (h : EnvEq acc acc') : OptEnvEq (bindArgs skip j as xs acc) (bindArgs skip j as xs acc') := by
  induction as, xs using args_row_induction generalizing j acc acc' with
  | nil => exact h
  | nil_cons => trivial
  | cons_nil a => cases a <;> trivial
  | var v as x xs ih =>
    apply ih (j + 1)
    cases skip j v with
    | true => exact h
    | false => exact h.cons v x
  | expr e as x xs ih => exact ih (j + 1) _ _ h

theorem aggEnvs_envEq (I : Interp E B G P A) (hI : Ext I) (a : AggClause E A) {ρ ρ' : Env} (h : EnvEq ρ ρ')
    (tuples : List Tuple) : EnvsEq (aggEnvs I a ρ tuples) (aggEnvs I a ρ' tuples) := by
  have hb := aggBag_sim envSim_envEq hI.c.interpSim h (EnvEq.refl []) a (fun _ _ => trivial) (fun _ _ => trivial)
    (fun _ _ => trivial) tuples
  rw [AggClause.ren_id] at hb
  unfold aggEnvs
  rw [← hb]
  generalize I.agg a.fn (aggBag I a ρ' tuples) = outs
  induction outs with
  | nil => exact .nil
  | cons out outs ih =>
    simp only [List.filterMap_cons]
    by_cases hl : out.length = a.outs.length
    · rw [if_pos hl, if_pos hl]; exact .cons (EnvEq.append_left _ h) ih
    · rw [if_neg hl, if_neg hl]; exact ih

theorem evalBody_envEq (I : Interp E B G P A) (hI : Ext I) (cfg : Config) (p : Program E B G P A) (s : SccSt)
    (body : List (Item E B G P A)) (vs : List (Option Ver)) {ρ ρ' : Env} (h : EnvEq ρ ρ') :
    EnvsEq (evalBody I cfg p s body vs ρ) (evalBody I cfg p s body vs ρ') := by
  induction body generalizing vs ρ ρ' with
  | nil => exact .cons h .nil
  | cons it rest ih =>
    cases it with
    | clause r args conds =>
      rw [evalBody_clause, evalBody_clause]
      refine EnvsEq.flatMap _ fun i _ => ?_
      exact (matchArgs_envEq I hI h args _ ρ ρ' h).optK .envsEq fun _ _ _ _ hab =>
        (satConds_envEq I hI.c conds hab).optK .envsEq fun _ _ _ _ hcd => ih vs.tail hcd
    | cond c =>
      exact (satCond_envEq I hI.c c h).optK .envsEq fun _ _ _ _ hab => ih vs.tail hab
    | gen v g =>
      simp only [evalBody]
      rw [← hI.gen g ρ ρ' h]
      exact EnvsEq.flatMap _ fun x _ => ih vs.tail (h.cons v x)
    | agg a =>
      simp only [evalBody]
      have := aggEnvs_envEq I hI a h (aggTuples cfg p s a)
      generalize aggEnvs I a ρ (aggTuples cfg p s a) = l1 at this
      generalize aggEnvs I a ρ' (aggTuples cfg p s a) = l2 at this
      induction this with
      | nil => exact .nil
      | cons hab _ ih' =>
        simp only [List.flatMap_cons]
        exact (ih vs.tail hab).append ih'

end AscentVerif.Plan
