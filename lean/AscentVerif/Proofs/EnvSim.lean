import AscentVerif.Spec.Datalog
/-!
# Body evaluation respects a relation on environments

`EnvSim τ s S R`: the relation `R` on environments survives a new binding and lets the second environment look up `τ v` where
the first looks up `v`, the value seen through `s`, for the variables of `S`; `InterpSim`: the interpreted functions respect `R`.
Under the two, ONE traversal of the syntax (`matchArgs_sim` … `step_sim`, `sim_sat`) shows that the body with its variables
renamed by `τ`, over the database mapped by `s`, takes `R`-related environments to `R`-related environments, in both directions
(`Sim`; `OptRel` for partial functions; a body is the chain of the `Step`s of its items).  Instances: renaming the variables
(injectively on a set: `RenOn`, at the end of the file; Props/C06.lean, Proofs/C08Sem.lean), mapping the constants (`mapEnv`,
Props/C06.lean), passing to an environment with the same look-ups (`Plan.EnvEq`, Proofs/PlanStep.lean).  `Sim` / `OptRel`, with
which the file starts, are also what the desugaring passes are compared by (Proofs/DesugarPWNBase.lean); then come the look-ups
in an environment built from blocks of bindings (`get?_append`, `Plan.keys`).
-/
namespace AscentVerif.Surface
open AscentVerif

def OptRel (R : Env → Env → Prop) : Option Env → Option Env → Prop
  | some a, some b => R a b
  | none, none => True
  | _, _ => False

@[simp] theorem optRel_some_some (R : Env → Env → Prop) (a b : Env) : OptRel R (some a) (some b) ↔ R a b := Iff.rfl
@[simp] theorem optRel_none_none (R : Env → Env → Prop) : OptRel R none none ↔ True := Iff.rfl
@[simp] theorem optRel_some_none (R : Env → Env → Prop) (a : Env) : OptRel R (some a) none ↔ False := Iff.rfl
@[simp] theorem optRel_none_some (R : Env → Env → Prop) (b : Env) : OptRel R none (some b) ↔ False := Iff.rfl

theorem OptRel.mono {R S : Env → Env → Prop} (h : ∀ a b, R a b → S a b) {x y : Option Env} (hx : OptRel R x y) :
    OptRel S x y := by
  cases x <;> cases y <;> simp_all

theorem OptRel.bind {R S : Env → Env → Prop} {x y : Option Env} {f g : Env → Option Env} (hx : OptRel R x y)
    (h : ∀ a b, R a b → OptRel S (f a) (g b)) : OptRel S (x.bind f) (y.bind g) := by
  cases x <;> cases y <;> simp_all

theorem OptRel.ite {R : Env → Env → Prop} {c c' : Prop} [Decidable c] [Decidable c'] (hc : c ↔ c') {x y : Option Env}
    (h : OptRel R x y) : OptRel R (if c then x else none) (if c' then y else none) := by
  by_cases h1 : c
  · rw [if_pos h1, if_pos (hc.mp h1)]
    exact h
  · rw [if_neg h1, if_neg (mt hc.mpr h1)]
    trivial

theorem optRel_iff {R : Env → Env → Prop} {x y : Option Env} :
    OptRel R x y ↔ (∀ a, x = some a → ∃ b, y = some b ∧ R a b) ∧ (∀ b, y = some b → ∃ a, x = some a ∧ R a b) := by
  cases x <;> cases y <;> simp

theorem OptRel.trans_left {Q R : Env → Env → Prop} {x y z : Option Env} (h₁ : OptRel Q x y) (h₂ : OptRel R y z)
    (habs : ∀ a b c, Q a b → R b c → R a c) : OptRel R x z := by
  cases x with
  | none => cases y with
    | none => exact h₂
    | some b => exact h₁.elim
  | some a => cases y with
    | none => exact h₁.elim
    | some b => cases z with
      | none => exact h₂.elim
      | some c => exact habs a b c h₁ h₂

/-- from `P`-related environments, every transition of `R'` is matched by one of `R` and vice versa, ending in `Q`-related ones -/
def Sim (P Q R' R : Env → Env → Prop) : Prop :=
  ∀ ρ σ, P ρ σ → (∀ ρ₁, R' ρ ρ₁ → ∃ σ₁, R σ σ₁ ∧ Q ρ₁ σ₁) ∧ (∀ σ₁, R σ σ₁ → ∃ ρ₁, R' ρ ρ₁ ∧ Q ρ₁ σ₁)

theorem Sim.mono {P P' Q Q' R' R : Env → Env → Prop} (h : Sim P Q R' R) (hP : ∀ ρ σ, P' ρ σ → P ρ σ)
    (hQ : ∀ ρ σ, Q ρ σ → Q' ρ σ) : Sim P' Q' R' R := fun ρ σ hp =>
  ⟨fun ρ₁ h₁ => ((h ρ σ (hP ρ σ hp)).1 ρ₁ h₁).imp fun σ₁ => And.imp_right (hQ ρ₁ σ₁),
   fun σ₁ h₁ => ((h ρ σ (hP ρ σ hp)).2 σ₁ h₁).imp fun ρ₁ => And.imp_right (hQ ρ₁ σ₁)⟩

theorem Sim.congr {P Q R' R S' S : Env → Env → Prop} (h : Sim P Q R' R) (h' : ∀ ρ ρ₁, S' ρ ρ₁ ↔ R' ρ ρ₁)
    (h₀ : ∀ σ σ₁, S σ σ₁ ↔ R σ σ₁) : Sim P Q S' S := by
  simp only [Sim, h', h₀]
  exact h

theorem Sim.comp {P Q T R' R S' S : Env → Env → Prop} (h₁ : Sim P Q R' R) (h₂ : Sim Q T S' S) :
    Sim P T (fun ρ ρ' => ∃ ρ₁, R' ρ ρ₁ ∧ S' ρ₁ ρ') (fun σ σ' => ∃ σ₁, R σ σ₁ ∧ S σ₁ σ') := by
  intro ρ σ hr
  constructor
  · rintro ρ' ⟨ρ₁, hst, hrest⟩
    obtain ⟨σ₁, hst', hr₁⟩ := (h₁ ρ σ hr).1 ρ₁ hst
    obtain ⟨σ', hrest', hr'⟩ := (h₂ ρ₁ σ₁ hr₁).1 ρ' hrest
    exact ⟨σ', ⟨σ₁, hst', hrest'⟩, hr'⟩
  · rintro σ' ⟨σ₁, hst, hrest⟩
    obtain ⟨ρ₁, hst', hr₁⟩ := (h₁ ρ σ hr).2 σ₁ hst
    obtain ⟨ρ', hrest', hr'⟩ := (h₂ ρ₁ σ₁ hr₁).2 σ' hrest
    exact ⟨ρ', ⟨ρ₁, hst', hrest'⟩, hr'⟩

theorem Sim.trans {P₁ Q₁ P₂ Q₂ R₁ R₂ R₃ : Env → Env → Prop} (h₁ : Sim P₁ Q₁ R₁ R₂) (h₂ : Sim P₂ Q₂ R₂ R₃) :
    Sim (fun ρ σ => ∃ τ, P₁ ρ τ ∧ P₂ τ σ) (fun ρ σ => ∃ τ, Q₁ ρ τ ∧ Q₂ τ σ) R₁ R₃ := by
  rintro ρ σ ⟨τ, hp₁, hp₂⟩
  constructor
  · intro ρ₁ hR
    obtain ⟨τ₁, hR', hq₁⟩ := (h₁ ρ τ hp₁).1 ρ₁ hR
    obtain ⟨σ₁, hR'', hq₂⟩ := (h₂ τ σ hp₂).1 τ₁ hR'
    exact ⟨σ₁, hR'', τ₁, hq₁, hq₂⟩
  · intro σ₁ hR
    obtain ⟨τ₁, hR', hq₂⟩ := (h₂ τ σ hp₂).2 σ₁ hR
    obtain ⟨ρ₁, hR'', hq₁⟩ := (h₁ ρ τ hp₁).2 τ₁ hR'
    exact ⟨ρ₁, hR'', τ₁, hq₁, hq₂⟩

theorem sim_fun_iff {P Q : Env → Env → Prop} {F H : Env → Option Env} :
    Sim P Q (F · = some ·) (H · = some ·) ↔ ∀ ρ σ, P ρ σ → OptRel Q (F ρ) (H σ) := by
  simp only [Sim, optRel_iff]

theorem sim_tuples {P Q : Env → Env → Prop} {F H : Tuple → Env → Option Env} (T : Tuple → Prop)
    (h : ∀ t ρ σ, P ρ σ → OptRel Q (F t ρ) (H t σ)) :
    Sim P Q (fun ρ ρ' => ∃ t, T t ∧ F t ρ = some ρ') (fun σ σ' => ∃ t, T t ∧ H t σ = some σ') := by
  intro ρ σ hr
  constructor
  · rintro ρ₁ ⟨t, hd, he⟩
    obtain ⟨σ₁, hσ, hr₁⟩ := (optRel_iff.1 (h t ρ σ hr)).1 ρ₁ he
    exact ⟨σ₁, ⟨t, hd, hσ⟩, hr₁⟩
  · rintro σ₁ ⟨t, hd, he⟩
    obtain ⟨ρ₁, hρ, hr₁⟩ := (optRel_iff.1 (h t ρ σ hr)).2 σ₁ he
    exact ⟨ρ₁, ⟨t, hd, hρ⟩, hr₁⟩

end AscentVerif.Surface

namespace AscentVerif.Engine
open AscentVerif AscentVerif.Surface

variable {E B G P A : Type}

/-! ## look-ups in an environment built from blocks of bindings -/

theorem get?_cons (w : Var) (x : Val) (ρ : Env) (v : Var) :
    Env.get? ((w, x) :: ρ) v = if w = v then some x else Env.get? ρ v := rfl

theorem get?_append (n ρ : Env) (v : Var) : Env.get? (n ++ ρ) v = (Env.get? n v).or (Env.get? ρ v) := by
  induction n with
  | nil => simp [Env.get?]
  | cons p n ih =>
    obtain ⟨w, x⟩ := p
    simp only [List.cons_append, get?_cons]
    split
    · simp
    · exact ih

end AscentVerif.Engine

namespace AscentVerif.Plan
open AscentVerif AscentVerif.Engine

def keys (ρ : Env) : List Var := ρ.map (·.1)

theorem keys_append (a b : Env) : keys (a ++ b) = keys a ++ keys b := by simp [keys]

theorem keys_zip (vs : List Var) (xs : List Val) (h : xs.length = vs.length) : keys (vs.zip xs) = vs := by
  unfold keys
  rw [List.map_fst_zip]
  omega

theorem get?_eq_none_iff (ρ : Env) (v : Var) : Env.get? ρ v = none ↔ v ∉ keys ρ := by
  induction ρ with
  | nil => simp [keys, Env.get?]
  | cons wx ρ ih =>
    obtain ⟨w, x⟩ := wx
    simp only [get?_cons, keys, List.map_cons, List.mem_cons, not_or]
    by_cases h : w = v
    · simp [h]
    · rw [if_neg h, ih]
      exact ⟨fun h2 => ⟨fun e => h e.symm, h2⟩, And.right⟩

theorem get?_isSome_iff (ρ : Env) (v : Var) : (Env.get? ρ v).isSome ↔ v ∈ keys ρ := by
  rw [Option.isSome_iff_ne_none, Ne, get?_eq_none_iff, Decidable.not_not]

end AscentVerif.Plan

namespace AscentVerif.Engine
open AscentVerif AscentVerif.Surface

variable {E B G P A : Type}

theorem get?_none_of_keys {n : Env} {v : Var} (h : ∀ p ∈ n, p.1 ≠ v) : Env.get? n v = none :=
  (Plan.get?_eq_none_iff n v).2 fun hv => let ⟨p, hp, e⟩ := List.mem_map.1 hv; h p hp e

theorem get?_zip_ne_none {vs : List Var} {xs : List Val} (hl : xs.length = vs.length) {v : Var} (hv : v ∈ vs) :
    Env.get? (vs.zip xs) v ≠ none := fun h =>
  (Plan.get?_eq_none_iff _ v).1 h ((Plan.keys_zip vs xs hl).symm ▸ hv)

theorem get?_append_ne_none {ρ : Env} {v : Var} (h : Env.get? ρ v ≠ none) (n : Env) : Env.get? (n ++ ρ) v ≠ none := by
  rw [get?_append]
  exact fun hn => h (Option.or_eq_none_iff.mp hn).2

theorem get?_append_left_ne_none {n : Env} {v : Var} (h : Env.get? n v ≠ none) (ρ : Env) : Env.get? (n ++ ρ) v ≠ none := by
  rw [get?_append]
  exact fun hn => h (Option.or_eq_none_iff.mp hn).1

theorem get?_append_comm {n m : Env} (h : ∀ p ∈ n, ∀ q ∈ m, p.1 ≠ q.1) (ρ : Env) (v : Var) :
    Env.get? (n ++ (m ++ ρ)) v = Env.get? (m ++ (n ++ ρ)) v := by
  simp only [get?_append]
  cases hn : Env.get? n v with
  | none => simp
  | some x =>
    -- `v` is a key of `n`, so none of `m`
    obtain ⟨p, hp, hpv⟩ := List.mem_map.1 ((Plan.get?_isSome_iff n v).1 (hn ▸ rfl))
    have : Env.get? m v = none := get?_none_of_keys fun q hq he => h p hp q hq (hpv.trans he.symm)
    simp [this]

/-- what one body item does to the environment: `Sat` is the chain of these (`sat_cons_iff`) -/
def Step (I : Interp E B G P A) (D : DB) (agg : RelId → List Tuple) : Item E B G P A → Env → Env → Prop
  | .clause r args conds, ρ, ρ' => ∃ t ρ₁, D ⟨r, t⟩ ∧ matchArgs I ρ args t ρ = some ρ₁ ∧ satConds I conds ρ₁ = some ρ'
  | .cond c, ρ, ρ' => satCond I c ρ = some ρ'
  | .gen v g, ρ, ρ' => ∃ x, x ∈ I.gen g ρ ∧ ρ' = (v, x) :: ρ
  | .agg a, ρ, ρ' => ρ' ∈ aggEnvs I a ρ (agg a.rel)

section Chain
variable {I : Interp E B G P A} {D : DB} {agg : RelId → List Tuple}

theorem sat_cons_iff {a : Item E B G P A} {rest : List (Item E B G P A)} {ρ ρ₂ : Env} :
    Sat I D agg (a :: rest) ρ ρ₂ ↔ ∃ ρ₁, Step I D agg a ρ ρ₁ ∧ Sat I D agg rest ρ₁ ρ₂ := by
  constructor
  · intro h
    cases h with
    | clause t hd hm hc hr => exact ⟨_, ⟨t, _, hd, hm, hc⟩, hr⟩
    | cond hc hr => exact ⟨_, hc, hr⟩
    | gen x hx hr => exact ⟨_, ⟨x, hx, rfl⟩, hr⟩
    | aggr ha hr => exact ⟨_, ha, hr⟩
  · rintro ⟨ρ₁, hst, hr⟩
    cases a with
    | clause r args conds =>
      obtain ⟨t, ρa, hd, hm, hc⟩ := hst
      exact .clause t hd hm hc hr
    | cond c => exact .cond hst hr
    | gen v g =>
      obtain ⟨x, hx, rfl⟩ := hst
      exact .gen x hx hr
    | agg a => exact .aggr hst hr

theorem sat_nil_iff {ρ ρ' : Env} : Sat I D agg [] ρ ρ' ↔ ρ' = ρ :=
  ⟨fun h => by cases h; rfl, fun h => by subst h; exact .nil _⟩

theorem sat_append_iff (pre items : List (Item E B G P A)) {ρ ρ' : Env} :
    Sat I D agg (pre ++ items) ρ ρ' ↔ ∃ ρ₁, Sat I D agg pre ρ ρ₁ ∧ Sat I D agg items ρ₁ ρ' := by
  induction pre generalizing ρ with
  | nil => simp [sat_nil_iff]
  | cons a pre ih =>
    simp only [List.cons_append, sat_cons_iff, ih]
    constructor
    · rintro ⟨ρa, hst, ρ₁, h1, h2⟩
      exact ⟨ρ₁, ⟨ρa, hst, h1⟩, h2⟩
    · rintro ⟨ρ₁, ⟨ρa, hst, h1⟩, h2⟩
      exact ⟨ρa, hst, ρ₁, h1, h2⟩

theorem Cons.mono {rules : List (Rule E B G P A)} {D' : DB} (h : ∀ f, D f → D' f) {f : Fact} :
    Cons I rules agg D f → Cons I rules agg D' f
  | ⟨r, hr, ρ, hs, hh⟩ => ⟨r, hr, ρ, Sat.mono h hs, hh⟩

end Chain

/-- what `matchArgs` does with one argument (`matchArgs_cons`); `matchAggArg` below is the same for `matchAggArgs` -/
def matchArg (I : Interp E B G P A) (ρ₀ : Env) : Arg E → Val → Env → Option Env
  | .var v, x, ρ =>
      match ρ.get? v with
      | some y => if x = y then some ρ else none
      | none => some ((v, x) :: ρ)
  | .expr e, x, ρ => if I.expr e ρ₀ = x then some ρ else none

theorem matchArgs_cons (I : Interp E B G P A) (ρ₀ : Env) (a : Arg E) (as : List (Arg E)) (x : Val) (xs : Tuple) (ρ : Env) :
    matchArgs I ρ₀ (a :: as) (x :: xs) ρ = (matchArg I ρ₀ a x ρ).bind (matchArgs I ρ₀ as xs) := by
  cases a with
  | var v =>
    simp only [matchArgs, matchArg]
    cases ρ.get? v with
    | none => rfl
    | some y => simp only; split <;> rfl
  | expr e => simp only [matchArgs, matchArg]; split <;> rfl

theorem matchArgs_cons_nil (I : Interp E B G P A) (ρ₀ : Env) (a : Arg E) (as : List (Arg E)) (ρ : Env) :
    matchArgs I ρ₀ (a :: as) [] ρ = none := by
  cases a <;> rfl

def matchAggArg (I : Interp E B G P A) (ρ : Env) : AggArg E → Val → Env → Option Env
  | .wild, _, acc => some acc
  | .bound v, x, acc => matchArg I ρ (.var v) x acc
  | .key e, x, acc => matchArg I ρ (.expr e) x acc

theorem matchAggArgs_cons (I : Interp E B G P A) (ρ : Env) (a : AggArg E) (as : List (AggArg E)) (x : Val) (xs : Tuple)
    (acc : Env) : matchAggArgs I ρ (a :: as) (x :: xs) acc = (matchAggArg I ρ a x acc).bind (matchAggArgs I ρ as xs) := by
  cases a with
  | wild => rfl
  | bound v =>
    simp only [matchAggArgs, matchAggArg, matchArg]
    cases acc.get? v with
    | none => rfl
    | some y => simp only; split <;> rfl
  | key e => simp only [matchAggArgs, matchAggArg, matchArg]; split <;> rfl

theorem matchAggArgs_cons_nil (I : Interp E B G P A) (ρ : Env) (a : AggArg E) (as : List (AggArg E)) (acc : Env) :
    matchAggArgs I ρ (a :: as) [] acc = none := by
  cases a <;> rfl

/-! ## renaming the variables of the syntax -/

def renEnv (τ : Var → Var) (ρ : Env) : Env := ρ.map fun vx => (τ vx.1, vx.2)

def Arg.ren (τ : Var → Var) (rE : E → E) : Arg E → Arg E
  | .var v => .var (τ v)
  | .expr e => .expr (rE e)
def Cond.ren (τ : Var → Var) (rE : E → E) (rB : B → B) : Cond E B P → Cond E B P
  | .ifc b => .ifc (rB b)
  | .letc v e => .letc (τ v) (rE e)
  | .ifLet p vs e => .ifLet p (vs.map τ) (rE e)
def AggArg.ren (τ : Var → Var) (rE : E → E) : AggArg E → AggArg E
  | .wild => .wild
  | .bound v => .bound (τ v)
  | .key e => .key (rE e)
def AggClause.ren (τ : Var → Var) (rE : E → E) (a : AggClause E A) : AggClause E A :=
  { outs := a.outs.map τ, fn := a.fn, boundArgs := a.boundArgs.map τ, rel := a.rel, args := a.args.map (AggArg.ren τ rE) }
def Item.ren (τ : Var → Var) (rE : E → E) (rB : B → B) (rG : G → G) : Item E B G P A → Item E B G P A
  | .clause r args conds => .clause r (args.map (Arg.ren τ rE)) (conds.map (Cond.ren τ rE rB))
  | .cond c => .cond (Cond.ren τ rE rB c)
  | .gen v g => .gen (τ v) (rG g)
  | .agg a => .agg (AggClause.ren τ rE a)
def Rule.ren (τ : Var → Var) (rE : E → E) (rB : B → B) (rG : G → G) (r : Rule E B G P A) : Rule E B G P A :=
  { heads := r.heads.map fun h => { h with args := h.args.map rE }, body := r.body.map (Item.ren τ rE rB rG) }

def Arg.vars (varsE : E → List Var) : Arg E → List Var
  | .var v => [v]
  | .expr e => varsE e
def Arg.bvars : Arg E → List Var
  | .var v => [v]
  | .expr _ => []
def Cond.vars (varsE : E → List Var) (varsB : B → List Var) : Cond E B P → List Var
  | .ifc b => varsB b
  | .letc v e => v :: varsE e
  | .ifLet _ vs e => vs ++ varsE e
def Cond.binds : Cond E B P → List Var
  | .ifc _ => []
  | .letc v _ => [v]
  | .ifLet _ vs _ => vs
def AggArg.keyVars (varsE : E → List Var) : AggArg E → List Var
  | .key e => varsE e
  | _ => []

/-- every variable of the enclosing rule scope the item mentions (reads, tests or binds). The bound arguments of an
aggregation are local to it and do not count. -/
def Item.mentions (varsE : E → List Var) (varsB : B → List Var) (varsG : G → List Var) : Item E B G P A → List Var
  | .clause _ args conds => args.flatMap (Arg.vars varsE) ++ conds.flatMap (Cond.vars varsE varsB)
  | .cond c => Cond.vars varsE varsB c
  | .gen v g => v :: varsG g
  | .agg a => a.outs ++ a.args.flatMap (AggArg.keyVars varsE)

/-- the variables the item may bind, given that the variables `bound` are known to be bound before it: a variable
argument of a clause binds only when it is not bound yet (otherwise it is an equality test); `let`, `if let`, `for`
and aggregation results always bind -/
def Item.binds (bound : List Var) : Item E B G P A → List Var
  | .clause _ args conds => (args.flatMap Arg.bvars).filter (fun v => decide (v ∉ bound)) ++ conds.flatMap Cond.binds
  | .cond c => Cond.binds c
  | .gen v _ => [v]
  | .agg a => a.outs

theorem Arg.ren_id : Arg.ren (E := E) id id = id := funext fun a => by cases a <;> rfl
theorem Cond.ren_id : Cond.ren (E := E) (B := B) (P := P) id id id = id :=
  funext fun c => by cases c <;> simp only [Cond.ren, List.map_id, id]
theorem AggArg.ren_id : AggArg.ren (E := E) id id = id := funext fun a => by cases a <;> rfl
theorem AggClause.ren_id (a : AggClause E A) : AggClause.ren id id a = a := by
  simp only [AggClause.ren, AggArg.ren_id, List.map_id]
theorem Item.ren_id : Item.ren (E := E) (B := B) (G := G) (P := P) (A := A) id id id id = id :=
  funext fun a => by cases a <;> simp only [Item.ren, AggClause.ren_id, Arg.ren_id, Cond.ren_id, List.map_id, id]

/-! ## the relation on environments and what it asks of the interpretation -/

structure EnvSim (τ : Var → Var) (s : Val → Val) (S : Var → Prop) (R : Env → Env → Prop) : Prop where
  get : ∀ {ρ σ v}, R ρ σ → S v → Env.get? σ (τ v) = (Env.get? ρ v).map s
  cons : ∀ {ρ σ v}, R ρ σ → S v → ∀ x, R ((v, x) :: ρ) ((τ v, s x) :: σ)

theorem EnvSim.zip {τ : Var → Var} {s : Val → Val} {S : Var → Prop} {R : Env → Env → Prop} (h : EnvSim τ s S R) {ρ σ : Env}
    (hR : R ρ σ) {vs : List Var} (hv : ∀ v ∈ vs, S v) (xs : List Val) :
    R (vs.zip xs ++ ρ) ((vs.map τ).zip (xs.map s) ++ σ) := by
  induction vs generalizing xs with
  | nil => exact hR
  | cons v vs ih =>
    cases xs with
    | nil => exact hR
    | cons x xs => exact h.cons (ih (fun w hw => hv w (List.mem_cons_of_mem v hw)) xs) (hv v List.mem_cons_self) x

/-- expressions and tests whose variables lie in `S` respect `R` (after `rE`, `rB` on the syntax) -/
structure InterpSim (s : Val → Val) (S : Var → Prop) (R : Env → Env → Prop) (I I' : Interp E B G P A) (rE : E → E) (rB : B → B)
    (varsE : E → List Var) (varsB : B → List Var) : Prop where
  expr : ∀ {ρ σ e}, R ρ σ → (∀ v ∈ varsE e, S v) → I'.expr (rE e) σ = s (I.expr e ρ)
  test : ∀ {ρ σ b}, R ρ σ → (∀ v ∈ varsB b, S v) → I'.test (rB b) σ = I.test b ρ
  pat : ∀ q x, I'.pat q (s x) = (I.pat q x).map (List.map s)

/-- `InterpSim.pat` for `s = id` -/
theorem pat_map_id (I : Interp E B G P A) (q : P) (x : Val) : I.pat q (id x) = (I.pat q x).map (List.map id) := by
  show I.pat q x = _
  cases I.pat q x <;> simp

section Sim
variable {τ : Var → Var} {s : Val → Val} {S : Var → Prop} {R : Env → Env → Prop} {I I' : Interp E B G P A}
  {rE : E → E} {rB : B → B} {varsE : E → List Var} {varsB : B → List Var}
  (hs : Function.Injective s) (hE : EnvSim τ s S R) (hI : InterpSim s S R I I' rE rB varsE varsB)
include hs hE hI

theorem matchArg_sim {ρ₀ σ₀ ρ σ : Env} (h₀ : R ρ₀ σ₀) (hR : R ρ σ) (a : Arg E) (hv : ∀ v ∈ Arg.vars varsE a, S v) (x : Val) :
    OptRel R (matchArg I ρ₀ a x ρ) (matchArg I' σ₀ (Arg.ren τ rE a) (s x) σ) := by
  cases a with
  | var v =>
    have hSv : S v := hv v (List.mem_singleton_self v)
    simp only [Arg.ren, matchArg, hE.get hR hSv]
    cases ρ.get? v with
    | none => exact hE.cons hR hSv x
    | some y => exact .ite ⟨congrArg s, fun h => hs h⟩ hR
  | expr e =>
    simp only [Arg.ren, matchArg, hI.expr h₀ hv]
    exact .ite ⟨congrArg s, fun h => hs h⟩ hR

theorem matchArgs_sim {ρ₀ σ₀ : Env} (h₀ : R ρ₀ σ₀) (args : List (Arg E)) (hv : ∀ v ∈ args.flatMap (Arg.vars varsE), S v)
    (t : Tuple) {ρ σ : Env} (hR : R ρ σ) :
    OptRel R (matchArgs I ρ₀ args t ρ) (matchArgs I' σ₀ (args.map (Arg.ren τ rE)) (t.map s) σ) := by
  induction args generalizing t ρ σ with
  | nil =>
    cases t with
    | nil => exact hR
    | cons x xs => trivial
  | cons a as ih =>
    cases t with
    | nil =>
      rw [List.map_cons, matchArgs_cons_nil, List.map_nil, matchArgs_cons_nil]
      trivial
    | cons x xs =>
      rw [List.flatMap_cons] at hv
      rw [List.map_cons, List.map_cons, matchArgs_cons, matchArgs_cons]
      exact (matchArg_sim hs hE hI h₀ hR a (fun v h => hv v (List.mem_append_left _ h)) x).bind fun _ _ h =>
        ih (fun v h => hv v (List.mem_append_right _ h)) xs h

omit hs in
theorem satCond_sim {ρ σ : Env} (hR : R ρ σ) (c : Cond E B P) (hv : ∀ v ∈ Cond.vars varsE varsB c, S v) :
    OptRel R (satCond I c ρ) (satCond I' (Cond.ren τ rE rB c) σ) := by
  cases c with
  | ifc b =>
    simp only [Cond.ren, satCond, hI.test hR hv]
    exact .ite Iff.rfl hR
  | letc v e =>
    simp only [Cond.ren, satCond, hI.expr hR fun w hw => hv w (List.mem_cons_of_mem v hw)]
    exact hE.cons hR (hv v List.mem_cons_self) _
  | ifLet p vs e =>
    simp only [Cond.ren, satCond, hI.expr hR fun w hw => hv w (List.mem_append_right vs hw), hI.pat]
    cases I.pat p (I.expr e ρ) with
    | none => trivial
    | some xs =>
      simp only [Option.map_some, Option.bind_some, List.length_map]
      exact .ite Iff.rfl (hE.zip hR (fun w hw => hv w (List.mem_append_left _ hw)) xs)

omit hs in
theorem satConds_sim (cs : List (Cond E B P)) (hv : ∀ v ∈ cs.flatMap (Cond.vars varsE varsB), S v) {ρ σ : Env} (hR : R ρ σ) :
    OptRel R (satConds I cs ρ) (satConds I' (cs.map (Cond.ren τ rE rB)) σ) := by
  induction cs generalizing ρ σ with
  | nil => exact hR
  | cons c cs ih =>
    rw [List.flatMap_cons] at hv
    exact (satCond_sim hE hI hR c fun v h => hv v (List.mem_append_left _ h)).bind fun _ _ h =>
      ih (fun v h => hv v (List.mem_append_right _ h)) h

end Sim

/-! ## aggregations (`s = id`: nothing relates `I.agg` on a mapped bag to `I.agg` on the bag) -/

section Agg
variable {τ : Var → Var} {S : Var → Prop} {R : Env → Env → Prop} {I : Interp E B G P A}
  {rE : E → E} {rB : B → B} {varsE : E → List Var} {varsB : B → List Var}
  (hE : EnvSim τ id S R) (hI : InterpSim id S R I I rE rB varsE varsB)
include hE hI

/-- `ρ`, `σ` are the environments of the rule (the keys are evaluated in them), `acc`, `acc'` collect the bound arguments -/
theorem matchAggArgs_sim {ρ σ : Env} (hR : R ρ σ) (args : List (AggArg E)) (hb : ∀ v, AggArg.bound v ∈ args → S v)
    (hk : ∀ v ∈ args.flatMap (AggArg.keyVars varsE), S v) (t : Tuple) {acc acc' : Env} (ha : R acc acc') :
    OptRel R (matchAggArgs I ρ args t acc) (matchAggArgs I σ (args.map (AggArg.ren τ rE)) t acc') := by
  induction args generalizing t acc acc' with
  | nil =>
    cases t with
    | nil => exact ha
    | cons x xs => trivial
  | cons a as ih =>
    cases t with
    | nil =>
      rw [List.map_cons, matchAggArgs_cons_nil, matchAggArgs_cons_nil]
      trivial
    | cons x xs =>
      rw [List.flatMap_cons] at hk
      have h1 : OptRel R (matchAggArg I ρ a x acc) (matchAggArg I σ (AggArg.ren τ rE a) x acc') := by
        cases a with
        | wild => exact ha
        | bound v =>
          exact matchArg_sim (fun _ _ h => h) hE hI hR ha (.var v)
            (fun w hw => List.mem_singleton.mp hw ▸ hb v List.mem_cons_self) x
        | key e => exact matchArg_sim (fun _ _ h => h) hE hI hR ha (.expr e) (fun w hw => hk w (List.mem_append_left _ hw)) x
      rw [List.map_cons, matchAggArgs_cons, matchAggArgs_cons]
      exact h1.bind fun _ _ h => ih (fun v hv => hb v (List.mem_cons_of_mem _ hv))
        (fun v hv => hk v (List.mem_append_right _ hv)) xs h

theorem aggBag_sim {ρ σ : Env} (hR : R ρ σ) (hnil : R [] []) (a : AggClause E A) (hb : ∀ v, AggArg.bound v ∈ a.args → S v)
    (hbs : ∀ v ∈ a.boundArgs, S v) (hk : ∀ v ∈ a.args.flatMap (AggArg.keyVars varsE), S v) (tuples : List Tuple) :
    aggBag I (AggClause.ren τ rE a) σ tuples = aggBag I a ρ tuples := by
  unfold aggBag
  congr 1
  funext t
  have h := matchAggArgs_sim hE hI hR a.args hb hk t hnil
  simp only [AggClause.ren]
  generalize matchAggArgs I ρ a.args t [] = x at h ⊢
  generalize matchAggArgs I σ (a.args.map (AggArg.ren τ rE)) t [] = y at h ⊢
  -- both fail, or both succeed with related `acc`, `acc'`, which hold the same values at the bound arguments
  match x, y, h with
  | none, none, _ => rfl
  | none, some _, h => exact h.elim
  | some _, none, h => exact h.elim
  | some acc, some acc', h =>
    simp only [Option.map_some, List.map_map]
    congr 1
    apply List.map_congr_left
    intro v hv
    simp only [Function.comp]
    rw [hE.get h (hbs v hv), Option.map_id]
    rfl

theorem aggEnvs_sim (hnil : R [] []) (a : AggClause E A) (hb : ∀ v, AggArg.bound v ∈ a.args → S v)
    (hbs : ∀ v ∈ a.boundArgs, S v) (hk : ∀ v ∈ a.args.flatMap (AggArg.keyVars varsE), S v) (ho : ∀ v ∈ a.outs, S v)
    (tuples : List Tuple) :
    Sim R R (fun ρ ρ₁ => ρ₁ ∈ aggEnvs I a ρ tuples) fun σ σ₁ => σ₁ ∈ aggEnvs I (AggClause.ren τ rE a) σ tuples := by
  intro ρ σ hR
  have hz : ∀ out : List Val, R (a.outs.zip out ++ ρ) ((a.outs.map τ).zip out ++ σ) := fun out => by
    have := hE.zip hR ho out
    rwa [List.map_id] at this
  simp only [aggEnvs, List.mem_filterMap]
  rw [aggBag_sim hE hI hR hnil a hb hbs hk tuples]
  simp only [AggClause.ren, List.length_map]
  constructor
  · rintro ρ₁ ⟨out, hm, h⟩
    split at h
    · next hl =>
      cases h
      exact ⟨_, ⟨out, hm, if_pos hl⟩, hz out⟩
    · cases h
  · rintro σ₁ ⟨out, hm, h⟩
    split at h
    · next hl =>
      cases h
      exact ⟨_, ⟨out, hm, if_pos hl⟩, hz out⟩
    · cases h

end Agg

/-! ## whole items and bodies -/

section Step
variable {τ : Var → Var} {s : Val → Val} {S : Var → Prop} {R : Env → Env → Prop} {I I' : Interp E B G P A}
  {rE : E → E} {rB : B → B} {rG : G → G} {varsE : E → List Var} {varsB : B → List Var} {varsG : G → List Var}
  {D D' : DB} {agg agg' : RelId → List Tuple}

/-- what a generator and an aggregation do is asked of the caller (`hG`, `ha`): `InterpSim` says nothing of `gen`, and
`aggEnvs_sim` is for `s = id` only -/
theorem step_sim (hs : Function.Injective s) (hE : EnvSim τ s S R) (hI : InterpSim s S R I I' rE rB varsE varsB)
    (hD : ∀ r t', D' ⟨r, t'⟩ ↔ ∃ t, D ⟨r, t⟩ ∧ t' = t.map s)
    (hG : ∀ {ρ σ : Env} (g : G), R ρ σ → (∀ v ∈ varsG g, S v) → I'.gen (rG g) σ = (I.gen g ρ).map s)
    (a : Item E B G P A) (hv : ∀ v ∈ Item.mentions varsE varsB varsG a, S v)
    (ha : ∀ c, a = .agg c → Sim R R (fun ρ ρ₁ => ρ₁ ∈ aggEnvs I c ρ (agg c.rel))
      fun σ σ₁ => σ₁ ∈ aggEnvs I' (AggClause.ren τ rE c) σ (agg' c.rel)) :
    Sim R R (Step I D agg a) (Step I' D' agg' (Item.ren τ rE rB rG a)) := by
  cases a with
  | clause r args conds =>
    have hva := fun v h => hv v (List.mem_append_left _ h)
    have hvc := fun v h => hv v (List.mem_append_right _ h)
    intro ρ σ hR
    constructor
    · rintro ρ₂ ⟨t, ρ₁, hd, hm, hc⟩
      obtain ⟨σ₁, hm', hR₁⟩ := (optRel_iff.1 (matchArgs_sim hs hE hI hR args hva t hR)).1 ρ₁ hm
      obtain ⟨σ₂, hc', hR₂⟩ := (optRel_iff.1 (satConds_sim hE hI conds hvc hR₁)).1 ρ₂ hc
      exact ⟨σ₂, ⟨t.map s, σ₁, (hD r _).mpr ⟨t, hd, rfl⟩, hm', hc'⟩, hR₂⟩
    · rintro σ₂ ⟨t', σ₁, hd, hm, hc⟩
      obtain ⟨t, hd₀, rfl⟩ := (hD r t').mp hd
      obtain ⟨ρ₁, hm', hR₁⟩ := (optRel_iff.1 (matchArgs_sim hs hE hI hR args hva t hR)).2 σ₁ hm
      obtain ⟨ρ₂, hc', hR₂⟩ := (optRel_iff.1 (satConds_sim hE hI conds hvc hR₁)).2 σ₂ hc
      exact ⟨ρ₂, ⟨t, ρ₁, hd₀, hm', hc'⟩, hR₂⟩
  | cond c => exact sim_fun_iff.2 fun ρ σ hR => satCond_sim hE hI hR c hv
  | gen v g =>
    have hg := fun w hw => hv w (List.mem_cons_of_mem v hw)
    have hSv : S v := hv v List.mem_cons_self
    intro ρ σ hR
    constructor
    · rintro _ ⟨x, hx, rfl⟩
      exact ⟨_, ⟨s x, by rw [hG g hR hg]; exact List.mem_map_of_mem hx, rfl⟩, hE.cons hR hSv x⟩
    · rintro _ ⟨x', hx', rfl⟩
      rw [hG g hR hg] at hx'
      obtain ⟨x, hx, rfl⟩ := List.mem_map.mp hx'
      exact ⟨_, ⟨x, hx, rfl⟩, hE.cons hR hSv x⟩
  | agg a => exact ha a rfl

theorem sim_sat (F : Item E B G P A → Item E B G P A) {l : List (Item E B G P A)}
    (h : ∀ a ∈ l, Sim R R (Step I D agg a) (Step I' D' agg' (F a))) :
    Sim R R (Sat I D agg l) (Sat I' D' agg' (l.map F)) := by
  induction l with
  | nil =>
    intro ρ σ hR
    constructor
    · intro ρ₁ hs
      exact ⟨σ, .nil σ, sat_nil_iff.mp hs ▸ hR⟩
    · intro σ₁ hs
      exact ⟨ρ, .nil ρ, sat_nil_iff.mp hs ▸ hR⟩
  | cons a rest ih =>
    exact ((h a List.mem_cons_self).comp (ih fun b hb => h b (List.mem_cons_of_mem a hb))).congr
      (fun _ _ => sat_cons_iff) fun _ _ => sat_cons_iff

end Step

end AscentVerif.Engine

namespace AscentVerif.Surface.Sem
open AscentVerif AscentVerif.Engine

/-! ## renaming the variables injectively on a set -/

def InjOn (τ : Var → Var) (S : Var → Prop) : Prop := ∀ v w, S v → S w → τ v = τ w → v = w

def Keys (S : Var → Prop) (ρ : Env) : Prop := ∀ p ∈ ρ, S p.1

theorem InjOn.mono {τ : Var → Var} {S S' : Var → Prop} (h : InjOn τ S) (hs : ∀ v, S' v → S v) : InjOn τ S' :=
  fun v w hv hw e => h v w (hs v hv) (hs w hw) e

theorem InjOn.of_injective {τ : Var → Var} (h : Function.Injective τ) (S : Var → Prop) : InjOn τ S :=
  fun _ _ _ _ e => h e

theorem Keys.nil (S : Var → Prop) : Keys S [] := fun _ h => nomatch h

theorem Keys.cons {S : Var → Prop} {ρ : Env} {v : Var} {x : Val} (hv : S v) (h : Keys S ρ) : Keys S ((v, x) :: ρ) := by
  intro p hp
  rcases List.mem_cons.1 hp with rfl | hp
  · exact hv
  · exact h p hp

theorem get?_renEnv_on {τ : Var → Var} {S : Var → Prop} (hτ : InjOn τ S) {ρ : Env} (hk : Keys S ρ) {v : Var} (hv : S v) :
    Env.get? (renEnv τ ρ) (τ v) = ρ.get? v := by
  induction ρ with
  | nil => rfl
  | cons p ρ ih =>
    obtain ⟨w, x⟩ := p
    have hw : S w := hk (w, x) List.mem_cons_self
    have hk' : Keys S ρ := fun p hp => hk p (List.mem_cons_of_mem _ hp)
    show Env.get? ((τ w, x) :: renEnv τ ρ) (τ v) = _
    simp only [Env.get?]
    by_cases hwv : w = v
    · simp [hwv]
    · have : τ w ≠ τ v := fun h => hwv (hτ w v hw hv h)
      simp only [hwv, this, if_false]
      exact ih hk'

/-- `σ` is `ρ` renamed; the keys of `ρ` lie in `S`, where `τ` is injective, so that looking `τ v` up in `σ` cannot hit the
image of another key (`get?_renEnv_on`) -/
def RenOn (τ : Var → Var) (S : Var → Prop) (ρ σ : Env) : Prop := σ = renEnv τ ρ ∧ Keys S ρ

theorem envSim_renOn {τ : Var → Var} {S : Var → Prop} (hτ : InjOn τ S) : EnvSim τ id S (RenOn τ S) :=
  ⟨fun h hv => by rw [h.1, get?_renEnv_on hτ h.2 hv, Option.map_id]; rfl, fun h hv _ => ⟨h.1 ▸ rfl, h.2.cons hv⟩⟩

end AscentVerif.Surface.Sem
