import AscentVerif.Proofs.PhysParLatSim
import AscentVerif.Proofs.PhysParLatScc
import AscentVerif.Proofs.PhysLatRun
import AscentVerif.Proofs.PhysParRun
/-!
# The parallel engine with lattices: one iteration is a pass of the nondeterministic lattice engine

A phase evaluates the bodies of its rules over the frozen indices (`phaseTasks`) and then applies the head updates in schedule
order (`applyTasks`): every task is one micro-step of a `TraceL` whose body rows are read in the abstract state at the start of
the phase (`PIT`: the trace so far, its newest state simulating the parallel state).  `iteration_simP`: under the invariant `PIS`
an iteration never panics and is a `PassNDL`, in both rule-scheduling modes.  `PassCtx`: the standing hypotheses of a pass.
-/
namespace AscentVerif.PhysParLat
open AscentVerif AscentVerif.Engine AscentVerif.Index AscentVerif.Phys AscentVerif.PhysLat AscentVerif.PhysPar

variable {E B G P A : Type}

theorem frozenAt_map (idxs : List (List Nat × Tri LCx)) (f : Tri LCx → LCx) (cols : List Nat)
    (h : ∀ ci ∈ idxs, (f ci.2).isFrozen = true) : frozenAt (idxs.map fun ci => (ci.1, f ci.2)) cols = true := by
  unfold frozenAt
  rw [lookupL_map]
  cases hf : idxs.find? (·.1 == cols) with
  | none => rfl
  | some c => exact h c (List.mem_of_find?_eq_some hf)

theorem viewFrozenP_ok {p : Program E B G P A} {ix : IxSets} {N : Nat} {bo : List RelId} {a : SccSt} {s : PLScc}
    (h : PIS p ix N bo true a s) (r : RelId) (v : Option Ver) (cols : List Nat)
    (hP : isLatRel p r = false → findPCDyn s.pc.dyn r = none → bo.contains r = true ∧ r < p.rels.length)
    (hL : isLatRel p r = true → findLDyn s.ldyn r = none → bo.contains r = true) :
    viewFrozen p s r v cols = true := by
  obtain ⟨_, hpl, hpfl, hlfl⟩ := h
  unfold viewFrozen
  cases hl : isLatRel p r with
  | false =>
    simp only [Bool.not_false, if_true]
    exact PhysPar.viewFrozen_ok hpfl r v (fun hn => ⟨(hP hl hn).1, by rw [hpl.len]; exact (hP hl hn).2⟩)
  | true =>
    simp only [Bool.not_true, Bool.false_eq_true, if_false]
    cases hd : findLDyn s.ldyn r with
    | none =>
      simp only []
      have hr : r < s.lrels.length := by rw [hpl.llen]; exact lat_lt p hl
      have := hlfl.rels r hr hl
      rw [hL hl hd] at this
      unfold frozenAt lookupL
      cases hf : (lrel s.lrels r).idxs.find? (·.1 == cols) with
      | none => rfl
      | some c => exact (this c (List.mem_of_find?_eq_some hf)).frozen
    | some d =>
      simp only []
      have hfl := (hlfl.dyn d (findLDyn_mem hd)).1
      have hT : frozenAt (d.idxs.map fun ci => (ci.1, ci.2.total)) cols = true :=
        frozenAt_map d.idxs (·.total) cols (fun ci hci => (hfl ci hci).total.frozen)
      have hD : frozenAt (d.idxs.map fun ci => (ci.1, ci.2.delta)) cols = true :=
        frozenAt_map d.idxs (·.delta) cols (fun ci hci => (hfl ci hci).delta.frozen)
      cases v with
      | none => exact hT
      | some v =>
        cases v with
        | total => exact hT
        | delta => exact hD
        | totalDelta =>
          show (frozenAt _ cols && frozenAt _ cols) = true
          rw [hT, hD]; rfl

theorem lenV_plain_eq (p : Program E B G P A) (s : PLScc) (hpl : PLWf p s) (r : RelId) (hl : isLatRel p r = false)
    (v : Option Ver) (cols : List Nat) :
    PhysLat.lenV false (arityOf p r) (PhysLat.viewOf (s.erase p) r v) cols =
      Phys.lenV (arityOf p r) (Phys.viewOf s.pc.erase r v) cols := by
  have hpr : prel s.pc.erase.rels r = (pcrel s.pc.rels r).erase := prel_erase s.pc.rels r
  -- a relation whose indices are all plain (`.vals`) is measured as in `Phys`
  have key : ∀ (full : FIx) (idxs : List (List Nat × PCx)) (rows : List Tuple),
      PhysLat.len1 false (arityOf p r) ⟨rows, full, idxs.map fun ci => (ci.1, XIx.vals ci.2.erase)⟩ cols =
        Phys.len1 (arityOf p r) full (idxs.map fun ci => (ci.1, ci.2.erase)) cols := by
    intro full idxs rows
    have := (plain_reads (arityOf p r) ⟨rows, full, idxs.map fun ci => (ci.1, XIx.vals ci.2.erase)⟩ (by
      intro ci hci
      obtain ⟨c, _, rfl⟩ := List.mem_map.mp hci
      exact ⟨_, rfl⟩) cols).2.2
    rw [this]
    simp only [List.map_map]
    rfl
  -- the same for one version of a dynamic relation, picked by `sel` / `sel'` / `selc` in the three representations
  have key3 : ∀ (idxs : List (List Nat × Tri PCx)) (sel : Tri XIx → XIx) (sel' : Tri PIx → PIx) (selc : Tri PCx → PCx)
      (h1 : ∀ t : Tri PCx, sel ⟨.vals t.total.erase, .vals t.delta.erase, .vals t.new.erase⟩ = .vals (selc t).erase)
      (h2 : ∀ t : Tri PCx, sel' (eraseTri t) = (selc t).erase) (full : FIx) (rows : List Tuple),
      PhysLat.len1 false (arityOf p r)
        ⟨rows, full, (idxs.map fun ci => (ci.1, (⟨.vals ci.2.total.erase, .vals ci.2.delta.erase, .vals ci.2.new.erase⟩ : Tri XIx))).map
          fun ci => (ci.1, sel ci.2)⟩ cols =
      Phys.len1 (arityOf p r) full ((idxs.map fun ci => (ci.1, eraseTri ci.2)).map fun ci => (ci.1, sel' ci.2)) cols := by
    intro idxs sel sel' selc h1 h2 full rows
    have e1 : ((idxs.map fun ci => (ci.1, (⟨.vals ci.2.total.erase, .vals ci.2.delta.erase, .vals ci.2.new.erase⟩ : Tri XIx))).map
        fun ci => (ci.1, sel ci.2)) = (idxs.map fun ci => (ci.1, selc ci.2)).map fun ci => (ci.1, XIx.vals ci.2.erase) := by
      simp only [List.map_map]
      apply List.map_congr_left
      intro ci _
      simp [h1]
    have e2 : ((idxs.map fun ci => (ci.1, eraseTri ci.2)).map fun ci => (ci.1, sel' ci.2)) =
        (idxs.map fun ci => (ci.1, selc ci.2)).map fun ci => (ci.1, ci.2.erase) := by
      simp only [List.map_map]
      apply List.map_congr_left
      intro ci _
      simp [h2]
    rw [e1, e2]
    exact key full _ rows
  unfold PhysLat.viewOf Phys.viewOf
  rw [findXDyn_erase_plain p s hpl.ldyn r hl, findPDyn_eraseScc]
  cases hd : findPCDyn s.pc.dyn r with
  | none =>
    simp only [Option.map_none]
    rw [xrel_erase p s hpl.len r, hpr, eraseRel_plain p _ _ r hl]
    exact key _ _ _
  | some cd =>
    simp only [Option.map_some]
    have hT := key3 cd.idxs (·.total) (·.total) (·.total) (fun _ => rfl) (fun _ => rfl) cd.full.total.m
      (xrel (s.erase p).rels r).rows
    have hD := key3 cd.idxs (·.delta) (·.delta) (·.delta) (fun _ => rfl) (fun _ => rfl) cd.full.delta.m
      (xrel (s.erase p).rels r).rows
    cases v with
    | none => exact hT
    | some v =>
      cases v with
      | total => exact hT
      | delta => exact hD
      | totalDelta =>
        show PhysLat.len1 _ _ _ _ + PhysLat.len1 _ _ _ _ = Phys.len1 _ _ _ _ + Phys.len1 _ _ _ _
        exact congr (congrArg _ hT) hD

theorem anyEmptyPar_sound (I : Interp E B G P A) (p : Program E B G P A) (ixs : IxSets) (a : SccSt) (s : PLScc)
    (hpl : PLWf p s) (hV : ViewsOkL p ixs a (s.erase p)) (h : Hir.HRule) (body : List (Item E B G P A))
    (vs : List (Option Ver)) (hok : ClOk p ixs h 0 body) (hokl : ClL p h 0 body)
    (he : anyEmptyPar p s h body vs = true) : evalBody I {} p a body vs [] = [] := by
  simp only [anyEmptyPar, Bool.and_eq_true, List.any_eq_true] at he
  obtain ⟨_, c, hc, hemp⟩ := he
  apply evalBody_nil_of_empty I {} p a body 0 vs [] ⟨c, hc, ?_⟩
  obtain ⟨h1, h2⟩ := clausesOf_ok body 0 vs hok c hc
  have hv := hV c.2.1 c.2.2 _ h1 h2 (clausesOf_okL body 0 vs hokl c hc)
  apply hv.len
  unfold isEmptyPar at hemp
  cases hl : isLatRel p c.2.1 with
  | true =>
    rw [hl] at hemp
    simpa using hemp
  | false =>
    rw [hl] at hemp
    simp only [Bool.false_eq_true, if_false] at hemp
    unfold PhysPar.isEmptyPar at hemp
    split at hemp
    · cases hemp
    · rw [lenV_plain_eq p s hpl c.2.1 hl]
      simpa [isEmptyV] using hemp

theorem swapPar_reorderable (p : Program E B G P A) (σ : PhysPar.Sched E B G P A) (n : Nat) (s : PLScc) (h : Hir.HRule)
    (body : List (Item E B G P A)) (vs : List (Option Ver)) (hs : swapPar p σ n s h body vs = true) :
    Plan.reorderable h = true := by
  unfold swapPar at hs
  split at hs
  · exact chooseSwap_reorderableL p _ h body vs hs
  · simp only [Bool.and_eq_true] at hs
    exact hs.1

theorem evalRulePar_envs (I : Interp E B G P A) (hI : Plan.Ext I) (V : Hir.VarsOf E B) (hS : Plan.Supp I V)
    (p : Program E B G P A) (ixs : IxSets) (σ : PhysPar.Sched E B G P A) (n : Nat) (a : SccSt) (s : PLScc) (hpl : PLWf p s)
    (hV : ViewsOkL p ixs a (s.erase p)) (r : Rule E B G P A) (hd : Hir.Desugared V r = true)
    (hw : Plan.WellScoped V r = true) (hok : ClOk p ixs (Hir.compileRule V r) 0 r.body)
    (hokl : ClL p (Hir.compileRule V r) 0 r.body) (haf : r.aggFree = true) (vs : List (Option Ver))
    (hfz : ∀ c ∈ clausesOf 0 r.body vs, viewFrozen p s c.2.1 c.2.2 (Plan.colsAt (Hir.compileRule V r) c.1) = true) :
    ∃ envs, evalRulePar I p σ n s (Hir.compileRule V r) r.body vs = .ok envs ∧
      (∀ ρ ∈ envs, ∃ ρ' ∈ evalBody I {} p a r.body vs [], Plan.headRows I r.heads ρ = Plan.headRows I r.heads ρ') ∧
      (∀ ρ' ∈ evalBody I {} p a r.body vs [], ∃ ρ ∈ envs, Plan.headRows I r.heads ρ = Plan.headRows I r.heads ρ') := by
  unfold evalRulePar
  rw [List.all_eq_true.mpr hfz]
  simp only [Bool.not_true, Bool.false_eq_true, if_false]
  split
  · rename_i he
    rw [anyEmptyPar_sound I p ixs a s hpl hV _ r.body vs hok hokl he]
    exact ⟨[], rfl, fun ρ hρ => (by cases hρ), fun ρ hρ => (by cases hρ)⟩
  · exact ⟨_, rfl, evalFrom_envs I hI V hS p ixs a _ hV r hd hw hok hokl haf vs _ (swapPar_reorderable p σ n s _ r.body vs)⟩

theorem phaseTasks_eq (I : Interp E B G P A) (V : Hir.VarsOf E B) (p : Program E B G P A) (σ : PhysPar.Sched E B G P A)
    (n : Nat) (rvs : List (Rule E B G P A × List (Option Ver))) (s : PLScc) :
    phaseTasks I V p σ n rvs s =
      foldRes (fun (acc : List (Rule E B G P A × Env)) (rv : Rule E B G P A × List (Option Ver)) =>
        evalRulePar I p σ (n + acc.length) s (Hir.compileRule V rv.1) rv.1.body rv.2 >>= fun envs =>
        pure (acc ++ envs.map fun ρ => (rv.1, ρ))) rvs [] := rfl

theorem phaseTasks_ok (I : Interp E B G P A) (hI : Plan.Ext I) (V : Hir.VarsOf E B) (hS : Plan.Supp I V)
    (p : Program E B G P A) (ix : IxSets) (σ : PhysPar.Sched E B G P A) (n : Nat) (a : SccSt) (s : PLScc) (hpl : PLWf p s)
    (hV : ViewsOkL p (fun r => ixOf p ix r) a (s.erase p)) (rvs : List (Rule E B G P A × List (Option Ver)))
    (hR : ∀ rv ∈ rvs, RuleFitL V p ix rv.1)
    (hfz : ∀ rv ∈ rvs, ∀ c ∈ clausesOf 0 rv.1.body rv.2,
      viewFrozen p s c.2.1 c.2.2 (Plan.colsAt (Hir.compileRule V rv.1) c.1) = true) :
    ∃ tasks, phaseTasks I V p σ n rvs s = .ok tasks ∧
      (∀ t ∈ tasks, ∃ vs, (t.1, vs) ∈ rvs ∧ ∃ ρ' ∈ evalBody I {} p a t.1.body vs [],
        Plan.headRows I t.1.heads t.2 = Plan.headRows I t.1.heads ρ') ∧
      (∀ rv ∈ rvs, ∀ ρ' ∈ evalBody I {} p a rv.1.body rv.2 [], ∃ t ∈ tasks, t.1 = rv.1 ∧
        Plan.headRows I rv.1.heads t.2 = Plan.headRows I rv.1.heads ρ') := by
  rw [phaseTasks_eq]
  exact foldRes_inv
    (fun (acc : List (Rule E B G P A × Env)) (rv : Rule E B G P A × List (Option Ver)) =>
      evalRulePar I p σ (n + acc.length) s (Hir.compileRule V rv.1) rv.1.body rv.2 >>= fun envs =>
      pure (acc ++ envs.map fun ρ => (rv.1, ρ)))
    (fun done acc => (∀ t ∈ acc, ∃ vs, (t.1, vs) ∈ rvs ∧ ∃ ρ' ∈ evalBody I {} p a t.1.body vs [],
        Plan.headRows I t.1.heads t.2 = Plan.headRows I t.1.heads ρ') ∧
      (∀ rv ∈ done, ∀ ρ' ∈ evalBody I {} p a rv.1.body rv.2 [], ∃ t ∈ acc, t.1 = rv.1 ∧
        Plan.headRows I rv.1.heads t.2 = Plan.headRows I rv.1.heads ρ'))
    rvs (by
      intro done acc rv hrv hinv
      have fit := hR rv hrv
      obtain ⟨envs, he, hA, hB⟩ := evalRulePar_envs I hI V hS p _ σ (n + acc.length) a s hpl hV rv.1 fit.desug fit.wscoped
        fit.clok fit.cll fit.aggFree rv.2 (hfz rv hrv)
      refine ⟨acc ++ envs.map fun ρ => (rv.1, ρ), by rw [he]; rfl, ?_, ?_⟩
      · intro t ht
        rcases List.mem_append.mp ht with ht | ht
        · exact hinv.1 t ht
        · obtain ⟨ρ, hρ, rfl⟩ := List.mem_map.mp ht
          obtain ⟨ρ', hρ', heq⟩ := hA ρ hρ
          exact ⟨rv.2, hrv, ρ', hρ', heq⟩
      · intro rv' hrv' ρ' hρ'
        rcases List.mem_append.mp hrv' with hrv' | hrv'
        · obtain ⟨t, ht, e1, e2⟩ := hinv.2 rv' hrv' ρ' hρ'
          exact ⟨t, List.mem_append_left _ ht, e1, e2⟩
        · simp only [List.mem_singleton] at hrv'
          subst hrv'
          obtain ⟨ρ, hρ, heq⟩ := hB ρ' hρ'
          exact ⟨(rv'.1, ρ), List.mem_append_right _ (List.mem_map.mpr ⟨ρ, hρ, rfl⟩), rfl, heq⟩)
    [] ⟨fun t ht => (by cases ht), fun rv hrv => (by cases hrv)⟩

/-- the standing hypotheses of a pass over the rules `rules` of an SCC with dynamic relations `dynR` and body-only relations `bo`,
in a pool of `N` workers -/
structure PassCtx (I : Interp E B G P A) (V : Hir.VarsOf E B) (p : Program E B G P A) (ix : IxSets) (dynR : List RelId)
    (rules : List (Rule E B G P A)) (N : Nat) (bo : List RelId) : Prop where
  ext : Plan.Ext I
  supp : Plan.Supp I V
  hff : ∀ r a b, (I.joinMut r a b).2 = false → (I.joinMut r a b).1 = a
  pool : 0 < N
  lt : ∀ r, dynR.contains r = true → r < p.rels.length
  ar : ∀ r, isLatRel p r = true → 0 < arityOf p r
  sub : ∀ rule ∈ rules, rule ∈ p.rules
  dyn : ∀ rule ∈ rules, ∀ h ∈ rule.heads, dynR.contains h.rel = true
  fit : ∀ rule ∈ rules, RuleFitL V p (ixP p ix) rule
  body : ∀ rule ∈ rules, ∀ r ∈ rule.bodyRels, dynR.contains r = false → bo.contains r = true ∧ r < p.rels.length

/-- the invariant of the head updates of a pass: a trace from `a₀` whose newest state simulates the parallel state -/
structure PIT (I : Interp E B G P A) (p : Program E B G P A) (ix : IxSets) (dynR : List RelId) (rules : List (Rule E B G P A))
    (N : Nat) (bo : List RelId) (a₀ : SccSt) (t : List (EntryL E B G P A) × SccSt) (s : PLScc) : Prop where
  tr : TrAt I p dynR rules t.1 t.2
  last : t.1.getLast?.map (·.st) = some a₀
  st : PIS p ix N bo true t.2 s
  nc : NewCh t.2

theorem applyTasks_eq (I : Interp E B G P A) (p : Program E B G P A) (σ : PhysPar.Sched E B G P A) (k : Nat)
    (order : List (Rule E B G P A × Env)) (s : PLScc) :
    applyTasks I p σ k order s =
      (foldRes (fun (acc : PLScc × Nat) (t : Rule E B G P A × Env) =>
        foldRes (fun (st : PLScc) (h : HeadClause E) => headUpdatePar I p st (σ.tid (k * 1000003 + acc.2)) h t.2) t.1.heads acc.1
          >>= fun s' => pure (s', acc.2 + 1)) order (s, 0)).map (·.1) := rfl

theorem iteration_eq (I : Interp E B G P A) (V : Hir.VarsOf E B) (p : Program E B G P A) (σ : PhysPar.Sched E B G P A)
    (interRule : Bool) (k : Nat) (dyn : List RelId) (rls : List (Rule E B G P A)) (s : PLScc) :
    iteration I V p σ interRule k dyn rls s =
      (foldRes (fun (acc : PLScc × Nat) (ph : List (Rule E B G P A × List (Option Ver))) =>
          phaseTasks I V p σ (acc.2 * 1000003) ph acc.1 >>= fun tasks =>
          applyTasks I p σ acc.2 (σ.permTasks acc.2 tasks) acc.1 >>= fun s' => pure (s', acc.2 + 1))
        (if interRule then [rls.flatMap fun r => (variants dyn r).map fun vs => (r, vs)]
          else (rls.flatMap fun r => (variants dyn r).map fun vs => (r, vs)).map fun rv => [rv])
        (freezeAll s, k) >>= fun s1 => pure (unfreezeAll s1.1, s1.2)) := rfl

section Pass
variable {I : Interp E B G P A} {L : LatOrder I} {V : Hir.VarsOf E B} {p : Program E B G P A} {ix : IxSets}
  {inp : RelId → List Tuple} {dynR : List RelId} {rules : List (Rule E B G P A)} {N : Nat} {bo : List RelId}
  (cx : PassCtx I V p ix dynR rules N bo) (σ : PhysPar.Sched E B G P A)
include cx

theorem headUpdatePar_sim {a : SccSt} {s : PLScc} (h : PIS p ix N bo true a s) (hnc : NewCh a)
    (hinv : LInv I L p inp dynR a) (hd : HeadClause E) (ρ ρ' : Env) (tid : Nat)
    (hh : hd.args.length = arityOf p hd.rel) (hdy : dynR.contains hd.rel = true)
    (heq : (hd.args.map fun e => I.expr e ρ) = hd.args.map fun e => I.expr e ρ')
    (hbf : BelowF I L p inp (headFact I hd ρ')) :
    ∃ s', headUpdatePar I p s tid hd ρ = .ok s' ∧ PIS p ix N bo true (Engine.headUpdate I {} p a hd ρ') s' ∧
      NewCh (Engine.headUpdate I {} p a hd ρ') ∧ LInv I L p inp dynR (Engine.headUpdate I {} p a hd ρ') := by
  obtain ⟨hinv', hext, _⟩ := headUpdate_step hinv hd ρ' hdy hbf
  have hnc' : NewCh (Engine.headUpdate I {} p a hd ρ') := by
    intro hc
    have := hext.unchanged hc
    rw [this] at hc ⊢
    exact hnc hc
  have hrowlen : (hd.args.map fun e => I.expr e ρ').length = arityOf p hd.rel := by rw [List.length_map]; exact hh
  cases hl : isLatRel p hd.rel with
  | true =>
    have hl' : (declOf p hd.rel).lat = true := hl
    obtain ⟨s', h1, h2⟩ := headLatPar_sim I cx.hff h hinv.wf cx.lt hnc hd.rel (hd.args.map fun e => I.expr e ρ') hl
      (cx.ar _ hl) hrowlen (hinv.keys hd.rel hl')
    refine ⟨s', ?_, ?_, hnc', hinv'⟩
    · show (if isLatRel p hd.rel then headLatPar I p s hd.rel (hd.args.map fun e => I.expr e ρ) else _) = _
      rw [hl, heq]
      exact h1
    · show PIS p ix N bo true (if (declOf p hd.rel).lat then Engine.headLat I {} a hd.rel (hd.args.map fun e => I.expr e ρ')
        else Engine.headRel a hd.rel (hd.args.map fun e => I.expr e ρ')) _
      rw [hl']; exact h2
  | false =>
    have hl' : (declOf p hd.rel).lat = false := hl
    obtain ⟨pc', h1, h2⟩ := headRelPar_simP cx.pool h hinv.wf cx.lt tid hd.rel (hd.args.map fun e => I.expr e ρ') hl hrowlen
    refine ⟨{ s with pc := pc' }, ?_, ?_, hnc', hinv'⟩
    · show (if isLatRel p hd.rel then _ else
        (headRelPar s.pc tid hd.rel (hd.args.map fun e => I.expr e ρ)).map fun pc => ({ s with pc := pc } : PLScc)) = _
      rw [hl, heq]
      simp only [Bool.false_eq_true, if_false, h1]
      rfl
    · show PIS p ix N bo true (if (declOf p hd.rel).lat then Engine.headLat I {} a hd.rel (hd.args.map fun e => I.expr e ρ')
        else Engine.headRel a hd.rel (hd.args.map fun e => I.expr e ρ')) _
      rw [hl']; exact h2

theorem heads_simP (heads : List (HeadClause E)) (ρ ρ' : Env) (tid : Nat)
    (hh : ∀ h ∈ heads, h.args.length = arityOf p h.rel) (hdy : ∀ h ∈ heads, dynR.contains h.rel = true)
    (heq : ∀ h ∈ heads, (h.args.map fun e => I.expr e ρ) = h.args.map fun e => I.expr e ρ')
    (hbf : ∀ h ∈ heads, BelowF I L p inp (headFact I h ρ'))
    {a : SccSt} {s : PLScc} (h : PIS p ix N bo true a s) (hnc : NewCh a) (hinv : LInv I L p inp dynR a) :
    ∃ s', foldRes (fun (st : PLScc) (hd : HeadClause E) => headUpdatePar I p st tid hd ρ) heads s = .ok s' ∧
      PIS p ix N bo true (heads.foldl (fun s h => Engine.headUpdate I {} p s h ρ') a) s' ∧
      NewCh (heads.foldl (fun s h => Engine.headUpdate I {} p s h ρ') a) := by
  obtain ⟨s', hfold, h1, h2, _⟩ := foldRes_inv
    (fun (st : PLScc) (hd : HeadClause E) => headUpdatePar I p st tid hd ρ)
    (fun done st => PIS p ix N bo true (done.foldl (fun s h => Engine.headUpdate I {} p s h ρ') a) st ∧
      NewCh (done.foldl (fun s h => Engine.headUpdate I {} p s h ρ') a) ∧
      LInv I L p inp dynR (done.foldl (fun s h => Engine.headUpdate I {} p s h ρ') a))
    heads (by
      rintro done st hd hhd ⟨g1, g2, g3⟩
      obtain ⟨st', e1, e2, e3, e4⟩ := headUpdatePar_sim cx g1 g2 g3 hd ρ ρ' tid
        (hh hd hhd) (hdy hd hhd) (heq hd hhd) (hbf hd hhd)
      refine ⟨st', e1, ?_⟩
      rw [List.foldl_append]
      exact ⟨e2, e3, e4⟩)
    s ⟨h, hnc, hinv⟩
  exact ⟨s', hfold, h1, h2⟩

theorem PIT.invs {a₀ : SccSt} (hinv0 : LInv I L p inp dynR a₀) {t : List (EntryL E B G P A) × SccSt} {s : PLScc}
    (h : PIT I p ix dynR rules N bo a₀ t s) : ∀ x ∈ t.1.map (·.st), LInv I L p inp dynR x :=
  trace_inv rules cx.sub cx.dyn h.tr.1 a₀ h.last hinv0

theorem task_simP {a₀ : SccSt} (hinv0 : LInv I L p inp dynR a₀) (rule : Rule E B G P A) (hrule : rule ∈ rules)
    (vs : List (Option Ver)) (hvs : vs ∈ variants dynR rule) (sr : SccSt) (ρ ρ' : Env) (tid : Nat)
    (hsat : SatV I (Engine.viewOf {} p sr) rule.body vs [] ρ')
    (heq : Plan.headRows I rule.heads ρ = Plan.headRows I rule.heads ρ')
    (s : PLScc) (t : List (EntryL E B G P A) × SccSt) (h : PIT I p ix dynR rules N bo a₀ t s) (hsr : sr ∈ t.1.map (·.st)) :
    ∃ s', foldRes (fun (st : PLScc) (hd : HeadClause E) => headUpdatePar I p st tid hd ρ) rule.heads s = .ok s' ∧
      ∃ t' : List (EntryL E B G P A) × SccSt, PIT I p ix dynR rules N bo a₀ t' s' ∧ sr ∈ t'.1.map (·.st) ∧
        t.1 <:+ t'.1 ∧ PExt t.2 t'.2 ∧
        ∃ e ∈ t'.1, ∃ ρ'', e.src = some (rule, ρ'') ∧ Plan.headRows I rule.heads ρ'' = Plan.headRows I rule.heads ρ := by
  have hinvs := h.invs cx hinv0
  have hbf := belowF_of_view rule (cx.sub rule hrule) vs sr (hinvs _ hsr) ρ' hsat
  have hstep := h.tr.step rule hrule vs hvs sr hsr ρ' hsat
  obtain ⟨s', hfold, g1, g2⟩ := heads_simP cx rule.heads ρ ρ' tid (cx.fit rule hrule).heads
    (cx.dyn rule hrule) (PhysLat.headRows_eq I heq) hbf h.st h.nc (hinvs _ h.tr.mem)
  refine ⟨s', hfold, (_, _), ⟨hstep, ?_, g1, g2⟩, ?_, List.suffix_cons _ _, PExt_heads I p ρ' rule.heads t.2,
    _, List.mem_cons_self, ρ', rfl, heq.symm⟩
  · have hl := h.last
    obtain ⟨t1, t2⟩ := t
    cases t1 with
    | nil => simp at hl
    | cons e0 hist => simpa [List.getLast?_cons_cons] using hl
  · simp only [List.map_cons, List.mem_cons]
    exact .inr hsr

theorem applyTasks_simP {a₀ : SccSt} (hinv0 : LInv I L p inp dynR a₀) (sr : SccSt) (k : Nat)
    (order : List (Rule E B G P A × Env))
    (hord : ∀ tk ∈ order, tk.1 ∈ rules ∧ ∃ vs ∈ variants dynR tk.1, ∃ ρ', SatV I (Engine.viewOf {} p sr) tk.1.body vs [] ρ' ∧
      Plan.headRows I tk.1.heads tk.2 = Plan.headRows I tk.1.heads ρ')
    (s : PLScc) (t : List (EntryL E B G P A) × SccSt) (h : PIT I p ix dynR rules N bo a₀ t s) (hsr : sr ∈ t.1.map (·.st)) :
    ∃ s', applyTasks I p σ k order s = .ok s' ∧
      ∃ t' : List (EntryL E B G P A) × SccSt, PIT I p ix dynR rules N bo a₀ t' s' ∧ t.1 <:+ t'.1 ∧ PExt t.2 t'.2 ∧
        ∀ tk ∈ order, ∃ e ∈ t'.1, ∃ ρ'', e.src = some (tk.1, ρ'') ∧
          Plan.headRows I tk.1.heads ρ'' = Plan.headRows I tk.1.heads tk.2 := by
  obtain ⟨acc, hfold, t', g1, g2, g3, g4, g5⟩ := foldRes_inv
    (fun (acc : PLScc × Nat) (tk : Rule E B G P A × Env) =>
      foldRes (fun (st : PLScc) (h : HeadClause E) => headUpdatePar I p st (σ.tid (k * 1000003 + acc.2)) h tk.2) tk.1.heads acc.1
        >>= fun s' => pure (s', acc.2 + 1))
    (fun done (acc : PLScc × Nat) => ∃ t' : List (EntryL E B G P A) × SccSt, PIT I p ix dynR rules N bo a₀ t' acc.1 ∧
      sr ∈ t'.1.map (·.st) ∧ t.1 <:+ t'.1 ∧ PExt t.2 t'.2 ∧
      ∀ tk ∈ done, ∃ e ∈ t'.1, ∃ ρ'', e.src = some (tk.1, ρ'') ∧
        Plan.headRows I tk.1.heads ρ'' = Plan.headRows I tk.1.heads tk.2)
    order (by
      rintro done acc tk htk ⟨t1, e1, e2, e3, e4, e5⟩
      obtain ⟨hrule, vs, hvs, ρ', hsat, heq⟩ := hord tk htk
      obtain ⟨s', hf, t2, f1, f2, f3, f4, f5⟩ := task_simP cx hinv0
        tk.1 hrule vs hvs sr tk.2 ρ' (σ.tid (k * 1000003 + acc.2)) hsat heq acc.1 t1 e1 e2
      refine ⟨(s', acc.2 + 1), by rw [hf]; rfl, t2, f1, f2, e3.trans f3, e4.trans f4, ?_⟩
      intro tk' htk'
      rcases List.mem_append.mp htk' with htk' | htk'
      · obtain ⟨e, he, ρ'', hsrc, hh⟩ := e5 tk' htk'
        exact ⟨e, f3.subset he, ρ'', hsrc, hh⟩
      · simp only [List.mem_singleton] at htk'
        subst htk'
        exact f5)
    (s, 0) ⟨t, h, hsr, List.suffix_refl _, PExt.refl _, fun tk htk => (by cases htk)⟩
  exact ⟨acc.1, by rw [applyTasks_eq, hfold]; rfl, t', g1, g3, g4, g5⟩

/-- **one phase**: the bodies of its MIR rules on the state at phase start, then the head updates in schedule order -/
theorem phase_simP {a₀ : SccSt} (hinv0 : LInv I L p inp dynR a₀) (ph : List (Rule E B G P A × List (Option Ver)))
    (hph : ∀ rv ∈ ph, rv.1 ∈ rules ∧ rv.2 ∈ variants dynR rv.1) (k n : Nat)
    (s : PLScc) (t : List (EntryL E B G P A) × SccSt) (h : PIT I p ix dynR rules N bo a₀ t s) :
    ∃ tasks s', phaseTasks I V p σ n ph s = .ok tasks ∧ applyTasks I p σ k (σ.permTasks k tasks) s = .ok s' ∧
      ∃ t' : List (EntryL E B G P A) × SccSt, PIT I p ix dynR rules N bo a₀ t' s' ∧ t.1 <:+ t'.1 ∧ PExt t.2 t'.2 ∧
        ∀ rv ∈ ph, DoneL (I := I) rv.1 rv.2 t' := by
  have hinv : LInv I L p inp dynR t.2 := h.invs cx hinv0 _ h.tr.mem
  have hV := sim_viewsOkP p (ixP p ix) h.st.sim hinv.wf cx.ar
  have hnd : ∀ r, findXDyn (s.erase p).dyn r = none → dynR.contains r = false := by
    intro r hx
    rw [← hinv.wf.dyn_iff]
    cases hd : findDyn t.2.dyn r with
    | none => rfl
    | some d =>
      obtain ⟨pd, h1, _⟩ := h.st.sim.dynS r d hd
      rw [hx] at h1; cases h1
  have hfz : ∀ rv ∈ ph, ∀ c ∈ clausesOf 0 rv.1.body rv.2,
      viewFrozen p s c.2.1 c.2.2 (Plan.colsAt (Hir.compileRule V rv.1) c.1) = true := by
    intro rv hrv c hc
    have hcr : c.2.1 ∈ rv.1.bodyRels := clausesOf_rel rv.1.body 0 rv.2 c hc
    apply viewFrozenP_ok h.st
    · intro hl hn
      apply cx.body rv.1 (hph rv hrv).1 c.2.1 hcr
      apply hnd
      rw [findXDyn_erase_plain p s h.st.wf.ldyn _ hl, hn]; rfl
    · intro hl hn
      refine (cx.body rv.1 (hph rv hrv).1 c.2.1 hcr ?_).1
      apply hnd
      rw [findXDyn_erase_lat p s h.st.wf.pdyn _ hl, hn]; rfl
  obtain ⟨tasks, htasks, hA, hB⟩ := phaseTasks_ok I cx.ext V cx.supp p (ixP p ix) σ n t.2 s h.st.wf hV ph
    (fun rv hrv => cx.fit rv.1 (hph rv hrv).1) hfz
  have hperm := σ.permTasks_perm k tasks
  obtain ⟨s', happ, t', g1, g2, g3, g4⟩ := applyTasks_simP cx σ
    hinv0 t.2 k (σ.permTasks k tasks) (by
      intro tk htk
      obtain ⟨vs, hvs, ρ', hρ', heq⟩ := hA tk (hperm.mem_iff.mp htk)
      obtain ⟨hr1, hr2⟩ := hph _ hvs
      exact ⟨hr1, vs, hr2, ρ', SatV_of_evalBody I {} p t.2 tk.1.body vs [] ρ' (cx.fit tk.1 hr1).aggFree hρ', heq⟩)
    s t h h.tr.mem
  refine ⟨tasks, s', htasks, happ, t', g1, g2, g3, ?_⟩
  intro rv hrv ρ hρ
  have hρ' : SatV I (Engine.viewOf {} p t.2) rv.1.body rv.2 [] ρ :=
    SatV.mono (fun r v t hv => PView_sub_view {} p (PView_anti' g3 hv)) hρ
  obtain ⟨tk, htk, e1, e2⟩ := hB rv hrv ρ (evalBody_of_SatV I {} p t.2 hρ')
  obtain ⟨e, he, ρ'', hsrc, heq⟩ := g4 tk (hperm.mem_iff.mpr htk)
  rw [e1] at hsrc heq
  refine ⟨e, he, ρ'', hsrc, ?_⟩
  intro hd hhd
  have := PhysLat.headRows_eq I (heq.trans e2) hd hhd
  simp only [headFact, this]

theorem iteration_simP (interRule : Bool) (k : Nat) {a : SccSt} {s : PLScc} (h : PIS p ix N bo false a s)
    (hinv : LInv I L p inp dynR { a with changed := false }) (hne : NewEmpty a) :
    ∃ s1 k', iteration I V p σ interRule k dynR rules s = .ok (s1, k') ∧
      ∃ a1, PassNDL I p dynR rules a a1 ∧ PIS p ix N bo false a1 s1 := by
  have h0 : PIT I p ix dynR rules N bo { a with changed := false }
      ([{ st := { a with changed := false }, src := none }], { a with changed := false }) (freezeAll s) := by
    refine ⟨⟨TraceL.start _, rfl⟩, rfl, ⟨?_, PLWf_freezeAll h.wf, Flags_freezeAll h.pfl, LFlags_freezeAll h.lfl⟩, fun _ => hne⟩
    rw [erase_freezeAll]
    exact reset_simP h.sim rfl rfl rfl
  obtain ⟨acc, hfold, t', g1, g2, g3⟩ := foldRes_inv
    (fun (acc : PLScc × Nat) (ph : List (Rule E B G P A × List (Option Ver))) =>
      phaseTasks I V p σ (acc.2 * 1000003) ph acc.1 >>= fun tasks =>
      applyTasks I p σ acc.2 (σ.permTasks acc.2 tasks) acc.1 >>= fun s' => pure (s', acc.2 + 1))
    (fun done (acc : PLScc × Nat) => ∃ t' : List (EntryL E B G P A) × SccSt,
      PIT I p ix dynR rules N bo { a with changed := false } t' acc.1 ∧
      ([{ st := { a with changed := false }, src := none }] : List (EntryL E B G P A)) <:+ t'.1 ∧
      ∀ ph ∈ done, ∀ rv ∈ ph, DoneL (I := I) rv.1 rv.2 t')
    (if interRule then [rules.flatMap fun r => (variants dynR r).map fun vs => (r, vs)]
      else (rules.flatMap fun r => (variants dynR r).map fun vs => (r, vs)).map fun rv => [rv]) (by
      rintro done acc ph hph ⟨t1, e1, e2, e3⟩
      have hphm : ∀ rv ∈ ph, rv.1 ∈ rules ∧ rv.2 ∈ variants dynR rv.1 := by
        intro rv hrv
        have hall : rv ∈ rules.flatMap fun r => (variants dynR r).map fun vs => (r, vs) := by
          cases interRule with
          | true =>
            simp only [if_true, List.mem_singleton] at hph
            subst hph; exact hrv
          | false =>
            simp only [Bool.false_eq_true, if_false, List.mem_map] at hph
            obtain ⟨rv', hrv', rfl⟩ := hph
            simp only [List.mem_singleton] at hrv
            subst hrv; exact hrv'
        obtain ⟨r, hr, hrv'⟩ := List.mem_flatMap.mp hall
        obtain ⟨vs, hvs, rfl⟩ := List.mem_map.mp hrv'
        exact ⟨hr, hvs⟩
      obtain ⟨tasks, s', f1, f2, t2, f3, f4, f5, f6⟩ := phase_simP cx σ hinv ph hphm acc.2 (acc.2 * 1000003) acc.1 t1 e1
      refine ⟨(s', acc.2 + 1), by rw [f1, bind_ok, f2]; rfl, t2, f3, e2.trans f4, ?_⟩
      intro ph' hph' rv hrv
      rcases List.mem_append.mp hph' with hph' | hph'
      · exact (e3 ph' hph' rv hrv).mono I f4 f5
      · simp only [List.mem_singleton] at hph'
        subst hph'
        exact f6 rv hrv)
    (freezeAll s, k) ⟨_, h0, List.suffix_refl _, fun ph hph => (by cases hph)⟩
  refine ⟨unfreezeAll acc.1, acc.2, by rw [iteration_eq, hfold]; rfl, t'.2, ⟨t'.1, g1.tr.1, g1.tr.2, g1.last, ?_⟩,
    ⟨by rw [erase_unfreezeAll]; exact g1.st.sim, PLWf_unfreezeAll g1.st.wf, Flags_unfreezeAll g1.st.pfl,
      LFlags_unfreezeAll g1.st.lfl⟩⟩
  intro rule hrule vs hvs ρ hρ
  have hall : (rule, vs) ∈ rules.flatMap fun r => (variants dynR r).map fun vs => (r, vs) :=
    List.mem_flatMap.mpr ⟨rule, hrule, List.mem_map.mpr ⟨vs, hvs, rfl⟩⟩
  cases interRule with
  | true => exact g3 _ (by simp) (rule, vs) hall ρ hρ
  | false =>
    exact g3 [(rule, vs)] (by
      simp only [Bool.false_eq_true, if_false, List.mem_map]
      exact ⟨(rule, vs), hall, rfl⟩) (rule, vs) (by simp) ρ hρ

end Pass

end AscentVerif.PhysParLat
