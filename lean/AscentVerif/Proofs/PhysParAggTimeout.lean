import AscentVerif.Proofs.PhysParTimeout
import AscentVerif.Proofs.PhysParAggLink
/-!
# `run_timeout` of the parallel physical engine on stratified programs with aggregation / negation

`runTimeout_pre` of `Proofs/PhysParTimeout.lean` under the plan checks `planOk` / `aggPlanOk` and permutation-invariant
aggregators, combined with `Phys.Exec.timeout_false` of `Proofs/PhysAggTimeout.lean` on the erased values (an interrupted call
leaves a `Phys.PreExec` there).
-/
namespace AscentVerif.PhysPar
open AscentVerif AscentVerif.Engine AscentVerif.Index AscentVerif.Phys

variable {E B G P A : Type}

/-- `runTimeout_pre` under the plan checks -/
theorem runTimeoutPar_linkA (I : Interp E B G P A) (hI : Plan.Ext I) (V : Hir.VarsOf E B) (hS : Plan.Supp I V)
    (hperm : ∀ (fn : A) (l l' : List Tuple), l.Perm l' → I.agg fn l = I.agg fn l')
    (p : Program E B G P A) (ix : IxSets) (order : SccOrder) (σ : Sched E B G P A) (threads : Nat) (dl : Deadline)
    (fuel : Nat) (s : PCSt) (hp : RelationalAgg p) (hst : Stratified p order) (hb : BodyDeclared p)
    (hplan : planOk V p ix = true) (hagg : aggPlanOk V p ix = true)
    (hd : ∀ r ∈ p.rules, Hir.Desugared V r = true ∧ Plan.WellScoped V r = true)
    (hs : WFPCSt p s) :
    ∃ out, runTimeout I V p ix order σ threads dl fuel s = .ok out ∧ ∀ o, out = .timedOut o →
      ∃ a', Agg.RunPreND I {} p order (absSt (s.map PCRel.erase)) a' ∧ a'.rels.length = o.st.length ∧
        (∀ r, (relSt a'.rels r).rows = (pcrel o.st r).rows) ∧ (∀ r, ∀ t ∈ (pcrel o.st r).rows, t.length = arityOf p r) ∧
        StFlags (max threads 1) o.st :=
  runTimeout_pre I hI {} V hS p ix (.of_planOk hperm hp hb hplan hagg hd) σ threads order hst dl fuel s hs.1 hs.2.1

section Link
variable (I : Interp E B G P A) (hI : Plan.Ext I) (V : Hir.VarsOf E B) (hS : Plan.Supp I V)
  (hperm : AggPermInvariant I)
  (p : Program E B G P A) (ix : IxSets) (order : SccOrder)
  (hp : RelationalAgg p) (ho : validOrder p order = true) (hst : Stratified p order) (hb : BodyDeclared p)
  (hplan : planOk V p ix = true) (hagg : aggPlanOk V p ix = true)
  (hd : ∀ r ∈ p.rules, Hir.Desugared V r = true ∧ Plan.WellScoped V r = true)

include hI hS hperm hp ho hst hb hplan hagg hd in
theorem runTimeoutPar_done_linkA (σ : Sched E B G P A) (threads : Nat) (dl : Deadline) (fuel : Nat) (s : PCSt) (o : ProgStT)
    (hs : WFPCSt p s) (h : runTimeout I V p ix order σ threads dl fuel s = .ok (.done o)) : Linked I p ix order s o.st := by
  obtain ⟨st', hnd, hsim⟩ := runTimeout_doneND I hI {} V hS p ix (.of_planOk hperm hp hb hplan hagg hd) σ threads order hst dl
    fuel s o hs.1 hs.2.1 h
  exact linked_of_RunND I p ix order hp ho hst hs hnd hsim

include hI hS hperm hp ho hst hb hplan hagg hd in
/-- **`run_timeout` from any runnable value between the inputs and the reference result: no panic; if it returned `false`, the
value left is runnable, extends the original value and holds only facts of the reference result** -/
theorem timeout_false_physParA (s t : PCSt) (σM σ : Sched E B G P A) (threadsM threads fuelM fuel : Nat) (dl : Deadline)
    (oM : ProgSt) (hs : WFPCSt p s) (ht : WFPCSt p t)
    (hM : run I V p ix order σM threadsM fuelM s = .ok (some oM))
    (hext : PCExt p s t) (hsound : ∀ f, factsOf t f → factsOf oM.st f) :
    ∃ out, runTimeout I V p ix order σ threads dl fuel t = .ok out ∧ ∀ o, out = .timedOut o →
      WFPCSt p o.st ∧ PCExt p s o.st ∧ (∀ f, factsOf o.st f → factsOf oM.st f) := by
  have hlM := spec_of_ok (runPar_linked I hI V hS hperm p ix order hp ho hst hb hplan hagg hd σM threadsM fuelM s hs) hM oM rfl
  obtain ⟨out, hout, hspec⟩ := runTimeoutPar_linkA I hI V hS hperm p ix order σ threads dl fuel t hp hst hb hplan hagg hd ht
  refine ⟨out, hout, fun o ho' => ?_⟩
  obtain ⟨a', hpre, hlen, hrows, htyped, hfl⟩ := hspec o ho'
  -- on the erased values the interrupted call leaves what an interrupted call of the serial engine leaves
  have hpe : PreExec I p order (t.map PCRel.erase) (o.st.map PCRel.erase) :=
    ⟨a', hpre, hlen.trans (List.length_map _).symm, fun r => (hrows r).trans (erase_rows _ r).symm,
      fun r x hx => htyped r x (erase_rows _ r ▸ hx)⟩
  obtain ⟨hw, hx, hf⟩ := Exec.timeout_false hp ho hst hperm hlM.exec hpe (wfPSt_erase p hs.1 hs.2.1) (wfPSt_erase p ht.1 ht.2.1)
    hext.erase (by rw [factsOf_erase, factsOf_erase]; exact hsound)
  rw [factsOf_erase, factsOf_erase] at hf
  exact ⟨⟨by simpa using hw.1, htyped, hfl.unfrozen⟩, PCExt.iff_erase.mpr hx, hf⟩

end Link

end AscentVerif.PhysPar
