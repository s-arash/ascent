import AscentVerif.Proofs.LatticeSet
/-!
`BoundedSet<BOUND, T>` is `BSet n`: `Option LSet` with `none` for "more than `n` elements", the invariant bounding
the stored set.  `lawful_bset'` goes through the `none`/`some` cases and defers to `lawful_lset'`; the one extra fact is
`lset_le_length` (a canonical set below another is not longer).  `lawfulB_bset` (`Props/C16Struct`) adds top and bottom.
-/
namespace AscentVerif.Lat

theorem bset_wf_none {n : Nat} : BSet.WF (⟨none⟩ : BSet n) := by
  intro x h; cases h

theorem bset_wf_some {n : Nat} (s : LSet) : BSet.WF (⟨some s⟩ : BSet n) ↔ s.WF ∧ s.elems.length ≤ n := by
  constructor
  · intro h; exact h s rfl
  · intro h x hx; cases hx; exact h

theorem bset_le_nn {n : Nat} : le (⟨none⟩ : BSet n) ⟨none⟩ = true := rfl
theorem bset_le_ns {n : Nat} (s : LSet) : le (⟨none⟩ : BSet n) ⟨some s⟩ = false := rfl
theorem bset_le_sn {n : Nat} (s : LSet) : le (⟨some s⟩ : BSet n) ⟨none⟩ = true := rfl
theorem bset_le_ss {n : Nat} (s1 s2 : LSet) : le (⟨some s1⟩ : BSet n) ⟨some s2⟩ = le s1 s2 := rfl
theorem bset_le_none {n : Nat} (a : BSet n) : le a ⟨none⟩ = true := by
  rcases a with ⟨_ | s⟩ <;> rfl

theorem bset_join_ss {n : Nat} (s1 s2 : LSet) : join (⟨some s1⟩ : BSet n) ⟨some s2⟩ =
    if (join s1 s2).elems.length > n then ⟨none⟩ else ⟨some (join s1 s2)⟩ := rfl
theorem bset_joinMut_ss {n : Nat} (s1 s2 : LSet) : joinMut (⟨some s1⟩ : BSet n) ⟨some s2⟩ =
    if (join s1 s2).elems.length > n then (⟨none⟩, true)
    else (⟨some (join s1 s2)⟩, (joinMut s1 s2).2) := rfl
theorem bset_meet_ss {n : Nat} (s1 s2 : LSet) : meet (⟨some s1⟩ : BSet n) ⟨some s2⟩ = ⟨some (meet s1 s2)⟩ := rfl
theorem bset_meetMut_ss {n : Nat} (s1 s2 : LSet) : meetMut (⟨some s1⟩ : BSet n) ⟨some s2⟩ =
    (⟨some (meet s1 s2)⟩, (meetMut s1 s2).2) := rfl

theorem lset_le_refl (s : LSet) : le s s = true := by
  rw [lset_le_iff']; exact fun _ h => h

theorem lset_le_length (s1 s2 : LSet) (h1 : s1.WF) (h2 : s2.WF) (h : le s1 s2 = true) :
    s1.elems.length ≤ s2.elems.length := by
  rw [lset_le_iff'] at h
  exact (sorted_sublist s2.elems s1.elems h1 h2 h).length_le

theorem bset_some_ne {n : Nat} (s1 s2 : LSet) : (⟨some s1⟩ : BSet n) ≠ ⟨some s2⟩ ↔ s1 ≠ s2 := by
  simp

/-- `None` is a new greatest element above the sets of at most `n` elements; a union that outgrows the bound
is `None`, and the bound is kept because whatever lies below a stored set is no longer than it -/
theorem lawful_bset' (n : Nat) : LawfulLat (BSet n) BSet.WF where
  pcmp_refl a ha := by
    rcases a with ⟨_ | s⟩
    · rfl
    · exact lawful_lset'.pcmp_refl s (ha s rfl).1
  eq_of_pcmp_eq a b ha hb h := by
    rcases a with ⟨_ | s1⟩ <;> rcases b with ⟨_ | s2⟩
    · rfl
    · cases h
    · cases h
    · rw [lawful_lset'.eq_of_pcmp_eq s1 s2 (ha s1 rfl).1 (hb s2 rfl).1 h]
  pcmp_swap a b ha hb := by
    rcases a with ⟨_ | s1⟩ <;> rcases b with ⟨_ | s2⟩
    · rfl
    · rfl
    · rfl
    · exact lawful_lset'.pcmp_swap s1 s2 (ha s1 rfl).1 (hb s2 rfl).1
  le_trans a b c ha hb hc h1 h2 := by
    rcases c with ⟨_ | s3⟩
    · exact bset_le_none a
    rcases b with ⟨_ | s2⟩
    · cases h2
    rcases a with ⟨_ | s1⟩
    · cases h1
    · exact lawful_lset'.le_trans s1 s2 s3 (ha s1 rfl).1 (hb s2 rfl).1 (hc s3 rfl).1 h1 h2
  join_wf a b ha hb := by
    rcases a with ⟨_ | s1⟩
    · exact bset_wf_none
    rcases b with ⟨_ | s2⟩
    · exact bset_wf_none
    · rw [bset_join_ss]
      split
      · exact bset_wf_none
      · exact (bset_wf_some _).2 ⟨lset_join_wf' s1 s2 (ha s1 rfl).1 (hb s2 rfl).1, by omega⟩
  meet_wf a b ha hb := by
    rcases a with ⟨_ | s1⟩ <;> rcases b with ⟨_ | s2⟩
    · exact bset_wf_none
    · exact hb
    · exact ha
    · have h1 := ha s1 rfl
      have := lset_le_length (meet s1 s2) s1 (lset_meet_wf' s1 s2) h1.1
        (lawful_lset'.meet_le_left s1 s2 h1.1 (hb s2 rfl).1)
      exact (bset_wf_some _).2 ⟨lset_meet_wf' s1 s2, by omega⟩
  le_join_left a b ha hb := by
    rcases a with ⟨_ | s1⟩ <;> rcases b with ⟨_ | s2⟩
    · rfl
    · rfl
    · rfl
    · rw [bset_join_ss]
      split
      · rfl
      · exact lawful_lset'.le_join_left s1 s2 (ha s1 rfl).1 (hb s2 rfl).1
  le_join_right a b ha hb := by
    rcases a with ⟨_ | s1⟩ <;> rcases b with ⟨_ | s2⟩
    · rfl
    · rfl
    · rfl
    · rw [bset_join_ss]
      split
      · rfl
      · exact lawful_lset'.le_join_right s1 s2 (ha s1 rfl).1 (hb s2 rfl).1
  join_le a b c ha hb hc h1 h2 := by
    rcases c with ⟨_ | s3⟩
    · exact bset_le_none _
    rcases a with ⟨_ | s1⟩
    · cases h1
    rcases b with ⟨_ | s2⟩
    · cases h2
    · have hle := lawful_lset'.join_le s1 s2 s3 (ha s1 rfl).1 (hb s2 rfl).1 (hc s3 rfl).1 h1 h2
      have hlen := lset_le_length _ _ (lset_join_wf' s1 s2 (ha s1 rfl).1 (hb s2 rfl).1) (hc s3 rfl).1 hle
      have := (hc s3 rfl).2
      rw [bset_join_ss]
      split
      · omega
      · exact hle
  meet_le_left a b ha hb := by
    rcases a with ⟨_ | s1⟩ <;> rcases b with ⟨_ | s2⟩
    · rfl
    · rfl
    · exact lset_le_refl s1
    · exact lawful_lset'.meet_le_left s1 s2 (ha s1 rfl).1 (hb s2 rfl).1
  meet_le_right a b ha hb := by
    rcases a with ⟨_ | s1⟩ <;> rcases b with ⟨_ | s2⟩
    · rfl
    · exact lset_le_refl s2
    · rfl
    · exact lawful_lset'.meet_le_right s1 s2 (ha s1 rfl).1 (hb s2 rfl).1
  le_meet a b c ha hb hc h1 h2 := by
    rcases a with ⟨_ | s1⟩ <;> rcases b with ⟨_ | s2⟩
    · exact bset_le_none _
    · exact h2
    · exact h1
    · rcases c with ⟨_ | s3⟩
      · cases h1
      · exact lawful_lset'.le_meet s1 s2 s3 (ha s1 rfl).1 (hb s2 rfl).1 (hc s3 rfl).1 h1 h2
  joinMut_fst a b _ _ := by
    rcases a with ⟨_ | s1⟩ <;> rcases b with ⟨_ | s2⟩
    · rfl
    · rfl
    · rfl
    · rw [bset_join_ss, bset_joinMut_ss]
      split <;> rfl
  joinMut_snd a b ha hb := by
    rcases a with ⟨_ | s1⟩ <;> rcases b with ⟨_ | s2⟩
    · exact iff_of_false nofun (fun n => n rfl)
    · exact iff_of_false nofun (fun n => n rfl)
    · exact iff_of_true rfl nofun
    · rw [bset_join_ss, bset_joinMut_ss]
      split
      · exact iff_of_true rfl nofun
      · rw [bset_some_ne]
        exact lawful_lset'.joinMut_snd s1 s2 (ha s1 rfl).1 (hb s2 rfl).1
  meetMut_fst a b _ _ := by
    rcases a with ⟨_ | s1⟩ <;> rcases b with ⟨_ | s2⟩ <;> rfl
  meetMut_snd a b ha hb := by
    rcases a with ⟨_ | s1⟩ <;> rcases b with ⟨_ | s2⟩
    · exact iff_of_false nofun (fun n => n rfl)
    · exact iff_of_true rfl nofun
    · exact iff_of_false nofun (fun n => n rfl)
    · rw [bset_meet_ss, bset_meetMut_ss, bset_some_ne]
      exact lawful_lset'.meetMut_snd s1 s2 (ha s1 rfl).1 (hb s2 rfl).1

end AscentVerif.Lat
