import AscentVerif.Model.EnginePhysLatTimeout
import AscentVerif.Proofs.PhysLatRun
/-!
# The loop, the SCCs and the run of the physical engine with lattices, for `run_timeout` and every outcome

What an outcome means is said once per level (`LoopOut`, `SccOut`, `RunOut`).  `.done`: the call made an execution of the
nondeterministic lattice engine (`LoopNDL` / `SccNDL` / `SccsNDL`) and ends in a physical value simulating its end.
`.timedOut` is described by what holds of the value left, not (as for the relational engines) as a prefix of an execution:
it is `abandonScc` — which keeps the rows — of a physical SCC state simulating an SCC state that has the invariant `LInv`
(`Proofs/LatInv.lean`; kept along every execution) and dominates the value the call started from (`Abandoned`); soundness
needs no more.
One induction per function proves it for whatever the function returns; `run()` is `run_timeout` under the deadline that
never strikes (`run_never`), so it needs no induction of its own.
-/
namespace AscentVerif.PhysLat
open AscentVerif AscentVerif.Engine AscentVerif.Index AscentVerif.Phys

variable {E B G P A : Type}

theorem abandon_length (p : Program E B G P A) (scc : List Nat) (ph : XScc) :
    (abandonScc p scc ph).length = ph.rels.length := by
  simp only [abandonScc, List.length_map, List.length_range]

theorem abandon_rows (p : Program E B G P A) (scc : List Nat) (ph : XScc) (r : RelId) :
    (xrel (abandonScc p scc ph) r).rows = (xrel ph.rels r).rows :=
  getD_rangeMap_rows _ ph.rels XRel.rows (fun r => by split <;> rfl) r

section Out
variable (I : Interp E B G P A) (L : LatOrder I) (p : Program E B G P A) (ix : IxSets) (inp : RelId → List Tuple)

/-- the loop of an SCC entered in abstract state `a`; `st`: the value before the SCC -/
def LoopOut (dynR : List RelId) (rules : List (Rule E B G P A)) (st : St) (a : SccSt) : Outcome RunStT → Prop
  | .done rs' => ∃ a', LoopNDL I p dynR rules a a' ∧ SimL p ix a' rs'.st ∧ LInv I L p inp dynR a'
  | .timedOut rs' => ∃ a', SimL p ix a' rs'.st ∧ LInv I L p inp dynR a' ∧ DBLe I L p (Engine.factsOf st) (FactsS a')
  | .outOfFuel => True

/-- `xst` is what the early return inside `scc` leaves of a run that had reached (abstract) value `st` -/
def Abandoned (scc : List Nat) (st : St) (xst : XSt) : Prop :=
  ∃ (a' : SccSt) (ph : XScc), SimL p ix a' ph ∧ LInv I L p inp (dynRels p scc) a' ∧
    DBLe I L p (Engine.factsOf st) (FactsS a') ∧ xst = abandonScc p scc ph

def SccOut (scc : List Nat) (st : St) : Outcome ProgStT → Prop
  | .done ps' => ∃ st', SccNDL I p scc st st' ∧ SimStL p ix st' ps'.st
  | .timedOut ps' => Abandoned I L p ix inp scc st ps'.st
  | .outOfFuel => True

def RunOut (order : SccOrder) (st : St) : Outcome ProgStT → Prop
  | .done ps' => ∃ st', SccsNDL I p order st st' ∧ SimStL p ix st' ps'.st
  | .timedOut ps' => ∃ scc, Abandoned I L p ix inp scc st ps'.st
  | .outOfFuel => True

variable {I L p ix inp}

theorem Abandoned.from {scc : List Nat} {st₀ st : St} {xst : XSt} (h : Abandoned I L p ix inp scc st xst)
    (hle : DBLe I L p (Engine.factsOf st₀) (Engine.factsOf st)) : Abandoned I L p ix inp scc st₀ xst :=
  let ⟨a', ph, hsim, hinv, hle', hab⟩ := h
  ⟨a', ph, hsim, hinv, DBLe.trans hle hle', hab⟩

theorem Abandoned.spec {scc : List Nat} {st : St} {xst : XSt} (h : Abandoned I L p ix inp scc st xst) :
    ∃ a', LInv I L p inp (dynRels p scc) a' ∧ DBLe I L p (Engine.factsOf st) (FactsS a') ∧ a'.rels.length = xst.length ∧
      (∀ r, (relSt a'.rels r).rows = (xrel xst r).rows) ∧ ∀ r, ∀ t ∈ (xrel xst r).rows, t.length = arityOf p r := by
  obtain ⟨a', ph, hsim, hinv, hle, rfl⟩ := h
  refine ⟨a', hinv, hle, ?_, ?_, ?_⟩
  · rw [abandon_length]; exact hsim.len
  · intro r
    rw [abandon_rows]; exact hsim.rows r
  · intro r t ht
    rw [abandon_rows, ← hsim.rows] at ht
    exact hsim.typed r t ht

theorem LoopOut.more {dynR : List RelId} {rules : List (Rule E B G P A)} {st : St} {a a1 : SccSt} {o : Outcome RunStT}
    (hpass : PassNDL I p dynR rules a a1) (hc : a1.changed = true)
    (h : LoopOut I L p ix inp dynR rules st (Engine.shift a1) o) : LoopOut I L p ix inp dynR rules st a o := by
  cases o with
  | done rs' => exact h.imp fun a' h' => ⟨LoopNDL.more hpass hc h'.1, h'.2⟩
  | timedOut rs' => exact h
  | outOfFuel => exact h

end Out

section Run
variable {I : Interp E B G P A} {L : LatOrder I} {V : Hir.VarsOf E B} {p : Program E B G P A} {ix : IxSets}
  {inp : RelId → List Tuple}

theorem sccLoopT_simL {dynR : List RelId} {rules : List (Rule E B G P A)} (hF : SccFitL I V p ix dynR rules)
    (dl : Deadline) (st : St) : ∀ (fuel : Nat) (rs : RunStT) (a : SccSt),
      LInv I L p inp dynR a → DBLe I L p (Engine.factsOf st) (FactsS a) → SimL p ix a rs.st →
      LoopOut I L p ix inp dynR rules st a (sccLoopT I V p dynR rules dl fuel rs) := by
  intro fuel
  induction fuel with
  | zero => intro rs a _ _ _; exact trivial
  | succ fuel ih =>
    intro rs a hinv hb hsim
    obtain ⟨a1, hpass, hch, hshift, hinv', hle⟩ := iter_simL hF hinv hsim
    have hb' := DBLe.trans hb hle
    simp only [sccLoopT]
    split
    · rename_i hc
      exact ⟨_, LoopNDL.exit hpass (by rw [hch]; simpa using hc), hshift, hinv'⟩
    · rename_i hc
      split
      · exact ⟨_, hshift, hinv', hb'⟩
      · exact LoopOut.more hpass (by rw [hch]; simpa using hc)
          (ih _ (Engine.shift a1) hinv' hb' hshift)

variable (hP : ProgFitL I V p ix) (dl : Deadline) (fuel : Nat)
include hP

theorem runSccT_simL (scc : List Nat) (ps : ProgStT) (st : St) (hinv : LPInv I L p inp st)
    (hs : SimStL p ix st ps.st) : SccOut I L p ix inp scc st (runSccT I V p dl fuel scc ps) := by
  have hF := hP.scc scc
  obtain ⟨hinv0, hsim0⟩ := enter_inv_simL hP scc hinv hs
  have hb0 : DBLe I L p (Engine.factsOf st) (FactsS (Engine.enterScc st (dynRels p scc))) := by
    rw [FactsS_enter]; exact DBLe.refl _
  simp only [runSccT]
  split
  · rename_i hlp
    have := sccLoopT_simL hF dl st fuel ⟨enterScc ps.st (dynRels p scc), ps.checks, 0⟩ _ hinv0 hb0 hsim0
    revert this
    cases sccLoopT I V p (dynRels p scc) (sccRules p scc) dl fuel _ with
    | done rs =>
      rintro ⟨a', hnd, hsim', hinva'⟩
      exact ⟨_, by rw [SccNDL, if_pos hlp]; exact ⟨a', hnd, rfl⟩, leave_simL' hsim' hinva'⟩
    | timedOut rs => exact fun ⟨a', hsim', hinva', hba'⟩ => ⟨a', rs.st, hsim', hinva', hba', rfl⟩
    | outOfFuel => exact id
  · rename_i hlp
    obtain ⟨a1, hpass, hs2, hinv2, hle⟩ := once_simL hF hinv0 hsim0
    split
    · exact ⟨_, _, hs2, hinv2, DBLe.trans hb0 hle, rfl⟩
    · exact ⟨_, by rw [SccNDL, if_neg hlp]; exact ⟨a1, hpass, rfl⟩, leave_simL' hs2 hinv2⟩

theorem runSccsT_simL : ∀ (order : SccOrder) (ps : ProgStT) (st : St), LPInv I L p inp st → SimStL p ix st ps.st →
    RunOut I L p ix inp order st (runSccsT I V p dl fuel order ps) := by
  intro order
  induction order with
  | nil => exact fun ps st _ hs => ⟨st, SccsNDL.nil, hs⟩
  | cons scc rest ih =>
    intro ps st hinv hs
    have h1 := runSccT_simL hP dl fuel scc ps st hinv hs
    simp only [runSccsT]
    revert h1
    cases runSccT I V p dl fuel scc ps with
    | done ps1 =>
      rintro ⟨st1, hnd, hs1⟩
      obtain ⟨hinv1, _, hle, _⟩ := sccNDL_spec hP.prog.1 hP.prog.2.1 scc st st1 hinv hnd
      have h2 := ih ps1 st1 hinv1 hs1
      show RunOut I L p ix inp (scc :: rest) st (runSccsT I V p dl fuel rest ps1)
      revert h2
      cases runSccsT I V p dl fuel rest ps1 with
      | done ps' => exact fun ⟨st2, hnd2, hs2⟩ => ⟨st2, SccsNDL.cons hnd hnd2, hs2⟩
      | timedOut ps' => exact fun ⟨scc', h⟩ => ⟨scc', h.from hle⟩
      | outOfFuel => exact id
    | timedOut x => exact fun h => ⟨scc, h⟩
    | outOfFuel => exact id

end Run

section Never
variable {I : Interp E B G P A} {V : Hir.VarsOf E B} {p : Program E B G P A}

theorem sccLoop_never {dyn : List RelId} {rules : List (Rule E B G P A)} : ∀ (fuel : Nat) (rs rs' : RunSt) (c : Nat),
    sccLoop I V p dyn rules fuel rs = some rs' →
    ∃ c', sccLoopT I V p dyn rules never fuel ⟨rs.st, c, rs.iters⟩ = .done ⟨rs'.st, c', rs'.iters⟩ := by
  intro fuel
  induction fuel with
  | zero => intro rs rs' c h; cases h
  | succ fuel ih =>
    intro rs rs' c h
    simp only [sccLoop] at h
    simp only [sccLoopT, never, Bool.false_eq_true, if_false]
    split at h
    · rename_i hc
      cases h
      exact ⟨c, by rw [if_pos hc]⟩
    · rename_i hc
      rw [if_neg hc]
      exact ih _ rs' (c + 1) h

theorem runScc_never (fuel : Nat) (scc : List Nat) (ps ps' : ProgSt) (c : Nat)
    (h : runScc I V p fuel scc ps = some ps') :
    ∃ c', runSccT I V p never fuel scc ⟨ps.st, c, ps.iters⟩ = .done ⟨ps'.st, c', ps'.iters⟩ := by
  simp only [runScc] at h
  simp only [runSccT]
  split at h
  · rename_i hlp
    obtain ⟨rs, hloop, rfl⟩ := Option.map_eq_some_iff.mp h
    obtain ⟨c', hc'⟩ := sccLoop_never fuel _ rs c hloop
    rw [if_pos hlp, hc']
    exact ⟨c', rfl⟩
  · rename_i hlp
    cases h
    rw [if_neg hlp]
    exact ⟨c + 1, rfl⟩

theorem runSccs_never (fuel : Nat) : ∀ (order : SccOrder) (ps ps' : ProgSt) (c : Nat),
    runSccs I V p fuel order ps = some ps' →
    ∃ c', runSccsT I V p never fuel order ⟨ps.st, c, ps.iters⟩ = .done ⟨ps'.st, c', ps'.iters⟩ := by
  intro order
  induction order with
  | nil => intro ps ps' c h; cases h; exact ⟨c, rfl⟩
  | cons scc rest ih =>
    intro ps ps' c h
    obtain ⟨ps1, hscc, h⟩ := Option.bind_eq_some_iff.mp h
    obtain ⟨c1, h1⟩ := runScc_never fuel scc ps ps1 c hscc
    obtain ⟨c2, h2⟩ := ih ps1 ps' c1 h
    exact ⟨c2, by simp only [runSccsT, h1]; exact h2⟩

theorem run_never {ix : IxSets} {order : SccOrder} {fuel : Nat} {s : XSt} {out : ProgSt}
    (h : run I V p ix order fuel s = some out) :
    ∃ c, runTimeout I V p ix order never fuel s = .done ⟨out.st, c, out.iters⟩ :=
  runSccs_never fuel order _ out 0 h

end Never

end AscentVerif.PhysLat
