import AscentVerif.Proofs.DesugarPWNBase
/-!
# The shape of the passes `patItems`, `wildItems`, `negItem`

`wildArgs` and the argument list of `patArgs` both are `freshen`: the selected arguments become fresh variable columns.
`wildItems` and `patItems` both are `mapClauses`: a counter threaded through the clauses of a body, every other item kept.
What is needed about the output of the passes is proved once for `freshen` and `mapClauses`; the last three theorems are what
the repeated-variable pass asks of the output of their composition `pwn` (`pwn_shape`, `pwn_mentions`, `pwn_exprScoped`).
-/
namespace AscentVerif.Surface
open AscentVerif AscentVerif.Engine

variable {E B G P A : Type}

theorem ge_of_pat {v : Nat} (h : isPat v) : reservedBase ≤ v := by
  obtain ⟨j, rfl⟩ := h; unfold gsPat; omega

theorem ge_of_wild {v : Nat} (h : isWild v) : reservedBase ≤ v := by
  obtain ⟨j, rfl⟩ := h; unfold gsWild; omega

def freshen (gen : Nat → Var) (sel : SArg E P → Bool) : List (SArg E P) → Nat → List (SArg E P) × Nat
  | [], k => ([], k)
  | a :: as, k =>
    if sel a then (.var (gen k) :: (freshen gen sel as (k + 1)).1, (freshen gen sel as (k + 1)).2)
    else (a :: (freshen gen sel as k).1, (freshen gen sel as k).2)

def SArg.isWildcard : SArg E P → Bool
  | .wild => true
  | _ => false

def SArg.isPattern : SArg E P → Bool
  | .pat _ _ => true
  | _ => false

theorem SArg.varCol_of_isWildcard {a : SArg E P} (h : a.isWildcard = true) : a.varCol = [] := by
  cases a with
  | wild => rfl
  | _ => cases h

theorem SArg.varCol_of_isPattern {a : SArg E P} (h : a.isPattern = true) : a.varCol = [] := by
  cases a with
  | pat p vs => rfl
  | _ => cases h

theorem freshen_cons_sel (gen : Nat → Var) {sel : SArg E P → Bool} {a : SArg E P} (h : sel a = true) (as : List (SArg E P))
    (k : Nat) :
    freshen gen sel (a :: as) k = (.var (gen k) :: (freshen gen sel as (k + 1)).1, (freshen gen sel as (k + 1)).2) :=
  if_pos h

theorem freshen_cons_keep (gen : Nat → Var) {sel : SArg E P → Bool} {a : SArg E P} (h : ¬ sel a = true) (as : List (SArg E P))
    (k : Nat) : freshen gen sel (a :: as) k = (a :: (freshen gen sel as k).1, (freshen gen sel as k).2) :=
  if_neg h

theorem wildArgs_eq (as : List (SArg E P)) (k : Nat) : wildArgs as k = freshen gsWild SArg.isWildcard as k := by
  induction as generalizing k with
  | nil => rfl
  | cons a as ih => cases a <;> simp [wildArgs, freshen, SArg.isWildcard, ih]

theorem patArgs_fst (ops : Ops E B G A) (as : List (SArg E P)) (k : Nat) :
    (patArgs (B := B) ops as k).1 = (freshen gsPat SArg.isPattern as k).1 := by
  induction as generalizing k with
  | nil => rfl
  | cons a as ih =>
    cases a with
    | pat p vs => exact congrArg (SArg.var (gsPat k) :: ·) (ih (k + 1))
    | _ => exact congrArg (_ :: ·) (ih k)

theorem freshen_mem (gen : Nat → Var) (sel : SArg E P → Bool) (as : List (SArg E P)) (k : Nat) :
    ∀ a ∈ (freshen gen sel as k).1, (∃ j, k ≤ j ∧ a = SArg.var (gen j)) ∨ (a ∈ as ∧ sel a = false) := by
  induction as generalizing k with
  | nil => intro a ha; cases ha
  | cons b as ih =>
    intro a ha
    by_cases hb : sel b = true
    · rw [freshen_cons_sel gen hb] at ha
      rcases List.mem_cons.1 ha with rfl | ha
      · exact .inl ⟨k, Nat.le_refl _, rfl⟩
      · rcases ih (k + 1) a ha with ⟨j, hj, rfl⟩ | ⟨h1, h2⟩
        · exact .inl ⟨j, by omega, rfl⟩
        · exact .inr ⟨List.mem_cons_of_mem _ h1, h2⟩
    · rw [freshen_cons_keep gen hb] at ha
      rcases List.mem_cons.1 ha with rfl | ha
      · exact .inr ⟨List.mem_cons_self, by simpa using hb⟩
      · exact (ih k a ha).imp id fun h => ⟨List.mem_cons_of_mem _ h.1, h.2⟩

/-- the variables of the new arguments, for `f` = the variables an argument mentions or its variable column -/
theorem freshen_flatMap (gen : Nat → Var) (sel : SArg E P → Bool) (f : SArg E P → List Var) (hf : ∀ w, f (.var w) = [w])
    (as : List (SArg E P)) (k : Nat) :
    ∀ v ∈ (freshen gen sel as k).1.flatMap f, (∃ j, k ≤ j ∧ v = gen j) ∨ v ∈ as.flatMap f := by
  intro v hv
  obtain ⟨a, ha, hva⟩ := List.mem_flatMap.1 hv
  rcases freshen_mem gen sel as k a ha with ⟨j, hj, rfl⟩ | ⟨h1, _⟩
  · exact .inl ⟨j, hj, List.mem_singleton.1 (hf _ ▸ hva)⟩
  · exact .inr (List.mem_flatMap.2 ⟨a, h1, hva⟩)

theorem patArgs_conds (ops : Ops E B G A) (as : List (SArg E P)) (k : Nat) :
    ∀ c ∈ (patArgs (B := B) ops as k).2.1,
      ∃ p vs j, k ≤ j ∧ c = Cond.ifLet p vs (ops.varE (gsPat j)) ∧ SArg.pat p vs ∈ as := by
  induction as generalizing k with
  | nil => intro c hc; cases hc
  | cons b as ih =>
    intro c hc
    have keep := fun hc => (ih k c hc).imp fun p => Exists.imp fun vs => Exists.imp fun j h =>
      And.intro h.1 (And.intro h.2.1 (List.mem_cons_of_mem b h.2.2))
    cases b with
    | pat p vs =>
      rcases List.mem_cons.1 hc with rfl | hc
      · exact ⟨p, vs, k, Nat.le_refl _, rfl, List.mem_cons_self⟩
      · obtain ⟨p', vs', j, hj, rfl, hm⟩ := ih (k + 1) c hc
        exact ⟨p', vs', j, by omega, rfl, List.mem_cons_of_mem _ hm⟩
    | var v => exact keep hc
    | expr e => exact keep hc
    | wild => exact keep hc

/-- a pass over the clauses of a flat body, threading a counter: `F args k` = the new arguments, the conditions put in
front of the clause's own, the next counter -/
def mapClauses (F : List (SArg E P) → Nat → List (SArg E P) × List (Cond E B P) × Nat) :
    List (FItem E B G P A) → Nat → List (FItem E B G P A)
  | [], _ => []
  | .clause r as conds :: rest, k => .clause r (F as k).1 ((F as k).2.1 ++ conds) :: mapClauses F rest (F as k).2.2
  | f :: rest, k => f :: mapClauses F rest k

theorem mapClauses_cons_other (F : List (SArg E P) → Nat → List (SArg E P) × List (Cond E B P) × Nat)
    {f : FItem E B G P A} (hf : ∀ r as cs, f ≠ FItem.clause r as cs) (rest : List (FItem E B G P A)) (k : Nat) :
    mapClauses F (f :: rest) k = f :: mapClauses F rest k := by
  cases f with
  | clause r as cs => exact absurd rfl (hf r as cs)
  | _ => rfl

theorem patItems_eq (ops : Ops E B G A) (fs : List (FItem E B G P A)) (k : Nat) :
    patItems ops fs k = mapClauses (patArgs ops) fs k := by
  induction fs generalizing k with
  | nil => rfl
  | cons f rest ih => cases f <;> simp only [patItems, mapClauses, ih]

def wildF (as : List (SArg E P)) (k : Nat) : List (SArg E P) × List (Cond E B P) × Nat :=
  ((wildArgs as k).1, [], (wildArgs as k).2)

theorem wildItems_eq (fs : List (FItem E B G P A)) (k : Nat) : wildItems fs k = mapClauses wildF fs k := by
  induction fs generalizing k with
  | nil => rfl
  | cons f rest ih => cases f <;> simp only [wildItems, mapClauses, wildF, List.nil_append, ih]

theorem mapClauses_mem (F : List (SArg E P) → Nat → List (SArg E P) × List (Cond E B P) × Nat)
    (fs : List (FItem E B G P A)) (k : Nat) :
    ∀ f ∈ mapClauses F fs k,
      (∃ r as cs k', f = FItem.clause r (F as k').1 ((F as k').2.1 ++ cs) ∧ FItem.clause r as cs ∈ fs) ∨
      (f ∈ fs ∧ ∀ r as cs, f ≠ FItem.clause r as cs) := by
  induction fs generalizing k with
  | nil => intro f hf; cases hf
  | cons g rest ih =>
    intro f hf
    have lift := fun k₁ h => (ih k₁ f h).imp
      (Exists.imp fun r => Exists.imp fun as => Exists.imp fun cs => Exists.imp fun k' h => And.intro h.1 (List.mem_cons_of_mem g h.2))
      (fun h => And.intro (List.mem_cons_of_mem g h.1) h.2)
    by_cases hg : ∃ r as cs, g = FItem.clause r as cs
    · obtain ⟨r, as, cs, rfl⟩ := hg
      rcases List.mem_cons.1 hf with rfl | hf
      · exact .inl ⟨r, as, cs, k, rfl, List.mem_cons_self⟩
      · exact lift _ hf
    · have hg' : ∀ r as cs, g ≠ FItem.clause r as cs := fun r as cs h => hg ⟨r, as, cs, h⟩
      rw [mapClauses_cons_other F hg'] at hf
      rcases List.mem_cons.1 hf with rfl | hf
      · exact .inr ⟨List.mem_cons_self, hg'⟩
      · exact lift _ hf

theorem mapClauses_mentions {varsE : E → List Var} {varsB : B → List Var} {varsG : G → List Var} (Gn : Var → Prop)
    (F : List (SArg E P) → Nat → List (SArg E P) × List (Cond E B P) × Nat)
    (hargs : ∀ as k, ∀ v ∈ (F as k).1.flatMap (SArg.mentions varsE), Gn v ∨ v ∈ as.flatMap (SArg.mentions varsE))
    (hconds : ∀ as k, ∀ v ∈ (F as k).2.1.flatMap (Cond.vars varsE varsB), Gn v ∨ v ∈ as.flatMap (SArg.mentions varsE))
    (fs : List (FItem E B G P A)) (k : Nat) :
    ∀ f ∈ mapClauses F fs k, ∀ v ∈ FItem.mentions varsE varsB varsG f,
      Gn v ∨ ∃ f₀ ∈ fs, v ∈ FItem.mentions varsE varsB varsG f₀ := by
  intro f hf v hv
  rcases mapClauses_mem F fs k f hf with ⟨r, as, cs, k', rfl, hmem⟩ | ⟨h1, _⟩
  · simp only [FItem.mentions, List.mem_append, List.flatMap_append] at hv
    rcases hv with hv | hv | hv
    · exact (hargs as k' v hv).imp id fun h => ⟨_, hmem, List.mem_append_left _ h⟩
    · exact (hconds as k' v hv).imp id fun h => ⟨_, hmem, List.mem_append_left _ h⟩
    · exact .inr ⟨_, hmem, List.mem_append_right _ hv⟩
  · exact .inr ⟨f, h1, hv⟩

theorem patItems_mentions (ops : Ops E B G A) {varsB : B → List Var} {varsG : G → List Var}
    (hvv : ∀ v, ops.varsE (ops.varE v) = [v]) (fs : List (FItem E B G P A)) (k : Nat) :
    ∀ f ∈ patItems ops fs k, ∀ v ∈ FItem.mentions ops.varsE varsB varsG f,
      isPat v ∨ ∃ f₀ ∈ fs, v ∈ FItem.mentions ops.varsE varsB varsG f₀ := by
  rw [patItems_eq]
  refine mapClauses_mentions isPat _ (fun as k v hv => ?_) (fun as k v hv => ?_) fs k
  · rw [patArgs_fst] at hv
    exact (freshen_flatMap gsPat _ _ (fun _ => rfl) as k v hv).imp (fun ⟨j, _, h⟩ => ⟨j, h⟩) id
  · obtain ⟨c, hc, hvc⟩ := List.mem_flatMap.1 hv
    obtain ⟨p, vs, j, _, rfl, hp⟩ := patArgs_conds ops as k c hc
    simp only [Cond.vars, hvv, List.mem_append, List.mem_singleton] at hvc
    rcases hvc with hvc | rfl
    · exact .inr (List.mem_flatMap.2 ⟨_, hp, hvc⟩)
    · exact .inl ⟨j, rfl⟩

theorem wildItems_mentions {varsE : E → List Var} {varsB : B → List Var} {varsG : G → List Var}
    (fs : List (FItem E B G P A)) (k : Nat) :
    ∀ f ∈ wildItems fs k, ∀ v ∈ FItem.mentions varsE varsB varsG f,
      isWild v ∨ ∃ f₀ ∈ fs, v ∈ FItem.mentions varsE varsB varsG f₀ := by
  rw [wildItems_eq]
  refine mapClauses_mentions isWild _ (fun as k v hv => ?_) (fun as k v hv => by simp [wildF] at hv) fs k
  rw [wildF, wildArgs_eq] at hv
  exact (freshen_flatMap gsWild _ _ (fun _ => rfl) as k v hv).imp (fun ⟨j, _, h⟩ => ⟨j, h⟩) id

theorem negItem_clause (ops : Ops E B G A) {f : FItem E B G P A} {r : RelId} {as : List (SArg E P)} {cs : List (Cond E B P)}
    (h : negItem ops f = FItem.clause r as cs) : f = FItem.clause r as cs := by
  cases f <;> simp_all [negItem]

theorem negItem_ne_neg (ops : Ops E B G A) (f : FItem E B G P A) (r : RelId) (as : List (NArg E)) :
    negItem ops f ≠ FItem.neg r as := by
  cases f <;> simp [negItem]

theorem negItem_mentions (ops : Ops E B G A) {varsE : E → List Var} {varsB : B → List Var} {varsG : G → List Var}
    (f : FItem E B G P A) :
    ∀ v ∈ FItem.mentions varsE varsB varsG (negItem ops f), v ∈ FItem.mentions varsE varsB varsG f := by
  intro v hv
  cases f with
  | neg r as =>
    simp only [negItem, FItem.mentions, List.nil_append, List.mem_flatMap, List.mem_map] at hv ⊢
    obtain ⟨a', ⟨a, ha, rfl⟩, hva⟩ := hv
    refine ⟨a, ha, ?_⟩
    cases a <;> exact hva
  | _ => exact hv

theorem pwn_mem (ops : Ops E B G A) (fs : List (FItem E B G P A)) :
    ∀ f ∈ pwn ops fs,
      (∃ r as cs k k', f = FItem.clause r (wildArgs (patArgs (B := B) ops as k).1 k').1 ((patArgs ops as k).2.1 ++ cs) ∧
        FItem.clause r as cs ∈ fs) ∨
      (∃ f₀ ∈ fs, f = negItem ops f₀ ∧ ∀ r as cs, f₀ ≠ FItem.clause r as cs) := by
  intro f hf
  simp only [pwn, List.mem_map, wildItems_eq, patItems_eq] at hf
  obtain ⟨f₂, hf₂, rfl⟩ := hf
  rcases mapClauses_mem _ _ 1 f₂ hf₂ with ⟨r, as₁, cs₁, k', rfl, hmem⟩ | ⟨hf₁, hne⟩
  · rcases mapClauses_mem _ fs 0 _ hmem with ⟨r', as, cs, k, heq, hmem₀⟩ | ⟨_, hne'⟩
    · cases heq
      exact .inl ⟨r, as, cs, k, k', rfl, hmem₀⟩
    · exact absurd rfl (hne' _ _ _)
  · rcases mapClauses_mem _ fs 0 f₂ hf₁ with ⟨r', as, cs, k, heq, _⟩ | ⟨hf₀, _⟩
    · exact absurd heq (hne _ _ _)
    · exact .inr ⟨f₂, hf₀, rfl, hne⟩

theorem pwn_args_mem (ops : Ops E B G A) (as : List (SArg E P)) (k k' : Nat) :
    ∀ a ∈ (wildArgs (patArgs (B := B) ops as k).1 k').1,
      (∃ j, a = SArg.var (gsWild j)) ∨ (∃ j, a = SArg.var (gsPat j)) ∨
        (a ∈ as ∧ ((∃ v, a = SArg.var v) ∨ ∃ e, a = SArg.expr e)) := by
  intro a ha
  rw [wildArgs_eq, patArgs_fst] at ha
  rcases freshen_mem _ _ _ k' a ha with ⟨j, _, rfl⟩ | ⟨ha₁, hnw⟩
  · exact .inl ⟨j, rfl⟩
  · rcases freshen_mem _ _ as k a ha₁ with ⟨j, _, rfl⟩ | ⟨ha₀, hnp⟩
    · exact .inr (.inl ⟨j, rfl⟩)
    · refine .inr (.inr ⟨ha₀, ?_⟩)
      cases a with
      | var v => exact .inl ⟨v, rfl⟩
      | expr e => exact .inr ⟨e, rfl⟩
      | wild => cases hnw
      | pat p vs => cases hnp

theorem freshen_scoped {varsE : E → List Var} {gen : Nat → Var} {sel : SArg E P → Bool}
    (hsel : ∀ a, sel a = true → SArg.varCol a = []) (as : List (SArg E P)) :
    ∀ (B : Var → Prop) (k : Nat), (∀ e, SArg.expr e ∈ as → ∀ v ∈ varsE e, ¬ GenOf gen v) → ScopedFrom varsE B as →
      ScopedFrom varsE B (freshen gen sel as k).1 := by
  induction as with
  | nil => exact fun _ _ _ _ => trivial
  | cons a as ih =>
    intro B k hno h
    have hno' := fun e he => hno e (List.mem_cons_of_mem _ he)
    by_cases ha : sel a = true
    · rw [freshen_cons_sel gen ha]
      refine And.intro (fun e he => nomatch he) (ih _ _ hno' (h.2.mono fun v hv => hv.imp id fun hm => ?_))
      rw [hsel a ha] at hm
      cases hm
    · rw [freshen_cons_keep gen ha]
      refine And.intro (fun e he v hv hm => h.1 e he v hv ?_) (ih _ _ hno' h.2)
      -- a later column of the output is a later column of the input: `v` is not a generated name
      exact (freshen_flatMap gen sel SArg.varCol (fun _ => rfl) as k v hm).resolve_left
        fun ⟨j, _, hj⟩ => hno e (he ▸ List.mem_cons_self) v hv ⟨j, hj⟩

theorem pwn_shape (ops : Ops E B G A) (fs : List (FItem E B G P A)) : CoreShaped (pwn ops fs) := by
  intro f hf
  rcases pwn_mem ops fs f hf with ⟨r, as, cs, k, k', rfl, _⟩ | ⟨f₀, _, rfl, hne⟩
  · refine ⟨fun r' as' cs' he a ha => ?_, fun _ _ h => nomatch h⟩
    cases he
    rcases pwn_args_mem ops as k k' a ha with ⟨j, rfl⟩ | ⟨j, rfl⟩ | ⟨_, hve⟩
    · exact .inl ⟨_, rfl⟩
    · exact .inl ⟨_, rfl⟩
    · exact hve
  · exact ⟨fun r as cs he => absurd (negItem_clause ops he) (hne r as cs), negItem_ne_neg ops f₀⟩

/-- the output mentions user variables, `__arg_pattern_N` and `__N` only -/
theorem pwn_mentions (ops : Ops E B G A) {varsB : B → List Var} {varsG : G → List Var}
    (hvv : ∀ v, ops.varsE (ops.varE v) = [v]) (fs : List (FItem E B G P A))
    (hres : ∀ f ∈ fs, ∀ v ∈ FItem.mentions ops.varsE varsB varsG f, v < reservedBase) :
    ∀ f ∈ pwn ops fs, ∀ v ∈ FItem.mentions ops.varsE varsB varsG f, v < reservedBase ∨ isPat v ∨ isWild v := by
  intro f hf v hv
  simp only [pwn, List.mem_map] at hf
  obtain ⟨f₂, hf₂, rfl⟩ := hf
  rcases wildItems_mentions _ 1 f₂ hf₂ v (negItem_mentions ops f₂ v hv) with hw | ⟨f₁, hf₁, hv₁⟩
  · exact .inr (.inr hw)
  · rcases patItems_mentions ops hvv fs 0 f₁ hf₁ v hv₁ with hp | ⟨f₀, hf₀, hv₀⟩
    · exact .inr (.inl hp)
    · exact .inl (hres f₀ hf₀ v hv₀)

theorem pwn_exprScoped (ops : Ops E B G A) {varsB : B → List Var} {varsG : G → List Var} (fs : List (FItem E B G P A))
    (hres : ∀ f ∈ fs, ∀ v ∈ FItem.mentions ops.varsE varsB varsG f, v < reservedBase)
    (hws : ∀ rel args conds, FItem.clause rel args conds ∈ fs → ExprScopedArgs ops.varsE args) :
    ∀ rel args conds, FItem.clause rel args conds ∈ pwn ops fs → ScopedFrom ops.varsE (fun _ => False) args := by
  intro r as' cs' hf
  rcases pwn_mem ops fs _ hf with ⟨r₀, as, cs, k, k', he, hmem⟩ | ⟨f₀, _, he, hne⟩
  · cases he
    have huser : ∀ e, SArg.expr e ∈ as → ∀ v ∈ ops.varsE e, v < reservedBase := fun e hein v hv =>
      hres _ hmem v (List.mem_append_left _ (List.mem_flatMap.2 ⟨_, hein, hv⟩))
    rw [wildArgs_eq, patArgs_fst]
    refine freshen_scoped (fun _ => SArg.varCol_of_isWildcard) _ _ k' (fun e hein v hv => ?_)
      (freshen_scoped (fun _ => SArg.varCol_of_isPattern) as _ k (fun e hein v hv => not_gs_of_lt (huser e hein v hv))
        (scopedFrom_of_split as fun pre e post he v hv hm => .inl (hws _ _ _ hmem pre e post he v hv hm)))
    rcases freshen_mem _ _ as k _ hein with ⟨j, _, hj⟩ | ⟨h0, _⟩
    · cases hj
    · exact not_gs_of_lt (huser e h0 v hv)
  · exact absurd (negItem_clause ops he.symm) (hne _ _ _)

#print axioms pwn_shape
#print axioms pwn_mentions
#print axioms pwn_exprScoped

end AscentVerif.Surface
