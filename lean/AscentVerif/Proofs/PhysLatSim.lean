import AscentVerif.Proofs.PhysLatIdx
import AscentVerif.Proofs.PhysLatEval
import AscentVerif.Proofs.PhysSim
import AscentVerif.Proofs.LatInv
/-!
# The simulation relation between the physical engine with lattices and the bag engine

`SimL p ix a x`: the abstract SCC state `a` (row vectors, bags of row numbers) and the physical one `x` (row vectors, hash
indices) hold the same rows, the same `changed` flag, the same dynamic relations in the same order, and every physical index
version holds exactly the entries of the rows numbered by the corresponding bag (`XOk`): `Phys.IxOk` for a plain relation,
`LOk` for an index of a lattice over key columns; an index of a lattice that contains the value column is NOT constrained —
the generated head update skips the all-columns index and files a row in the others under the derived value, not the joined
one, so such an index goes stale (finding F9); `latPlanOk` keeps every clause off it.  `SimStL`: the same between SCCs.
`Files`: what the indices of a lattice must know of one head update; the bag engine produces it in its two cases (`Files.push`,
`Files.join`), the serial head update (`headLat_simL`) and the parallel one (`Proofs/PhysParLatSim.lean`) consume it.
-/
namespace AscentVerif.PhysLat
open AscentVerif AscentVerif.Engine AscentVerif.Index AscentVerif.Phys

variable {E B G P A : Type}

theorem proj_dropLast {cols : List Nat} {t : Tuple} (hc : ∀ c ∈ cols, c < t.length - 1) :
    Plan.proj cols t = Plan.proj cols t.dropLast := by
  unfold Plan.proj
  apply List.map_congr_left
  intro c hcm
  have h1 : c < t.dropLast.length := by rw [List.length_dropLast]; exact hc c hcm
  simp only [List.getD_eq_getElem?_getD]
  rw [List.getElem?_eq_getElem h1, List.getElem_dropLast, List.getElem?_eq_getElem]

theorem proj_congr_key {cols : List Nat} {t t' : Tuple} {n : Nat} (ht : t.length = n) (ht' : t'.length = n)
    (hk : t.dropLast = t'.dropLast) (hc : ∀ c ∈ cols, c < n - 1) : Plan.proj cols t = Plan.proj cols t' := by
  rw [proj_dropLast (t := t) (by rw [ht]; exact hc), hk]
  exact (proj_dropLast (by rw [ht']; exact hc)).symm

theorem proj_keyCols {t : Tuple} {n : Nat} (ht : t.length = n) : Plan.proj (List.range (n - 1)) t = t.dropLast := by
  rw [proj_dropLast (by rw [ht]; exact fun c hc => List.mem_range.mp hc), ← ht, ← List.length_dropLast]
  exact proj_range _

theorem idx_of_proj_keyCols {rows : List Tuple} {n : Nat} (hty : ∀ t ∈ rows, t.length = n) (hk : (rows.map keyOf).Nodup)
    {i j : Nat} (hi : i < rows.length) (hj : j < rows.length)
    (hp : Plan.proj (List.range (n - 1)) (rowAt rows i) = Plan.proj (List.range (n - 1)) (rowAt rows j)) : i = j := by
  rw [proj_keyCols (hty _ (rowAt_mem _ i hi)), proj_keyCols (hty _ (rowAt_mem _ j hj))] at hp
  exact idx_of_key hk hi hj hp

theorem xrel_setNth_self (s : XSt) (r : RelId) (x : XRel) (h : r < s.length) : xrel (setNth s r x) r = x :=
  getD_setNth_self _ s r x h

theorem xrel_setNth_ne (s : XSt) (r r' : RelId) (x : XRel) (h : r' ≠ r) : xrel (setNth s r x) r' = xrel s r' :=
  getD_setNth_ne _ s r r' x h

theorem xrel_of_ge (s : XSt) (r : RelId) (h : s.length ≤ r) : xrel s r = ⟨[], [], []⟩ :=
  getD_of_ge _ s r h

theorem xrel_rangeMap (f : Nat → XRel) (m : Nat) (r : RelId) (hr : r < m) : xrel ((List.range m).map f) r = f r :=
  getD_rangeMap _ r f m hr

theorem xrel_rangeMap_ge (f : Nat → XRel) (m : Nat) (r : RelId) (hr : m ≤ r) :
    xrel ((List.range m).map f) r = ⟨[], [], []⟩ :=
  xrel_of_ge _ _ (by simpa using hr)

theorem isLat_of_ge (p : Program E B G P A) (r : RelId) (h : p.rels.length ≤ r) : isLatRel p r = false := by
  simp [isLatRel, declOf, List.getD_eq_getElem?_getD, List.getElem?_eq_none h]

def POk (rows : List Tuple) (bag cols : List Nat) : XIx → Prop
  | .vals m => IxOk rows bag cols m
  | _ => False

theorem POk_vals {rows : List Tuple} {bag cols : List Nat} {x : XIx} (h : POk rows bag cols x) :
    ∃ m, x = .vals m ∧ IxOk rows bag cols m := by
  cases x with
  | vals m => exact ⟨m, rfl, h⟩
  | rows m => exact absurd h id
  | key m => exact absurd h id

/-- one version of one index of relation `r`.  For a lattice it speaks only of an index over key columns: of one that contains
the value column (the all-columns index among them) it says nothing, so `x` may then be anything -/
def XOk (p : Program E B G P A) (r : RelId) (rows : List Tuple) (bag cols : List Nat) (x : XIx) : Prop :=
  (isLatRel p r = true → (∀ c ∈ cols, c < arityOf p r - 1) → LOk (keyCols p r) rows bag cols x) ∧
  (isLatRel p r = false → POk rows bag cols x)

theorem XOk_lat {p : Program E B G P A} {r : RelId} {rows : List Tuple} {bag cols : List Nat} {x : XIx}
    (hlat : isLatRel p r = true) (h : (∀ c ∈ cols, c < arityOf p r - 1) → LOk (keyCols p r) rows bag cols x) :
    XOk p r rows bag cols x :=
  ⟨fun _ => h, fun hf => by rw [hlat] at hf; cases hf⟩

theorem XOk_plain {p : Program E B G P A} {r : RelId} {rows : List Tuple} {bag cols : List Nat} {x : XIx}
    (hlat : isLatRel p r = false) (h : POk rows bag cols x) : XOk p r rows bag cols x :=
  ⟨fun ht => (by rw [hlat] at ht; cases ht), fun _ => h⟩

def XVerOk (p : Program E B G P A) (ix : IxSets) (r : RelId) (rows : List Tuple) (bag : List Nat) (full : FIx)
    (idxs : List (List Nat × XIx)) : Prop :=
  (isLatRel p r = false → FullOk rows bag full) ∧ idxs.map (·.1) = ixOf p ix r ∧
    ∀ ci ∈ idxs, XOk p r rows bag ci.1 ci.2

structure XTriOk (p : Program E B G P A) (ix : IxSets) (r : RelId) (rows : List Tuple) (d : Dyn) (full : Tri FIx)
    (idxs : List (List Nat × Tri XIx)) : Prop where
  ft : isLatRel p r = false → FullOk rows d.total full.total
  fd : isLatRel p r = false → FullOk rows d.delta full.delta
  fn : isLatRel p r = false → FullOk rows d.new full.new
  cols : idxs.map (·.1) = ixOf p ix r
  it : ∀ ci ∈ idxs, XOk p r rows d.total ci.1 ci.2.total
  id : ∀ ci ∈ idxs, XOk p r rows d.delta ci.1 ci.2.delta
  inw : ∀ ci ∈ idxs, XOk p r rows d.new ci.1 ci.2.new

section
variable {p : Program E B G P A} {ix : IxSets} {r : RelId} {rows : List Tuple} {d : Dyn} {full : Tri FIx}
  {idxs : List (List Nat × Tri XIx)}

theorem xverOk_map {bag : List Nat} {full : FIx} (sel : Tri XIx → XIx) (hf : isLatRel p r = false → FullOk rows bag full)
    (hc : idxs.map (·.1) = ixOf p ix r) (hi : ∀ ci ∈ idxs, XOk p r rows bag ci.1 (sel ci.2)) :
    XVerOk p ix r rows bag full (idxs.map fun ci => (ci.1, sel ci.2)) := by
  refine ⟨hf, ?_, ?_⟩
  · rw [List.map_map, ← hc]; rfl
  · intro ci hci
    obtain ⟨c, hc', rfl⟩ := List.mem_map.mp hci
    exact hi c hc'

theorem XTriOk.verT (h : XTriOk p ix r rows d full idxs) :
    XVerOk p ix r rows d.total full.total (idxs.map fun ci => (ci.1, ci.2.total)) :=
  xverOk_map (·.total) h.ft h.cols h.it

theorem XTriOk.verD (h : XTriOk p ix r rows d full idxs) :
    XVerOk p ix r rows d.delta full.delta (idxs.map fun ci => (ci.1, ci.2.delta)) :=
  xverOk_map (·.delta) h.fd h.cols h.id

theorem XTriOk.verN (h : XTriOk p ix r rows d full idxs) :
    XVerOk p ix r rows d.new full.new (idxs.map fun ci => (ci.1, ci.2.new)) :=
  xverOk_map (·.new) h.fn h.cols h.inw

theorem XTriOk.of_map {α : Type} {idxs : List (List Nat × α)} (g : List Nat × α → Tri XIx) (hc : idxs.map (·.1) = ixOf p ix r)
    (ft : isLatRel p r = false → FullOk rows d.total full.total)
    (fd : isLatRel p r = false → FullOk rows d.delta full.delta)
    (fn : isLatRel p r = false → FullOk rows d.new full.new)
    (hi : ∀ ci ∈ idxs, XOk p r rows d.total ci.1 (g ci).total ∧ XOk p r rows d.delta ci.1 (g ci).delta ∧
      XOk p r rows d.new ci.1 (g ci).new) :
    XTriOk p ix r rows d full (idxs.map fun ci => (ci.1, g ci)) := by
  refine ⟨ft, fd, fn, by rw [List.map_map, ← hc]; rfl, ?_, ?_, ?_⟩
  · intro ci hci
    obtain ⟨c, hc', rfl⟩ := List.mem_map.mp hci
    exact (hi c hc').1
  · intro ci hci
    obtain ⟨c, hc', rfl⟩ := List.mem_map.mp hci
    exact (hi c hc').2.1
  · intro ci hci
    obtain ⟨c, hc', rfl⟩ := List.mem_map.mp hci
    exact (hi c hc').2.2

end

structure XDynOk (p : Program E B G P A) (ix : IxSets) (rows : RelId → List Tuple) (d : Dyn) (pd : XDyn) : Prop where
  rel : pd.rel = d.rel
  tri : XTriOk p ix d.rel (rows d.rel) d pd.full pd.idxs

theorem XDynOk.congr {p : Program E B G P A} {ix : IxSets} {rows rows' : RelId → List Tuple} {d : Dyn} {pd : XDyn}
    (h : XDynOk p ix rows d pd) (he : rows' d.rel = rows d.rel) : XDynOk p ix rows' d pd :=
  ⟨h.rel, by rw [he]; exact h.tri⟩

structure SimL (p : Program E B G P A) (ix : IxSets) (a : SccSt) (x : XScc) : Prop where
  len : a.rels.length = x.rels.length
  rows : ∀ r, (relSt a.rels r).rows = (xrel x.rels r).rows
  changed : a.changed = x.changed
  dyn : Rel2 (XDynOk p ix fun r => (relSt a.rels r).rows) a.dyn x.dyn
  nd : ∀ r, r < a.rels.length → findDyn a.dyn r = none →
    XVerOk p ix r (relSt a.rels r).rows (relSt a.rels r).idx (xrel x.rels r).full (xrel x.rels r).idxs
  typed : ∀ r, ∀ t ∈ (relSt a.rels r).rows, t.length = arityOf p r

structure SimStL (p : Program E B G P A) (ix : IxSets) (st : St) (xst : XSt) : Prop where
  len : st.length = xst.length
  rows : ∀ r, (relSt st r).rows = (xrel xst r).rows
  ok : ∀ r, r < st.length → XVerOk p ix r (relSt st r).rows (relSt st r).idx (xrel xst r).full (xrel xst r).idxs
  typed : ∀ r, ∀ t ∈ (relSt st r).rows, t.length = arityOf p r

section
variable {p : Program E B G P A} {ix : IxSets} {dynR : List RelId} {a : SccSt} {x : XScc}

theorem SimL.find (h : SimL p ix a x) (r : RelId) :
    (findDyn a.dyn r = none ∧ findXDyn x.dyn r = none) ∨
      ∃ d pd, findDyn a.dyn r = some d ∧ findXDyn x.dyn r = some pd ∧ pd.rel = r ∧
        XTriOk p ix r (rowsOf a r) d pd.full pd.idxs := by
  have h2 := Rel2_find? (fun d : Dyn => d.rel) (fun pd : XDyn => pd.rel) (fun _ _ hq => hq.rel) h.dyn r
  cases hd : findDyn a.dyn r with
  | none => exact .inl ⟨rfl, h2.1 hd⟩
  | some d =>
    obtain ⟨pd, hp, hok⟩ := h2.2 d hd
    obtain rfl := findDyn_rel hd
    exact .inr ⟨d, pd, rfl, hp, hok.rel, hok.tri⟩

end

/-- the index of a plain relation as `Model/EnginePhys.lean` has it: the reads of a plain relation are those of `Phys`
(`plain_reads`), so that `get1_spec` / `all1_spec` / `len1_eq_zero` of `Proofs/PhysIdx.lean` apply -/
def toP : XIx → PIx
  | .vals m => m
  | _ => []

theorem find?_cols {α : Type} (idxs : List (List Nat × α)) (cs : List (List Nat)) (hm : idxs.map (·.1) = cs) (cols : List Nat)
    (hc : cols ∈ cs) : ∃ c ∈ idxs, c.1 = cols ∧ idxs.find? (·.1 == cols) = some c := by
  cases hf : idxs.find? (·.1 == cols) with
  | none =>
    rw [← hm, List.mem_map] at hc
    obtain ⟨ci, hci, e⟩ := hc
    have := List.find?_eq_none.mp hf ci hci
    simp [e] at this
  | some ci =>
    exact ⟨ci, List.mem_of_find?_eq_some hf, by simpa using List.find?_some hf, rfl⟩

theorem lookupX_some {idxs : List (List Nat × XIx)} {cols : List Nat} {ixr : List (List Nat)}
    (hm : idxs.map (·.1) = ixr) (hc : cols ∈ ixr) : ∃ ci ∈ idxs, ci.1 = cols ∧ lookupX idxs cols = some ci.2 :=
  let ⟨ci, h1, h2, h3⟩ := find?_cols idxs ixr hm cols hc
  ⟨ci, h1, h2, by rw [lookupX, h3]; rfl⟩

theorem lookupX_mem {idxs : List (List Nat × XIx)} {cols : List Nat} {x : XIx} (h : lookupX idxs cols = some x) :
    ∃ ci ∈ idxs, ci.2 = x := by
  obtain ⟨ci, hf, rfl⟩ := Option.map_eq_some_iff.mp h
  exact ⟨ci, List.mem_of_find?_eq_some hf, rfl⟩

theorem lookupIx_toP (idxs : List (List Nat × XIx)) (cols : List Nat) :
    lookupIx (idxs.map fun ci => (ci.1, toP ci.2)) cols = ((lookupX idxs cols).map toP).getD [] := by
  unfold lookupIx lookupX
  rw [List.find?_map]
  have : ((fun ci : List Nat × PIx => ci.1 == cols) ∘ fun ci : List Nat × XIx => (ci.1, toP ci.2)) =
      fun ci : List Nat × XIx => ci.1 == cols := rfl
  rw [this]
  cases idxs.find? (fun ci => ci.1 == cols) <;> rfl

theorem plain_reads (arity : Nat) (v : Ver1) (hv : ∀ ci ∈ v.idxs, ∃ m, ci.2 = .vals m) (cols : List Nat) :
    (∀ key, get1 false arity v cols key = Phys.get1 arity v.full (v.idxs.map fun ci => (ci.1, toP ci.2)) cols key) ∧
    all1 false arity v cols = Phys.all1 arity v.full (v.idxs.map fun ci => (ci.1, toP ci.2)) cols ∧
    len1 false arity v cols = Phys.len1 arity v.full (v.idxs.map fun ci => (ci.1, toP ci.2)) cols := by
  unfold get1 all1 len1 Phys.get1 Phys.all1 Phys.len1
  by_cases hc : (cols.length == arity) = true
  · simp [hc]
  · simp only [Bool.not_false, Bool.true_and, hc, Bool.false_eq_true, if_false, lookupIx_toP]
    cases hlx : lookupX v.idxs cols with
    | none => simp [Idx.get, HMap.get?_nil]
    | some x =>
      obtain ⟨ci, hci, rfl⟩ := lookupX_mem hlx
      obtain ⟨m, hm⟩ := hv ci hci
      simp [hm, XIx.get, XIx.all, XIx.size, toP]

theorem cols_short {arity : Nat} {cols : List Nat} (hc : ColsOk arity cols) (ha : 0 < arity)
    (hl : ∀ c ∈ cols, c < arity - 1) : cols.length ≠ arity := by
  cases cols with
  | nil => simp; omega
  | cons c t =>
    have := increasing_bound t c (arity - 1) hc.1 hl
    simp only [List.length_cons]
    omega

theorem plain_spec (arity : Nat) (ixr : List (List Nat)) (rows : List Tuple) (bag : List Nat) (v1 : Ver1)
    (hvals : ∀ ci ∈ v1.idxs, ∃ m, ci.2 = .vals m)
    (hver : VerOk ixr rows bag v1.full (v1.idxs.map fun ci => (ci.1, toP ci.2))) (cols : List Nat)
    (hc : ColsOk arity cols) (hix : cols.length = arity ∨ cols ∈ ixr)
    (hty : ∀ i ∈ bag, (rowAt rows i).length = arity) :
    GSpec rows bag cols (get1 false arity v1 cols) (all1 false arity v1 cols) (len1 false arity v1 cols) := by
  obtain ⟨e1, e2, e3⟩ := plain_reads arity v1 hvals cols
  refine ⟨?_, ?_, ?_⟩
  · intro key t
    rw [e1 key]
    exact get1_spec arity cols key hver hc hix hty t
  · intro k t
    rw [e2]
    exact all1_spec arity cols hver hc hix hty k t
  · intro hz
    rw [e3] at hz
    exact (len1_eq_zero arity cols hver hix).mp hz

theorem XVerOk.lookup_lat {p : Program E B G P A} {ix : IxSets} {r : RelId} {rows : List Tuple} {bag cols : List Nat} {full : FIx}
    {idxs : List (List Nat × XIx)} (hv : XVerOk p ix r rows bag full idxs) (hlat : isLatRel p r = true)
    (hc : cols ∈ ixOf p ix r) (hlc : ∀ c ∈ cols, c < arityOf p r - 1) :
    ∃ x, lookupX idxs cols = some x ∧ LOk (keyCols p r) rows bag cols x := by
  obtain ⟨ci, hci, rfl, hl⟩ := lookupX_some hv.2.1 hc
  exact ⟨ci.2, hl, (hv.2.2 ci hci).1 hlat hlc⟩

theorem ver1_spec (p : Program E B G P A) (ix : IxSets) (r : RelId) (rows : List Tuple) (bag : List Nat) (v1 : Ver1)
    (hrows : v1.rows = rows) (hv : XVerOk p ix r rows bag v1.full v1.idxs) (cols : List Nat)
    (hc : ColsOk (arityOf p r) cols) (hix : cols.length = arityOf p r ∨ cols ∈ ixOf p ix r)
    (hlc : isLatRel p r = true → ∀ c ∈ cols, c < arityOf p r - 1)
    (hty : ∀ i ∈ bag, (rowAt rows i).length = arityOf p r) (har : isLatRel p r = true → 0 < arityOf p r) :
    GSpec rows bag cols (get1 (isLatRel p r) (arityOf p r) v1 cols) (all1 (isLatRel p r) (arityOf p r) v1 cols)
      (len1 (isLatRel p r) (arityOf p r) v1 cols) := by
  cases hl : isLatRel p r with
  | false =>
    obtain ⟨hfull, hcols, hidx⟩ := hv
    have hP : ∀ ci ∈ v1.idxs, ∃ m, ci.2 = .vals m ∧ IxOk rows bag ci.1 m := fun ci hci => POk_vals ((hidx ci hci).2 hl)
    refine plain_spec (arityOf p r) _ rows bag v1 (fun ci hci => (hP ci hci).imp fun _ h => h.1)
      ⟨hfull hl, by rw [List.map_map, ← hcols]; rfl, ?_⟩ cols hc hix hty
    intro ci hci
    obtain ⟨c, hc', rfl⟩ := List.mem_map.mp hci
    obtain ⟨m, hm, hok⟩ := hP c hc'
    simp only [hm, toP]
    exact hok
  | true =>
    obtain ⟨x, hlook, hok⟩ := hv.lookup_lat hl (hix.resolve_left (cols_short hc (har hl) (hlc hl))) (hlc hl)
    subst hrows
    refine ⟨fun key t => ?_, fun k t => ?_, fun hz => ?_⟩
    · simp only [get1, Bool.not_true, Bool.false_and, Bool.false_eq_true, if_false, hlook]
      exact XIx_get_spec hok _ key t
    · simp only [all1, Bool.not_true, Bool.false_and, Bool.false_eq_true, if_false, hlook]
      exact XIx_all_spec hok _ k t
    · simp only [len1, Bool.not_true, Bool.false_and, Bool.false_eq_true, if_false, hlook] at hz
      exact XIx_size_spec hok hz

section
variable {p : Program E B G P A} {ix : IxSets} {dynR : List RelId} {a : SccSt} {x : XScc} {r : RelId} {d : Dyn}

/-- `ViewsOkL` from what the simulation relation says relation by relation (not from `SimL` itself, so that the dynamic
relations may be listed in any order: `Proofs/PhysParLatBasic.lean`) -/
theorem viewsOkL_of_find (p : Program E B G P A) (ix : IxSets)
    (hlen : a.rels.length = x.rels.length) (hrows : ∀ r, rowsOf a r = (xrel x.rels r).rows)
    (hfind : ∀ r, (findDyn a.dyn r = none ∧ findXDyn x.dyn r = none) ∨
      ∃ d pd, findDyn a.dyn r = some d ∧ findXDyn x.dyn r = some pd ∧ XTriOk p ix r (rowsOf a r) d pd.full pd.idxs)
    (hnd : ∀ r, r < a.rels.length → findDyn a.dyn r = none →
      XVerOk p ix r (rowsOf a r) (relSt a.rels r).idx (xrel x.rels r).full (xrel x.rels r).idxs)
    (htyped : ∀ r, ∀ t ∈ rowsOf a r, t.length = arityOf p r)
    (hwf : WF p.rels.length dynR a) (har : ∀ r, isLatRel p r = true → 0 < arityOf p r) :
    ViewsOkL p (fun r => ixOf p ix r) a x := by
  intro r v cols hc hix hlc
  have hty : ∀ i, i < (rowsOf a r).length → (rowAt (rowsOf a r) i).length = arityOf p r :=
    fun i hi => htyped r _ (rowAt_mem _ i hi)
  have hxr : (xrel x.rels r).rows = rowsOf a r := (hrows r).symm
  rcases hfind r with ⟨h1, h2⟩ | ⟨d, pd, h1, h2, tri⟩
  · simp only [viewOf, h2]
    by_cases hr : r < a.rels.length
    · exact (ver1_spec p ix r _ (relSt a.rels r).idx _ hxr (hnd r hr h1) cols hc hix hlc
        (fun i hi => hty i ((hwf.cover_nd r h1 i).mpr hi)) (har r)).congr_bag
        (fun i => mem_clauseRows_none' {} p v h1 i)
    · -- an undeclared relation: no rows, arity 0, not a lattice
      have hr' : a.rels.length ≤ r := Nat.le_of_not_lt hr
      have hrp : p.rels.length ≤ r := by rw [← hwf.len]; exact hr'
      have harz : arityOf p r = 0 := arityOf_of_ge p r hrp
      have hcols : cols = [] := by
        cases cols with
        | nil => rfl
        | cons j t => have := hc.2 j (by simp); omega
      have ha : relSt a.rels r = ⟨[], []⟩ := relSt_of_ge _ _ hr'
      rw [xrel_of_ge _ _ (by rw [← hlen]; exact hr'), ha, isLat_of_ge p r hrp]
      refine (plain_spec (arityOf p r) [] [] [] ⟨[], [], []⟩ (by intro ci hci; cases hci)
        ⟨FullOk_nil [], rfl, by intro ci hci; cases hci⟩ cols hc (.inl (by rw [hcols, harz]; rfl))
        (by intro i hi; cases hi)).congr_bag ?_
      intro i
      rw [mem_clauseRows_none' {} p v h1 i, ha]
  · obtain ⟨bT, bD, _⟩ := WF.bag_lt hwf h1
    have specT := ver1_spec p ix r (rowsOf a r) d.total
      ⟨(xrel x.rels r).rows, pd.full.total, pd.idxs.map fun ci => (ci.1, ci.2.total)⟩ hxr tri.verT cols hc hix hlc
      (fun i hi => hty i (bT i hi)) (har r)
    have specD := ver1_spec p ix r (rowsOf a r) d.delta
      ⟨(xrel x.rels r).rows, pd.full.delta, pd.idxs.map fun ci => (ci.1, ci.2.delta)⟩ hxr tri.verD cols hc hix hlc
      (fun i hi => hty i (bD i hi)) (har r)
    have hmem := mem_clauseRows_some' {} p v h1
    simp only [viewOf, h2]
    cases v with
    | none => exact specT.congr_bag hmem
    | some v =>
      cases v with
      | total => exact specT.congr_bag hmem
      | delta => exact specD.congr_bag hmem
      | totalDelta => exact specT.append specD hmem

theorem sim_viewsOkL (p : Program E B G P A) (ix : IxSets) (hsim : SimL p ix a x) (hwf : WF p.rels.length dynR a)
    (har : ∀ r, isLatRel p r = true → 0 < arityOf p r) :
    ViewsOkL p (fun r => ixOf p ix r) a x :=
  viewsOkL_of_find p ix hsim.len hsim.rows
    (fun r => (hsim.find r).imp id fun ⟨d, pd, h1, h2, _, tri⟩ => ⟨d, pd, h1, h2, tri⟩) hsim.nd hsim.typed hwf har

def updX (x : XScc) (r : RelId) (pd' : XDyn) (rows' : List Tuple) : XScc :=
  { rels := setNth x.rels r { xrel x.rels r with rows := rows' }, dyn := setXDyn x.dyn pd', changed := true }

theorem upd_simL (hsim : SimL p ix a x) (hd : findDyn a.dyn r = some d) (hr : r < a.rels.length) (d' : Dyn) (hrel : d'.rel = r)
    (pd' : XDyn) (hprel : pd'.rel = r) (rows' : List Tuple) (htri : XTriOk p ix r rows' d' pd'.full pd'.idxs)
    (htyped : ∀ t ∈ rows', t.length = arityOf p r) : SimL p ix (upd a r d' rows') (updX x r pd' rows') := by
  have hrp : r < x.rels.length := by rw [← hsim.len]; exact hr
  have hrows_self : (relSt (upd a r d' rows').rels r).rows = rows' := upd_rows_self hr
  have hrows_ne : ∀ r', r' ≠ r → relSt (upd a r d' rows').rels r' = relSt a.rels r' := fun r' hne => upd_relSt_ne hne
  have hxrows_ne : ∀ r', r' ≠ r → xrel (updX x r pd' rows').rels r' = xrel x.rels r' := by
    intro r' hne; simp [updX, xrel_setNth_ne _ _ _ _ hne]
  refine ⟨?_, ?_, rfl, ?_, ?_, ?_⟩
  · simp [upd, updX, hsim.len]
  · intro r'
    by_cases hne : r' = r
    · subst hne
      rw [hrows_self]
      simp [updX, xrel_setNth_self _ _ _ hrp]
    · rw [hrows_ne r' hne, hxrows_ne r' hne]; exact hsim.rows r'
  · show Rel2 _ (setDyn a.dyn d') (setXDyn x.dyn pd')
    rw [setDyn_eq_map]
    unfold setXDyn
    refine Rel2.map _ _ ?_ hsim.dyn
    intro y py hy
    by_cases hc : y.rel = r
    · have h1 : (y.rel == d'.rel) = true := by simp [hc, hrel]
      have h2 : (py.rel == pd'.rel) = true := by simp [hy.rel, hc, hprel]
      simp only [h1, h2, if_true]
      refine ⟨by rw [hprel, hrel], ?_⟩
      rw [hrel, hrows_self]
      exact htri
    · have h1 : (y.rel == d'.rel) = false := by simp [hc, hrel]
      have h2 : (py.rel == pd'.rel) = false := by simp [hy.rel, hc, hprel]
      simp only [h1, h2, Bool.false_eq_true, if_false]
      exact hy.congr (by show (relSt (upd a r d' rows').rels y.rel).rows = _; rw [hrows_ne _ hc])
  · intro r' hr' hnd
    have hne : r' ≠ r := by
      intro h; subst h
      rw [upd_dyn_self hd hrel] at hnd; cases hnd
    have hnd0 : findDyn a.dyn r' = none := by rw [← upd_dyn_ne hrel hne]; exact hnd
    rw [hrows_ne r' hne, hxrows_ne r' hne]
    exact hsim.nd r' (by simpa [upd] using hr') hnd0
  · intro r' t ht
    by_cases hne : r' = r
    · subst hne
      rw [hrows_self] at ht
      exact htyped t ht
    · rw [hrows_ne r' hne] at ht; exact hsim.typed r' t ht

theorem push_simL (hsim : SimL p ix a x) (hd : findDyn a.dyn r = some d) (hr : r < a.rels.length) (row : Tuple)
    (hlen : row.length = arityOf p r) (pd' : XDyn) (hprel : pd'.rel = r)
    (htri : XTriOk p ix r (rowsOf a r ++ [row]) { d with new := d.new ++ [(rowsOf a r).length] } pd'.full pd'.idxs) :
    SimL p ix (pushRow a r d row) (updX x r pd' (rowsOf a r ++ [row])) := by
  rw [pushRow_eq_upd]
  have hrel : d.rel = r := findDyn_rel hd
  refine upd_simL hsim hd hr { d with new := d.new ++ [(rowsOf a r).length] } hrel pd' hprel _ htri fun t ht => ?_
  rcases List.mem_append.mp ht with ht | ht
  · exact hsim.typed r t ht
  · rw [List.mem_singleton.mp ht]; exact hlen

end

section
variable {p : Program E B G P A} {ix : IxSets} {r : RelId} {rows rows' : List Tuple} {bag bag' cols : List Nat}

theorem XOk_lat_congr {x : XIx} (hlat : isLatRel p r = true) (h : XOk p r rows bag cols x) (hb : ∀ i, i ∈ bag' ↔ i ∈ bag)
    (hr : (∀ c ∈ cols, c < arityOf p r - 1) →
      ∀ i ∈ bag, Plan.proj cols (rowAt rows' i) = Plan.proj cols (rowAt rows i)) : XOk p r rows' bag' cols x :=
  XOk_lat hlat fun hc => LOk_congr (h.1 hlat hc) hb (hr hc)

theorem XOk_lat_insert {x : XIx} (hlat : isLatRel p r = true) (row : Tuple) (i : Nat) (h : XOk p r rows bag cols x)
    (hrow : (∀ c ∈ cols, c < arityOf p r - 1) → Plan.proj cols (rowAt rows i) = Plan.proj cols row)
    (hb : ∀ j, j ∈ bag' ↔ j ∈ bag ∨ j = i)
    (hu : cols = keyCols p r → ∀ j ∈ bag, Plan.proj cols (rowAt rows j) = Plan.proj cols row → j = i) :
    XOk p r rows bag' cols (x.insert cols row i) :=
  XOk_lat hlat fun hc => LOk_insert row i (h.1 hlat hc) (hrow hc) hb hu

theorem keyGet_eq_findKey {kc : List Nat} {x : XIx} (h : LOk kc rows bag kc x)
    (hproj : ∀ i ∈ bag, Plan.proj kc (rowAt rows i) = keyOf (rowAt rows i))
    (hu : ∀ i ∈ bag, ∀ j ∈ bag, keyOf (rowAt rows i) = keyOf (rowAt rows j) → i = j) (key : Tuple) :
    keyGet x key = findKey rows bag key := by
  obtain ⟨hw, hh⟩ := h
  cases x with
  | vals m => exact absurd hw id
  | rows m => exact absurd rfl hw.1
  | key m =>
    have hh' : ∀ k i, HMap.get? m k = some i ↔ i ∈ bag ∧ Plan.proj kc (rowAt rows i) = k := hh
    show HMap.get? m key = findKey rows bag key
    cases hg : HMap.get? m key with
    | none =>
      cases hf : findKey rows bag key with
      | none => rfl
      | some j =>
        obtain ⟨hj, hk⟩ := findKey_some hf
        have := (hh' key j).mpr ⟨hj, by rw [hproj j hj]; exact hk⟩
        rw [hg] at this; cases this
    | some i =>
      obtain ⟨hi, hk⟩ := (hh' key i).mp hg
      rw [hproj i hi] at hk
      cases hf : findKey rows bag key with
      | none => exact absurd hk (findKey_none hf i hi)
      | some j =>
        obtain ⟨hj, hk'⟩ := findKey_some hf
        rw [hu i hi j hj (hk.trans hk'.symm)]

end

theorem physHeadLat_eq (I : Interp E B G P A) (p : Program E B G P A) (s : XScc) (r : RelId) (row : Tuple) :
    headLat I p s r row =
      match findXDyn s.dyn r with
      | none => s
      | some d =>
        match lookupX (d.idxs.map fun ci => (ci.1, ci.2.new)) (keyCols p r),
              lookupX (d.idxs.map fun ci => (ci.1, ci.2.delta)) (keyCols p r),
              lookupX (d.idxs.map fun ci => (ci.1, ci.2.total)) (keyCols p r) with
        | some kn, some kd, some kt =>
          match (keyGet kn row.dropLast).orElse fun _ => (keyGet kd row.dropLast).orElse fun _ => keyGet kt row.dropLast with
          | some i =>
            if (I.joinMut r ((rowAt (xrel s.rels r).rows i).getLastD .unit) (row.getLastD .unit)).2 then
              updX s r { d with idxs := d.idxs.map fun ci => (ci.1, { ci.2 with new := ci.2.new.insert ci.1 row i }) }
                (setNth (xrel s.rels r).rows i ((rowAt (xrel s.rels r).rows i).dropLast ++
                  [(I.joinMut r ((rowAt (xrel s.rels r).rows i).getLastD .unit) (row.getLastD .unit)).1]))
            else s
          | none =>
            updX s r { d with idxs := d.idxs.map fun ci =>
                (ci.1, { ci.2 with new := ci.2.new.insert ci.1 row (xrel s.rels r).rows.length }) }
              ((xrel s.rels r).rows ++ [row])
        | _, _, _ => s := by
  unfold headLat
  cases findXDyn s.dyn r <;> rfl

theorem proj_joinRows {rows : List Tuple} {i n : Nat} {cols : List Nat} (x : Val) (hi : i < rows.length)
    (hty : (rowAt rows i).length = n) (hn : 0 < n) (hc : ∀ c ∈ cols, c < n - 1) (j : Nat) :
    Plan.proj cols (rowAt (joinRows rows i x) j) = Plan.proj cols (rowAt rows j) := by
  by_cases hji : j = i
  · subst hji
    rw [joinRows_at_self x hi]
    apply proj_congr_key (n := n) _ hty _ hc
    · simp [keyOf, hty]; omega
    · show keyOf (keyOf (rowAt rows j) ++ [x]) = keyOf (rowAt rows j)
      rw [keyOf_snoc]
  · rw [joinRows_at_ne x hji]

theorem keyGet_ver {p : Program E B G P A} {ix : IxSets} {r : RelId} {rows : List Tuple} {bag : List Nat} {full : FIx}
    {idxs : List (List Nat × XIx)} (hlat : isLatRel p r = true) (hv : XVerOk p ix r rows bag full idxs)
    (hb : ∀ i ∈ bag, i < rows.length) (hty : ∀ t ∈ rows, t.length = arityOf p r) (hk : (rows.map keyOf).Nodup)
    (key : Tuple) : ∃ k, lookupX idxs (keyCols p r) = some k ∧ keyGet k key = findKey rows bag key := by
  obtain ⟨k, hl, hok⟩ := hv.lookup_lat (cols := keyCols p r) hlat (by simp [ixOf, hlat]) (fun c hc => List.mem_range.mp hc)
  refine ⟨k, hl, keyGet_eq_findKey hok ?_ ?_ key⟩
  · intro i hi
    exact proj_keyCols (hty _ (rowAt_mem _ i (hb i hi)))
  · intro i hi j hj
    exact idx_of_key hk (hb i hi) (hb j hj)

theorem length_key_snoc {t : Tuple} {n : Nat} (ht : t.length = n) (hn : 0 < n) (v : Val) : (keyOf t ++ [v]).length = n := by
  rw [List.length_append, keyOf, List.length_dropLast, ht, List.length_singleton]
  omega

/-- what the indices of a lattice must know of one head update: row number `i` — whose row carries the key columns of `row`
in the new row vector `rows'` — enters `new`, and no row the indices file changes in a key column -/
structure Files (p : Program E B G P A) (r : RelId) (rows rows' : List Tuple) (d d' : Dyn) (row : Tuple) (i : Nat) : Prop where
  rel : d'.rel = d.rel
  total : ∀ j, j ∈ d'.total ↔ j ∈ d.total
  delta : ∀ j, j ∈ d'.delta ↔ j ∈ d.delta
  new : ∀ j, j ∈ d'.new ↔ j ∈ d.new ∨ j = i
  old : ∀ cols : List Nat, (∀ c ∈ cols, c < arityOf p r - 1) → ∀ j, (j ∈ d.total ∨ j ∈ d.delta ∨ j ∈ d.new) →
    Plan.proj cols (rowAt rows' j) = Plan.proj cols (rowAt rows j)
  here : ∀ cols : List Nat, (∀ c ∈ cols, c < arityOf p r - 1) → Plan.proj cols (rowAt rows' i) = Plan.proj cols row
  uniq : ∀ j ∈ d.new, Plan.proj (keyCols p r) (rowAt rows' j) = Plan.proj (keyCols p r) row → j = i
  typed : ∀ t ∈ rows', t.length = arityOf p r

section
variable {p : Program E B G P A} {r : RelId} {rows : List Tuple} {d : Dyn} {row : Tuple}
  (hcov : ∀ i, i < rows.length ↔ (i ∈ d.total ∨ i ∈ d.delta ∨ i ∈ d.new)) (hty : ∀ t ∈ rows, t.length = arityOf p r)
  (hlen : row.length = arityOf p r)
include hcov hty hlen

theorem key_eq_of_proj {rows' : List Tuple} {j : Nat} (hj : j ∈ d.new)
    (he : Plan.proj (keyCols p r) (rowAt rows' j) = Plan.proj (keyCols p r) (rowAt rows j))
    (hp : Plan.proj (keyCols p r) (rowAt rows' j) = Plan.proj (keyCols p r) row) :
    j < rows.length ∧ keyOf (rowAt rows j) = keyOf row := by
  have hjl := (hcov j).mpr (.inr (.inr hj))
  have e1 : Plan.proj (keyCols p r) (rowAt rows j) = keyOf (rowAt rows j) := proj_keyCols (hty _ (rowAt_mem _ j hjl))
  have e2 : Plan.proj (keyCols p r) row = keyOf row := proj_keyCols hlen
  rw [he, e1, e2] at hp
  exact ⟨hjl, hp⟩

theorem Files.push (hfresh : ∀ t ∈ rows, keyOf t ≠ keyOf row) :
    Files p r rows (rows ++ [row]) d { d with new := d.new ++ [rows.length] } row rows.length := by
  refine ⟨rfl, fun _ => Iff.rfl, fun _ => Iff.rfl, fun j => by simp, ?_, ?_, ?_, ?_⟩
  · intro cols _ j hj
    rw [rowAt_append_left _ _ _ ((hcov j).mpr hj)]
  · intro cols _
    rw [rowAt_length_append]
  · intro j hj hp
    obtain ⟨hjl, hk⟩ := key_eq_of_proj hcov hty hlen hj
      (congrArg _ (rowAt_append_left _ _ _ ((hcov j).mpr (.inr (.inr hj))))) hp
    exact absurd hk (hfresh _ (rowAt_mem _ j hjl))
  · intro t ht
    rcases List.mem_append.mp ht with ht | ht
    · exact hty t ht
    · rw [List.mem_singleton.mp ht]; exact hlen

/-- the join in place changes no key column (`proj_joinRows`), so the indices only have to re-queue row number `i` -/
theorem Files.join (har : 0 < arityOf p r) (hkeys : (rows.map keyOf).Nodup) {i : Nat} (hi : i < rows.length)
    (hkey : keyOf (rowAt rows i) = keyOf row) (x : Val) : Files p r rows (joinRows rows i x) d (requeue d i) row i := by
  have hpj : ∀ cols : List Nat, (∀ c ∈ cols, c < arityOf p r - 1) → ∀ j,
      Plan.proj cols (rowAt (joinRows rows i x) j) = Plan.proj cols (rowAt rows j) :=
    fun cols hc j => proj_joinRows x hi (hty _ (rowAt_mem _ i hi)) har hc j
  refine ⟨requeue_rel d i, fun j => by rw [requeue_total], fun j => by rw [requeue_delta], mem_requeue_new d i,
    fun cols hc j _ => hpj cols hc j, ?_, ?_, ?_⟩
  · intro cols hc
    rw [hpj cols hc i]
    exact proj_congr_key (hty _ (rowAt_mem _ i hi)) hlen hkey hc
  · intro j hj hp
    obtain ⟨hjl, hk⟩ := key_eq_of_proj hcov hty hlen hj (hpj _ (fun c hc => List.mem_range.mp hc) j) hp
    exact idx_of_key hkeys hjl hi (hk.trans hkey.symm)
  · intro t ht
    rcases mem_setNth _ _ _ _ ht with ht | ht
    · rw [ht]; exact length_key_snoc (hty _ (rowAt_mem _ i hi)) har _
    · exact hty t ht

end

section
variable {p : Program E B G P A} {ix : IxSets} {r : RelId} {rows rows' : List Tuple} {d d' : Dyn} {full : Tri FIx}
  {idxs : List (List Nat × Tri XIx)} {row : Tuple} {i : Nat}

theorem Files.okT (F : Files p r rows rows' d d' row i) (hlat : isLatRel p r = true) {cols : List Nat} {x : XIx}
    (h : XOk p r rows d.total cols x) : XOk p r rows' d'.total cols x :=
  XOk_lat_congr hlat h F.total (fun hcl j hj => F.old _ hcl j (.inl hj))

theorem Files.okD (F : Files p r rows rows' d d' row i) (hlat : isLatRel p r = true) {cols : List Nat} {x : XIx}
    (h : XOk p r rows d.delta cols x) : XOk p r rows' d'.delta cols x :=
  XOk_lat_congr hlat h F.delta (fun hcl j hj => F.old _ hcl j (.inr (.inl hj)))

theorem Files.okN (F : Files p r rows rows' d d' row i) (hlat : isLatRel p r = true) {cols : List Nat} {x : XIx}
    (h : XOk p r rows d.new cols x) : XOk p r rows' d'.new cols (x.insert cols row i) :=
  XOk_lat_insert hlat row i (XOk_lat_congr hlat h (fun _ => Iff.rfl) (fun hcl j hj => F.old _ hcl j (.inr (.inr hj))))
    (F.here _) F.new (fun hc1 j hj hp => F.uniq j hj (by rw [hc1] at hp; exact hp))

/-- `i` was in `new` already: nothing is inserted (the parallel update, when it found the key in `new`) -/
theorem Files.okN_same (F : Files p r rows rows' d d' row i) (hlat : isLatRel p r = true) (hin : i ∈ d.new) {cols : List Nat}
    {x : XIx} (h : XOk p r rows d.new cols x) : XOk p r rows' d'.new cols x :=
  XOk_lat_congr hlat h (fun j => (F.new j).trans ⟨fun h => h.elim id (· ▸ hin), .inl⟩)
    (fun hcl j hj => F.old _ hcl j (.inr (.inr hj)))

/-- the serial update: `i` is inserted into every `new` index -/
theorem Files.triOk (F : Files p r rows rows' d d' row i) (hlat : isLatRel p r = true) (tri : XTriOk p ix r rows d full idxs) :
    XTriOk p ix r rows' d' full (idxs.map fun ci => (ci.1, { ci.2 with new := ci.2.new.insert ci.1 row i })) := by
  have hnoF : ∀ {α : Prop}, isLatRel p r = false → α := fun hf => by rw [hlat] at hf; cases hf
  exact XTriOk.of_map _ tri.cols hnoF hnoF hnoF fun c hc =>
    ⟨F.okT hlat (tri.it c hc), F.okD hlat (tri.id c hc), F.okN hlat (tri.inw c hc)⟩

end

section
variable {p : Program E B G P A} {ix : IxSets} {dynR : List RelId} {a : SccSt} {x : XScc}

theorem headLat_simL (I : Interp E B G P A) (hsim : SimL p ix a x) (hwf : WF p.rels.length dynR a)
    (hlt : ∀ r, dynR.contains r = true → r < p.rels.length) (r : RelId) (row : Tuple)
    (hlat : isLatRel p r = true) (har : 0 < arityOf p r) (hlen : row.length = arityOf p r)
    (hkeys : ((rowsOf a r).map keyOf).Nodup) :
    SimL p ix (Engine.headLat I {} a r row) (headLat I p x r row) := by
  rw [headLat_eq, physHeadLat_eq]
  rcases hsim.find r with ⟨h1, h2⟩ | ⟨d, pd, h1, h2, hprel, tri⟩
  · rw [h1, h2]; exact hsim
  rw [h1, h2]
  have hr := dyn_lt hwf hlt h1
  have hcov := hwf.cover r d h1
  obtain ⟨bT, bD, bN⟩ := WF.bag_lt hwf h1
  -- the three key indices compute `keyRow`
  obtain ⟨kn, hlN, en⟩ := keyGet_ver hlat tri.verN bN (hsim.typed r) hkeys row.dropLast
  obtain ⟨kd, hlD, ed⟩ := keyGet_ver hlat tri.verD bD (hsim.typed r) hkeys row.dropLast
  obtain ⟨kt, hlT, et⟩ := keyGet_ver hlat tri.verT bT (hsim.typed r) hkeys row.dropLast
  dsimp only
  rw [hlN, hlD, hlT]
  dsimp only
  have hxr : (xrel x.rels r).rows = rowsOf a r := (hsim.rows r).symm
  rw [en, ed, et, hxr]
  show SimL p ix _ (match keyRow (rowsOf a r) d (keyOf row) with | some i => _ | none => _)
  cases hk : keyRow (rowsOf a r) d (keyOf row) with
  | none =>
    have F := Files.push hcov (hsim.typed r) hlen (keyRow_fresh hcov hk)
    exact push_simL hsim h1 hr row hlen
      { pd with idxs := pd.idxs.map fun ci => (ci.1, { ci.2 with new := ci.2.new.insert ci.1 row (rowsOf a r).length }) }
      hprel (F.triOk hlat tri)
  | some i =>
    obtain ⟨hi, hkey_i⟩ := keyRow_found hcov hk
    dsimp only
    by_cases hj : (I.joinMut r (valOf (rowAt (rowsOf a r) i)) (valOf row)).2 = true
    · have hj' : (I.joinMut r ((rowAt (rowsOf a r) i).getLastD Val.unit) (row.getLastD Val.unit)).2 = true := hj
      have F := Files.join hcov (hsim.typed r) hlen har hkeys hi hkey_i (I.joinMut r (valOf (rowAt (rowsOf a r) i)) (valOf row)).1
      rw [if_pos hj, if_pos hj', joinSt_eq_upd hwf h1]
      exact upd_simL hsim h1 hr _ (F.rel.trans (findDyn_rel h1))
        { pd with idxs := pd.idxs.map fun ci => (ci.1, { ci.2 with new := ci.2.new.insert ci.1 row i }) } hprel _
        (F.triOk hlat tri) F.typed
    · have hj' : ¬ (I.joinMut r ((rowAt (rowsOf a r) i).getLastD Val.unit) (row.getLastD Val.unit)).2 = true := hj
      rw [if_neg hj, if_neg hj']
      exact hsim

theorem POk_rows_append {rows : List Tuple} {bag cols : List Nat} {x : XIx} (t : Tuple) (h : POk rows bag cols x)
    (hb : ∀ i ∈ bag, i < rows.length) : POk (rows ++ [t]) bag cols x := by
  cases x with
  | vals m => exact IxOk_rows_append t h hb
  | rows m => exact absurd h id
  | key m => exact absurd h id

theorem POk_insert {rows : List Tuple} {bag cols : List Nat} {x : XIx} (t : Tuple) (h : POk rows bag cols x)
    (hb : ∀ i ∈ bag, i < rows.length) : POk (rows ++ [t]) (bag ++ [rows.length]) cols (x.insert cols t rows.length) := by
  cases x with
  | vals m => exact IxOk_insert t h hb
  | rows m => exact absurd h id
  | key m => exact absurd h id

theorem physHeadRelX_eq (s : XScc) (r : RelId) (row : Tuple) :
    headRel s r row =
      match findXDyn s.dyn r with
      | none => s
      | some d =>
        if FullIdx.containsKey d.full.total row || FullIdx.containsKey d.full.delta row then s
        else if !(FullIdx.insertIfNotPresent d.full.new row ()).2 then s
        else updX s r { d with
            full := { d.full with new := (FullIdx.insertIfNotPresent d.full.new row ()).1 }
            idxs := d.idxs.map fun ci =>
              (ci.1, { ci.2 with new := ci.2.new.insert ci.1 row (xrel s.rels r).rows.length }) }
          ((xrel s.rels r).rows ++ [row]) := by
  unfold headRel
  cases findXDyn s.dyn r <;> rfl

theorem headRel_simL (hsim : SimL p ix a x) (hwf : WF p.rels.length dynR a) (hlt : ∀ r, dynR.contains r = true → r < p.rels.length)
    (r : RelId) (row : Tuple) (hlat : isLatRel p r = false) (hlen : row.length = arityOf p r) :
    SimL p ix (Engine.headRel a r row) (headRel x r row) := by
  rw [headRel_eq, physHeadRelX_eq]
  rcases hsim.find r with ⟨h1, h2⟩ | ⟨d, pd, h1, h2, hprel, tri⟩
  · rw [h1, h2]; exact hsim
  rw [h1, h2]
  obtain ⟨bT, bD, bN⟩ := WF.bag_lt hwf h1
  dsimp only
  rw [← hsim.rows r]
  exact headRel_branch (tri.ft hlat) (tri.fd hlat) (tri.fn hlat) bN row (SimL p ix) hsim fun hfull =>
    push_simL hsim h1 (dyn_lt hwf hlt h1) row hlen
      { pd with
        full := { pd.full with new := (FullIdx.insertIfNotPresent pd.full.new row ()).1 }
        idxs := pd.idxs.map fun ci => (ci.1, { ci.2 with new := ci.2.new.insert ci.1 row (rowsOf a r).length }) } hprel
      (XTriOk.of_map _ tri.cols
        (fun _ => FullOk_rows_append row (tri.ft hlat) bT) (fun _ => FullOk_rows_append row (tri.fd hlat) bD) (fun _ => hfull)
        fun c hc => ⟨XOk_plain hlat (POk_rows_append row ((tri.it c hc).2 hlat) bT),
          XOk_plain hlat (POk_rows_append row ((tri.id c hc).2 hlat) bD),
          XOk_plain hlat (POk_insert row ((tri.inw c hc).2 hlat) bN)⟩)

theorem headUpdate_simL (I : Interp E B G P A) (hsim : SimL p ix a x) (hwf : WF p.rels.length dynR a)
    (hlt : ∀ r, dynR.contains r = true → r < p.rels.length) (r : RelId) (row : Tuple)
    (har : isLatRel p r = true → 0 < arityOf p r) (hlen : row.length = arityOf p r)
    (hkeys : isLatRel p r = true → ((rowsOf a r).map keyOf).Nodup) :
    SimL p ix (if (declOf p r).lat then Engine.headLat I {} a r row else Engine.headRel a r row)
      (if isLatRel p r then headLat I p x r row else headRel x r row) := by
  cases hl : isLatRel p r with
  | true =>
    have hl' : (declOf p r).lat = true := hl
    rw [hl']
    exact headLat_simL I hsim hwf hlt r row hl (har hl) hlen (hkeys hl)
  | false =>
    have hl' : (declOf p r).lat = false := hl
    rw [hl']
    exact headRel_simL hsim hwf hlt r row hl hlen

end

end AscentVerif.PhysLat
