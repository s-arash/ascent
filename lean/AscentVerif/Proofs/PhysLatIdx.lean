import AscentVerif.Model.EnginePhysLat
import AscentVerif.Proofs.PhysIdx
import AscentVerif.Proofs.LatBasics
/-!
# The physical indices of a lattice relation against the bag of row numbers of the engine model

`LOk kc rows bag cols x`: the index `x` of a lattice relation (the key index `.key`, iff `cols = kc`, or a set-valued index
`.rows`) files exactly the row numbers of `bag` under the projection of their rows on `cols`.  Established by
`update_indices` (`buildX`), kept by the head update (`XIx.insert`: the overwrite of the key index re-inserts the same row
number; the set insert is idempotent), by in-place joins of the value column (`LOk_congr`: the projections only involve key
columns) and by the merge (`shiftX`); under it `XIx.get` / `XIx.all` / `XIx.size` read the bag.
-/
namespace AscentVerif.PhysLat
open AscentVerif AscentVerif.Engine AscentVerif.Index AscentVerif.Phys

/-- row number `i` is filed under key `k` -/
def XHas : XIx → List Val → Nat → Prop
  | .vals _, _, _ => False
  | .rows m, k, i => i ∈ (HMap.get? m k).getD []
  | .key m, k, i => HMap.get? m k = some i

/-- shape of an index of a lattice: the key index exactly for the key columns; no duplicate keys; sets -/
def XWf (kc cols : List Nat) : XIx → Prop
  | .vals _ => False
  | .rows m => cols ≠ kc ∧ NoDupKeys m ∧ ∀ k s, HMap.get? m k = some s → s.Nodup
  | .key m => cols = kc ∧ NoDupKeys m

def LOk (kc : List Nat) (rows : List Tuple) (bag cols : List Nat) (x : XIx) : Prop :=
  XWf kc cols x ∧ ∀ k i, XHas x k i ↔ i ∈ bag ∧ Plan.proj cols (rowAt rows i) = k

variable {kc cols : List Nat} {rows : List Tuple} {bag : List Nat} {x : XIx}

theorem XWf_key (h : XWf kc kc x) : ∃ m, x = .key m ∧ NoDupKeys m := by
  cases x with
  | vals m => exact absurd h id
  | rows m => exact absurd rfl h.1
  | key m => exact ⟨m, rfl, h.2⟩

theorem XWf_rows (hne : cols ≠ kc) (h : XWf kc cols x) :
    ∃ m, x = .rows m ∧ NoDupKeys m ∧ ∀ k s, HMap.get? m k = some s → s.Nodup := by
  cases x with
  | vals m => exact absurd h id
  | rows m => exact ⟨m, rfl, h.2⟩
  | key m => exact absurd h.1 hne

/-! The second half of `LOk`, for any filing predicate `has` and key function `f`: adding a number, putting two bags together. -/

theorem files_insert {has has' : List Val → Nat → Prop} {f : Nat → List Val} {bag bag' : List Nat} {k₀ : List Val} {i : Nat}
    (h : ∀ k j, has k j ↔ j ∈ bag ∧ f j = k) (hi : f i = k₀) (hb : ∀ j, j ∈ bag' ↔ j ∈ bag ∨ j = i)
    (h' : ∀ k j, has' k j ↔ has k j ∨ (k = k₀ ∧ j = i)) (k : List Val) (j : Nat) : has' k j ↔ j ∈ bag' ∧ f j = k := by
  rw [h', h, hb]
  constructor
  · rintro (⟨a, b⟩ | ⟨rfl, rfl⟩)
    · exact ⟨.inl a, b⟩
    · exact ⟨.inr rfl, hi⟩
  · rintro ⟨a | rfl, b⟩
    · exact .inl ⟨a, b⟩
    · exact .inr ⟨b.symm.trans hi, rfl⟩

theorem files_append {has₁ has₂ has' : List Val → Nat → Prop} {f : Nat → List Val} {b₁ b₂ : List Nat}
    (h₁ : ∀ k j, has₁ k j ↔ j ∈ b₁ ∧ f j = k) (h₂ : ∀ k j, has₂ k j ↔ j ∈ b₂ ∧ f j = k)
    (h' : ∀ k j, has' k j ↔ has₁ k j ∨ has₂ k j) (k : List Val) (j : Nat) : has' k j ↔ j ∈ b₁ ++ b₂ ∧ f j = k := by
  rw [h', h₁, h₂, List.mem_append, or_and_right]

theorem LOk_rows_nil (rows : List Tuple) (h : cols ≠ kc) : LOk kc rows [] cols (.rows []) :=
  ⟨⟨h, List.nodup_nil, fun _ _ hs => (nomatch hs)⟩, fun _ _ => ⟨fun hi => (nomatch hi), fun hi => (nomatch hi.1)⟩⟩

theorem LOk_key_nil (kc : List Nat) (rows : List Tuple) : LOk kc rows [] kc (.key []) :=
  ⟨⟨rfl, List.nodup_nil⟩, fun _ _ => ⟨fun hi => (nomatch hi), fun hi => (nomatch hi.1)⟩⟩

theorem LOk_empty (kc : List Nat) (rows : List Tuple) (cols : List Nat) :
    LOk kc rows [] cols (XIx.empty true (cols == kc)) := by
  by_cases h : cols = kc
  · subst h
    rw [beq_self_eq_true]
    exact LOk_key_nil cols rows
  · rw [beq_eq_false_iff_ne.mpr h]
    exact LOk_rows_nil rows h

theorem LOk_emptyLike (h : LOk kc rows bag cols x) (rows' : List Tuple) : LOk kc rows' [] cols (emptyLike x) := by
  by_cases hc : cols = kc
  · subst hc
    obtain ⟨m, rfl, _⟩ := XWf_key h.1
    exact LOk_key_nil cols rows'
  · obtain ⟨m, rfl, _⟩ := XWf_rows hc h.1
    exact LOk_rows_nil rows' hc

theorem LOk_congr {rows' : List Tuple} {bag' : List Nat} (h : LOk kc rows bag cols x) (hb : ∀ i, i ∈ bag' ↔ i ∈ bag)
    (hr : ∀ i ∈ bag, Plan.proj cols (rowAt rows' i) = Plan.proj cols (rowAt rows i)) : LOk kc rows' bag' cols x := by
  refine ⟨h.1, fun k i => ?_⟩
  rw [h.2 k i, hb i]
  exact and_congr_right fun hi => by rw [hr i hi]

/-- `index_insert` of row number `i` under the projection of `row` (= the projection of row `i`); for the key index (`hu`)
no other row of the bag has that key -/
theorem LOk_insert {bag' : List Nat} (row : Tuple) (i : Nat) (h : LOk kc rows bag cols x) (hrow : Plan.proj cols (rowAt rows i) = Plan.proj cols row)
    (hb : ∀ j, j ∈ bag' ↔ j ∈ bag ∨ j = i)
    (hu : cols = kc → ∀ j ∈ bag, Plan.proj cols (rowAt rows j) = Plan.proj cols row → j = i) :
    LOk kc rows bag' cols (x.insert cols row i) := by
  obtain ⟨hw, hh⟩ := h
  cases x with
  | vals m => exact absurd hw id
  | rows m =>
    obtain ⟨hne, hnd, hs⟩ := hw
    refine ⟨⟨hne, HMap.nodup_keys_upsert _ _ _ hnd, ?_⟩, files_insert hh hrow hb ?_⟩
    · intro k s hks
      rw [LatIdx.get_insert] at hks
      split at hks
      · cases hks
        apply setAdd_nodup'
        cases hg : HMap.get? m (Plan.proj cols row) with
        | none => exact List.nodup_nil
        | some s' => exact hs _ _ hg
      · exact hs k s hks
    · intro k j
      show j ∈ (HMap.get? (LatIdx.insert m (Plan.proj cols row) i) k).getD [] ↔ j ∈ (HMap.get? m k).getD [] ∨ _
      rw [LatIdx.get_insert]
      split
      · rename_i hk
        rw [Option.getD_some, mem_setAdd', hk]
        simp only [true_and]
      · rename_i hk
        simp only [hk, false_and, or_false]
  | key m =>
    -- overwriting the entry of the key re-inserts the row number it holds
    obtain ⟨he, hnd⟩ := hw
    refine ⟨⟨he, HMap.nodup_keys_upsert _ _ _ hnd⟩, files_insert hh hrow hb ?_⟩
    intro k j
    show HMap.get? (FullIdx.insert m (Plan.proj cols row) i) k = some j ↔ HMap.get? m k = some j ∨ _
    rw [FullIdx.get_insert]
    split
    · rename_i hk
      subst hk
      constructor
      · intro h1; exact .inr ⟨rfl, (Option.some.inj h1).symm⟩
      · rintro (h1 | ⟨_, rfl⟩)
        · obtain ⟨a, b⟩ := (hh _ j).mp h1
          rw [hu he j a b]
        · rfl
    · rename_i hk
      simp only [hk, false_and, or_false]

/-- `merge_delta_to_total_new_to_delta` on one index of a lattice -/
theorem LOk_shift {bt bd bn : List Nat} {t : Tri XIx}
    (ht : LOk kc rows bt cols t.total) (hd : LOk kc rows bd cols t.delta) (hn : LOk kc rows bn cols t.new)
    (hu : cols = kc → ∀ i ∈ bt, ∀ j ∈ bd, Plan.proj cols (rowAt rows i) = Plan.proj cols (rowAt rows j) → i = j) :
    LOk kc rows (bt ++ bd) cols (shiftX t).total ∧ LOk kc rows bn cols (shiftX t).delta ∧
      LOk kc rows [] cols (shiftX t).new := by
  obtain ⟨tt, td, tn⟩ := t
  by_cases hc : cols = kc
  · subst hc
    obtain ⟨mt, rfl, wt⟩ := XWf_key ht.1
    obtain ⟨md, rfl, wd⟩ := XWf_key hd.1
    obtain ⟨mn, rfl, _⟩ := XWf_key hn.1
    obtain ⟨s1, s2, s3, _, _⟩ := FullIdx.mergeStep_spec mn md mt wd wt
    -- a key filed in both `total` and `delta` holds the same row number, so it does not matter which entry the merge keeps
    have hag : ∀ k v w, HMap.get? mt k = some v → HMap.get? md k = some w → v = w := by
      intro k v w hv hw
      obtain ⟨a1, a2⟩ := (ht.2 k v).mp hv
      obtain ⟨b1, b2⟩ := (hd.2 k w).mp hw
      exact hu rfl v a1 w b1 (a2.trans b2.symm)
    refine ⟨⟨⟨rfl, s3⟩, files_append ht.2 hd.2 (fullMerge_get mn md mt wd wt hag)⟩, ?_, ?_⟩
    · show LOk cols rows bn cols (.key (FullIdx.mergeStep mn md mt).2.1)
      rw [s2]; exact hn
    · show LOk cols rows [] cols (.key (FullIdx.mergeStep mn md mt).1)
      rw [s1]; exact LOk_key_nil cols rows
  · obtain ⟨mt, rfl, wt⟩ := XWf_rows hc ht.1
    obtain ⟨md, rfl, wd⟩ := XWf_rows hc hd.1
    obtain ⟨mn, rfl, _⟩ := XWf_rows hc hn.1
    obtain ⟨s1, s2, s3, s4, s5⟩ := LatIdx.mergeStep_spec mn md mt wd.1 wt.1 wt.2
    refine ⟨⟨⟨hc, s3, s4⟩, files_append ht.2 hd.2 s5⟩, ?_, ?_⟩
    · show LOk kc rows bn cols (.rows (LatIdx.mergeStep mn md mt).2.1)
      rw [s2]; exact hn
    · show LOk kc rows [] cols (.rows (LatIdx.mergeStep mn md mt).1)
      rw [s1]; exact LOk_rows_nil rows hc

theorem zip_range_rows (rows : List Tuple) :
    (List.range rows.length).zip rows = (List.range rows.length).map fun i => (i, rowAt rows i) := by
  apply List.ext_getElem
  · simp
  · intro i h1 h2
    have hi : i < rows.length := by simpa using h2
    simp [rowAt_of_lt rows i hi]

theorem LOk_foldl_insert (hu : cols = kc → ∀ i j, i < rows.length → j < rows.length →
      Plan.proj cols (rowAt rows i) = Plan.proj cols (rowAt rows j) → i = j) :
    ∀ (l : List (Nat × Tuple)) (bag : List Nat) (x : XIx), (∀ it ∈ l, it.1 < rows.length ∧ it.2 = rowAt rows it.1) →
      (∀ i ∈ bag, i < rows.length) → LOk kc rows bag cols x →
      LOk kc rows (bag ++ l.map (·.1)) cols (l.foldl (fun x ir => x.insert cols ir.2 ir.1) x) := by
  intro l
  induction l with
  | nil => intro bag x _ _ h; simpa using h
  | cons it tl ih =>
    intro bag x hl hb h
    obtain ⟨h1, h2⟩ := hl it (by simp)
    have hstep : LOk kc rows (bag ++ [it.1]) cols (x.insert cols it.2 it.1) := by
      apply LOk_insert it.2 it.1 h (by rw [h2]) (by intro j; simp)
      intro hc j hj hp
      exact hu hc j it.1 (hb j hj) h1 (by rw [hp, h2])
    have := ih (bag ++ [it.1]) _ (fun it' hit' => hl it' (List.mem_cons_of_mem _ hit'))
      (by
        intro i hi
        rcases List.mem_append.mp hi with hi | hi
        · exact hb i hi
        · simp only [List.mem_singleton] at hi; subst hi; exact h1) hstep
    simpa [List.append_assoc] using this

theorem LOk_build {E B G P A : Type} (p : Program E B G P A) (r : RelId) (hl : isLatRel p r = true) (cols : List Nat)
    (rows : List Tuple)
    (hu : cols = keyCols p r → ∀ i j, i < rows.length → j < rows.length →
      Plan.proj cols (rowAt rows i) = Plan.proj cols (rowAt rows j) → i = j) :
    LOk (keyCols p r) rows (List.range rows.length) cols (buildX p r cols rows) := by
  unfold buildX
  rw [zip_range_rows, hl]
  have := LOk_foldl_insert hu ((List.range rows.length).map fun i => (i, rowAt rows i)) [] _
    (by
      intro it hit
      obtain ⟨i, hi, rfl⟩ := List.mem_map.mp hit
      exact ⟨List.mem_range.mp hi, rfl⟩)
    (by intro i hi; cases hi) (LOk_empty (keyCols p r) rows cols)
  simpa [List.map_map, Function.comp_def] using this

theorem LOk.exists_iff (h : LOk kc rows bag cols x) (k : List Val) (t : Tuple) :
    (∃ i, XHas x k i ∧ rowAt rows i = t) ↔ ∃ i ∈ bag, rowAt rows i = t ∧ Plan.proj cols t = k := by
  constructor
  · rintro ⟨i, hi, rfl⟩
    obtain ⟨a, b⟩ := (h.2 k i).mp hi
    exact ⟨i, a, rfl, b⟩
  · rintro ⟨i, hi, rfl, hk⟩
    exact ⟨i, (h.2 k i).mpr ⟨hi, hk⟩, rfl⟩

theorem XIx_get_spec (h : LOk kc rows bag cols x) (arity : Nat) (key : List Val) (t : Tuple) :
    t ∈ x.get rows arity cols key ↔ ∃ i ∈ bag, rowAt rows i = t ∧ Plan.proj cols t = key := by
  rw [← h.exists_iff]
  cases x with
  | vals m => exact absurd h.1 id
  | rows m => simp only [XIx.get, List.mem_map, XHas]
  | key m => simp only [XIx.get, List.mem_map, XHas, Option.mem_toList]

theorem XIx_all_spec (h : LOk kc rows bag cols x) (arity : Nat) (k : List Val) (t : Tuple) :
    (∃ kr ∈ x.all rows arity cols, kr.1 = k ∧ t ∈ kr.2) ↔ ∃ i ∈ bag, rowAt rows i = t ∧ Plan.proj cols t = k := by
  rw [← h.exists_iff]
  obtain ⟨hw, _⟩ := h
  cases x with
  | vals m => exact absurd hw id
  | rows m =>
    obtain ⟨_, hnd, _⟩ := hw
    simp only [XIx.all, List.mem_map, XHas]
    constructor
    · rintro ⟨kr, ⟨kv, hkv, rfl⟩, rfl, ht⟩
      obtain ⟨i, hi, rfl⟩ := List.mem_map.mp ht
      refine ⟨i, ?_, rfl⟩
      rw [get?_eq_some_of_mem m kv.1 kv.2 hnd hkv]
      exact hi
    · rintro ⟨i, hi, rfl⟩
      cases hg : HMap.get? m k with
      | none => rw [hg] at hi; cases hi
      | some s =>
        rw [hg] at hi
        exact ⟨_, ⟨(k, s), mem_of_get?_eq_some m k s hg, rfl⟩, rfl, List.mem_map.mpr ⟨i, hi, rfl⟩⟩
  | key m =>
    obtain ⟨_, hnd⟩ := hw
    simp only [XIx.all, List.mem_map, XHas]
    constructor
    · rintro ⟨kr, ⟨kv, hkv, rfl⟩, rfl, ht⟩
      simp only [List.mem_singleton] at ht
      exact ⟨kv.2, get?_eq_some_of_mem m kv.1 kv.2 hnd hkv, ht.symm⟩
    · rintro ⟨i, hi, rfl⟩
      exact ⟨_, ⟨(k, i), mem_of_get?_eq_some m k i hi, rfl⟩, rfl, List.mem_singleton.mpr rfl⟩

theorem XIx_size_spec (h : LOk kc rows bag cols x) (hz : x.size = 0) : bag = [] := by
  apply List.eq_nil_iff_forall_not_mem.mpr
  intro i hi
  have := (h.2 _ i).mpr ⟨hi, rfl⟩
  cases x with
  | vals m => exact h.1
  | rows m =>
    obtain rfl := List.eq_nil_of_length_eq_zero hz
    nomatch this
  | key m =>
    obtain rfl := List.eq_nil_of_length_eq_zero hz
    nomatch this

end AscentVerif.PhysLat
