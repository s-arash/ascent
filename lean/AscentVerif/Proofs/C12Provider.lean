import AscentVerif.Model.TrRelUFInd
import AscentVerif.Proofs.TrRelBasic
/-!
# C12 (b): op sequences on the `trrel_uf` provider model (Model/TrRelUFInd.lean)

`runBin` / `runTer` drive a (new, delta, total) triple the way generated code does; the `f…State` / `f…Obs` values are the
histories and observations of the finding witnesses of Props/C12.lean.  Lemmas: the first merge of a batch is `TrRel.run` on the
ordered batch (`merge_first`), the next one with nothing new hands `delta` to `total` (`merge_second`), and every merge that
returns leaves the three copies in the variants generated code expects (`merge_shape`).
-/
namespace AscentVerif.C12
open AscentVerif AscentVerif.TrInd AscentVerif.TrRel

/-- the content of `new` after inserting `ps` one by one (a set: first occurrences, in order) -/
def batchOf (ps : List (Int × Int)) : PSet := ps.foldl (fun s p => (psInsert s p).1) []

/-- `insert_if_not_present` of every pair, in order -/
def insertAll (c : Common) : List (Int × Int) → Res Common
  | [] => .ok c
  | (x, y) :: rest => match c.insert x y with
    | .ok (c', _) => insertAll c' rest
    | .panic => .panic

/-- run an op sequence on a binary triple: `none` = merge, `some (x, y)` = head-style insert into `new` -/
def runBin (pol : Policy) : List (Option (Int × Int)) → Common × Common × Common → Res (Common × Common × Common)
  | [], s => .ok s
  | none :: rest, (n, d, t) => match merge pol n d t with
    | .ok s' => runBin pol rest s'
    | .panic => .panic
  | some (x, y) :: rest, (n, d, t) => match n.insert x y with
    | .ok (n', _) => runBin pol rest (n', d, t)
    | .panic => .panic

def runTer (pol : Policy) : List (Option (Int × Int × Int)) → Ternary × Ternary × Ternary → Res (Ternary × Ternary × Ternary)
  | [], s => .ok s
  | none :: rest, (n, d, t) => match Ternary.merge pol n d t with
    | .ok s' => runTer pol rest s'
    | .panic => .panic
  | some (k, x, y) :: rest, (n, d, t) => match n.insert k x y with
    | .ok (n', _) => runTer pol rest (n', d, t)
    | .panic => .panic

def obs {α β : Type} (r : Res α) (f : α → β) : Res β :=
  match r with
  | .ok a => .ok (f a)
  | .panic => .panic

def bin0 : Common × Common × Common := (.new [], Common.default, Common.default)
def ter0 : Ternary × Ternary × Ternary := (Ternary.default true true, Ternary.default true true, Ternary.default true true)

def f12State := runBin {} [some (1, 2), none, some (2, 3), none] bin0
def f11State := runTer {} [some (0, 1, 2), none] ter0
def f14State := runTer {} [some (0, 1, 2), none, some (0, 2, 3), none] ter0
def f8Result := runTer {} [some (0, 1, 2), none, none, some (0, 2, 3), none] ter0
def f18State := runTer {} [some (0, 1, 2), none, some (0, 3, 3), none] ter0

abbrev Tups := Option (List (List Int))

def f12Obs : Res (List (Int × Int) × Bool × Bool) := do
  let s ← f12State
  pure (← s.2.1.iterAll, ← s.2.1.contains 3 3, ← s.2.2.contains 3 3)
def f11Obs : Res (Tups × Tups × Tups) := do
  let s ← f11State
  pure (← s.2.1.get1 false 2, ← s.2.1.get1 true 1, ← s.2.1.get0x false 0 2)
def f14Obs : Res (Tups × Tups) := do
  let s ← f14State
  pure (← s.2.1.get1 false 1, ← s.2.1.get0x false 0 1)
/-- the op sequence itself runs (no panic in the merges) … -/
def f18Runs : Res Unit := obs f18State fun _ => ()
/-- … and then the probe of the delta view [1] panics -/
def f18Obs : Res Tups := do
  let s ← f18State
  s.2.1.get1 false 3

theorem insertAll_new (ps : List (Int × Int)) : ∀ s : PSet,
    insertAll (.new s) ps = .ok (.new (ps.foldl (fun s p => (psInsert s p).1) s)) := by
  induction ps with
  | nil => intro s; rfl
  | cons p rest ih =>
    intro s
    obtain ⟨x, y⟩ := p
    have h : (Common.new s).insert x y = .ok (.new (psInsert s (x, y)).1, (psInsert s (x, y)).2) := rfl
    simp only [insertAll, h, List.foldl_cons]
    exact ih _

theorem foldlM_add_eq_run (l : List (Int × Int)) : ∀ t : TrRel,
    l.foldlM (fun t p => do let (t, _) ← t.add p.1 p.2; pure t) t = TrRel.run t l := by
  induction l with
  | nil => intro t; rfl
  | cons p rest ih =>
    intro t
    obtain ⟨x, y⟩ := p
    simp only [List.foldlM_cons, TrRel.run]
    cases h : t.add x y with
    | panic => rfl
    | ok r =>
      obtain ⟨t', b⟩ := r
      exact ih t'

theorem mem_orderBatch (pol : Policy) (s : PSet) (p : Int × Int) : p ∈ orderBatch pol s ↔ p ∈ s := by
  have split : p ∈ s.filter (fun p => p.1 == p.2) ∨ p ∈ s.filter (fun p => p.1 != p.2) ↔ p ∈ s := by
    rw [List.mem_filter, List.mem_filter, ← and_or_left]
    exact and_iff_left (by cases h : p.1 == p.2 <;> simp [bne, h])
  unfold orderBatch
  split
  · rw [List.mem_append, split]
  · rw [List.mem_append, or_comm, split]

theorem mem_psInsert (s : PSet) (p q : Int × Int) : p ∈ (psInsert s q).1 ↔ p ∈ s ∨ p = q := by
  rw [psInsert, apply_ite Prod.fst]
  exact mem_pushNew s q p

theorem mem_psFold (ps : List (Int × Int)) (p : Int × Int) : ∀ s : PSet,
    p ∈ ps.foldl (fun s q => (psInsert s q).1) s ↔ p ∈ s ∨ p ∈ ps := by
  induction ps with
  | nil => intro s; simp
  | cons q rest ih => intro s; rw [List.foldl_cons, ih, mem_psInsert, List.mem_cons, or_assoc]

theorem mem_batchOf (ps : List (Int × Int)) (p : Int × Int) : p ∈ batchOf ps ↔ p ∈ ps := by
  unfold batchOf
  rw [mem_psFold]; simp

theorem closure_congr {l l' : List (Int × Int)} (h : ∀ p, p ∈ l ↔ p ∈ l') (x y : Int) :
    Closure l x y ↔ Closure l' x y := by
  have hm : ∀ z, Mentioned l z ↔ Mentioned l' z := by
    intro z; unfold Mentioned
    constructor
    · rintro ⟨p, hp, hz⟩; exact ⟨p, (h p).mp hp, hz⟩
    · rintro ⟨p, hp, hz⟩; exact ⟨p, (h p).mpr hp, hz⟩
  unfold Closure
  rw [hm x, hm y]
  constructor
  · rintro ⟨a, b, c⟩; exact ⟨a, b, ReflTransGen.mono (fun _ _ hp => (h _).mp hp) c⟩
  · rintro ⟨a, b, c⟩; exact ⟨a, b, ReflTransGen.mono (fun _ _ hp => (h _).mpr hp) c⟩

theorem foldl_fixed {α β : Type} {f : β → α → β} (h : ∀ b a, f b a = b) (l : List α) (b : β) : l.foldl f b = b := by
  induction l with
  | nil => rfl
  | cons a l ih => rw [List.foldl_cons, h, ih]

theorem join_nil_left (tg tr r2 : NMap) (c : Nat → Nat → Bool) : join tg tr [] r2 c = (tg, tr, false) := by
  unfold join
  split
  · rfl
  · exact foldl_fixed (fun _ _ => rfl) r2 _

theorem join_nil_right (tg tr r1 : NMap) (c : Nat → Nat → Bool) : join tg tr r1 [] c = (tg, tr, false) := by
  unfold join
  split
  · exact foldl_fixed (fun _ _ => rfl) r1 _
  · rfl

theorem merge_first (pol : Policy) (b : PSet) :
    merge pol (.new b) Common.default Common.default =
      (do let nd ← TrRel.run {} (orderBatch pol b); pure (.new [], .total nd, .total {})) := by
  rw [← foldlM_add_eq_run]
  rfl

theorem mergeLoop_nil (c rc : NMap) (k : Nat) :
    mergeLoop c rc [] (k + 2) { dd := [], ddRev := [], dt := [], dtRev := [] } =
      .ok { dd := [], ddRev := [], dt := [], dtRev := [] } := by
  simp only [mergeLoop, join_nil_left, join_nil_right]
  rfl

theorem merge_second (pol : Policy) (nd : TrRel) (h : nd.sets ≠ []) :
    merge pol (.new []) (.total nd) (.total {}) = .ok (.new [], .delta { total := nd }, .total nd) := by
  have he : nd.sets.isEmpty = false := by
    cases hh : nd.sets with
    | nil => exact absurd hh h
    | cons a l => rfl
  simp only [merge, Common.isEmptyInh, Common.unwrapNewMut, bind, Res.bind, pure, he, List.isEmpty_nil, List.foldlM_nil,
    Bool.false_and, if_true, Bool.false_eq_true, if_false, mergeLoop_nil]

def Res.All {α : Type} (P : α → Prop) : Res α → Prop
  | .ok a => P a
  | .panic => True

theorem Res.All.bind {α β : Type} {P : β → Prop} {x : Res α} {f : α → Res β} (h : ∀ a, Res.All P (f a)) :
    Res.All P (x >>= f) := by
  cases x with
  | ok a => exact h a
  | panic => trivial

def MergeShape (s : Common × Common × Common) : Prop :=
  s.1 = .new [] ∧ ((∃ r, s.2.1 = .delta r) ∨ (∃ r, s.2.1 = .total r)) ∧ ∃ r, s.2.2 = .total r

/-- both exits of the merge (the shortcut for an empty total, and the general case) return a triple of this shape -/
theorem merge_shape (pol : Policy) (n d t : Common) : Res.All MergeShape (merge pol n d t) := by
  -- the `do` block is three stages (normalise `delta`/`total`, unwrap `delta`, unwrap `total`), each a case
  -- distinction whose every branch ends in `… >>= k` for the rest `k` of the block; then the two exits
  unfold merge
  extract_lets k1
  have h1 : ∀ a, Res.All MergeShape (k1 a) := by
    rintro ⟨dl, tt⟩
    dsimp -zeta only [k1]
    extract_lets k2
    have h2 : ∀ a, Res.All MergeShape (k2 a) := by
      intro dr
      dsimp -zeta only [k2]
      extract_lets k3
      have h3 : ∀ a, Res.All MergeShape (k3 a) := by
        intro tr
        refine .bind fun nr => ?_
        split
        · exact .bind fun _ => ⟨rfl, .inr ⟨_, rfl⟩, _, rfl⟩
        · exact .bind fun _ => .bind fun ⟨_, _, _⟩ => .bind fun _ => ⟨rfl, .inl ⟨_, rfl⟩, _, rfl⟩
      split <;> exact .bind h3
    split <;> exact .bind h2
  split
  · split <;> exact .bind h1
  · exact .bind h1

#print axioms merge_shape

end AscentVerif.C12
