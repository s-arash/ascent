import AscentVerif.Model.TrRelInd
import AscentVerif.Proofs.TrRelMapOk
/-!
# `SetMap` of Model/TrRelInd.lean: when an association list of lists is a map of sets

A `SetMap` models a hash map of hash sets only while no key and no element of a stored collection repeats (`KeysNodup`,
`SetsNodup`): `smPush` and `smAppend` append without looking, as `insert_unique_unchecked` does.  `smGet` and `smPush` are
`alGet` and `alSet` of the association-list model of Model/TrRelUF.lean, so look-up after update and distinct keys come from
Proofs/TrRelBasic.lean and Proofs/TrRelMapOk.lean.  `RelWF` adds that the reverse map of a `BinaryRel` mirrors its map; it is
kept by `insert` and by the disjoint append of the merge.
-/
namespace AscentVerif.TrRelInd
open AscentVerif.TrRel (alGet alSet alGet_alSet mem_of_alGet_some)

def KeysNodup (m : SetMap) : Prop := m.Pairwise (fun a b => a.1 ≠ b.1)

def SetsNodup (m : SetMap) : Prop := ∀ ks ∈ m, ks.2.Nodup

theorem keysNodup_nil : KeysNodup [] := List.Pairwise.nil
theorem setsNodup_nil : SetsNodup [] := fun _ h => by cases h

variable {m : SetMap}

theorem smGet_eq (m : SetMap) (k : Int) : smGet m k = alGet m k := by
  induction m with
  | nil => rfl
  | cons e rest ih => simp only [smGet, alGet, ih]

theorem smPush_eq (m : SetMap) (x y : Int) : smPush m x y = alSet m x ((alGet m x).getD [] ++ [y]) := by
  induction m with
  | nil => rfl
  | cons e rest ih =>
    simp only [smPush, alSet, alGet]
    split
    · rfl
    · rw [ih]

theorem keysNodup_iff : KeysNodup m ↔ TrRel.KeysNodup m := List.pairwise_map.symm

theorem smGet_mem {k : Int} {s : List Int} (h : smGet m k = some s) : (k, s) ∈ m :=
  mem_of_alGet_some (smGet_eq m k ▸ h)

theorem smGet_nodup (hs : SetsNodup m) {k : Int} {s : List Int} (h : smGet m k = some s) : s.Nodup :=
  hs _ (smGet_mem h)

theorem smGet_of_mem {k : Int} {s : List Int} (hk : KeysNodup m) (h : (k, s) ∈ m) : smGet m k = some s :=
  (smGet_eq m k).trans ((keysNodup_iff.1 hk).alGet_of_mem h)

theorem smHas_iff {a b : Int} : smHas m a b = true ↔ ∃ s, smGet m a = some s ∧ b ∈ s := by
  unfold smHas
  cases smGet m a with
  | none => simp
  | some s => simp

theorem smHas_nil (a b : Int) : smHas [] a b = false := rfl

theorem smHas_false_iff {a b : Int} : smHas m a b = false ↔ ¬ smHas m a b = true := by
  cases smHas m a b <;> simp

theorem smGet_smPush (m : SetMap) (x y k : Int) :
    smGet (smPush m x y) k = if k = x then some ((smGet m x).getD [] ++ [y]) else smGet m k := by
  simp only [smGet_eq, smPush_eq, alGet_alSet, eq_comm (a := k)]

theorem smHas_smPush {x y a b : Int} :
    smHas (smPush m x y) a b = true ↔ (smHas m a b = true ∨ (a = x ∧ b = y)) := by
  simp only [smHas_iff, smGet_smPush]
  by_cases h : a = x
  · subst h
    cases hg : smGet m a with
    | none => simp
    | some s => simp
  · simp [h]

theorem keysNodup_smPush (x y : Int) (hk : KeysNodup m) : KeysNodup (smPush m x y) :=
  keysNodup_iff.2 (smPush_eq m x y ▸ (keysNodup_iff.1 hk).alSet x _)

theorem setsNodup_smPush {x y : Int} (hk : KeysNodup m) (hs : SetsNodup m) (hn : smHas m x y = false) :
    SetsNodup (smPush m x y) := by
  rintro ⟨k, s⟩ he
  have hg := smGet_of_mem (keysNodup_smPush x y hk) he
  rw [smGet_smPush] at hg
  split at hg
  · -- the collection of `x`, if any, is duplicate free and lacks `y`
    cases hg
    refine List.nodup_append.mpr ⟨?_, by simp, fun a ha b hb => ?_⟩
    · cases hg : smGet m x with
      | none => exact List.nodup_nil
      | some s => exact hs _ (smGet_mem hg)
    · rintro rfl
      cases List.mem_singleton.1 hb
      cases hg : smGet m x with
      | none => rw [hg] at ha; cases ha
      | some s =>
        rw [hg] at ha
        exact absurd (smHas_iff.mpr ⟨s, hg, ha⟩) (smHas_false_iff.mp hn)
  · exact hs _ (smGet_mem hg)

theorem mem_smPairs {a b : Int} : (a, b) ∈ smPairs m ↔ ∃ s, (a, s) ∈ m ∧ b ∈ s := by
  simp only [smPairs, List.mem_flatMap, List.mem_map]
  constructor
  · rintro ⟨⟨k, s⟩, hm, y, hy, he⟩
    simp only [Prod.mk.injEq] at he
    obtain ⟨rfl, rfl⟩ := he
    exact ⟨s, hm, hy⟩
  · rintro ⟨s, hm, hb⟩
    exact ⟨(a, s), hm, b, hb, rfl⟩

theorem mem_smPairs_of_smHas {a b : Int} (h : smHas m a b = true) : (a, b) ∈ smPairs m := by
  obtain ⟨s, hg, hb⟩ := smHas_iff.mp h
  exact mem_smPairs.mpr ⟨s, smGet_mem hg, hb⟩

theorem smHas_of_mem_smPairs {a b : Int} (hk : KeysNodup m) (h : (a, b) ∈ smPairs m) : smHas m a b = true := by
  obtain ⟨s, hm, hb⟩ := mem_smPairs.mp h
  exact smHas_iff.mpr ⟨s, smGet_of_mem hk hm, hb⟩

theorem mem_smPairs_iff {a b : Int} (hk : KeysNodup m) : (a, b) ∈ smPairs m ↔ smHas m a b = true :=
  ⟨smHas_of_mem_smPairs hk, mem_smPairs_of_smHas⟩

theorem smPairs_cons (e : Int × List Int) (m : SetMap) :
    smPairs (e :: m) = (e.2.map fun y => (e.1, y)) ++ smPairs m := by
  simp [smPairs]

theorem smPairs_nodup (hk : KeysNodup m) (hs : SetsNodup m) : (smPairs m).Nodup := by
  induction m with
  | nil => simp [smPairs]
  | cons e rest ih =>
    have hk' := List.pairwise_cons.mp hk
    have hs0 : e.2.Nodup := hs e (by simp)
    have hsr : SetsNodup rest := fun e he => hs e (List.mem_cons_of_mem _ he)
    rw [smPairs_cons]
    refine List.nodup_append.mpr ⟨?_, ih hk'.2 hsr, ?_⟩
    · refine (List.pairwise_map).mpr ?_
      exact hs0.imp (fun h e => h (by simpa using e))
    · intro p hp q hq e
      subst e
      obtain ⟨y, _, rfl⟩ := List.mem_map.mp hp
      obtain ⟨s, hm, _⟩ := mem_smPairs.mp hq
      exact hk'.1 _ hm rfl

theorem smHas_foldl_push (ps : List (Int × Int)) (m : SetMap) (a b : Int) :
    smHas (ps.foldl (fun acc p => smPush acc p.1 p.2) m) a b = true ↔ (smHas m a b = true ∨ (a, b) ∈ ps) := by
  induction ps generalizing m with
  | nil => simp
  | cons p rest ih =>
    simp only [List.foldl_cons, ih, smHas_smPush, List.mem_cons, Prod.ext_iff, or_assoc]

theorem keysNodup_foldl_push (ps : List (Int × Int)) (m : SetMap) (hk : KeysNodup m) :
    KeysNodup (ps.foldl (fun acc p => smPush acc p.1 p.2) m) := by
  induction ps generalizing m with
  | nil => exact hk
  | cons p rest ih => exact ih _ (keysNodup_smPush _ _ hk)

theorem setsNodup_foldl_push (ps : List (Int × Int)) (m : SetMap) (hk : KeysNodup m) (hs : SetsNodup m) (hp : ps.Nodup)
    (hd : ∀ p ∈ ps, smHas m p.1 p.2 = false) :
    SetsNodup (ps.foldl (fun acc p => smPush acc p.1 p.2) m) := by
  induction ps generalizing m with
  | nil => exact hs
  | cons p rest ih =>
    have hp' := List.nodup_cons.mp hp
    refine ih _ (keysNodup_smPush _ _ hk) (setsNodup_smPush hk hs (hd p (by simp))) hp'.2 ?_
    intro q hq
    rw [smHas_false_iff, smHas_smPush]
    rintro (h | ⟨h1, h2⟩)
    · rw [hd q (List.mem_cons_of_mem _ hq)] at h; cases h
    · apply hp'.1
      have : q = p := Prod.ext h1 h2
      rw [← this]; exact hq

theorem smHas_smAppend {d s : SetMap} (hk : KeysNodup s) (a b : Int) :
    smHas (smAppend d s) a b = true ↔ (smHas d a b = true ∨ smHas s a b = true) := by
  unfold smAppend
  rw [smHas_foldl_push, mem_smPairs_iff hk]

theorem keysNodup_smAppend {d : SetMap} (s : SetMap) (hk : KeysNodup d) : KeysNodup (smAppend d s) :=
  keysNodup_foldl_push _ _ hk

theorem setsNodup_smAppend {d s : SetMap} (hkd : KeysNodup d) (hd : SetsNodup d) (hks : KeysNodup s) (hs : SetsNodup s)
    (hdis : ∀ a b, smHas s a b = true → smHas d a b = false) : SetsNodup (smAppend d s) := by
  unfold smAppend
  refine setsNodup_foldl_push _ _ hkd hd (smPairs_nodup hks hs) ?_
  intro p hp
  exact hdis _ _ (smHas_of_mem_smPairs hks hp)

theorem smAppend_nil (d : SetMap) : smAppend d [] = d := rfl

structure RelWF (r : BinaryRel) : Prop where
  km : KeysNodup r.map
  kr : KeysNodup r.rev
  sm : SetsNodup r.map
  sr : SetsNodup r.rev
  mir : ∀ x y, smHas r.rev y x = smHas r.map x y

theorem RelWF.empty : RelWF {} :=
  ⟨keysNodup_nil, keysNodup_nil, setsNodup_nil, setsNodup_nil, fun _ _ => rfl⟩

theorem RelWF.push {r : BinaryRel} (h : RelWF r) {x y : Int} (hn : smHas r.map x y = false) :
    RelWF { map := smPush r.map x y, rev := smPush r.rev y x } := by
  refine ⟨keysNodup_smPush _ _ h.km, keysNodup_smPush _ _ h.kr, setsNodup_smPush h.km h.sm hn,
    setsNodup_smPush h.kr h.sr (by rw [h.mir]; exact hn), ?_⟩
  intro a b
  rw [Bool.eq_iff_iff]
  simp only [smHas_smPush, h.mir, and_comm]

theorem RelWF.append {r q : BinaryRel} (hr : RelWF r) (hq : RelWF q)
    (hdis : ∀ a b, smHas q.map a b = true → smHas r.map a b = false) :
    RelWF { map := smAppend r.map q.map, rev := smAppend r.rev q.rev } := by
  refine ⟨keysNodup_smAppend _ hr.km, keysNodup_smAppend _ hr.kr, setsNodup_smAppend hr.km hr.sm hq.km hq.sm hdis,
    setsNodup_smAppend hr.kr hr.sr hq.kr hq.sr ?_, ?_⟩
  · intro a b
    rw [hq.mir, hr.mir]; exact hdis b a
  · intro a b
    rw [Bool.eq_iff_iff]
    simp only [smHas_smAppend hq.kr, smHas_smAppend hq.km, hr.mir, hq.mir]

theorem RelWF.insert {r : BinaryRel} (h : RelWF r) (x y : Int) : RelWF (r.insert x y).1 := by
  unfold BinaryRel.insert
  split
  · exact h
  · rename_i hn
    exact h.push (by simpa using hn)

theorem smHas_insert {r : BinaryRel} (x y a b : Int) :
    smHas (r.insert x y).1.map a b = true ↔ (smHas r.map a b = true ∨ (a = x ∧ b = y)) := by
  unfold BinaryRel.insert
  split
  · rename_i hh
    constructor
    · exact Or.inl
    · rintro (h | ⟨rfl, rfl⟩)
      · exact h
      · exact hh
  · exact smHas_smPush

end AscentVerif.TrRelInd
