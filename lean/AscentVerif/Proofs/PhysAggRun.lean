import AscentVerif.Model.EnginePhysTimeout
import AscentVerif.Proofs.PhysAggEval
import AscentVerif.Proofs.NDEngine
import AscentVerif.Props.C04
/-!
# A call of the serial physical engine is an execution, or a prefix of one, of the nondeterministic engine

The forward simulation for stratified programs with aggregation, over `SimB` (`Proofs/PhysSim.lean`).  If the aggregators
that occur do not depend on the order of the bag they receive (`PermOn`), one pass of `Phys.evalRules` is a pass of the
nondeterministic engine (`pass_simA`): it is `Engine.applyRows` of a list with exactly the members of `iterRows`, since the
head updates of a pass leave frozen every part that the evaluation of the later rules reads.  The loop, one SCC and the SCCs
in order are treated once, for `run_timeout` and every way it can end (`LoopOut`, `SccOut`, `SccsOut`: returned `true` is an
execution of `RunND`, `false` a prefix of one, the SCC it was in abandoned); `run()` is `run_timeout` under the deadline that
never passes (`run_never`).  `Exec`: what every call that returned leaves.  An aggregation-free program is the special case
`Relational.toAgg`.
-/
namespace AscentVerif.Phys
open AscentVerif AscentVerif.Engine AscentVerif.Index

variable {E B G P A : Type}

theorem mem_flatMap_of_map_perm {α β : Type} {l l' : List α} (f : α → List β) (hp : (l.map f).Perm (l'.map f)) (x : β) :
    x ∈ l.flatMap f ↔ x ∈ l'.flatMap f := by
  rw [List.flatMap_def, List.flatMap_def]
  exact hp.flatten.mem_iff

/-- The loop nest of one MIR rule, in either copy of a simple join (the swapped one only for a reorderable join): it enumerates
`Plan.evalBodyPlan` (`evalFrom_memA`), whose head rows are those of `evalBody` up to order (`head_rows_perm`,
`head_rows_perm_swapped` of `Props/C01Plan.lean`). -/
theorem evalFrom_rowsA (I : Interp E B G P A) (hI : Plan.Ext I) (cfg : Config) (V : Hir.VarsOf E B) (hS : Plan.Supp I V)
    (p : Program E B G P A) (ix : IxSets) (a : SccSt) (ph : PScc) (hV : ViewsOk cfg p ix a ph) (r : Rule E B G P A)
    (hd : Hir.Desugared V r = true) (hw : Plan.WellScoped V r = true) (hok : ClOk p ix (Hir.compileRule V r) 0 r.body)
    (hag : AgOk I cfg p a ph (Hir.compileRule V r) 0 r.body) (vs : List (Option Ver)) (b : Bool)
    (hb : b = true → Plan.reorderable (Hir.compileRule V r) = true) (x : RelId × Tuple) :
    x ∈ (evalFrom I p ph (Hir.compileRule V r) b 0 r.body vs []).flatMap (headRows I r.heads) ↔
      x ∈ (evalBody I cfg p a r.body vs []).flatMap (headRows I r.heads) := by
  rw [mem_flatMap_congr (evalFrom_memA I cfg p ix a ph hV _ _ 0 r.body vs [] hok hag) (fun _ _ => Iff.rfl) x]
  show x ∈ (Plan.evalBodyPlan I cfg p a (Hir.compileRule V r) b r.body vs []).flatMap (headRows I r.heads) ↔ _
  cases b with
  | false => exact mem_flatMap_of_map_perm _ (Plan.head_rows_perm I hI cfg p a V r hd vs) x
  | true => exact mem_flatMap_of_map_perm _ (Plan.head_rows_perm_swapped I hI cfg p a V hS r hd hw (hb rfl) vs) x

/-- One MIR rule.  The guard skips only a rule that derives nothing (`anyEmpty_sound`); the `len_estimate` swap is taken only
for a reorderable join (`chooseSwap_reorderable`). -/
theorem evalRule_rowsA (I : Interp E B G P A) (hI : Plan.Ext I) (cfg : Config) (V : Hir.VarsOf E B) (hS : Plan.Supp I V)
    (p : Program E B G P A) (ix : IxSets) (a : SccSt) (ph : PScc) (hV : ViewsOk cfg p ix a ph) (r : Rule E B G P A)
    (hd : Hir.Desugared V r = true) (hw : Plan.WellScoped V r = true) (hok : ClOk p ix (Hir.compileRule V r) 0 r.body)
    (hag : AgOk I cfg p a ph (Hir.compileRule V r) 0 r.body) (vs : List (Option Ver)) (x : RelId × Tuple) :
    x ∈ (evalRule I p ph (Hir.compileRule V r) r.body vs).flatMap (headRows I r.heads) ↔
      x ∈ (evalBody I cfg p a r.body vs []).flatMap (headRows I r.heads) := by
  unfold evalRule
  split
  · rename_i he
    rw [anyEmpty_sound I cfg p ix a ph hV _ r.body vs hok he]
  · exact evalFrom_rowsA I hI cfg V hS p ix a ph hV r hd hw hok hag vs _ (chooseSwap_reorderable p ph _ r.body vs) x

theorem evalRule_rows (I : Interp E B G P A) (hI : Plan.Ext I) (cfg : Config) (V : Hir.VarsOf E B) (hS : Plan.Supp I V)
    (p : Program E B G P A) (ix : IxSets) (a : SccSt) (ph : PScc) (hV : ViewsOk cfg p ix a ph) (r : Rule E B G P A)
    (hd : Hir.Desugared V r = true) (hw : Plan.WellScoped V r = true) (hok : ClOk p ix (Hir.compileRule V r) 0 r.body)
    (haf : r.aggFree = true) (vs : List (Option Ver)) (x : RelId × Tuple) :
    x ∈ (evalRule I p ph (Hir.compileRule V r) r.body vs).flatMap (headRows I r.heads) ↔
      x ∈ (evalBody I cfg p a r.body vs []).flatMap (headRows I r.heads) :=
  evalRule_rowsA I hI cfg V hS p ix a ph hV r hd hw hok (.of_aggFree haf) vs x

section Frozen
variable (cfg : Config) (p : Program E B G P A) (hl : ∀ d ∈ p.rels, d.lat = false)

include hl in
theorem view_ext_iff {n : Nat} {dynR : List RelId} {s₀ s : SccSt} (hwf : WF n dynR s₀) (hext : Ext s₀ s)
    (r : RelId) (v : Option Ver) (t : Tuple) : Engine.viewOf cfg p s r v t ↔ Engine.viewOf cfg p s₀ r v t := by
  have hc : clauseRows cfg p s r v = clauseRows cfg p s₀ r v := by
    cases hd : findDyn s₀.dyn r with
    | none =>
      obtain ⟨h1, h2⟩ := hext.nondyn r hd
      rw [clauseRows_none cfg p hl v h1, clauseRows_none cfg p hl v hd, h2]
    | some d₀ =>
      obtain ⟨d, h1, h2, h3⟩ := hext.td r d₀ hd
      rw [clauseRows_some cfg p hl v h1, clauseRows_some cfg p hl v hd, h2, h3]
  have hrow : ∀ i ∈ clauseRows cfg p s₀ r v, rowAt (relSt s.rels r).rows i = rowAt (relSt s₀.rels r).rows i := by
    intro i hi
    cases hd : findDyn s₀.dyn r with
    | none =>
      obtain ⟨_, h2⟩ := hext.nondyn r hd
      rw [h2]
    | some d₀ =>
      obtain ⟨ex, hex⟩ := hext.rows r
      have hlt : i < (rowsOf s₀ r).length := by
        rcases mem_clauseRows_some cfg p hl hd hi with h | h
        · exact (hwf.cover r d₀ hd i).mpr (.inl h)
        · exact (hwf.cover r d₀ hd i).mpr (.inr (.inl h))
      show rowAt (rowsOf s r) i = rowAt (rowsOf s₀ r) i
      rw [hex, rowAt_append_left _ _ _ hlt]
  unfold Engine.viewOf
  rw [hc]
  constructor
  · rintro ⟨i, hi, h⟩; exact ⟨i, hi, by rw [← hrow i hi]; exact h⟩
  · rintro ⟨i, hi, h⟩; exact ⟨i, hi, by rw [hrow i hi]; exact h⟩

end Frozen

theorem evalBody_frozenA (cfg : Config) (p : Program E B G P A) (hl : ∀ d ∈ p.rels, d.lat = false)
    (I : Interp E B G P A) {n : Nat} {dynR : List RelId} {s₀ s : SccSt} (hwf : WF n dynR s₀)
    (hext : Ext s₀ s) (body : List (Item E B G P A)) (hagg : ∀ ag, Item.agg ag ∈ body → dynR.contains ag.rel = false)
    (vs : List (Option Ver)) (ρ x : Env) :
    x ∈ evalBody I cfg p s body vs ρ ↔ x ∈ evalBody I cfg p s₀ body vs ρ := by
  have heq : ∀ ag, Item.agg ag ∈ body → aggTuples cfg p s ag = aggTuples cfg p s₀ ag := fun ag ha =>
    Agg.aggTuples_congr cfg p ag (hext.nondyn ag.rel (hwf.findDyn_none (hagg ag ha))).2
  constructor
  · intro h
    exact Agg.evalBody_of_SatV I cfg p s₀
      (Agg.SatV.congr_agg
        (Agg.SatV.mono (fun r v t hv => (view_ext_iff cfg p hl hwf hext r v t).mp hv)
          (Agg.SatV_of_evalBody I cfg p s body vs ρ x h)) heq)
  · intro h
    exact Agg.evalBody_of_SatV I cfg p s
      (Agg.SatV.congr_agg
        (Agg.SatV.mono (fun r v t hv => (view_ext_iff cfg p hl hwf hext r v t).mpr hv)
          (Agg.SatV_of_evalBody I cfg p s₀ body vs ρ x h)) (fun ag ha => (heq ag ha).symm))

theorem fold_chunks {α : Type} (Inv : SccSt → PScc → Prop) (fP : PScc → α → PScc) (R : α → List (RelId × Tuple)) :
    ∀ (xs : List α),
      (∀ a ph x, x ∈ xs → Inv a ph → ∃ l, (∀ y, y ∈ l ↔ y ∈ R x) ∧ Inv (applyRows a l) (fP ph x)) →
      ∀ a ph, Inv a ph → ∃ l, (∀ y, y ∈ l ↔ y ∈ xs.flatMap R) ∧ Inv (applyRows a l) (xs.foldl fP ph) := by
  intro xs
  induction xs with
  | nil => exact fun _ a ph h => ⟨[], fun y => by simp, h⟩
  | cons x xs ih =>
    intro step a ph h
    obtain ⟨l₁, hm₁, h₁⟩ := step a ph x (by simp) h
    obtain ⟨l₂, hm₂, h₂⟩ := ih (fun a ph y hy => step a ph y (List.mem_cons_of_mem _ hy)) _ _ h₁
    refine ⟨l₁ ++ l₂, ?_, ?_⟩
    · intro y
      rw [List.mem_append, hm₁, hm₂, List.flatMap_cons, List.mem_append]
    · rw [applyRows_append]; exact h₂

/-- the abstract value between SCCs: one entry per declared relation, whose stored index numbers every row -/
structure StI (p : Program E B G P A) (st : St) : Prop where
  len : st.length = p.rels.length
  idxAll : ∀ r i, i < (relSt st r).rows.length ↔ i ∈ (relSt st r).idx

/-- the invariant inside an SCC -/
structure SccSim (p : Program E B G P A) (ix : IxSets) (dynR : List RelId) (a : SccSt) (ph : PScc) : Prop where
  wf : WF p.rels.length dynR a
  simB : SimB p ix a ph

/-- the invariant between SCCs -/
structure StSim (p : Program E B G P A) (ix : IxSets) (st : St) (pst : PSt) : Prop where
  inv : StI p st
  simB : SimStB p ix st pst

section Steps
variable {p : Program E B G P A} {ix : IxSets} {dynR : List RelId} (hlt : ∀ r, dynR.contains r = true → r < p.rels.length)

theorem SccSim.sim {a : SccSt} {ph : PScc} (h : SccSim p ix dynR a ph) : Sim p ix a ph := h.simB.sim

theorem StSim.sim {st : St} {pst : PSt} (h : StSim p ix st pst) : SimSt p ix st pst := h.simB.sim

include hlt in
theorem StSim.enter {st : St} {pst : PSt} (h : StSim p ix st pst) :
    SccSim p ix dynR (Engine.enterScc st dynR) (Phys.enterScc pst dynR) :=
  ⟨WF_enterScc dynR h.inv.len h.inv.idxAll,
    enter_simB h.simB _ fun r hr => by rw [h.inv.len]; exact hlt r (List.contains_iff_mem.mpr hr)⟩

theorem SccSim.shift {a : SccSt} {ph : PScc} (h : SccSim p ix dynR a ph) :
    SccSim p ix dynR (Engine.shift a) (Phys.shift ph) :=
  ⟨WF_shift h.wf, shift_simB h.simB⟩

theorem SccSim.reset {a : SccSt} {ph : PScc} (h : SccSim p ix dynR a ph) :
    SccSim p ix dynR { a with changed := false } { ph with changed := false } :=
  ⟨WF_reset _ dynR h.wf, reset_simB h.simB⟩

include hlt in
theorem SccSim.headRel {a : SccSt} {ph : PScc} (h : SccSim p ix dynR a ph) (r : RelId) (row : Tuple)
    (hlen : row.length = arityOf p r) : SccSim p ix dynR (Engine.headRel a r row) (Phys.headRel ph r row) :=
  ⟨(headRel_wf_ext hlt h.wf (Ext.refl a) r row).1, headRel_simB h.simB h.wf hlt r row hlen⟩

include hlt in
theorem SccSim.leave {a : SccSt} {ph : PScc} (h : SccSim p ix dynR a ph) (hs : Settled a) :
    StSim p ix (Engine.leaveScc a) (Phys.leaveScc ph) :=
  ⟨⟨(Agg.leaveScc_length a).trans h.wf.len, Agg.leaveScc_idxAll h.wf hlt hs⟩, leave_simB h.simB (Agg.dyn_lt_of_WF h.wf hlt)⟩

end Steps

/-- the invariant of a pass that started in `a₀`: `SccSim`, and `a` extends `a₀` (`Ext`: what the evaluation reads is as in `a₀`) -/
structure PIM (p : Program E B G P A) (ix : IxSets) (dynR : List RelId) (a₀ a : SccSt) (ph : PScc) : Prop
    extends SccSim p ix dynR a ph where
  ext : Ext a₀ a

/-- what `planOk` and `Relational` say about a rule of an aggregation-free program -/
structure RuleFit (V : Hir.VarsOf E B) (p : Program E B G P A) (ix : IxSets) (r : Rule E B G P A) : Prop where
  desug : Hir.Desugared V r = true
  wscoped : Plan.WellScoped V r = true
  clok : ClOk p ix (Hir.compileRule V r) 0 r.body
  aggFree : r.aggFree = true
  heads : ∀ h ∈ r.heads, h.args.length = arityOf p h.rel

theorem ruleFit_of_planOk (V : Hir.VarsOf E B) (p : Program E B G P A) (ix : IxSets) (hp : Relational p)
    (hplan : planOk V p ix = true)
    (hd : ∀ r ∈ p.rules, Hir.Desugared V r = true ∧ Plan.WellScoped V r = true) :
    ∀ r ∈ p.rules, RuleFit V p ix r := by
  intro r hr
  have h := List.all_eq_true.mp hplan r hr
  simp only [Bool.and_eq_true] at h
  refine ⟨(hd r hr).1, (hd r hr).2, clOk_of_ruleOk V p ix r h.1, hp.1 r hr, ?_⟩
  intro hc hhc
  simpa using List.all_eq_true.mp h.2 hc hhc

/-- what the pass needs to know about a rule (from `planOk`, `aggPlanOk` and the hypotheses on the rules: `ruleFitA_of_planOk`) -/
structure RuleFitA (V : Hir.VarsOf E B) (p : Program E B G P A) (ix : IxSets) (r : Rule E B G P A) : Prop where
  desug : Hir.Desugared V r = true
  wscoped : Plan.WellScoped V r = true
  clok : ClOk p ix (Hir.compileRule V r) 0 r.body
  heads : ∀ h ∈ r.heads, h.args.length = arityOf p h.rel
  agg : ∀ i ag, r.body[i]? = some (.agg ag) → ag.args.length = arityOf p ag.rel ∧
    aggColsAt (Hir.compileRule V r) i = keyPositions ag.args ∧
    ((keyPositions ag.args).length = arityOf p ag.rel ∨ keyPositions ag.args ∈ ix ag.rel)

theorem aggFit_of_aggRuleOk (V : Hir.VarsOf E B) (p : Program E B G P A) (ix : IxSets) (r : Rule E B G P A)
    (h : aggRuleOk V p ix r = true) (i : Nat) (ag : AggClause E A) (hi : r.body[i]? = some (.agg ag)) :
    ag.args.length = arityOf p ag.rel ∧ aggColsAt (Hir.compileRule V r) i = keyPositions ag.args ∧
      ((keyPositions ag.args).length = arityOf p ag.rel ∨ keyPositions ag.args ∈ ix ag.rel) := by
  have ⟨hlt, _⟩ := List.getElem?_eq_some_iff.mp hi
  have hk' := List.all_eq_true.mp h i (List.mem_range.mpr hlt)
  rw [hi] at hk'
  unfold aggColsAt
  cases hit : (Hir.compileRule V r).items[i]? with
  | none => rw [hit] at hk'; simp at hk'
  | some it =>
    rw [hit] at hk'
    cases it with
    | agg rel' cols =>
      simp only [Bool.and_eq_true, Bool.or_eq_true, beq_iff_eq, List.contains_iff_mem] at hk'
      obtain ⟨⟨⟨⟨⟨_, h2⟩, h3⟩, h4⟩, _⟩, _⟩ := hk'
      subst h3
      exact ⟨h2, rfl, h4⟩
    | clause rel' cols dp => simp at hk'
    | gen v => simp at hk'
    | ifc => simp at hk'
    | ifLet => simp at hk'
    | letc => simp at hk'

theorem ruleFitA_of_planOk (V : Hir.VarsOf E B) (p : Program E B G P A) (ix : IxSets)
    (hplan : planOk V p ix = true) (hagg : aggPlanOk V p ix = true)
    (hd : ∀ r ∈ p.rules, Hir.Desugared V r = true ∧ Plan.WellScoped V r = true) :
    ∀ r ∈ p.rules, RuleFitA V p ix r := by
  intro r hr
  have h := List.all_eq_true.mp hplan r hr
  simp only [Bool.and_eq_true] at h
  have ha := List.all_eq_true.mp hagg r hr
  refine ⟨(hd r hr).1, (hd r hr).2, clOk_of_ruleOk V p ix r h.1, ?_, aggFit_of_aggRuleOk V p ix r ha⟩
  intro hc hhc
  simpa using List.all_eq_true.mp h.2 hc hhc

/-- the dynamic relations of an SCC are declared, its rules fit the plan and aggregate over relations that are not dynamic
(stratification) -/
structure SccFitA (V : Hir.VarsOf E B) (p : Program E B G P A) (ix : IxSets) (dynR : List RelId)
    (rules : List (Rule E B G P A)) : Prop where
  lt : ∀ r, dynR.contains r = true → r < p.rels.length
  fit : ∀ r ∈ rules, RuleFitA V p ix r
  strat : ∀ r ∈ rules, ∀ ag, Item.agg ag ∈ r.body → dynR.contains ag.rel = false

theorem sccFitA {V : Hir.VarsOf E B} {p : Program E B G P A} {ix : IxSets} (hp : RelationalAgg p)
    (hR : ∀ r ∈ p.rules, RuleFitA V p ix r) {scc : List Nat} (hstrat : aggOverDynamic p scc = false) :
    SccFitA V p ix (dynRels p scc) (sccRules p scc) :=
  ⟨dynRels_lt p hp.2 scc, fun r hr => hR r (sccRules_sub p scc r hr), Agg.aggOverDynamic_false p scc hstrat⟩

/-- the `AgOk` that `evalFrom_memA` asks for, from `aggBag_of_sim` -/
theorem agOk_of_sim (I : Interp E B G P A) (cfg : Config) {V : Hir.VarsOf E B} {p : Program E B G P A}
    (hl : ∀ d ∈ p.rels, d.lat = false) {ix : IxSets} {dynR : List RelId} {a : SccSt} {ph : PScc} (hsim : SimB p ix a ph)
    (hwf : WF p.rels.length dynR a) {r : Rule E B G P A} (hr : RuleFitA V p ix r)
    (hstr : ∀ ag, Item.agg ag ∈ r.body → dynR.contains ag.rel = false)
    (hperm : ∀ ag, Item.agg ag ∈ r.body → ∀ l l' : List Tuple, l.Perm l' → I.agg ag.fn l = I.agg ag.fn l') :
    AgOk I cfg p a ph (Hir.compileRule V r) 0 r.body := by
  intro k ag hk ρ
  rw [Nat.zero_add]
  obtain ⟨g1, g2, g3⟩ := hr.agg k ag hk
  have hmem := List.mem_of_getElem? hk
  unfold aggEnvs
  rw [hperm ag hmem _ _ (aggBag_of_sim I cfg p hl ix hsim hwf _ k ag (hstr ag hmem) g1 g2 g3 ρ)]

def PermOn (I : Interp E B G P A) (rules : List (Rule E B G P A)) : Prop :=
  ∀ r ∈ rules, ∀ ag, Item.agg ag ∈ r.body → ∀ l l' : List Tuple, l.Perm l' → I.agg ag.fn l = I.agg ag.fn l'

/-! ## what an outcome of `run_timeout` means, level by level -/

section Out
variable (I : Interp E B G P A) (cfg : Config) (p : Program E B G P A) (ix : IxSets)

/-- how the loop of an SCC, entered in abstract state `a`, may have ended: after an execution of the nondeterministic loop
(`D`: what the value left has to do with its last state), or after a prefix of one (some passes, each followed by the merge; `T`) -/
def LoopOutG {ρ : Type} (D T : SccSt → ρ → Prop) (dynR : List RelId) (rules : List (Rule E B G P A)) (a : SccSt) :
    Outcome ρ → Prop
  | .done rs' => ∃ a' k, LoopND I cfg p dynR rules a a' k ∧ D a' rs'
  | .timedOut rs' => ∃ a', Agg.LoopPreND I cfg p dynR rules a a' ∧ T a' rs'
  | .outOfFuel => True

/-- all SCCs completed (`D`), or some completed and the next one abandoned (`Ab`) -/
def SccsOutG {ρ : Type} (D : St → ρ → Prop) (Ab : List Nat → St → ρ → Prop) (order : SccOrder) (st : St) : Outcome ρ → Prop
  | .done ps' => ∃ st', SccsND I cfg p order st st' ∧ D st' ps'
  | .timedOut ps' => ∃ (done : SccOrder) (scc : List Nat) (rest : SccOrder) (stMid : St),
      order = done ++ scc :: rest ∧ SccsND I cfg p done st stMid ∧ Ab scc stMid ps'
  | .outOfFuel => True

abbrev LoopOut (dynR : List RelId) (rules : List (Rule E B G P A)) (a : SccSt) : Outcome RunStT → Prop :=
  LoopOutG I cfg p (fun a' rs' => SccSim p ix dynR a' rs'.st ∧ Settled a') (fun a' rs' => Sim p ix a' rs'.st) dynR rules a

/-- the value an interrupted call leaves: `abandonScc` of a physical SCC state simulating a state in which the
nondeterministic engine may abandon SCC `scc`.  The state is given by how it was reached (a prefix of an execution,
`Agg.SccPreND`); the towers with lattices give it by an invariant instead (`Abandoned` of `Proofs/PhysLatTimeout.lean`). -/
def Abandoned (scc : List Nat) (st : St) (pst : PSt) : Prop :=
  ∃ a' ph, Agg.SccPreND I cfg p scc st a' ∧ Sim p ix a' ph ∧ pst = abandonScc p scc ph

def SccOut (scc : List Nat) (st : St) : Outcome ProgStT → Prop
  | .done ps' => ∃ st', SccND I cfg p scc st st' ∧ StSim p ix st' ps'.st
  | .timedOut ps' => Abandoned I cfg p ix scc st ps'.st
  | .outOfFuel => True

abbrev SccsOut (order : SccOrder) (st : St) : Outcome ProgStT → Prop :=
  SccsOutG I cfg p (fun st' ps' => StSim p ix st' ps'.st) (fun scc st ps' => Abandoned I cfg p ix scc st ps'.st) order st

variable {I cfg p ix}

theorem LoopOutG.more {ρ : Type} {D T : SccSt → ρ → Prop} {dynR : List RelId} {rules : List (Rule E B G P A)} {a a1 : SccSt}
    {o : Outcome ρ} (hpass : PassND I cfg p dynR rules a a1) (hc : a1.changed = true)
    (h : LoopOutG I cfg p D T dynR rules (Engine.shift a1) o) : LoopOutG I cfg p D T dynR rules a o := by
  cases o with
  | done rs' =>
    obtain ⟨a', k, hl, h'⟩ := h
    exact ⟨a', k + 1, LoopND.more hpass hc hl, h'⟩
  | timedOut rs' => exact h.imp fun a' h' => ⟨Agg.LoopPreND.more hpass h'.1, h'.2⟩
  | outOfFuel => exact h

theorem SccsOutG.cons {ρ : Type} {D : St → ρ → Prop} {Ab : List Nat → St → ρ → Prop} {scc : List Nat} {rest : SccOrder}
    {st st1 : St} {o : Outcome ρ} (hnd : SccND I cfg p scc st st1) (h : SccsOutG I cfg p D Ab rest st1 o) :
    SccsOutG I cfg p D Ab (scc :: rest) st o := by
  cases o with
  | done ps' => exact h.imp fun st2 h' => ⟨SccsND.cons hnd h'.1, h'.2⟩
  | timedOut ps' =>
    obtain ⟨done, scc', rest', stMid, ho, hdone, hab⟩ := h
    exact ⟨scc :: done, scc', rest', stMid, by rw [ho]; rfl, SccsND.cons hnd hdone, hab⟩
  | outOfFuel => exact h

end Out

section Pass
variable (I : Interp E B G P A) (hI : Plan.Ext I) (cfg : Config) (V : Hir.VarsOf E B) (hS : Plan.Supp I V)
  (p : Program E B G P A) (hl : ∀ d ∈ p.rels, d.lat = false) (ix : IxSets) (dynR : List RelId)
  (hlt : ∀ r, dynR.contains r = true → r < p.rels.length)

include hlt in
theorem heads_simA (a₀ : SccSt) (heads : List (HeadClause E)) (hh : ∀ h ∈ heads, h.args.length = arityOf p h.rel)
    (ρ : Env) (a : SccSt) (ph : PScc) (h : PIM p ix dynR a₀ a ph) :
    ∃ l, (∀ y, y ∈ l ↔ y ∈ headRows I heads ρ) ∧
      PIM p ix dynR a₀ (applyRows a l) (heads.foldl (fun s h => Phys.headRel s h.rel (headRow I h ρ).2) ph) := by
  obtain ⟨l, hm, hinv⟩ := fold_chunks (PIM p ix dynR a₀) (fun s (h : HeadClause E) => Phys.headRel s h.rel (headRow I h ρ).2)
    (fun h => [(h.rel, h.args.map fun e => I.expr e ρ)]) heads (by
      intro a ph hd hhd hinv
      exact ⟨[(hd.rel, hd.args.map fun e => I.expr e ρ)], fun _ => Iff.rfl,
        hinv.toSccSim.headRel hlt hd.rel _ (by rw [List.length_map]; exact hh hd hhd),
        (headRel_wf_ext hlt hinv.wf hinv.ext hd.rel _).2⟩) a ph h
  refine ⟨l, ?_, hinv⟩
  intro y
  rw [hm, mem_headRows]
  simp only [List.mem_flatMap, List.mem_singleton]

include hI hS hl hlt in
theorem variant_simA (a₀ : SccSt) (hwf0 : WF p.rels.length dynR a₀) (r : Rule E B G P A) (hr : RuleFitA V p ix r)
    (hstr : ∀ ag, Item.agg ag ∈ r.body → dynR.contains ag.rel = false)
    (hperm : ∀ ag, Item.agg ag ∈ r.body → ∀ l l' : List Tuple, l.Perm l' → I.agg ag.fn l = I.agg ag.fn l')
    (vs : List (Option Ver)) (a : SccSt) (ph : PScc) (h : PIM p ix dynR a₀ a ph) :
    ∃ l, (∀ y, y ∈ l ↔ y ∈ (evalBody I cfg p a₀ r.body vs []).flatMap (headRows I r.heads)) ∧
      PIM p ix dynR a₀ (applyRows a l) (Phys.evalVariant I V p ph r vs) := by
  obtain ⟨l, hm, hinv⟩ := fold_chunks (PIM p ix dynR a₀)
    (fun s ρ => r.heads.foldl (fun s h => Phys.headRel s h.rel (headRow I h ρ).2) s) (headRows I r.heads)
    (evalRule I p ph (Hir.compileRule V r) r.body vs)
    (fun a ph ρ _ hinv => heads_simA I p ix dynR hlt a₀ r.heads hr.heads ρ a ph hinv) a ph h
  refine ⟨l, ?_, hinv⟩
  intro y
  rw [hm, evalRule_rowsA I hI cfg V hS p ix a ph (sim_viewsOk cfg p hl ix h.sim h.wf) r hr.desug hr.wscoped hr.clok
    (agOk_of_sim I cfg hl h.simB h.wf hr hstr hperm) vs y]
  exact mem_flatMap_congr (evalBody_frozenA cfg p hl I hwf0 h.ext r.body hstr vs []) (fun _ _ => Iff.rfl) y

theorem mem_iterRows' (rules : List (Rule E B G P A)) (s : SccSt) (x : RelId × Tuple) :
    x ∈ iterRows I cfg p dynR rules s ↔
      ∃ r ∈ rules, ∃ vs ∈ variants dynR r, ∃ ρ ∈ evalBody I cfg p s r.body vs [], x ∈ headRows I r.heads ρ := by
  rw [mem_iterRows]
  constructor
  · rintro ⟨t, ht, hx⟩
    obtain ⟨hr, vs, hvs, hρ⟩ := (mem_iterTasks ..).mp ht
    exact ⟨t.1, hr, vs, hvs, t.2, hρ, (mem_headRows ..).mpr hx⟩
  · rintro ⟨r, hr, vs, hvs, ρ, hρ, hx⟩
    exact ⟨(r, ρ), (mem_iterTasks ..).mpr ⟨hr, vs, hvs, hρ⟩, (mem_headRows ..).mp hx⟩

include hI hS hl in
/-- **one pass** of the physical engine is a pass of the nondeterministic engine: it applies a list of rows with exactly the
members of `iterRows`, rule by rule and variant by variant -/
theorem pass_simA (rules : List (Rule E B G P A)) (hf : SccFitA V p ix dynR rules) (hperm : PermOn I rules) (a : SccSt)
    (ph : PScc) (h : SccSim p ix dynR a ph) :
    ∃ a1, PassND I cfg p dynR rules a a1 ∧
      PIM p ix dynR { a with changed := false } a1 (Phys.evalRules I V p dynR rules { ph with changed := false }) := by
  obtain ⟨l, hm, hinv⟩ := fold_chunks (PIM p ix dynR { a with changed := false })
    (fun s r => (variants dynR r).foldl (fun s vs => Phys.evalVariant I V p s r vs) s)
    (fun r => (variants dynR r).flatMap fun vs =>
      (evalBody I cfg p { a with changed := false } r.body vs []).flatMap (headRows I r.heads))
    rules (by
      intro a' ph' r hr hinv
      exact fold_chunks (PIM p ix dynR { a with changed := false }) (fun s vs => Phys.evalVariant I V p s r vs)
        (fun vs => (evalBody I cfg p { a with changed := false } r.body vs []).flatMap (headRows I r.heads)) (variants dynR r)
        (fun a' ph' vs _ hinv => variant_simA I hI cfg V hS p hl ix dynR hf.lt _ h.reset.wf r (hf.fit r hr) (hf.strat r hr)
          (hperm r hr) vs a' ph' hinv)
        a' ph' hinv)
    _ _ ⟨h.reset, Ext.refl _⟩
  refine ⟨_, ⟨l, fun y => ?_, rfl⟩, hinv⟩
  rw [hm, mem_iterRows']
  simp only [List.mem_flatMap]

include hI hS hl in
theorem sccLoopT_sim (rules : List (Rule E B G P A)) (hf : SccFitA V p ix dynR rules) (hperm : PermOn I rules)
    (dl : Deadline) : ∀ (fuel : Nat) (rs : RunStT) (a : SccSt), SccSim p ix dynR a rs.st → NewEmpty a →
      LoopOut I cfg p ix dynR rules a (sccLoopT I V p dynR rules dl fuel rs) := by
  intro fuel
  induction fuel with
  | zero => exact fun _ _ _ _ => trivial
  | succ fuel ih =>
    intro rs a hs hne
    obtain ⟨a1, hpass, hinv⟩ := pass_simA I hI cfg V hS p hl ix dynR rules hf hperm a rs.st hs
    simp only [sccLoopT]
    split
    · rename_i hch
      have hch' : a1.changed = false := by
        rw [hinv.sim.changed]; simpa using hch
      exact ⟨_, 1, LoopND.exit hpass hch', hinv.toSccSim.shift, Settled_shift (hinv.ext.unchanged hch' ▸ hne)⟩
    · rename_i hch
      have hch' : a1.changed = true := by
        rw [hinv.sim.changed]; simpa using hch
      split
      · exact ⟨_, Agg.LoopPreND.last hpass, hinv.toSccSim.shift.sim⟩
      · exact LoopOutG.more hpass hch' (ih _ _ hinv.toSccSim.shift (NewEmpty_shift a1))

end Pass

section Run
variable (I : Interp E B G P A) (hI : Plan.Ext I) (cfg : Config) (V : Hir.VarsOf E B) (hS : Plan.Supp I V)
  (p : Program E B G P A) (hp : RelationalAgg p) (ix : IxSets)
  (hR : ∀ r ∈ p.rules, RuleFitA V p ix r) (hperm : PermOn I p.rules) (dl : Deadline) (fuel : Nat)

include hI hS hperm hp hR in
theorem runSccT_sim (scc : List Nat) (hstrat : aggOverDynamic p scc = false) (ps : ProgStT) (st : St)
    (hs : StSim p ix st ps.st) : SccOut I cfg p ix scc st (runSccT I V p dl fuel scc ps) := by
  have hf := sccFitA hp hR hstrat
  have hperm' : PermOn I (sccRules p scc) := fun r hr => hperm r (sccRules_sub p scc r hr)
  have hs0 : SccSim p ix _ _ (Phys.enterScc ps.st (dynRels p scc)) := hs.enter hf.lt
  simp only [runSccT]
  split
  · rename_i hlp
    have := sccLoopT_sim I hI cfg V hS p hp.1 ix _ _ hf hperm' dl fuel ⟨enterScc ps.st (dynRels p scc), ps.checks, 0⟩ _
      hs0 (NewEmpty_enterScc st _)
    revert this
    cases sccLoopT I V p (dynRels p scc) (sccRules p scc) dl fuel _ with
    | done rs =>
      rintro ⟨a', k, hnd, hs', hset'⟩
      exact ⟨_, (if_pos hlp).mpr ⟨a', k, hnd, rfl⟩, hs'.leave hf.lt hset'⟩
    | timedOut rs => exact fun ⟨a', hpre, hsim'⟩ => ⟨a', rs.st, (if_pos hlp).mpr hpre, hsim', rfl⟩
    | outOfFuel => exact id
  · rename_i hlp
    obtain ⟨a1, hpass, hinv1⟩ := pass_simA I hI cfg V hS p hp.1 ix _ _ hf hperm' _ _ hs0
    split
    · exact ⟨_, _, (if_neg hlp).mpr ⟨a1, hpass, rfl⟩, hinv1.toSccSim.shift.shift.sim, rfl⟩
    · exact ⟨_, (if_neg hlp).mpr ⟨a1, hpass, rfl⟩,
        hinv1.toSccSim.shift.shift.leave hf.lt (Settled_shift (NewEmpty_shift a1))⟩

include hI hS hperm hp hR in
theorem runSccsT_sim : ∀ (order : SccOrder), Stratified p order → ∀ (ps : ProgStT) (st : St), StSim p ix st ps.st →
    SccsOut I cfg p ix order st (runSccsT I V p dl fuel order ps) := by
  intro order
  induction order with
  | nil => exact fun _ ps st hs => ⟨st, SccsND.nil, hs⟩
  | cons scc rest ih =>
    intro hst ps st hs
    have h1 := runSccT_sim I hI cfg V hS p hp ix hR hperm dl fuel scc (hst scc (by simp)) ps st hs
    simp only [runSccsT]
    revert h1
    cases runSccT I V p dl fuel scc ps with
    | done ps1 =>
      rintro ⟨st1, hnd, hs1⟩
      exact .cons hnd (ih (fun s hs' => hst s (List.mem_cons_of_mem _ hs')) ps1 st1 hs1)
    | timedOut x => exact fun h => ⟨[], scc, rest, st, rfl, SccsND.nil, h⟩
    | outOfFuel => exact id

end Run

theorem StSim.start (p : Program E B G P A) (ix : IxSets) (s : PSt) (hs : WFPSt p s) :
    StSim p ix (Engine.updateIndices (absSt s)) (Phys.updateIndices ix s) := by
  refine ⟨⟨by simpa [Engine.updateIndices, absSt] using hs.1, ?_⟩, updateIndices_simB p ix s hs⟩
  intro r i
  rw [relSt_updateIndices]
  simp

/-- **`run_timeout` on a stratified program, however it ends**, whatever the deadline oracle and the fuel: returned `true`: an
execution of the nondeterministic engine; returned `false`: a prefix of one, the SCC it was in abandoned -/
theorem runTimeout_sim (I : Interp E B G P A) (hI : Plan.Ext I) (V : Hir.VarsOf E B) (hS : Plan.Supp I V)
    (p : Program E B G P A) (ix : IxSets) (order : SccOrder) (dl : Deadline) (s : PSt) (fuel : Nat)
    (hp : RelationalAgg p) (hst : Stratified p order) (hR : ∀ r ∈ p.rules, RuleFitA V p ix r) (hperm : PermOn I p.rules)
    (hs : WFPSt p s) :
    SccsOut I {} p ix order (Engine.updateIndices (absSt s)) (runTimeout I V p ix order dl fuel s) :=
  runSccsT_sim I hI {} V hS p hp ix hR hperm dl fuel order hst _ _ (StSim.start p ix s hs)

/-! ## `run()` is `run_timeout` under the deadline that never passes -/

section Never
variable {I : Interp E B G P A} {V : Hir.VarsOf E B} {p : Program E B G P A}

theorem sccLoop_never {dyn : List RelId} {rules : List (Rule E B G P A)} : ∀ (fuel : Nat) (rs rs' : RunSt) (c : Nat),
    sccLoop I V p dyn rules fuel rs = some rs' →
    ∃ c', sccLoopT I V p dyn rules never fuel ⟨rs.st, c, rs.iters⟩ = .done ⟨rs'.st, c', rs'.iters⟩ := by
  intro fuel
  induction fuel with
  | zero => intro rs rs' c h; cases h
  | succ fuel ih =>
    intro rs rs' c h
    simp only [sccLoop] at h
    simp only [sccLoopT, never, Bool.false_eq_true, if_false]
    split at h
    · rename_i hc
      cases h
      exact ⟨c, by rw [if_pos hc]⟩
    · rename_i hc
      rw [if_neg hc]
      exact ih _ rs' (c + 1) h

theorem runScc_never (fuel : Nat) (scc : List Nat) (ps ps' : ProgSt) (c : Nat)
    (h : runScc I V p fuel scc ps = some ps') :
    ∃ c', runSccT I V p never fuel scc ⟨ps.st, c, ps.iters⟩ = .done ⟨ps'.st, c', ps'.iters⟩ := by
  simp only [runScc] at h
  simp only [runSccT]
  split at h
  · rename_i hlp
    obtain ⟨rs, hloop, rfl⟩ := Option.map_eq_some_iff.mp h
    obtain ⟨c', hc'⟩ := sccLoop_never fuel _ rs c hloop
    rw [if_pos hlp, hc']
    exact ⟨c', rfl⟩
  · rename_i hlp
    cases h
    rw [if_neg hlp]
    exact ⟨c + 1, rfl⟩

theorem runSccs_never (fuel : Nat) : ∀ (order : SccOrder) (ps ps' : ProgSt) (c : Nat),
    runSccs I V p fuel order ps = some ps' →
    ∃ c', runSccsT I V p never fuel order ⟨ps.st, c, ps.iters⟩ = .done ⟨ps'.st, c', ps'.iters⟩ := by
  intro order
  induction order with
  | nil => intro ps ps' c h; cases h; exact ⟨c, rfl⟩
  | cons scc rest ih =>
    intro ps ps' c h
    obtain ⟨ps1, hscc, h⟩ := Option.bind_eq_some_iff.mp h
    obtain ⟨c1, h1⟩ := runScc_never fuel scc ps ps1 c hscc
    obtain ⟨c2, h2⟩ := ih ps1 ps' c1 h
    exact ⟨c2, by simp only [runSccsT, h1]; exact h2⟩

theorem run_never {ix : IxSets} {order : SccOrder} {fuel : Nat} {s : PSt} {out : ProgSt}
    (h : run I V p ix order fuel s = some out) :
    ∃ c, runTimeout I V p ix order never fuel s = .done ⟨out.st, c, out.iters⟩ :=
  runSccs_never fuel order _ out 0 h

end Never

/-- what a call that returned leaves: the value `o` simulates (`SimSt`: the same rows, every stored index holds them) the end
of an execution of the nondeterministic engine from the rows of `s` -/
def Exec (I : Interp E B G P A) (p : Program E B G P A) (ix : IxSets) (order : SccOrder) (s o : PSt) : Prop :=
  ∃ st', RunND I {} p order (absSt s) st' ∧ SimSt p ix st' o

theorem runTimeout_exec (I : Interp E B G P A) (hI : Plan.Ext I) (V : Hir.VarsOf E B) (hS : Plan.Supp I V)
    (p : Program E B G P A) (ix : IxSets) (order : SccOrder) (dl : Deadline) (s : PSt) (fuel : Nat) (o : ProgStT)
    (hp : RelationalAgg p) (hst : Stratified p order) (hR : ∀ r ∈ p.rules, RuleFitA V p ix r) (hperm : PermOn I p.rules)
    (hs : WFPSt p s) (hrun : runTimeout I V p ix order dl fuel s = .done o) : Exec I p ix order s o.st := by
  have := runTimeout_sim I hI V hS p ix order dl s fuel hp hst hR hperm hs
  rw [hrun] at this
  exact this.imp fun st' h => ⟨h.1, h.2.sim⟩

/-- **a run of the physical engine on a stratified program is an execution of the nondeterministic engine** -/
theorem run_is_RunND (I : Interp E B G P A) (hI : Plan.Ext I) (V : Hir.VarsOf E B) (hS : Plan.Supp I V)
    (p : Program E B G P A) (ix : IxSets) (order : SccOrder) (s : PSt) (fuel : Nat) (out : ProgSt)
    (hp : RelationalAgg p) (hst : Stratified p order) (hR : ∀ r ∈ p.rules, RuleFitA V p ix r) (hperm : PermOn I p.rules)
    (hs : WFPSt p s) (hrun : run I V p ix order fuel s = some out) : Exec I p ix order s out.st :=
  let ⟨_, hc⟩ := run_never hrun
  runTimeout_exec I hI V hS p ix order never s fuel _ hp hst hR hperm hs hc

/-- `run_is_RunND` from the decidable conditions on the plan, for an interpretation all of whose aggregators are
permutation-invariant -/
theorem run_is_RunND_agg (I : Interp E B G P A) (hI : Plan.Ext I) (V : Hir.VarsOf E B) (hS : Plan.Supp I V)
    (hperm : ∀ (fn : A) (l l' : List Tuple), l.Perm l' → I.agg fn l = I.agg fn l')
    (p : Program E B G P A) (ix : IxSets) (order : SccOrder) (s : PSt) (fuel : Nat) (out : ProgSt)
    (hp : RelationalAgg p) (hst : Stratified p order)
    (hplan : planOk V p ix = true) (hagg : aggPlanOk V p ix = true)
    (hd : ∀ r ∈ p.rules, Hir.Desugared V r = true ∧ Plan.WellScoped V r = true)
    (hs : WFPSt p s)
    (hrun : run I V p ix order fuel s = some out) :
    ∃ st', RunND I {} p order (absSt s) st' ∧ SimSt p ix st' out.st :=
  run_is_RunND I hI V hS p ix order s fuel out hp hst (ruleFitA_of_planOk V p ix hplan hagg hd)
    (fun _ _ ag _ => hperm ag.fn) hs hrun

#print axioms AscentVerif.Phys.run_is_RunND_agg

theorem not_agg_mem {r : Rule E B G P A} (h : r.aggFree = true) (ag : AggClause E A) : Item.agg ag ∉ r.body :=
  fun hm => nomatch List.all_eq_true.mp h _ hm

theorem Relational.toAgg {p : Program E B G P A} (hp : Relational p) {V : Hir.VarsOf E B} {ix : IxSets}
    (hR : ∀ r ∈ p.rules, RuleFit V p ix r) (I : Interp E B G P A) (order : SccOrder) :
    RelationalAgg p ∧ Stratified p order ∧ (∀ r ∈ p.rules, RuleFitA V p ix r) ∧ PermOn I p.rules := by
  refine ⟨⟨hp.2.1, hp.2.2⟩, fun scc _ => ?_, fun r hr => ?_, fun r hr ag hag => absurd hag (not_agg_mem (hp.1 r hr) ag)⟩
  · refine List.any_eq_false.mpr fun r hr => Bool.eq_false_iff.mp (List.any_eq_false.mpr fun it hit => ?_)
    cases it with
    | agg ag => exact absurd hit (not_agg_mem (hp.1 r (sccRules_sub p scc r hr)) ag)
    | _ => exact Bool.false_ne_true
  · have h := hR r hr
    exact ⟨h.desug, h.wscoped, h.clok, h.heads,
      fun i ag hi => absurd (List.mem_of_getElem? hi) (not_agg_mem h.aggFree ag)⟩

end AscentVerif.Phys
