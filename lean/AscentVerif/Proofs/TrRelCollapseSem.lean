import AscentVerif.Proofs.TrRelCollapseBranch
/-!
# The states of the collapse branch against the extended history

`CollapseData` bundles the intermediate states of the branch as `collapse_run` describes them.  From it: the sets on a
cycle through the new edge are `x_set` and those that `merge_multiple` absorbs (`cyc_clean`, `cyc_iff`), the merged set
is their union (`mem9`), the premises of `C9_clean` / `R9_clean` hold, so that neither map mentions an absorbed id
afterwards (`pred_of_dirty`, `succ_of_dirty`), every stored pair is justified (`upper9`), and every required pair is
stored (`sem_lower`).  `merge_core` in `TrRelCollapseAdd` assembles `Core` from these.
-/
namespace AscentVerif.TrRel

structure CollapseData (t : TrRel) (ps : List (Int × Int)) (x0 y0 : Int) (X Y : Nat) (ta t3 t9 : TrRel) (ml tm : NSet) :
    Prop where
  K : CollapseCtx t ps x0 y0 X Y
  hml : ∀ m, m ∈ ml ↔ InM t X Y m
  htm : ∀ m, m ∈ tm ↔ InM t X Y m ∨ m = Y
  prep : PrepPost t ta X Y tm
  post : ConnPost ta t3 X Y
  up : ConnLe (GSem t (ps ++ [(x0, y0)])) t3
  merge : MergePost t3 t9 X Y ml

namespace CollapseData
variable {t : TrRel} {ps : List (Int × Int)} {x0 y0 : Int} {X Y : Nat} {ta t3 t9 : TrRel} {ml tm : NSet}

theorem sets3 (D : CollapseData t ps x0 y0 X Y ta t3 t9 ml tm) : t3.sets = t.sets := D.post.core.1.trans D.prep.core.1
theorem subs3 (D : CollapseData t ps x0 y0 X Y ta t3 t9 ml tm) : t3.subs = t.subs := D.post.core.2.2.trans D.prep.core.2.2
theorem elemIds3 (D : CollapseData t ps x0 y0 X Y ta t3 t9 ml tm) : t3.elemIds = t.elemIds :=
  D.post.core.2.1.trans D.prep.core.2.1

theorem mem3 (D : CollapseData t ps x0 y0 X Y ta t3 t9 ml tm) (d : Nat) (v : Int) : Mem t3 d v ↔ Mem t d v := by
  unfold Mem; rw [D.sets3]

theorem clean_iff (D : CollapseData t ps x0 y0 X Y ta t3 t9 ml tm) (z : Nat) :
    Clean (· ∈ ml) Y z ↔ (¬ InM t X Y z ∧ z ≠ Y) := by
  unfold Clean; simp only [D.hml]

theorem cleanX (D : CollapseData t ps x0 y0 X Y ta t3 t9 ml tm) : Clean (· ∈ ml) Y X :=
  (D.clean_iff X).mpr ⟨fun h => h.2.2.1 rfl, D.K.hne⟩

theorem cyc_clean (D : CollapseData t ps x0 y0 X Y ta t3 t9 ml tm) (z : Nat) :
    InCyc t X Y z ↔ z = X ∨ ¬ Clean (· ∈ ml) Y z := by
  rw [D.clean_iff, Classical.not_and_iff_not_or_not, Classical.not_not, Ne, Classical.not_not]
  exact or_congr_right Or.comm

theorem clean_of_notCyc (D : CollapseData t ps x0 y0 X Y ta t3 t9 ml tm) {z : Nat} (h : ¬ InCyc t X Y z) :
    Clean (· ∈ ml) Y z :=
  Classical.not_not.mp fun hc => h ((D.cyc_clean z).mpr (Or.inr hc))

theorem cyc_of_notClean (D : CollapseData t ps x0 y0 X Y ta t3 t9 ml tm) {z : Nat} (h : ¬ Clean (· ∈ ml) Y z) :
    InCyc t X Y z :=
  (D.cyc_clean z).mpr (Or.inr h)

theorem notCyc_of_clean (D : CollapseData t ps x0 y0 X Y ta t3 t9 ml tm) {z : Nat} (h : Clean (· ∈ ml) Y z) (hz : z ≠ X) :
    ¬ InCyc t X Y z :=
  fun hc => ((D.cyc_clean z).mp hc).elim hz fun hn => hn h

theorem notTm (D : CollapseData t ps x0 y0 X Y ta t3 t9 ml tm) {z : Nat} (h : Clean (· ∈ ml) Y z) : z ∉ tm := by
  rw [D.htm]; rw [D.clean_iff] at h
  rintro (e | e)
  · exact h.1 e
  · exact h.2 e

theorem mem_l (D : CollapseData t ps x0 y0 X Y ta t3 t9 ml tm) (s : Nat) : s ∈ ml ++ [Y] ↔ (InM t X Y s ∨ s = Y) := by
  simp [D.hml]

theorem l_dom (D : CollapseData t ps x0 y0 X Y ta t3 t9 ml tm) {s : Nat} (h : s ∈ ml ++ [Y]) : IsDom t s := by
  rcases (D.mem_l s).mp h with h | rfl
  · exact (D.K.C.conn_dom Y s h.1).2
  · exact D.K.C.mem_dom D.K.hY

theorem X_notin_l (D : CollapseData t ps x0 y0 X Y ta t3 t9 ml tm) : X ∉ ml ++ [Y] :=
  (clean_iff_not_mem ml Y X).mp D.cleanX

theorem cyc_iff (D : CollapseData t ps x0 y0 X Y ta t3 t9 ml tm) (d : Nat) : InCyc t X Y d ↔ d = X ∨ d ∈ ml ++ [Y] := by
  rw [D.mem_l]; exact or_congr_right Or.comm

theorem mem9 (D : CollapseData t ps x0 y0 X Y ta t3 t9 ml tm) (d : Nat) (v : Int) :
    Mem t9 d v ↔ (d = X ∧ ∃ m, InCyc t X Y m ∧ Mem t m v) ∨ (¬ InCyc t X Y d ∧ Mem t d v) := by
  rw [D.merge.mem]
  simp only [D.mem3, D.cyc_iff, not_or, or_and_right, exists_or, exists_eq_left, and_assoc, ne_eq]

theorem mem9_of_clean (D : CollapseData t ps x0 y0 X Y ta t3 t9 ml tm) {d : Nat} {v : Int} (hc : Clean (· ∈ ml) Y d)
    (h : Mem t d v) : Mem t9 d v := by
  rw [D.mem9]
  by_cases hd : d = X
  · exact Or.inl ⟨hd, d, Or.inl hd, h⟩
  · exact Or.inr ⟨D.notCyc_of_clean hc hd, h⟩

theorem class9 (D : CollapseData t ps x0 y0 X Y ta t3 t9 ml tm) {a : Nat} {u : Int} (h : Mem t9 a u) :
    ∃ a0, Mem t a0 u ∧ ((a = X ∧ InCyc t X Y a0) ∨ (a = a0 ∧ ¬ InCyc t X Y a0)) := by
  rcases (D.mem9 a u).mp h with ⟨rfl, m, hm, h⟩ | ⟨h1, h2⟩
  · exact ⟨m, h, Or.inl ⟨rfl, hm⟩⟩
  · exact ⟨a, h2, Or.inr ⟨rfl, h1⟩⟩

theorem c3_of_conn (D : CollapseData t ps x0 y0 X Y ta t3 t9 ml tm) {a c : Nat} (h : rel t.conn a c) (ha : a ≠ Y) :
    rel t3.conn a c :=
  D.post.conn_mono a c ((D.prep.conn_iff a c).mpr ⟨h, fun e => absurd e ha⟩)

theorem r3_of_rconn (D : CollapseData t ps x0 y0 X Y ta t3 t9 ml tm) {c a : Nat} (h : rel t.rconn c a) (hc : c ≠ X) :
    rel t3.rconn c a :=
  D.post.rconn_mono c a ((D.prep.rconn_iff c a).mpr ⟨h, fun e => absurd e hc⟩)

theorem ta_Y (D : CollapseData t ps x0 y0 X Y ta t3 t9 ml tm) {c : Nat} (h : rel t.conn Y c) (hc : Clean (· ∈ ml) Y c)
    (hcX : c ≠ X) : rel ta.conn Y c :=
  (D.prep.conn_iff Y c).mpr ⟨h, fun _ => ⟨D.notTm hc, hcX⟩⟩

theorem ta_X (D : CollapseData t ps x0 y0 X Y ta t3 t9 ml tm) {a : Nat} (h : rel t.rconn X a) (ha : Clean (· ∈ ml) Y a) :
    rel ta.rconn X a :=
  (D.prep.rconn_iff X a).mpr ⟨h, fun _ => ⟨D.notTm ha, ha.2⟩⟩

/-- a set outside the cycle with a connection into it reaches `x0`, so it is a predecessor of `X` (premise of `C9_clean`) -/
theorem pred_of_dirty (D : CollapseData t ps x0 y0 X Y ta t3 t9 ml tm) :
    ∀ a b, rel t3.conn a b → ¬ Clean (· ∈ ml) Y b → Clean (· ∈ ml) Y a → a ≠ X → rel t3.rconn X a := by
  intro a b h hb ha haX
  obtain ⟨_, _, h⟩ := D.up.conn a b h
  rcases h with rfl | ⟨u, v, hu, hv, hr⟩
  · exact absurd ha hb
  · have hux := reach_src_of_append hr (D.K.cyc_reach (D.cyc_of_notClean hb) hv).2
    have h1 := (D.K.C.offMirror haX).mp (D.K.C.conn_of_reach hu D.K.hX hux haX)
    exact D.post.rconn_mono X a (D.ta_X h1 ha)

/-- a set outside the cycle reached from it is reached from `y0`, so it is a successor of `Y` (premise of `R9_clean`) -/
theorem succ_of_dirty (D : CollapseData t ps x0 y0 X Y ta t3 t9 ml tm) :
    ∀ a b, rel t3.rconn a b → ¬ Clean (· ∈ ml) Y b → Clean (· ∈ ml) Y a → a ≠ X → rel t3.conn Y a := by
  intro a b h hb ha haX
  obtain ⟨_, _, h⟩ := D.up.rconn a b h
  rcases h with rfl | ⟨u, v, hu, hv, hr⟩
  · exact absurd ha hb
  · have hyv := reach_tgt_of_append hr (D.K.cyc_reach (D.cyc_of_notClean hb) hu).1
    have h1 := D.K.C.conn_of_reach D.K.hY hv hyv (Ne.symm ha.2)
    exact D.post.conn_mono Y a (D.ta_Y h1 ha haX)

/-- the product pairs `pred(X) × succ(Y)` outside the cycle get stored by `add_set_connection` -/
theorem edge_lower_prep (D : CollapseData t ps x0 y0 X Y ta t3 t9 ml tm) {a b : Nat} (ha : Clean (· ∈ ml) Y a) (haX' : a ≠ X)
    (hb : Clean (· ∈ ml) Y b) (hbX : b ≠ X) (hab : a ≠ b) (haX : rel t.conn a X) (hYb : rel t.conn Y b) :
    rel t3.conn a b ∧ rel t3.rconn b a := by
  have C := D.K.C
  have hrX : rel ta.rconn X a := D.ta_X ((C.offMirror haX').mp haX) ha
  have hcY : rel ta.conn Y b := D.ta_Y hYb hb hbX
  have old : rel t.conn a b → rel t3.conn a b ∧ rel t3.rconn b a :=
    fun h => ⟨D.c3_of_conn h ha.2, D.r3_of_rconn ((C.offMirror hab).mp h) hbX⟩
  by_cases h1 : rel ta.rconn Y a
  · have h1' : rel t.rconn Y a := ((D.prep.rconn_iff Y a).mp h1).1
    exact old (C.offClosed hab ((C.offMirror ha.2).mpr h1') hYb)
  · by_cases h2 : rel ta.conn X b
    · have h2' : rel t.conn X b := ((D.prep.conn_iff X b).mp h2).1
      exact old (C.offClosed hab haX h2')
    · have pm : PMirror' ta X Y := by
        intro a' b' hab' ha' hb' h
        have h' := ((D.prep.conn_iff a' b').mp h).1
        exact (D.prep.rconn_iff b' a').mpr ⟨(C.offMirror hab').mp h', fun e => absurd e hb'⟩
      exact ⟨D.post.conn_prod a b hrX h1 haX' hcY h2 hb.2 ha.2,
        D.post.rconn_prod pm a b hrX h1 haX' hcY h2 hb.2 ha.2 hbX hab⟩

theorem sem_lower (D : CollapseData t ps x0 y0 X Y ta t3 t9 ml tm) {a b : Nat} {u v : Int} (hab : a ≠ b) (hu : Mem t9 a u)
    (hv : Mem t9 b v) (hr : Reach (ps ++ [(x0, y0)]) u v) :
    C9 (rel t3.conn) (rel t3.rconn) (· ∈ ml) X Y a b ∧ R9 (rel t3.conn) (rel t3.rconn) (· ∈ ml) X Y b a := by
  have C := D.K.C
  rcases (D.mem9 a u).mp hu with ⟨rfl, m, hm, hu⟩ | ⟨hna, hu⟩
  · rcases (D.mem9 b v).mp hv with ⟨rfl, _⟩ | ⟨hnb, hv⟩
    · exact absurd rfl hab
    · -- out of the merged set: `b` is a successor of `Y`
      have hyv := reach_tgt_of_append hr (D.K.cyc_reach hm hu).1
      have hbc := D.clean_of_notCyc hnb
      have hYb := C.conn_of_reach D.K.hY hv hyv (Ne.symm hbc.2)
      have h1 := D.ta_Y hYb hbc (Ne.symm hab)
      exact ⟨C9_keep (D.post.conn_f b h1) D.cleanX hbc, R9_new D.cleanX (D.post.conn_mono Y b h1) hbc⟩
  · have hac := D.clean_of_notCyc hna
    have haX : a ≠ X := fun e => hna (Or.inl e)
    rcases (D.mem9 b v).mp hv with ⟨rfl, m, hm, hv⟩ | ⟨hnb, hv⟩
    · -- into the merged set: `a` is a predecessor of `X`
      have hux := reach_src_of_append hr (D.K.cyc_reach hm hv).2
      have h1 := C.conn_of_reach hu D.K.hX hux haX
      exact ⟨C9_keep (D.c3_of_conn h1 hac.2) hac D.cleanX,
        R9_keep (D.post.rconn_mono _ a (D.ta_X ((C.offMirror haX).mp h1) hac)) D.cleanX hac⟩
    · -- between two sets outside the cycle: a pair stored before, or a product pair through the new edge
      have hbc := D.clean_of_notCyc hnb
      have hbX : b ≠ X := fun e => hnb (Or.inl e)
      have key : rel t3.conn a b ∧ rel t3.rconn b a := by
        rcases (reach_append_iff ps x0 y0 u v).mp hr with h | ⟨h1, h2⟩
        · have h' := C.conn_of_reach hu hv h hab
          exact ⟨D.c3_of_conn h' hac.2, D.r3_of_rconn ((C.offMirror hab).mp h') hbX⟩
        · exact D.edge_lower_prep hac haX hbc hbX hab (C.conn_of_reach hu D.K.hX h1 haX)
            (C.conn_of_reach D.K.hY hv h2 (Ne.symm hbc.2))
      exact ⟨C9_keep key.1 hac hbc, R9_keep key.2 hbc hac⟩

/-- `C7_R6_le` for `GSem`: the new edge gives `X → Y`, the back edge `Y → X` -/
theorem upper9 (D : CollapseData t ps x0 y0 X Y ta t3 t9 ml tm) :
    (∀ z w, C7 (rel t3.conn) (rel t3.rconn) (· ∈ ml) X Y z w → GSem t (ps ++ [(x0, y0)]) z w) ∧
    (∀ z w, R6 (rel t3.conn) (rel t3.rconn) (· ∈ ml) X Y z w → GSem t (ps ++ [(x0, y0)]) w z) := by
  have C := D.K.C
  apply C7_R6_le (GSem.trans (C.same_append x0 y0)) D.up.conn D.up.rconn (C.gsem_edge D.K.hX D.K.hY)
  exact ⟨C.mem_dom D.K.hY, C.mem_dom D.K.hX, Or.inr ⟨y0, x0, D.K.hY, D.K.hX, reach_append_mono x0 y0 D.K.reach_yx⟩⟩

end CollapseData

end AscentVerif.TrRel
