import AscentVerif.Spec.CheckSpec
/-!
# C15: `Sat` / `Decides`, and the lazy list traversals

`Sat P Q r` says what the errors and what the values of `r : Except Err α` satisfy; `Decides C P Q r` is the instance
"`r` succeeds iff `C`, its errors lie in the class `P`, its values satisfy `Q`".  Each function of the pipeline gets
one `.._decides` (or `.._sat`) lemma, proved along its definition with `Decides.and_of_error` / `and_of_ok` / `ite`.
A traversal (`mapLazy`, `flatMapLazy`) inherits `Decides` from its parts: it succeeds iff every part does, its errors are
errors of a part, its values are made of values of the parts (`mapLazy_decides`, `flatMapLazy_decides`).
-/
namespace AscentVerif.Check
open AscentVerif AscentVerif.Engine

def Ok {α : Type} (r : Except Err α) : Prop := ∃ a, r = .ok a

def Sat {α : Type} (P : Err → Prop) (Q : α → Prop) : Except Err α → Prop
  | .error e => P e
  | .ok a => Q a

theorem ok_unit_iff {r : Except Err Unit} : r = .ok () ↔ Ok r :=
  ⟨fun h => ⟨(), h⟩, fun ⟨_, h⟩ => h⟩

section
variable {α β : Type} {P P' : Err → Prop} {Q Q' : α → Prop} {r : Except Err α} {e : Err} {a : α}

theorem Sat.of_error (h : Sat P Q r) (he : r = .error e) : P e := by
  rw [he] at h
  exact h

theorem Sat.of_ok (h : Sat P Q r) (ha : r = .ok a) : Q a := by
  rw [ha] at h
  exact h

theorem Sat.mono (h : Sat P Q r) (hp : ∀ e, P e → P' e) (hq : ∀ a, Q a → Q' a) : Sat P' Q' r := by
  cases r with
  | error e => exact hp e h
  | ok a => exact hq a h

theorem Sat.imp (h : Sat P Q r) (hq : ∀ a, Q a → Q' a) : Sat P Q' r := h.mono (fun _ => id) hq

theorem Sat.ite {c : Prop} [Decidable c] {m : Except Err α} (he : P e) (h : ¬ c → Sat P Q m) :
    Sat P Q (if c then .error e else m) := by
  by_cases hc : c
  · rw [if_pos hc]
    exact he
  · rw [if_neg hc]
    exact h hc

end

abbrev Errs {α : Type} (P : Err → Bool) (r : Except Err α) : Prop := Sat (fun e => P e = true) (fun _ => True) r

/-- `r` succeeds exactly when `C` holds; its errors lie in the class `P`, its values satisfy `Q`.  One traversal of
a function of the model proves both directions of "succeeds iff" and the class of its errors: the error case carries
`¬ C`, the success case `C`. -/
abbrev Decides {α : Type} (C : Prop) (P : Err → Bool) (Q : α → Prop) : Except Err α → Prop :=
  Sat (fun e => ¬ C ∧ P e = true) (fun a => C ∧ Q a)

namespace Decides
variable {α β : Type} {C C' C₁ C₂ : Prop} {P : Err → Bool} {Q : α → Prop} {Q' : β → Prop} {r : Except Err α}
  {m : Except Err β} {e : Err} {a : α}

theorem error (hn : ¬ C) (he : P e = true) : Decides C P Q (.error e) := And.intro hn he

theorem ok (hc : C) (hq : Q a) : Decides C P Q (.ok a) := And.intro hc hq

theorem ok_iff (h : Decides C P Q r) : Ok r ↔ C := by
  cases r with
  | error e => exact ⟨fun ⟨_, h'⟩ => (nomatch h'), fun hc => absurd hc h.1⟩
  | ok a => exact ⟨fun _ => h.1, fun _ => ⟨a, rfl⟩⟩

theorem error_of_not (h : Decides C P Q r) (hc : ¬ C) : ∃ e, r = .error e := by
  cases r with
  | error e => exact ⟨e, rfl⟩
  | ok a => exact absurd h.1 hc

theorem errs (h : Decides C P Q r) : Errs P r := h.mono (fun _ h => h.2) (fun _ _ => trivial)

theorem congr (h : Decides C P Q r) (hc : C ↔ C') : Decides C' P Q r :=
  h.mono (fun _ h => ⟨fun c => h.1 (hc.2 c), h.2⟩) (fun _ h => ⟨hc.1 h.1, h.2⟩)

theorem weaken (P' : Err → Bool) (h : Decides C P Q r) (hp : ∀ e, P e = true → P' e = true) : Decides C P' Q r :=
  h.mono (fun _ h => ⟨h.1, hp _ h.2⟩) fun _ => id

/-- `match r with | .error e => .error e | .ok a => m`, the error case -/
theorem and_of_error (h : Decides C₁ P Q r) (hr : r = .error e) : Decides (C₁ ∧ C₂) P Q' (.error e) :=
  error (fun hc => (h.of_error hr).1 hc.1) (h.of_error hr).2

/-- the same `match`, the case in which `r` succeeds and `m` is what remains to be computed -/
theorem and_of_ok (h : Decides C₁ P Q r) (hr : r = .ok a) (h2 : Decides C₂ P Q' m) : Decides (C₁ ∧ C₂) P Q' m :=
  h2.congr (and_iff_right (h.of_ok hr).1).symm

theorem ite {c : Prop} [Decidable c] (he : P e = true) (hc : c → ¬ C₁) (hnc : ¬ c → C₁) (h2 : Decides C₂ P Q' m) :
    Decides (C₁ ∧ C₂) P Q' (if c then .error e else m) := by
  by_cases h : c
  · rw [if_pos h]
    exact error (fun h' => hc h h'.1) he
  · rw [if_neg h]
    exact h2.congr (and_iff_right (hnc h)).symm

end Decides

theorem mapLazy_eq_collectLazy {α β : Type} (f : α → Except Err β) (xs : List α) :
    mapLazy f xs = collectLazy (xs.map f) := by
  induction xs with
  | nil => rfl
  | cons x rest ih =>
    rw [mapLazy, List.map_cons, ih]
    cases f x <;> rfl

theorem mapLazy_ok_of_forall {α β : Type} {f : α → Except Err β} : ∀ {xs : List α},
    (∀ x ∈ xs, ∃ y, f x = .ok y) → ∃ ys, mapLazy f xs = .ok ys := by
  intro xs h
  induction xs with
  | nil => exact ⟨[], rfl⟩
  | cons x rest ih =>
    obtain ⟨y, hy⟩ := h x List.mem_cons_self
    obtain ⟨ys, hys⟩ := ih fun x hx => h x (List.mem_cons_of_mem _ hx)
    exact ⟨y :: ys, by rw [mapLazy, hy, hys]⟩

theorem mapLazy_decides {α β : Type} {C : α → Prop} {P : Err → Bool} {Q : β → Prop} {f : α → Except Err β} :
    ∀ {xs : List α}, (∀ x ∈ xs, Decides (C x) P Q (f x)) →
      Decides (∀ x ∈ xs, C x) P (fun ys => ∀ y ∈ ys, Q y) (mapLazy f xs) := by
  intro xs h
  induction xs with
  | nil => exact .ok (fun _ hx => nomatch hx) fun _ hy => nomatch hy
  | cons x rest ih =>
    have hx := h x List.mem_cons_self
    replace ih := ih fun y hy => h y (List.mem_cons_of_mem _ hy)
    rw [mapLazy]
    refine Decides.congr ?_ List.forall_mem_cons.symm
    cases hfx : f x with
    | error e => exact hx.and_of_error hfx
    | ok b =>
      refine hx.and_of_ok hfx ?_
      cases hr : mapLazy f rest with
      | error e => exact ih.of_error hr
      | ok bs => exact .ok (ih.of_ok hr).1 (List.forall_mem_cons.2 ⟨(hx.of_ok hfx).2, (ih.of_ok hr).2⟩)

theorem mapLazy_congr {α β : Type} {f g : α → Except Err β} (h : ∀ x, f x = g x) (xs : List α) :
    mapLazy f xs = mapLazy g xs := by
  rw [funext h]

theorem collectLazy_map_ok {α : Type} : ∀ (xs : List α), collectLazy (xs.map Except.ok) = (.ok xs : Except Err (List α)) := by
  intro xs
  induction xs with
  | nil => rfl
  | cons x rest ih => rw [List.map_cons, collectLazy, ih]

/-- since fix 71f89c5 `flatten_punctuated` is total -/
theorem flattenP_total {α : Type} (inner : List (List α)) (t : Bool) : flattenP inner t = .ok inner.flatten := rfl

def flatMapLazy {α β : Type} (f : α → Except Err (List β)) (xs : List α) : Except Err (List β) :=
  match mapLazy f xs with
  | .error e => .error e
  | .ok inner => .ok inner.flatten

theorem flatMapLazy_decides {α β : Type} {C : α → Prop} {P : Err → Bool} {Q : β → Prop}
    {f : α → Except Err (List β)} {xs : List α} (h : ∀ x ∈ xs, Decides (C x) P (fun ys => ∀ y ∈ ys, Q y) (f x)) :
    Decides (∀ x ∈ xs, C x) P (fun ys => ∀ y ∈ ys, Q y) (flatMapLazy f xs) := by
  have hm := mapLazy_decides h
  rw [flatMapLazy]
  cases hmx : mapLazy f xs with
  | error e => exact hm.of_error hmx
  | ok inner =>
    refine .ok (hm.of_ok hmx).1 fun y hy => ?_
    obtain ⟨l, hl, hyl⟩ := List.mem_flatten.1 hy
    exact (hm.of_ok hmx).2 l hl y hyl

theorem forall_mem_zipIdx {α : Type} {p : α → Prop} {l : List α} {k : Nat} :
    (∀ x ∈ l.zipIdx k, p x.1) ↔ ∀ a ∈ l, p a := by
  induction l generalizing k with
  | nil => exact ⟨fun _ _ h => (nomatch h), fun _ _ h => (nomatch h)⟩
  | cons a l ih => rw [List.zipIdx_cons, List.forall_mem_cons, List.forall_mem_cons, ih]

end AscentVerif.Check
