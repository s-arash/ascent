import AscentVerif.Model.EnginePhysPar
import AscentVerif.Proofs.PhysSim
/-!
# The concurrent indices of `Model/EnginePhysPar.lean` against the serial indices they erase to

A concurrent index is read through its erasure to a serial index (`PCx.erase`).  A map erases to itself; the sharded
`CRelNoIndex` erases to the one bucket under the key `[]`, in the order of the shards, so the concurrent operations agree with the
serial ones only up to the order inside a bucket: `IxSame`, along which `IxB` / `IxOk` of `Proofs/PhysIdx.lean` move.  Under
`Shape` (a `CRelNoIndex` exactly for the index on no column, with the shard count of the current pool) `PCx.insert` and `mergeIx`
return, keep the protocol state and are `Idx.insert` and `shiftIx` on the erasure.  Before that: `foldRes` under an invariant.
-/
namespace AscentVerif.PhysPar
open AscentVerif AscentVerif.Engine AscentVerif.Index AscentVerif.Phys

variable {E B G P A : Type}

@[simp] theorem bind_ok {α β : Type} (a : α) (f : α → Res β) : (Res.ok a >>= f) = f a := rfl
@[simp] theorem bind_panic {α β : Type} (f : α → Res β) : ((Res.panic : Res α) >>= f) = Res.panic := rfl
@[simp] theorem pure_eq_ok {α : Type} (a : α) : (pure a : Res α) = Res.ok a := rfl

theorem bind_eq_ok {α β : Type} {x : Res α} {f : α → Res β} {b : β} : (x >>= f) = .ok b ↔ ∃ a, x = .ok a ∧ f a = .ok b := by
  cases x with
  | panic => exact ⟨fun h => (by cases h), fun ⟨_, h, _⟩ => (by cases h)⟩
  | ok a => exact ⟨fun h => ⟨a, rfl, h⟩, fun ⟨_, h, hb⟩ => (by cases h; exact hb)⟩

theorem spec_of_ok {α : Type} {x : Res α} {P : α → Prop} (h : ∃ res, x = .ok res ∧ P res) {a : α} (hx : x = .ok a) : P a := by
  obtain ⟨res, hres, hp⟩ := h
  cases hres.symm.trans hx
  exact hp

theorem foldRes_nil {σ α : Type} (f : σ → α → Res σ) (s : σ) : foldRes f [] s = .ok s := rfl

theorem foldRes_cons_ok {σ α : Type} (f : σ → α → Res σ) (a : α) (l : List α) (s s' : σ) (h : f s a = .ok s') :
    foldRes f (a :: l) s = foldRes f l s' := by
  simp only [foldRes, h]

/-- the invariant is indexed by the elements processed so far -/
theorem foldRes_inv {σ α : Type} (f : σ → α → Res σ) (Inv : List α → σ → Prop) (l : List α)
    (step : ∀ done s a, a ∈ l → Inv done s → ∃ s', f s a = .ok s' ∧ Inv (done ++ [a]) s') :
    ∀ s, Inv [] s → ∃ s', foldRes f l s = .ok s' ∧ Inv l s' := by
  have gen : ∀ (rest done : List α) (s : σ), done ++ rest = l → Inv done s →
      ∃ s', foldRes f rest s = .ok s' ∧ Inv l s' := by
    intro rest
    induction rest with
    | nil =>
      intro done s hd hi
      rw [List.append_nil] at hd
      subst hd
      exact ⟨s, rfl, hi⟩
    | cons a rest ih =>
      intro done s hd hi
      obtain ⟨s1, h1, hi1⟩ := step done s a (by rw [← hd]; simp) hi
      obtain ⟨s', h2, hi2⟩ := ih (done ++ [a]) s1 (by rw [List.append_assoc]; exact hd) hi1
      exact ⟨s', by rw [foldRes_cons_ok f a rest s s1 h1]; exact h2, hi2⟩
  intro s hi
  exact gen l [] s rfl hi

/-- the "collect" folds of the model: every element is transformed, the results are appended in order -/
theorem foldRes_collect {α β γ : Type} (h : α → Res γ) (g : α → γ → β) (Q : α → β → Prop) (l : List α)
    (step : ∀ a ∈ l, ∃ x, h a = .ok x ∧ Q a (g a x)) :
    ∃ out, foldRes (fun (done : List β) (a : α) => h a >>= fun x => pure (done ++ [g a x])) l [] = .ok out ∧
      Rel2 Q l out := by
  exact foldRes_inv (fun (done : List β) (a : α) => h a >>= fun x => pure (done ++ [g a x]))
    (fun done out => Rel2 Q done out) l (by
      intro done s a ha hinv
      obtain ⟨b, hb, hq⟩ := step a ha
      exact ⟨s ++ [g a b], by simp only [hb, bind_ok, pure_eq_ok], hinv.snoc hq⟩) [] .nil

/-- `foldRes_collect` for lists of keyed entries whose keys are kept (the index lists `(cols, index)` of a relation) -/
theorem foldRes_keyed {K X Y γ : Type} (h : K × X → Res γ) (g : K × X → γ → Y) (Q : K → X → Y → Prop) (l : List (K × X))
    (step : ∀ ci ∈ l, ∃ x, h ci = .ok x ∧ Q ci.1 ci.2 (g ci x)) :
    ∃ out, foldRes (fun (done : List (K × Y)) (ci : K × X) => h ci >>= fun x => pure (done ++ [(ci.1, g ci x)])) l [] = .ok out ∧
      out.map (·.1) = l.map (·.1) ∧ ∀ k y, (k, y) ∈ out → ∃ x, (k, x) ∈ l ∧ Q k x y := by
  obtain ⟨out, h1, h2⟩ := foldRes_collect h (fun ci x => (ci.1, g ci x)) (fun ci c' => c'.1 = ci.1 ∧ Q ci.1 ci.2 c'.2) l
    (fun ci hci => (step ci hci).imp fun x hx => ⟨hx.1, rfl, hx.2⟩)
  refine ⟨out, h1, (Rel2.map_eq _ _ (fun _ _ hq => hq.1.symm) h2).symm, fun k y hy => ?_⟩
  obtain ⟨⟨k', x⟩, hc, rfl, hq⟩ := h2.forall_right _ hy
  exact ⟨x, hc, hq⟩

theorem prel_erase (s : PCSt) (r : RelId) : prel (s.map PCRel.erase) r = (pcrel s r).erase :=
  getD_map (⟨[], PCFull.new, []⟩ : PCRel) s r PCRel.erase

theorem erase_rows (s : PCSt) (r : RelId) : (prel (s.map PCRel.erase) r).rows = (pcrel s r).rows := by
  rw [prel_erase]; rfl

theorem relSt_absSt_erase (s : PCSt) (r : RelId) : (relSt (absSt (s.map PCRel.erase)) r).rows = (pcrel s r).rows := by
  rw [relSt_absSt, erase_rows]

theorem findPDyn_erase (dyn : List PCDyn) (r : RelId) :
    findPDyn (dyn.map PCDyn.erase) r = (findPCDyn dyn r).map PCDyn.erase :=
  List.find?_map ..

theorem findPDyn_eraseScc (s : PCScc) (r : RelId) : findPDyn s.erase.dyn r = (findPCDyn s.dyn r).map PCDyn.erase :=
  findPDyn_erase s.dyn r

theorem findPCDyn_rel {dyn : List PCDyn} {r : RelId} {d : PCDyn} (h : findPCDyn dyn r = some d) : d.rel = r := by
  have := List.find?_some h
  simpa using this

theorem findPCDyn_mem {dyn : List PCDyn} {r : RelId} {d : PCDyn} (h : findPCDyn dyn r = some d) : d ∈ dyn :=
  List.mem_of_find?_eq_some h

theorem findPCDyn_setPCDyn (dyn : List PCDyn) (d : PCDyn) (r : RelId) :
    findPCDyn (setPCDyn dyn d) r = if r = d.rel then (findPCDyn dyn r).map (fun _ => d) else findPCDyn dyn r :=
  find?_map_upd (fun x : PCDyn => x.rel) dyn d r

theorem setPCDyn_rels (dyn : List PCDyn) (d : PCDyn) : (setPCDyn dyn d).map (·.rel) = dyn.map (·.rel) :=
  map_upd_key (fun x : PCDyn => x.rel) dyn d

theorem setNth_map {α β : Type} (f : α → β) (l : List α) (i : Nat) (x : α) :
    (setNth l i x).map f = setNth (l.map f) i (f x) := by
  rw [setNth_eq_set, setNth_eq_set, List.map_set]

theorem map_map_congr {α β γ : Type} {f : β → γ} {g : α → β} {h : α → γ} (l : List α) (H : ∀ a, f (g a) = h a) :
    (l.map g).map f = l.map h := by
  rw [List.map_map]
  exact List.map_congr_left fun a _ => H a

theorem setPCDyn_erase (dyn : List PCDyn) (d : PCDyn) :
    (setPCDyn dyn d).map PCDyn.erase = setPDyn (dyn.map PCDyn.erase) d.erase := by
  simp only [setPCDyn, setPDyn, List.map_map]
  apply List.map_congr_left
  intro x _
  show PCDyn.erase (if x.rel == d.rel then d else x) = if x.rel == d.rel then d.erase else x.erase
  cases x.rel == d.rel <;> rfl

/-! ## the index on no column (`CRelNoIndex`): one key `[]`, the values are the flattened shards -/

theorem projC_nil (row : Tuple) : projC [] row = row := by
  have h0 : ((List.range row.length).filter fun j => !([] : List Nat).contains j) = List.range row.length := by
    apply List.filter_eq_self.mpr
    intro a _; rfl
  unfold projC
  rw [h0]
  apply List.ext_getElem
  · simp
  · intro j h1 h2
    simp [List.getD_eq_getElem?_getD, List.getElem?_eq_getElem h2]

theorem erase_noidx (c : CNoIdx (List Val)) :
    (PCx.noidx c).erase = if c.shards.flatten.isEmpty then [] else [([], c.shards.flatten)] := rfl

theorem proj_nil (row : Tuple) : Plan.proj [] row = [] := rfl

theorem noDup_noidx (c : CNoIdx (List Val)) : NoDupKeys (PCx.noidx c).erase := by
  rw [erase_noidx]
  split <;> simp [NoDupKeys]

theorem nonempty_noidx (c : CNoIdx (List Val)) : ∀ kv ∈ (PCx.noidx c).erase, kv.2 ≠ [] := by
  rw [erase_noidx]
  split
  · intro kv h; cases h
  · rename_i he
    intro kv h
    simp only [List.mem_singleton] at h
    subst h
    intro e
    apply he
    simp only at e
    rw [e]; rfl

theorem vals_noidx (c : CNoIdx (List Val)) (k : List Val) :
    Idx.vals (PCx.noidx c).erase k = if k = [] then c.shards.flatten else [] := by
  rw [erase_noidx]
  by_cases he : c.shards.flatten.isEmpty = true
  · rw [if_pos he]
    have : c.shards.flatten = [] := List.isEmpty_iff.mp he
    rw [this]
    simp [Idx.vals, Idx.get, HMap.get?]
  · rw [if_neg he]
    by_cases hk : k = []
    · subst hk
      simp [Idx.vals, Idx.get, HMap.get?]
    · rw [if_neg hk]
      have : ¬ ([] : List Val) = k := fun e => hk e.symm
      simp [Idx.vals, Idx.get, HMap.get?, this]

/-- `m'` holds what `m` holds, key by key, up to the order inside a bucket: all that the sharding of a `CRelNoIndex` changes
of the serial index.  Whatever is said of an index through the tuples it holds (`IxB`, `IxOk`) moves along it. -/
structure IxSame (m m' : PIx) : Prop where
  nd : NoDupKeys m → NoDupKeys m'
  ne : (∀ kv ∈ m, kv.2 ≠ []) → ∀ kv ∈ m', kv.2 ≠ []
  vals : ∀ k, (Idx.vals m' k).Perm (Idx.vals m k)

theorem IxSame.refl (m : PIx) : IxSame m m := ⟨id, id, fun _ => .refl _⟩

theorem IxSame.noidx {m : PIx} {c : CNoIdx (List Val)}
    (h : ∀ k, (if k = [] then c.shards.flatten else []).Perm (Idx.vals m k)) : IxSame m (PCx.noidx c).erase :=
  ⟨fun _ => noDup_noidx c, fun _ => nonempty_noidx c, fun k => by rw [vals_noidx]; exact h k⟩

theorem IxSame.ixB {m m' : PIx} (h : IxSame m m') {ts : List Tuple} {cols : List Nat} (hb : IxB ts cols m) :
    IxB ts cols m' :=
  ⟨h.nd hb.nd, h.ne hb.ne, fun k => (h.vals k).trans (hb.vals k)⟩

theorem IxSame.ixOk {m m' : PIx} (h : IxSame m m') {rows : List Tuple} {bag cols : List Nat} (hb : IxOk rows bag cols m) :
    IxOk rows bag cols m' :=
  ⟨h.nd hb.1, h.ne hb.2.1, fun k x => by
    rw [mem_entries_iff_vals _ (h.nd hb.1), (h.vals k).mem_iff, ← mem_entries_iff_vals _ hb.1]
    exact hb.2.2 k x⟩

/-- a `CRelNoIndex` exactly for the index on no column, with `N` shards.  The count matters: an insert into no shard
(`N = 0`) would lose the row, and the zip of `moveContents` truncates to the shorter shard vector, so the versions merged
into each other must agree on it. -/
def Shape (N : Nat) (cols : List Nat) : PCx → Prop
  | .map _ _ => cols ≠ []
  | .noidx c => cols = [] ∧ c.shards.length = N

theorem Shape_new (threads : Nat) (cols : List Nat) : Shape (max threads 1) cols (PCx.new threads cols) := by
  unfold PCx.new
  cases cols with
  | nil => exact ⟨rfl, by simp [CNoIdx.new]⟩
  | cons a t =>
    show Shape _ _ (PCx.map false [])
    simp [Shape]

theorem erase_new (threads : Nat) (cols : List Nat) : (PCx.new threads cols).erase = [] := by
  unfold PCx.new
  split
  · simp [PCx.erase, CNoIdx.new]
  · rfl

theorem isFrozen_new (threads : Nat) (cols : List Nat) : (PCx.new threads cols).isFrozen = false := by
  unfold PCx.new
  split <;> rfl

theorem Shape_freeze {N : Nat} {cols : List Nat} {x : PCx} (h : Shape N cols x) : Shape N cols x.freeze := by
  cases x <;> exact h

theorem Shape_unfreeze {N : Nat} {cols : List Nat} {x : PCx} (h : Shape N cols x) : Shape N cols x.unfreeze := by
  cases x <;> exact h

@[simp] theorem erase_freeze (x : PCx) : x.freeze.erase = x.erase := by cases x <;> rfl
@[simp] theorem erase_unfreeze (x : PCx) : x.unfreeze.erase = x.erase := by cases x <;> rfl
@[simp] theorem isFrozen_freeze (x : PCx) : x.freeze.isFrozen = true := by cases x <;> rfl
@[simp] theorem isFrozen_unfreeze (x : PCx) : x.unfreeze.isFrozen = false := by cases x <;> rfl

/-- the shared-reference `index_insert`, whatever the inserting worker -/
theorem PCx_insert_same {N : Nat} (hN : 0 < N) {cols : List Nat} {x : PCx} (hs : Shape N cols x) (hf : x.isFrozen = false)
    (tid : Nat) (t : Tuple) :
    ∃ x', x.insert tid (Plan.proj cols t) (projC cols t) = .ok x' ∧ Shape N cols x' ∧ x'.isFrozen = false ∧
      IxSame (Idx.insert x.erase (Plan.proj cols t) (projC cols t)) x'.erase := by
  cases x with
  | map fz m =>
    cases (show fz = false from hf)
    exact ⟨.map false (Idx.insert m (Plan.proj cols t) (projC cols t)), rfl, hs, rfl, .refl _⟩
  | noidx c =>
    obtain ⟨hc, hlen⟩ := hs
    subst hc
    have hfz : c.frozen = false := hf
    refine ⟨.noidx (c.insertMut tid t), ?_, ⟨rfl, ?_⟩, hfz, .noidx fun k => ?_⟩
    · simp only [PCx.insert, CNoIdx.insert, hfz, projC_nil]
      rfl
    · simp only [CNoIdx.insertMut, length_modifyNth, hlen]
    · rw [Idx.vals_insert, vals_noidx, vals_noidx, projC_nil, proj_nil]
      by_cases hk : k = []
      · rw [if_pos hk, if_pos hk, if_pos rfl]
        exact (flatten_modifyNth_append _ _ t (Nat.mod_lt _ (by rw [hlen]; exact hN))).trans
          (List.perm_append_singleton t _).symm
      · rw [if_neg hk, if_neg hk, if_neg hk]

theorem moveContents_fst_length {V : Type} (frm to : CNoIdx V) :
    (CNoIdx.moveContents frm to).1.shards.length = frm.shards.length := by
  simp only [CNoIdx.moveContents, List.length_append, List.length_map, List.length_zip, List.length_drop]
  omega

/-- the protocol state of the three versions of one index of a dynamic relation: `total` and `delta` frozen iff `fz` (they
are frozen while the rules of an iteration run), `new` unfrozen -/
abbrev TriFlags (N : Nat) (fz : Bool) (cols : List Nat) (t : Tri PCx) : Prop :=
  Shape N cols t.total ∧ Shape N cols t.delta ∧ Shape N cols t.new ∧
    t.total.isFrozen = fz ∧ t.delta.isFrozen = fz ∧ t.new.isFrozen = false

abbrev TriSame (t t' : Tri PIx) : Prop := IxSame t.total t'.total ∧ IxSame t.delta t'.delta ∧ IxSame t.new t'.new

/-- `merge_delta_to_total_new_to_delta` on one index: maps are merged as in the serial engine; for a `CRelNoIndex` the shards
of `delta` are zipped onto those of `total`, nothing lost by `Shape` -/
theorem mergeIx_same {N : Nat} {cols : List Nat} {t : Tri PCx} (h : TriFlags N false cols t) :
    ∃ t', mergeIx t = .ok t' ∧ TriFlags N false cols t' ∧ TriSame (shiftIx (eraseTri t)) (eraseTri t') := by
  obtain ⟨tt, td, tn⟩ := t
  obtain ⟨st, sd, sn, ft, fd, fn⟩ := h
  cases tt with
  | map f1 mt =>
    cases td with
    | map f2 md =>
      cases (show f1 = false from ft)
      cases (show f2 = false from fd)
      exact ⟨_, rfl, ⟨st, sn, sd, rfl, fn, rfl⟩, .refl _, .refl _, .refl _⟩
    | noidx cd => exact absurd sd.1 st
  | noidx ct =>
    cases td with
    | map f2 md => exact absurd st.1 sd
    | noidx cd =>
      obtain ⟨hc, lt⟩ := st
      obtain ⟨_, ld⟩ := sd
      subst hc
      obtain ⟨m1, m2, m3⟩ := CNoIdx.moveContents_spec cd ct (by rw [lt, ld]; exact Nat.le_refl _)
      obtain ⟨s1, s2, _, s4, _⟩ := Idx.mergeStep_spec tn.erase (PCx.noidx cd).erase (PCx.noidx ct).erase (noDup_noidx cd)
        (noDup_noidx ct)
      refine ⟨_, rfl, ⟨⟨rfl, by rw [m2]; exact lt⟩, sn, ⟨rfl, by rw [moveContents_fst_length]; exact ld⟩, ft, fn, fd⟩, ?_, ?_, ?_⟩
      · refine .noidx fun k => .trans ?_ (s4 k).symm
        rw [vals_noidx, vals_noidx]
        by_cases hk : k = []
        · rw [if_pos hk, if_pos hk, if_pos hk]
          exact m3
        · rw [if_neg hk, if_neg hk, if_neg hk]
          exact .refl _
      · show IxSame (Idx.mergeStep tn.erase (PCx.noidx cd).erase (PCx.noidx ct).erase).2.1 tn.erase
        rw [s2]
        exact .refl _
      · show IxSame (Idx.mergeStep tn.erase (PCx.noidx cd).erase (PCx.noidx ct).erase).1
          (PCx.noidx (CNoIdx.moveContents cd ct).1).erase
        rw [s1, erase_noidx, m1]
        exact .refl _

end AscentVerif.PhysPar
