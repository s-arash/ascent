/-!
# Lists: facts that several regions use and core does not have

In this order: `List.eraseDups` yields a duplicate-free list and is the identity on one (core has the membership lemma only);
look-up by key in a list of keyed entries (`findDyn` / `setDyn` of the engine, the per-SCC entries of the physical models), through
a key-preserving map and through the update of one key; duplicate-free lists under `++`, `map`, `flatMap`; members, positions and
lengths under `filter`, `filterMap`, `flatMap`; an invariant of a fold (`foldl_inv`).
-/
namespace AscentVerif

/- `eraseDups` recurses on a filtered tail: induction on the length. -/
theorem nodup_eraseDups {α : Type} [BEq α] [LawfulBEq α] (l : List α) : l.eraseDups.Nodup := by
  generalize hn : l.length = n
  induction n using Nat.strongRecOn generalizing l with
  | _ n ih =>
    cases l with
    | nil => simp
    | cons a l =>
      subst hn
      rw [List.eraseDups_cons, List.nodup_cons]
      refine ⟨?_, ih _ (Nat.lt_succ_of_le (List.length_filter_le _ l)) _ rfl⟩
      rw [List.mem_eraseDups, List.mem_filter]
      rintro ⟨_, hb⟩
      simp at hb

theorem eraseDups_of_nodup {α : Type} [BEq α] [LawfulBEq α] (l : List α) (hnd : l.Nodup) : l.eraseDups = l := by
  induction l with
  | nil => simp
  | cons b l ih =>
    have hb : b ∉ l := (List.nodup_cons.mp hnd).1
    have hf : (l.filter fun x => !x == b) = l := by
      rw [List.filter_eq_self]
      intro a ha
      have : a ≠ b := fun e => hb (e ▸ ha)
      simpa using this
    rw [List.eraseDups_cons, hf, ih (List.nodup_cons.mp hnd).2]

theorem find?_map_key {α β : Type} (ka : α → Nat) (kb : β → Nat) (f : α → β) (hf : ∀ x, kb (f x) = ka x) (l : List α)
    (r : Nat) : (l.map f).find? (fun x => kb x == r) = (l.find? (fun x => ka x == r)).map f := by
  rw [List.find?_map]
  exact congrArg (Option.map f) (congrArg (List.find? · l) (funext fun x => congrArg (· == r) (hf x)))

theorem key_upd {α : Type} (key : α → Nat) (d x : α) : key (if key x == key d then d else x) = key x := by
  split
  · rename_i h
    exact (beq_iff_eq.mp h).symm
  · rfl

theorem find?_map_upd {α : Type} (key : α → Nat) (l : List α) (d : α) (r : Nat) :
    (l.map fun x => if key x == key d then d else x).find? (fun x => key x == r) =
      if r = key d then (l.find? (fun x => key x == r)).map (fun _ => d) else l.find? (fun x => key x == r) := by
  rw [find?_map_key key key _ (key_upd key d) l r]
  cases hf : l.find? (fun x => key x == r) with
  | none => split <;> rfl
  | some x =>
    have hx : key x = r := by simpa using List.find?_some hf
    simp only [Option.map_some, hx]
    by_cases hr : r = key d
    · rw [if_pos hr, if_pos (beq_iff_eq.mpr hr)]
    · rw [if_neg hr, if_neg (fun h => hr (beq_iff_eq.mp h))]

theorem map_upd_key {α : Type} (key : α → Nat) (l : List α) (d : α) :
    (l.map fun x => if key x == key d then d else x).map key = l.map key := by
  rw [List.map_map]
  exact List.map_congr_left fun x _ => key_upd key d x

theorem mem_map_upd {α : Type} (key : α → Nat) {l : List α} {d x : α}
    (h : x ∈ l.map fun y => if key y == key d then d else y) : x = d ∨ x ∈ l := by
  obtain ⟨y, hy, rfl⟩ := List.mem_map.mp h
  split
  · exact .inl rfl
  · exact .inr hy

theorem find?_of_nodup {α : Type} (key : α → Nat) : ∀ (l : List α), (l.map key).Nodup → ∀ d ∈ l,
    l.find? (fun x => key x == key d) = some d := by
  intro l
  induction l with
  | nil => intro _ d hd; cases hd
  | cons a l ih =>
    intro hn d hd
    rw [List.map_cons, List.nodup_cons] at hn
    rcases List.mem_cons.mp hd with rfl | hd
    · simp
    · have hne : key a ≠ key d := by
        intro h
        exact hn.1 (h ▸ List.mem_map.mpr ⟨d, hd, rfl⟩)
      have : (key a == key d) = false := by simpa using hne
      rw [List.find?_cons, this]
      exact ih hn.2 d hd

theorem find?_map_mk {β : Type} (key : β → Nat) (mk : Nat → β) (hk : ∀ r, key (mk r) = r) (l : List Nat) (r : Nat) :
    (l.map mk).find? (fun x => key x == r) = if l.contains r then some (mk r) else none := by
  induction l with
  | nil => rfl
  | cons a l ih =>
    simp only [List.map_cons, List.find?_cons, hk, List.contains_cons]
    by_cases har : a = r
    · subst har; simp
    · have h1 : (a == r) = false := by simpa using har
      have h2 : (r == a) = false := by simpa using fun h => har h.symm
      simp only [h1, h2, Bool.false_or]
      exact ih

theorem find?_map_snd {α β : Type} (idxs : List (List Nat × α)) (f : α → β) (cols : List Nat) :
    ((idxs.map fun ci => (ci.1, f ci.2)).find? (·.1 == cols)).map (·.2) = (idxs.find? (·.1 == cols)).map fun ci => f ci.2 := by
  rw [List.find?_map, Option.map_map]
  rfl

theorem contains_filter (l : List Nat) (q : Nat → Bool) (r : Nat) : (l.filter q).contains r = (l.contains r && q r) := by
  rw [Bool.eq_iff_iff]
  simp only [List.contains_iff_mem, List.mem_filter, Bool.and_eq_true]

theorem nodup_concat {α : Type} {l : List α} {a : α} (h : l.Nodup) (ha : a ∉ l) : (l ++ [a]).Nodup := by
  rw [List.nodup_append]
  refine ⟨h, List.pairwise_singleton _ a, ?_⟩
  intro x hx y hy hxy
  rw [List.mem_singleton.1 hy] at hxy
  exact ha (hxy ▸ hx)

theorem nodup_map_of_inj {α β : Type} {f : α → β} (hf : ∀ a b, f a = f b → a = b) {l : List α} (h : l.Nodup) :
    (l.map f).Nodup := by
  unfold List.Nodup
  rw [List.pairwise_map]
  exact h.imp fun hab e => hab (hf _ _ e)

theorem nodup_flatMap {α β : Type} {R : α → α → Prop} {l : List α} {f : α → List β} (hl : l.Pairwise R)
    (hf : ∀ a ∈ l, (f a).Nodup) (hd : ∀ a ∈ l, ∀ b ∈ l, R a b → ∀ x, x ∈ f a → x ∉ f b) : (l.flatMap f).Nodup := by
  unfold List.Nodup
  rw [List.pairwise_flatMap]
  exact ⟨hf, List.Pairwise.imp_of_mem (fun ha hb hab x hx y hy e => hd _ ha _ hb hab x hx (e ▸ hy)) hl⟩

theorem filter_eq_key_perm {α : Type} [BEq α] [LawfulBEq α] (l : List α) (hnd : l.Nodup) (k : α) :
    (l.filter fun x => x == k).Perm (if k ∈ l then [k] else []) := by
  rw [List.filter_beq, hnd.count]
  split <;> exact .refl _

theorem exists_mem_append {α : Type} (a b : List α) (P : α → Prop) :
    (∃ i ∈ a ++ b, P i) ↔ (∃ i ∈ a, P i) ∨ ∃ i ∈ b, P i := by
  simp only [List.mem_append, or_and_right, exists_or]

theorem mem_flatMap_congr {α β : Type} {l l' : List α} {f g : α → List β} (hl : ∀ y, y ∈ l ↔ y ∈ l')
    (h : ∀ y x, x ∈ f y ↔ x ∈ g y) (x : β) : x ∈ l.flatMap f ↔ x ∈ l'.flatMap g := by
  simp only [List.mem_flatMap]
  exact ⟨fun ⟨y, hy, hx⟩ => ⟨y, (hl y).mp hy, (h y x).mp hx⟩, fun ⟨y, hy, hx⟩ => ⟨y, (hl y).mpr hy, (h y x).mpr hx⟩⟩

theorem mem_groups {K α β : Type} (L : List (K × List α)) (F : K → α → List β) (x : β) :
    x ∈ L.flatMap (fun kr => kr.2.flatMap (F kr.1)) ↔ ∃ key t, (∃ kr ∈ L, kr.1 = key ∧ t ∈ kr.2) ∧ x ∈ F key t := by
  simp only [List.mem_flatMap]
  constructor
  · rintro ⟨kr, hkr, t, ht, hx⟩
    exact ⟨kr.1, t, ⟨kr, hkr, rfl, ht⟩, hx⟩
  · rintro ⟨key, t, ⟨kr, hkr, rfl, ht⟩, hx⟩
    exact ⟨kr, hkr, t, ht, hx⟩

theorem filterMap_filter_none {α β : Type} (f : α → Option β) (q : α → Bool) (hq : ∀ t, q t = false → f t = none) :
    ∀ l : List α, (l.filter q).filterMap f = l.filterMap f := by
  intro l
  induction l with
  | nil => rfl
  | cons x l ih =>
    cases hx : q x with
    | true => rw [List.filter_cons_of_pos (by simpa using hx), List.filterMap_cons, List.filterMap_cons, ih]
    | false => rw [List.filter_cons_of_neg (by simp [hx]), List.filterMap_cons, hq x hx, ih]

theorem filter_range_getElem? (p : Nat → Bool) (n j : Nat) (hj : j < n) (hp : p j = true) :
    ((List.range n).filter p)[((List.range j).filter p).length]? = some j := by
  induction n with
  | zero => omega
  | succ n ih =>
    rw [List.range_succ, List.filter_append]
    by_cases h : j < n
    · have h3 := ih h
      have hlt : ((List.range j).filter p).length < ((List.range n).filter p).length := by
        apply Classical.byContradiction
        intro hh
        rw [List.getElem?_eq_none (Nat.le_of_not_lt hh)] at h3
        cases h3
      rw [List.getElem?_append_left hlt]
      exact h3
    · have hjn : j = n := by omega
      subst hjn
      rw [List.getElem?_append_right (Nat.le_refl _)]
      simp [hp]

theorem length_flatMap_map {α β γ : Type} (xs : List α) (l : List β) (g : α → β → γ) :
    (xs.flatMap fun x => l.map (g x)).length = xs.length * l.length := by
  induction xs with
  | nil => simp
  | cons x rest ih =>
    simp only [List.flatMap_cons, List.length_append, List.length_map, ih, List.length_cons]
    rw [Nat.add_mul]; omega

theorem foldl_add_length {α β : Type} (f : α → List β) (L : List α) (r0 : Nat) :
    L.foldl (fun r d => r + (f d).length) r0 = r0 + (L.flatMap f).length := by
  induction L generalizing r0 with
  | nil => simp
  | cons d rest ih => simp only [List.foldl_cons, ih, List.flatMap_cons, List.length_append]; omega

theorem foldl_inv {α β : Type} {P : β → Prop} {f : β → α → β} {l : List α} (h : ∀ b a, a ∈ l → P b → P (f b a))
    {b : β} (hb : P b) : P (l.foldl f b) :=
  List.foldlRecOn l f hb fun b hb a ha => h b a ha hb

theorem mapM_cons_eq_some {α β : Type} {f : α → Option β} {a : α} {l : List α} {ys : List β} :
    (a :: l).mapM f = some ys ↔ ∃ b bs, f a = some b ∧ l.mapM f = some bs ∧ ys = b :: bs := by
  rw [List.mapM_cons]
  cases f a with
  | none => simp
  | some b =>
    cases l.mapM f with
    | none => simp
    | some bs => simp [eq_comm]

theorem forall_nat_succ {P : Nat → Prop} : (∀ t, P t) ↔ P 0 ∧ ∀ t, P (t + 1) :=
  ⟨fun h => ⟨h 0, fun t => h (t + 1)⟩, fun h t => t.casesOn h.1 h.2⟩

end AscentVerif
