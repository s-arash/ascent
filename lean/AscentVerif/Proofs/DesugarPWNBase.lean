import AscentVerif.Proofs.SurfaceDefs
import AscentVerif.Proofs.C08Base
/-!
# Tools for the pass-by-pass proofs of the desugaring

The passes are compared by `Sim` / `OptRel` (Proofs/EnvSim.lean), item after item (`Sim.comp`) and pass after pass
(`Sim.trans`).  `GenRel gen k` is what a pass with gensym `gen` keeps between the environment of its output and that of
its input when its counter stands at `k`.  `matchSArgs`, `satConds` and `StepF` are frames (`Frame`, Props/C06.lean) over the
variables they mention, and a frame that mentions no generated name simulates itself along `GenRel` (`GenRel.frameRel`,
`Frame.sim`).  `matchSArg` / `matchNArg` / `ScopedFrom` are `matchSArgs` / `matchNArgs` / `ExprScopedArgs` one argument at a time.
-/
namespace AscentVerif.Surface
open AscentVerif AscentVerif.Engine

variable {E B G P A : Type}

def Unbound (gen : Nat → Var) (k : Nat) (ρ : Env) : Prop := ∀ j, k ≤ j → Env.get? ρ (gen j) = none

theorem get?_append_of_not_key {n : Env} {v : Var} (h : ∀ p ∈ n, p.1 ≠ v) (ρ : Env) :
    Env.get? (n ++ ρ) v = Env.get? ρ v := by
  rw [get?_append, get?_none_of_keys h]; rfl

theorem zip_keys {vs : List Var} {ys : List Val} {p : Var × Val} (hp : p ∈ vs.zip ys) : p.1 ∈ vs :=
  (List.of_mem_zip (a := p.1) (b := p.2) hp).1

theorem AgreeOff.append {Gn : Var → Prop} {ρ σ : Env} (h : AgreeOff Gn ρ σ) (n : Env) : AgreeOff Gn (n ++ ρ) (n ++ σ) := by
  intro v hv
  rw [get?_append, get?_append, h v hv]

theorem AgreeOff.cons_left {Gn : Var → Prop} {ρ σ : Env} (h : AgreeOff Gn ρ σ) {w : Var} (hw : Gn w) (x : Val) :
    AgreeOff Gn ((w, x) :: ρ) σ := by
  intro v hv
  rw [get?_cons, if_neg (fun he : w = v => hv (he ▸ hw))]
  exact h v hv

theorem AgreeOff.agree {Gn : Var → Prop} {ρ σ : Env} (h : AgreeOff Gn ρ σ) {vs : List Var} (hvs : ∀ v ∈ vs, ¬ Gn v) :
    Agree vs ρ σ := fun v hv => h v (hvs v hv)

theorem AgreeOff.of_envEqv_left {Gn : Var → Prop} {ρ ρ' σ : Env} (he : EnvEqv ρ ρ') (h : AgreeOff Gn ρ' σ) :
    AgreeOff Gn ρ σ := fun v hv => (he v).trans (h v hv)

theorem Unbound.append {gen : Nat → Var} {k : Nat} {ρ : Env} (h : Unbound gen k ρ) {n : Env}
    (hn : ∀ p ∈ n, ¬ GenOf gen p.1) : Unbound gen k (n ++ ρ) := by
  intro j hj
  rw [get?_append_of_not_key (fun p hp he => hn p hp ⟨j, he⟩)]
  exact h j hj

theorem Unbound.mono {gen : Nat → Var} {k k' : Nat} {ρ : Env} (h : Unbound gen k ρ) (hk : k ≤ k') : Unbound gen k' ρ :=
  fun j hj => h j (Nat.le_trans hk hj)

theorem Unbound.of_envEqv {gen : Nat → Var} {k : Nat} {ρ ρ' : Env} (he : EnvEqv ρ ρ') (h : Unbound gen k ρ') :
    Unbound gen k ρ := fun j hj => (he _).trans (h j hj)

theorem Unbound.cons_gen {gen : Nat → Var} (hinj : ∀ i j, gen i = gen j → i = j) {k : Nat} {ρ : Env}
    (h : Unbound gen k ρ) (x : Val) : Unbound gen (k + 1) ((gen k, x) :: ρ) := by
  intro j hj
  rw [get?_cons, if_neg (fun he => by have := hinj _ _ he; omega)]
  exact h j (by omega)

def GenRel (gen : Nat → Var) (k : Nat) (ρ σ : Env) : Prop := AgreeOff (GenOf gen) ρ σ ∧ Unbound gen k ρ

theorem GenRel.nil (gen : Nat → Var) (k : Nat) : GenRel gen k [] [] := ⟨fun _ _ => rfl, fun _ _ => rfl⟩

theorem GenRel.append {gen : Nat → Var} {k : Nat} {ρ σ : Env} (h : GenRel gen k ρ σ) {n : Env}
    (hn : ∀ p ∈ n, ¬ GenOf gen p.1) : GenRel gen k (n ++ ρ) (n ++ σ) :=
  ⟨h.1.append n, h.2.append hn⟩

theorem GenRel.cons_gen {gen : Nat → Var} (hinj : ∀ i j, gen i = gen j → i = j) {k : Nat} {ρ σ : Env}
    (h : GenRel gen k ρ σ) (x : Val) : GenRel gen (k + 1) ((gen k, x) :: ρ) σ :=
  ⟨h.1.cons_left ⟨k, rfl⟩ x, h.2.cons_gen hinj x⟩

theorem GenRel.of_envEqv_left {gen : Nat → Var} {k : Nat} {ρ ρ' σ : Env} (he : EnvEqv ρ ρ') (h : GenRel gen k ρ' σ) :
    GenRel gen k ρ σ :=
  ⟨h.1.of_envEqv_left he, h.2.of_envEqv he⟩

theorem GenRel.frameRel {vs : List Var} {gen : Nat → Var} (hvs : ∀ v ∈ vs, ¬ GenOf gen v) (k : Nat) :
    FrameRel vs (GenRel gen k) :=
  fun _ _ hr => ⟨hr.1.agree hvs, fun _ hk => hr.append fun p hp => hvs _ (hk p hp)⟩

theorem cond_binds_sub_vars (varsE : E → List Var) (varsB : B → List Var) (cs : List (Cond E B P)) :
    ∀ v ∈ cs.flatMap Cond.binds, v ∈ cs.flatMap (Cond.vars varsE varsB) := by
  intro v hv
  obtain ⟨c, hc, hvc⟩ := List.mem_flatMap.1 hv
  refine List.mem_flatMap.2 ⟨c, hc, ?_⟩
  cases c with
  | ifc b => cases hvc
  | letc w e => exact List.mem_cons.2 (.inl (List.mem_singleton.1 hvc))
  | ifLet p vs e => exact List.mem_append_left _ hvc

theorem agg_mentions_sub (varsE : E → List Var) (varsB : B → List Var) (varsG : G → List Var) (a : AggClause E A) :
    ∀ v ∈ Item.mentions varsE varsB varsG (Item.agg a : Item E B G P A),
      v ∈ FItem.mentions varsE varsB varsG (FItem.agg a : FItem E B G P A) := by
  intro v hv
  simp only [Item.mentions, FItem.mentions, List.mem_append, List.mem_flatMap] at hv ⊢
  rcases hv with hv | ⟨x, hx, hvx⟩
  · exact .inl (.inl hv)
  · refine .inr ⟨x, hx, ?_⟩
    cases x <;> simp_all [AggArg.keyVars]

theorem satConds_append (I : Interp E B G P A) (cs ds : List (Cond E B P)) (ρ : Env) :
    satConds I (cs ++ ds) ρ = (satConds I cs ρ).bind (satConds I ds) := by
  induction cs generalizing ρ with
  | nil => rfl
  | cons c cs ih =>
    simp only [List.cons_append, satConds]
    cases satCond I c ρ with
    | none => rfl
    | some ρ₁ => exact ih ρ₁

theorem bind_satConds_append (I : Interp E B G P A) (cs ds : List (Cond E B P)) (x : Option Env) :
    x.bind (satConds I (cs ++ ds)) = (x.bind (satConds I cs)).bind (satConds I ds) := by
  cases x with
  | none => rfl
  | some ρ => exact satConds_append I cs ds ρ

/-- the documented matching of one clause argument against one column value: `matchSArgs` (Model/Surface.lean) is the fold of it -/
def matchSArg (I : Interp E B G P A) : SArg E P → Val → Env → Option Env
  | .var v, x, ρ =>
      match ρ.get? v with
      | some y => if x = y then some ρ else none
      | none => some ((v, x) :: ρ)
  | .expr e, x, ρ => if I.expr e ρ = x then some ρ else none
  | .wild, _, ρ => some ρ
  | .pat p vs, x, ρ => (I.pat p x).bind fun ys => if ys.length = vs.length then some (vs.zip ys ++ ρ) else none

theorem matchSArgs_cons (I : Interp E B G P A) (a : SArg E P) (as : List (SArg E P)) (x : Val) (xs : Tuple) (ρ : Env) :
    matchSArgs I (a :: as) (x :: xs) ρ = (matchSArg I a x ρ).bind (matchSArgs I as xs) := by
  cases a with
  | var v =>
    simp only [matchSArgs, matchSArg]
    cases ρ.get? v with
    | none => rfl
    | some y => simp only; split <;> rfl
  | expr e => simp only [matchSArgs, matchSArg]; split <;> rfl
  | wild => rfl
  | pat p vs =>
    simp only [matchSArgs, matchSArg]
    cases I.pat p x with
    | none => rfl
    | some ys => simp only [Option.bind_some]; split <;> rfl

theorem matchSArgs_cons_nil (I : Interp E B G P A) (a : SArg E P) (as : List (SArg E P)) (ρ : Env) :
    matchSArgs I (a :: as) [] ρ = none := by
  cases a <;> rfl

/-- the matching of one argument of a negated clause against one column value: `matchNArgs` (Model/Surface.lean) is the conjunction -/
def matchNArg (I : Interp E B G P A) (ρ : Env) : NArg E → Val → Bool
  | .wild, _ => true
  | .expr e, x => decide (I.expr e ρ = x)

theorem matchNArgs_cons (I : Interp E B G P A) (ρ : Env) (a : NArg E) (as : List (NArg E)) (x : Val) (xs : Tuple) :
    matchNArgs I ρ (a :: as) (x :: xs) = (matchNArg I ρ a x && matchNArgs I ρ as xs) := by
  cases a <;> rfl

theorem matchNArgs_cons_nil (I : Interp E B G P A) (ρ : Env) (a : NArg E) (as : List (NArg E)) :
    matchNArgs I ρ (a :: as) [] = false := by
  cases a <;> rfl

theorem matchNArgs_map {I I' : Interp E B G P A} {ρ ρ' : Env} (f : NArg E → NArg E) (args : List (NArg E))
    (h : ∀ a ∈ args, ∀ x, matchNArg I' ρ' (f a) x = matchNArg I ρ a x) :
    ∀ t, matchNArgs I' ρ' (args.map f) t = matchNArgs I ρ args t := by
  induction args with
  | nil => intro t; cases t <;> rfl
  | cons a as ih =>
    intro t
    cases t with
    | nil => rw [List.map_cons, matchNArgs_cons_nil, matchNArgs_cons_nil]
    | cons x xs =>
      rw [List.map_cons, matchNArgs_cons, matchNArgs_cons, h a List.mem_cons_self x,
        ih (fun a ha => h a (List.mem_cons_of_mem _ ha)) xs]

section
variable {I : Interp E B G P A} {varsE : E → List Var} {varsB : B → List Var} {varsG : G → List Var}
  (hV : VarsSound I varsE varsB varsG)
include hV

theorem frame_satConds (cs : List (Cond E B P)) :
    Frame (cs.flatMap (Cond.vars varsE varsB)) (satConds I cs · = some ·) :=
  fun ρ ρ' h => (satConds_frame hV cs ρ ρ' h).mono (cond_binds_sub_vars varsE varsB cs) nofun fun _ h => h

theorem frame_matchSArg (a : SArg E P) (x : Val) :
    Frame (SArg.mentions varsE a) (matchSArg I a x · = some ·) := by
  intro ρ ρ' h
  cases a with
  | var v =>
    -- a variable or expression argument is matched as in a core clause
    obtain ⟨n, hn, hk, _, hf⟩ := matchArg_frame hV [] (.var v) x ρ ρ ρ' (fun _ hw => nomatch hw) h
    exact ⟨n, hn, fun p hp => (List.mem_filter.mp (hk p hp)).1, nofun, fun σ hσ => hf σ hσ σ hσ⟩
  | expr e =>
    obtain ⟨n, hn, hk, _, hf⟩ := matchArg_frame hV [] (.expr e) x ρ ρ ρ' (fun _ hw => nomatch hw) h
    exact ⟨n, hn, fun p hp => (List.not_mem_nil (List.mem_filter.mp (hk p hp)).1).elim, nofun, fun σ hσ => hf σ hσ σ hσ⟩
  | wild =>
    cases h
    exact .nil nofun fun _ _ => rfl
  | pat q vs =>
    simp only [matchSArg] at h
    cases hq : I.pat q x with
    | none => simp [hq] at h
    | some ys =>
      simp only [hq, Option.bind_some] at h
      split at h
      · rename_i hl
        cases h
        refine ⟨vs.zip ys, rfl, fun p hp => zip_keys hp, nofun, fun σ _ => ?_⟩
        simp only [matchSArg, hq, Option.bind_some, hl, if_true]
      · cases h

theorem frame_matchSArgs (as : List (SArg E P)) (t : Tuple) :
    Frame (as.flatMap (SArg.mentions varsE)) (matchSArgs I as t · = some ·) := by
  induction as generalizing t with
  | nil =>
    cases t with
    | nil => exact Frame.pure _
    | cons x xs => exact Frame.fail _
  | cons a as ih =>
    cases t with
    | nil => simp only [matchSArgs_cons_nil]; exact Frame.fail _
    | cons x xs =>
      simp only [matchSArgs_cons, List.flatMap_cons]
      exact (frame_matchSArg hV a x).bind (ih xs)

theorem matchNArgs_agree (args : List (NArg E)) (t : Tuple) (ρ σ : Env)
    (h : ∀ e, NArg.expr e ∈ args → Agree (varsE e) ρ σ) : matchNArgs I ρ args t = matchNArgs I σ args t := by
  have := matchNArgs_map (I := I) (I' := I) (ρ := σ) (ρ' := ρ) id args (fun a ha x => by
    cases a with
    | wild => rfl
    | expr e => simp only [id, matchNArg, hV.expr e ρ σ (h e ha)]) t
  rwa [List.map_id] at this

theorem frame_stepF (D : DB) (agg : RelId → List Tuple) (f : FItem E B G P A) :
    Frame (FItem.mentions varsE varsB varsG f) (StepF I D agg f) := by
  cases f with
  | clause r args conds =>
    rintro ρ ρ' ⟨t, ρ₁, hd, hm, hc⟩
    obtain ⟨n, hn, hk, hb, hf⟩ := (frame_matchSArgs hV args t).comp (frame_satConds hV conds) ρ ρ' ⟨ρ₁, hm, hc⟩
    refine ⟨n, hn, hk, hb, fun σ hσ => ?_⟩
    obtain ⟨σ₁, hm', hc'⟩ := hf σ hσ
    exact ⟨t, σ₁, hd, hm', hc'⟩
  | cond c => exact frame_step hV D agg (.cond c)
  | gen v g => exact frame_step hV D agg (.gen v g)
  | agg a => exact (frame_step hV D agg (.agg a)).mono (agg_mentions_sub varsE varsB varsG a)
  | neg r args =>
    rintro ρ _ ⟨rfl, hno⟩
    refine .nil nofun fun σ hσ => ⟨rfl, fun t ht => ?_⟩
    rw [← matchNArgs_agree hV args t _ σ fun e he => hσ.mono fun v hv => List.mem_flatMap.2 ⟨.expr e, he, hv⟩]
    exact hno t ht

end

theorem stepF_clause_iff (I : Interp E B G P A) (D : DB) (agg : RelId → List Tuple) (r : RelId) (as : List (SArg E P))
    (cs : List (Cond E B P)) (ρ ρ' : Env) :
    StepF I D agg (.clause r as cs) ρ ρ' ↔ ∃ t, D ⟨r, t⟩ ∧ (matchSArgs I as t ρ).bind (satConds I cs) = some ρ' := by
  simp only [StepF, Option.bind_eq_some_iff]
  exact exists_congr fun t => ⟨fun ⟨ρ₁, hd, h⟩ => ⟨hd, ρ₁, h⟩, fun ⟨hd, ρ₁, h⟩ => ⟨ρ₁, hd, h⟩⟩

theorem step_clause_iff (I : Interp E B G P A) (D : DB) (agg : RelId → List Tuple) (r : RelId) (as : List (Arg E))
    (cs : List (Cond E B P)) (ρ ρ' : Env) :
    Step I D agg (.clause r as cs) ρ ρ' ↔ ∃ t, D ⟨r, t⟩ ∧ (matchArgs I ρ as t ρ).bind (satConds I cs) = some ρ' := by
  simp only [Step, Option.bind_eq_some_iff]
  exact exists_congr fun t => ⟨fun ⟨ρ₁, hd, h⟩ => ⟨hd, ρ₁, h⟩, fun ⟨hd, ρ₁, h⟩ => ⟨ρ₁, hd, h⟩⟩

/-- `ExprScopedArgs`, argument by argument: an expression argument mentions a later variable column only if the variable is an
earlier variable column or `B` holds of it -/
def ScopedFrom (varsE : E → List Var) (B : Var → Prop) : List (SArg E P) → Prop
  | [] => True
  | a :: as => (∀ e, a = SArg.expr e → ∀ v ∈ varsE e, v ∈ as.flatMap SArg.varCol → B v) ∧
      ScopedFrom varsE (fun v => B v ∨ v ∈ SArg.varCol a) as

theorem ScopedFrom.mono {varsE : E → List Var} {as : List (SArg E P)} {B B' : Var → Prop} (hB : ∀ v, B v → B' v)
    (h : ScopedFrom varsE B as) : ScopedFrom varsE B' as := by
  induction as generalizing B B' with
  | nil => trivial
  | cons a as ih => exact ⟨fun e he v hv hm => hB v (h.1 e he v hv hm), ih (fun v hv => hv.imp (hB v) id) h.2⟩

theorem scopedFrom_of_split {varsE : E → List Var} (as : List (SArg E P)) {B : Var → Prop}
    (h : ∀ pre e post, as = pre ++ SArg.expr e :: post → ∀ v ∈ varsE e, v ∈ post.flatMap SArg.varCol →
      v ∈ pre.flatMap SArg.varCol ∨ B v) : ScopedFrom varsE B as := by
  induction as generalizing B with
  | nil => trivial
  | cons a as ih =>
    refine ⟨fun e he v hv hm => (h [] e as (by rw [he]; rfl) v hv hm).resolve_left (by simp), ih fun pre e post he v hv hm => ?_⟩
    rcases h (a :: pre) e post (by rw [he]; rfl) v hv hm with h1 | h1
    · rw [List.flatMap_cons, List.mem_append] at h1
      exact h1.elim (fun h1 => .inr (.inr h1)) .inl
    · exact .inr (.inl h1)

end AscentVerif.Surface
