import AscentVerif.Proofs.TrRelBasic
/-!
What `HashMap` / `HashSet` guarantee by construction and the list model does not: no repeated key (`KeysNodup`), no
repeated member (`ValsNodup`); `MapOk` for a map of sets, `KeysOk` for the two connection maps of a state.  Every map and
set primitive of the model keeps them.
-/
namespace AscentVerif.TrRel

theorem nodup_filter {α : Type} (p : α → Bool) {l : List α} (h : l.Nodup) : (l.filter p).Nodup :=
  List.Nodup.sublist List.filter_sublist h

section AL
variable {κ β : Type} [DecidableEq κ]

def KeysNodup (m : List (κ × β)) : Prop := (m.map Prod.fst).Nodup

theorem keys_alSet (m : List (κ × β)) (k : κ) (v : β) :
    (alSet m k v).map Prod.fst = if k ∈ m.map Prod.fst then m.map Prod.fst else m.map Prod.fst ++ [k] := by
  induction m with
  | nil => simp [alSet]
  | cons a t ih =>
    obtain ⟨a1, a2⟩ := a
    simp only [alSet]
    by_cases hk : a1 = k
    · subst hk; simp
    · simp only [if_neg hk, List.map_cons, ih, List.mem_cons]
      have : ¬ k = a1 := fun e => hk e.symm
      by_cases hm : k ∈ t.map Prod.fst
      · simp [hm]
      · simp [hm, this]

theorem KeysNodup.alSet {m : List (κ × β)} (h : KeysNodup m) (k : κ) (v : β) : KeysNodup (alSet m k v) := by
  unfold KeysNodup at h ⊢
  rw [keys_alSet]
  split
  · exact h
  · next hk => exact nodup_concat h hk

theorem KeysNodup.alRemove {m : List (κ × β)} (h : KeysNodup m) (k : κ) : KeysNodup (alRemove m k) := by
  unfold KeysNodup at h ⊢
  unfold TrRel.alRemove
  exact List.Nodup.sublist (List.Sublist.map _ (List.filter_sublist)) h

theorem KeysNodup.alGet_of_mem {m : List (κ × β)} (h : KeysNodup m) {k : κ} {v : β} (hm : (k, v) ∈ m) :
    alGet m k = some v := by
  induction m with
  | nil => simp at hm
  | cons a t ih =>
    obtain ⟨a1, a2⟩ := a
    unfold KeysNodup at h
    simp only [List.map_cons, List.nodup_cons] at h
    rcases List.mem_cons.mp hm with e | hm
    · cases e; simp [alGet]
    · have : a1 ≠ k := by
        intro e; subst e
        exact h.1 (List.mem_map.mpr ⟨(a1, v), hm, rfl⟩)
      simp only [alGet, if_neg this]
      exact ih h.2 hm

omit [DecidableEq κ] in
theorem keysNodup_nil : KeysNodup ([] : List (κ × β)) := by simp [KeysNodup]

end AL

theorem nodup_nsInsert {s : NSet} (h : s.Nodup) (x : Nat) : (nsInsert s x).1.Nodup := by
  unfold nsInsert
  by_cases hx : s.contains x
  · simp only [hx, if_true]; exact h
  · simp only [hx, Bool.false_eq_true, if_false]
    exact nodup_concat h (by simpa using hx)

theorem nodup_nsRemove {s : NSet} (h : s.Nodup) (x : Nat) : (nsRemove s x).Nodup := nodup_filter _ h
theorem nodup_nsDiff {a : NSet} (h : a.Nodup) (b : NSet) : (nsDiff a b).Nodup := nodup_filter _ h
theorem nodup_nsInter {a : NSet} (h : a.Nodup) (b : NSet) : (nsInter a b).Nodup := nodup_filter _ h

theorem nodup_nsExtend {s : NSet} (h : s.Nodup) (xs : List Nat) : (nsExtend s xs).Nodup := by
  unfold nsExtend
  induction xs generalizing s with
  | nil => exact h
  | cons x t ih => simp only [List.foldl_cons]; exact ih (nodup_nsInsert h x)

theorem nodup_foldl_nsRemove (sub : List Nat) {s : NSet} (h : s.Nodup) : (sub.foldl nsRemove s).Nodup := by
  induction sub generalizing s with
  | nil => exact h
  | cons x t ih => simp only [List.foldl_cons]; exact ih (nodup_nsRemove h x)

theorem nodup_keepDifference {s : NSet} (h : s.Nodup) (sub : NSet) : (keepDifference s sub).Nodup := by
  unfold keepDifference
  split
  · exact nodup_foldl_nsRemove sub h
  · exact nodup_filter _ h

theorem nodup_mergeSets {a b : List Int} (ha : a.Nodup) (hb : b.Nodup) : (mergeSets a b).Nodup := by
  have key : ∀ (b a : List Int), a.Nodup → (b.foldl (fun acc x => if acc.contains x then acc else acc ++ [x]) a).Nodup := by
    intro b
    induction b with
    | nil => exact fun a h => h
    | cons x t ih =>
      refine fun a h => ih _ ?_
      show (if a.contains x then a else a ++ [x]).Nodup
      split
      · exact h
      · next hx => exact nodup_concat h (by simpa using hx)
  unfold mergeSets
  by_cases h : a.length < b.length
  · simp only [h, if_true]; exact key _ _ hb
  · simp only [h, if_false]; exact key _ _ ha

def ValsNodup (m : NMap) : Prop := ∀ k s, alGet m k = some s → s.Nodup

/-- a well-formed `HashMap<usize, HashSet<usize>>`: no duplicate keys, no duplicate members -/
def MapOk (m : NMap) : Prop := KeysNodup m ∧ ValsNodup m

theorem mapOk_nil : MapOk [] := ⟨keysNodup_nil, fun k s h => by simp [alGet] at h⟩

theorem MapOk.alSet {m : NMap} (h : MapOk m) (k : Nat) {v : NSet} (hv : v.Nodup) : MapOk (alSet m k v) := by
  refine ⟨h.1.alSet k v, ?_⟩
  intro k' s hs
  rcases alGet_alSet_some hs with ⟨_, rfl⟩ | ⟨_, hs⟩
  · exact hv
  · exact h.2 k' s hs

theorem MapOk.alRemove {m : NMap} (h : MapOk m) (k : Nat) : MapOk (alRemove m k) := by
  refine ⟨h.1.alRemove k, ?_⟩
  intro k' s hs
  rw [alGet_alRemove] at hs
  by_cases hk : k = k'
  · rw [if_pos hk] at hs; cases hs
  · rw [if_neg hk] at hs; exact h.2 k' s hs

theorem MapOk.foldl_alRemove {m : NMap} (h : MapOk m) (l : List Nat) : MapOk (l.foldl TrRel.alRemove m) := by
  induction l generalizing m with
  | nil => exact h
  | cons s rest ih => exact ih (h.alRemove s)

theorem MapOk.orDefault {m : NMap} (h : MapOk m) (k : Nat) : MapOk (entryOrDefault m k).1 ∧ (entryOrDefault m k).2.Nodup := by
  unfold entryOrDefault
  cases hk : alGet m k with
  | some s => exact ⟨h, h.2 k s hk⟩
  | none => exact ⟨h.alSet k List.nodup_nil, List.nodup_nil⟩

theorem MapOk.entryInsert {m : NMap} (h : MapOk m) (k x : Nat) : MapOk (entryInsert m k x).1 := by
  unfold TrRel.entryInsert
  exact (h.orDefault k).1.alSet _ (nodup_nsInsert (h.orDefault k).2 x)

theorem MapOk.entryExtend {m : NMap} (h : MapOk m) (k : Nat) (xs : List Nat) : MapOk (entryExtend m k xs) := by
  unfold TrRel.entryExtend
  exact (h.orDefault k).1.alSet _ (nodup_nsExtend (h.orDefault k).2 xs)

theorem MapOk.foldl_insert (l : List Nat) (to : Nat) {m : NMap} (h : MapOk m) :
    MapOk (l.foldl (fun c z => (TrRel.entryInsert c z to).1) m) := by
  induction l generalizing m with
  | nil => exact h
  | cons z t ih => simp only [List.foldl_cons]; exact ih (h.entryInsert z to)

def KeysOk (t : TrRel) : Prop := MapOk t.conn ∧ MapOk t.rconn

end AscentVerif.TrRel
