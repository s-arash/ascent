import AscentVerif.Spec.LatticeLaws
/-!
`Set<T>` (a `BTreeSet`) is modelled by `LSet`, a list kept strictly increasing (`LSet.WF`).  Such lists are
determined by their members (`sorted_ext`), so the lattice laws reduce to membership facts about `setInsert` and
its folds; `lset_len_flag` is why comparing lengths is a correct "changed" flag.  The primed statements are restated
under the property's names in `Props/C16Struct`; `LatticeBSet` builds on them.
-/
namespace AscentVerif.Lat

theorem mem_setInsert (x y : Int) (l : List Int) : x ∈ setInsert y l ↔ x = y ∨ x ∈ l := by
  induction l with
  | nil => simp [setInsert]
  | cons z zs ih =>
    unfold setInsert
    split
    · simp
    · split
      · subst_vars; simp
      · simp [ih]
        constructor
        · rintro (h | h | h) <;> simp [h]
        · rintro (h | h | h) <;> simp [h]

theorem setInsert_wf (y : Int) (l : List Int) (h : l.Pairwise (· < ·)) :
    (setInsert y l).Pairwise (· < ·) := by
  induction l with
  | nil => simp [setInsert]
  | cons z zs ih =>
    unfold setInsert
    rw [List.pairwise_cons] at h
    split
    · rw [List.pairwise_cons]
      refine ⟨?_, List.pairwise_cons.2 h⟩
      intro w hw
      rcases List.mem_cons.1 hw with rfl | hw
      · assumption
      · have := h.1 w hw; omega
    · split
      · exact List.pairwise_cons.2 h
      · rw [List.pairwise_cons]
        refine ⟨?_, ih h.2⟩
        intro w hw
        rcases (mem_setInsert w y zs).1 hw with rfl | hw
        · omega
        · exact h.1 w hw

theorem mem_foldl_setInsert (x : Int) (small big : List Int) :
    x ∈ small.foldl (fun acc x => setInsert x acc) big ↔ x ∈ small ∨ x ∈ big := by
  induction small generalizing big with
  | nil => simp
  | cons s ss ih =>
    simp only [List.foldl_cons, ih, mem_setInsert, List.mem_cons]
    constructor
    · rintro (h | h | h) <;> simp [h]
    · rintro ((h | h) | h) <;> simp [h]

theorem foldl_setInsert_wf (small big : List Int) (h : big.Pairwise (· < ·)) :
    (small.foldl (fun acc x => setInsert x acc) big).Pairwise (· < ·) := by
  induction small generalizing big with
  | nil => simpa
  | cons s ss ih => exact ih _ (setInsert_wf s big h)

/-- a strictly increasing list whose members all occur in another is a sublist of it: the head of the
longer list is either the head of the shorter one or below all of it -/
theorem sorted_sublist (b : List Int) : ∀ a : List Int, a.Pairwise (· < ·) → b.Pairwise (· < ·) →
    (∀ x ∈ a, x ∈ b) → a.Sublist b := by
  induction b with
  | nil =>
    intro a _ _ h
    cases a with
    | nil => exact List.Sublist.refl _
    | cons x xs => exact absurd (h x List.mem_cons_self) List.not_mem_nil
  | cons y bs ih =>
    intro a ha hb h
    cases a with
    | nil => exact List.nil_sublist _
    | cons x as =>
      rw [List.pairwise_cons] at ha hb
      by_cases hxy : x = y
      · subst hxy
        refine (ih as ha.2 hb.2 fun z hz => ?_).cons_cons x
        have := ha.1 z hz
        exact (List.mem_cons.1 (h z (List.mem_cons_of_mem _ hz))).resolve_left (by omega)
      · have hyx := hb.1 x ((List.mem_cons.1 (h x List.mem_cons_self)).resolve_left hxy)
        refine (ih (x :: as) (List.pairwise_cons.2 ha) hb.2 fun z hz => ?_).cons y
        have hge : x ≤ z := by
          rcases List.mem_cons.1 hz with e | hz'
          · omega
          · have := ha.1 z hz'; omega
        exact (List.mem_cons.1 (h z hz)).resolve_left (by omega)

theorem sorted_ext (l1 l2 : List Int) (h1 : l1.Pairwise (· < ·)) (h2 : l2.Pairwise (· < ·))
    (h : ∀ x, x ∈ l1 ↔ x ∈ l2) : l1 = l2 :=
  have s12 := sorted_sublist l2 l1 h1 h2 fun x => (h x).1
  have s21 := sorted_sublist l1 l2 h2 h1 fun x => (h x).2
  s12.eq_of_length (Nat.le_antisymm s12.length_le s21.length_le)

theorem setSubset_iff (a b : List Int) : setSubset a b = true ↔ ∀ x ∈ a, x ∈ b := by
  simp [setSubset, List.all_eq_true]

theorem lset_pcmp_def (a b : LSet) : pcmp a b =
    if a.elems = b.elems then some .eq
    else if setSubset a.elems b.elems then some .lt
    else if setSubset b.elems a.elems then some .gt
    else none := rfl

theorem lset_join_def (a b : LSet) : join a b =
    ⟨(if a.elems.length < b.elems.length then a.elems else b.elems).foldl (fun acc x => setInsert x acc)
      (if a.elems.length < b.elems.length then b.elems else a.elems)⟩ := by
  show LSet.mk (List.foldl _
      (if a.elems.length < b.elems.length then (b.elems, a.elems) else (a.elems, b.elems)).1
      (if a.elems.length < b.elems.length then (b.elems, a.elems) else (a.elems, b.elems)).2) = _
  by_cases h : a.elems.length < b.elems.length <;> simp only [h, if_true, if_false]

theorem lset_meet_def (a b : LSet) : meet a b =
    ⟨(a.elems.filter (b.elems.contains ·)).foldl (fun acc x => setInsert x acc) []⟩ := rfl

theorem lset_joinMut_def (a b : LSet) : joinMut a b =
    (join a b, a.elems.length != (join a b).elems.length) := by
  rfl

theorem lset_meetMut_def (a b : LSet) : meetMut a b =
    (meet a b, a.elems.length != (meet a b).elems.length) := rfl

theorem lset_join_mem' (a b : LSet) (x : Int) : x ∈ (join a b).elems ↔ x ∈ a.elems ∨ x ∈ b.elems := by
  rw [lset_join_def]
  simp only [mem_foldl_setInsert]
  split
  · exact Iff.rfl
  · exact Or.comm

theorem lset_meet_mem' (a b : LSet) (x : Int) : x ∈ (meet a b).elems ↔ x ∈ a.elems ∧ x ∈ b.elems := by
  rw [lset_meet_def]
  simp [mem_foldl_setInsert]

theorem lset_join_wf' (a b : LSet) (ha : a.WF) (hb : b.WF) : (join a b).WF := by
  rw [lset_join_def]
  unfold LSet.WF
  apply foldl_setInsert_wf
  split
  · exact hb
  · exact ha

theorem lset_meet_wf' (a b : LSet) : (meet a b).WF := by
  rw [lset_meet_def]
  unfold LSet.WF
  apply foldl_setInsert_wf
  simp

theorem lset_le_iff' (a b : LSet) : le a b = true ↔ ∀ x ∈ a.elems, x ∈ b.elems := by
  unfold le
  rw [lset_pcmp_def, ← setSubset_iff]
  by_cases h : a.elems = b.elems
  · simp [h, setSubset]
  · simp only [h, if_false]
    cases h1 : setSubset a.elems b.elems
    · cases h2 : setSubset b.elems a.elems <;> simp
    · simp

theorem lset_ext (a b : LSet) (ha : a.WF) (hb : b.WF) (h : ∀ x, x ∈ a.elems ↔ x ∈ b.elems) : a = b := by
  cases a; cases b
  simp only [LSet.mk.injEq]
  exact sorted_ext _ _ ha hb h

theorem lset_le_antisymm (a b : LSet) (ha : a.WF) (hb : b.WF) (h1 : le a b = true) (h2 : le b a = true) :
    a = b := by
  rw [lset_le_iff'] at h1 h2
  exact lset_ext a b ha hb (fun x => ⟨h1 x, h2 x⟩)

theorem lset_len_flag (a r : LSet) (ha : a.WF) (hr : r.WF)
    (h : (∀ x ∈ a.elems, x ∈ r.elems) ∨ (∀ x ∈ r.elems, x ∈ a.elems)) :
    ((a.elems.length != r.elems.length) = true ↔ r ≠ a) := by
  rw [bne_iff_ne]
  refine not_congr ⟨fun hl => ?_, fun e => by rw [e]⟩
  rcases h with h | h
  · exact congrArg LSet.mk ((sorted_sublist _ _ ha hr h).eq_of_length hl).symm
  · exact congrArg LSet.mk ((sorted_sublist _ _ hr ha h).eq_of_length hl.symm)

theorem lawful_lset' : LawfulLat LSet LSet.WF where
  pcmp_refl a _ := by simp [lset_pcmp_def]
  eq_of_pcmp_eq a b _ _ h := by
    rw [lset_pcmp_def] at h
    cases a; cases b
    simp only [LSet.mk.injEq]
    split at h
    · assumption
    · split at h
      · simp at h
      · split at h <;> simp at h
  pcmp_swap a b ha hb := by
    rw [lset_pcmp_def, lset_pcmp_def]
    by_cases h : a.elems = b.elems
    · simp [h]
    · have h' : ¬ b.elems = a.elems := fun e => h e.symm
      simp only [h, h', if_false]
      cases h1 : setSubset a.elems b.elems <;> cases h2 : setSubset b.elems a.elems <;> simp
      -- left over: both inclusions hold although the lists differ
      exfalso
      apply h
      rw [setSubset_iff] at h1 h2
      exact sorted_ext _ _ ha hb (fun x => ⟨h1 x, h2 x⟩)
  le_trans a b c _ _ _ h1 h2 := by
    rw [lset_le_iff'] at *
    exact fun x hx => h2 x (h1 x hx)
  join_wf a b ha hb := lset_join_wf' a b ha hb
  meet_wf a b _ _ := lset_meet_wf' a b
  le_join_left a b _ _ := by
    rw [lset_le_iff']; intro x hx; rw [lset_join_mem']; exact Or.inl hx
  le_join_right a b _ _ := by
    rw [lset_le_iff']; intro x hx; rw [lset_join_mem']; exact Or.inr hx
  join_le a b c _ _ _ h1 h2 := by
    rw [lset_le_iff'] at *
    intro x hx; rw [lset_join_mem'] at hx
    rcases hx with hx | hx
    · exact h1 x hx
    · exact h2 x hx
  meet_le_left a b _ _ := by
    rw [lset_le_iff']; intro x hx; rw [lset_meet_mem'] at hx; exact hx.1
  meet_le_right a b _ _ := by
    rw [lset_le_iff']; intro x hx; rw [lset_meet_mem'] at hx; exact hx.2
  le_meet a b c _ _ _ h1 h2 := by
    rw [lset_le_iff'] at *
    intro x hx; rw [lset_meet_mem']; exact ⟨h1 x hx, h2 x hx⟩
  joinMut_fst a b _ _ := by rw [lset_joinMut_def]
  joinMut_snd a b ha hb := by
    rw [lset_joinMut_def]
    exact lset_len_flag a (join a b) ha (lset_join_wf' a b ha hb)
      (.inl fun x hx => (lset_join_mem' a b x).2 (Or.inl hx))
  meetMut_fst a b _ _ := by rw [lset_meetMut_def]
  meetMut_snd a b ha hb := by
    rw [lset_meetMut_def]
    exact lset_len_flag a (meet a b) ha (lset_meet_wf' a b)
      (.inr fun x hx => ((lset_meet_mem' a b x).1 hx).1)

end AscentVerif.Lat
