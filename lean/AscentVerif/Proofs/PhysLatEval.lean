import AscentVerif.Model.EnginePhysLat
import AscentVerif.Proofs.PhysEval
import AscentVerif.Proofs.LatPass
/-!
# Evaluating a rule over the physical indices of a program with lattices = evaluating its plan over the bags

`GSpec`: what a clause needs from `index_get` / `iter_all` / `len_estimate` of the version(s) it reads (as `Phys.ViewSpec`,
for any reading functions).  When every index a plan may read has it (`ViewsOkL`; `ClL`: a clause on a lattice never reads an
index over the value column), `PhysLat.evalFrom` has exactly the members of `Plan.evalFrom`; hence (`Props/C01Plan.lean`) every
environment of `PhysLat.evalRule` has the head rows of an environment of `Engine.evalBody` and conversely, the empty-relation
guard and the `len_estimate` swap included.
-/
namespace AscentVerif.PhysLat
open AscentVerif AscentVerif.Engine AscentVerif.Index AscentVerif.Phys

variable {E B G P A : Type}

structure GSpec (rows : List Tuple) (bag cols : List Nat) (get : List Val → List Tuple)
    (all : List (List Val × List Tuple)) (len : Nat) : Prop where
  get : ∀ key t, t ∈ get key ↔ ∃ i ∈ bag, rowAt rows i = t ∧ Plan.proj cols t = key
  all : ∀ k t, (∃ kr ∈ all, kr.1 = k ∧ t ∈ kr.2) ↔ ∃ i ∈ bag, rowAt rows i = t ∧ Plan.proj cols t = k
  len : len = 0 → bag = []

theorem GSpec.append {rows : List Tuple} {b₁ b₂ cols : List Nat} {g₁ g₂ : List Val → List Tuple}
    {a₁ a₂ : List (List Val × List Tuple)} {l₁ l₂ : Nat} (h₁ : GSpec rows b₁ cols g₁ a₁ l₁) (h₂ : GSpec rows b₂ cols g₂ a₂ l₂)
    {bag : List Nat} (hb : ∀ i, i ∈ bag ↔ i ∈ b₁ ∨ i ∈ b₂) :
    GSpec rows bag cols (fun k => g₁ k ++ g₂ k) (a₁ ++ a₂) (l₁ + l₂) := by
  refine ⟨fun key t => ?_, fun k t => ?_, fun hz => ?_⟩
  · simp only [List.mem_append, h₁.get, h₂.get, hb, or_and_right, exists_or]
  · simp only [List.mem_append, or_and_right, exists_or, h₁.all, h₂.all, hb]
  · apply List.eq_nil_iff_forall_not_mem.mpr
    intro i hi
    have := (hb i).mp hi
    rw [h₁.len (by omega), h₂.len (by omega)] at this
    simp at this

section
variable {rows : List Tuple} {bag cols : List Nat} {g : List Val → List Tuple} {a : List (List Val × List Tuple)} {l : Nat}

theorem GSpec.congr_bag {bag' : List Nat} (h : GSpec rows bag cols g a l) (hb : ∀ i, i ∈ bag' ↔ i ∈ bag) :
    GSpec rows bag' cols g a l := by
  refine ⟨fun key t => ?_, fun k t => ?_, fun hz => ?_⟩
  · simp only [h.get, hb]
  · simp only [h.all, hb]
  · apply List.eq_nil_iff_forall_not_mem.mpr
    intro i hi
    have := (hb i).mp hi
    rw [h.len hz] at this
    cases this

end

/-- a clause on a lattice does not index the value column -/
def PosL (p : Program E B G P A) (h : Hir.HRule) (j : Nat) : Item E B G P A → Prop
  | .clause rel _ _ => isLatRel p rel = true → ∀ c ∈ Plan.colsAt h j, c < arityOf p rel - 1
  | _ => True

def ClL (p : Program E B G P A) (h : Hir.HRule) (i : Nat) (body : List (Item E B G P A)) : Prop :=
  ∀ k it, body[k]? = some it → PosL p h (i + k) it

section
variable {p : Program E B G P A} {h : Hir.HRule} {i : Nat} {it : Item E B G P A} {rest : List (Item E B G P A)}

theorem ClL.head (hc : ClL p h i (it :: rest)) : PosL p h i it := by
  simpa using hc 0 it rfl

theorem ClL.tail (hc : ClL p h i (it :: rest)) : ClL p h (i + 1) rest := by
  intro k it' hk
  have := hc (k + 1) it' hk
  rwa [show i + (k + 1) = i + 1 + k from Nat.add_right_comm i k 1] at this

end

/-- the interface between the evaluation and the simulation relation (which yields it: `viewsOkL_of_find` of
`Proofs/PhysLatSim.lean`): the physical state `x` answers every read a usable plan can make as the abstract state `a` does -/
def ViewsOkL (p : Program E B G P A) (ixs : IxSets) (a : SccSt) (x : XScc) : Prop :=
  ∀ r v cols, ColsOk (arityOf p r) cols → (cols.length = arityOf p r ∨ cols ∈ ixs r) →
    (isLatRel p r = true → ∀ c ∈ cols, c < arityOf p r - 1) →
    GSpec (relSt a.rels r).rows (clauseRows {} p a r v) cols
      (getV (isLatRel p r) (arityOf p r) (viewOf x r v) cols) (allV (isLatRel p r) (arityOf p r) (viewOf x r v) cols)
      (lenV (isLatRel p r) (arityOf p r) (viewOf x r v) cols)

section
variable {I : Interp E B G P A} {p : Program E B G P A} {ixs : IxSets} {a : SccSt} {ph : XScc} {h : Hir.HRule}

theorem ViewsOkL.head (hV : ViewsOkL p ixs a ph) {i : Nat} {r : RelId} {args : List (Arg E)} {conds : List (Cond E B P)}
    {rest : List (Item E B G P A)} (hok : ClOk p ixs h i (.clause r args conds :: rest))
    (hokl : ClL p h i (.clause r args conds :: rest)) (v : Option Ver) :
    GSpec (relSt a.rels r).rows (clauseRows {} p a r v) (Plan.colsAt h i)
      (getV (isLatRel p r) (arityOf p r) (viewOf ph r v) (Plan.colsAt h i))
      (allV (isLatRel p r) (arityOf p r) (viewOf ph r v) (Plan.colsAt h i))
      (lenV (isLatRel p r) (arityOf p r) (viewOf ph r v) (Plan.colsAt h i)) :=
  have hp : PosOk p ixs h i (.clause r args conds) := hok.head
  hV r v _ hp.1 hp.2.1 hokl.head

theorem evalFrom_iff (hV : ViewsOkL p ixs a ph) (swap : Bool) (i : Nat) (body : List (Item E B G P A))
    (vs : List (Option Ver)) (ρ : Env) : ClOk p ixs h i body → ClL p h i body → aggFreeL body = true →
    ∀ x, x ∈ evalFrom I p ph h swap i body vs ρ ↔ x ∈ Plan.evalFrom I {} p a h swap i body vs ρ := by
  induction i, body, vs, ρ using evalFrom.induct I ph h swap with
  | case1 =>
    intro _ _ _ x
    rw [evalFrom, Plan.evalFrom]
  | case2 i r args conds r2 a2 c2 rest2 vs ρ hsj hsw ih =>
    intro hok hokl haf x
    rw [evalFrom, Plan.evalFrom, if_pos hsj, if_pos hsj, if_pos hsw, if_pos hsw]
    exact Phys.joinStep_mem I (hV.head hok.tail hokl.tail _).all (hV.head hok hokl _).get a2 c2 args conds _ ρ _ _
      (fun ρ' => ih ρ' hok.tail.tail hokl.tail.tail (aggFreeL_tail (aggFreeL_tail haf))) x
  | case3 i r args conds r2 a2 c2 rest2 vs ρ hsj hsw ih =>
    intro hok hokl haf x
    rw [evalFrom, Plan.evalFrom, if_pos hsj, if_pos hsj, if_neg hsw, if_neg hsw]
    exact Phys.joinStep_mem I (hV.head hok hokl _).all (hV.head hok.tail hokl.tail _).get args conds a2 c2 _ ρ _ _
      (fun ρ' => ih ρ' hok.tail.tail hokl.tail.tail (aggFreeL_tail (aggFreeL_tail haf))) x
  | case4 i r args conds r2 a2 c2 rest2 vs ρ hsj ih =>
    intro hok hokl haf x
    rw [evalFrom, Plan.evalFrom, if_neg hsj, if_neg hsj]
    exact Phys.clauseStep_mem I (hV.head hok hokl _).get _ args conds ρ _ _
      (fun ρ' => ih ρ' hok.tail hokl.tail (aggFreeL_tail haf)) x
  | case5 i r args conds rest vs ρ hne ih =>
    intro hok hokl haf x
    rw [evalFrom, Plan.evalFrom]
    · exact Phys.clauseStep_mem I (hV.head hok hokl _).get _ args conds ρ _ _
        (fun ρ' => ih ρ' hok.tail hokl.tail (aggFreeL_tail haf)) x
    · exact hne
    · exact hne
  | case6 i c rest vs ρ hc =>
    intro _ _ _ x
    rw [evalFrom, Plan.evalFrom, hc]
  | case7 i c rest vs ρ ρ₁ hc ih =>
    intro hok hokl haf x
    rw [evalFrom, Plan.evalFrom, hc]
    exact ih hok.tail hokl.tail (aggFreeL_tail haf) x
  | case8 i v g rest vs ρ ih =>
    intro hok hokl haf x
    rw [evalFrom, Plan.evalFrom, List.mem_flatMap, List.mem_flatMap]
    exact exists_congr fun y => and_congr_right fun _ => ih y hok.tail hokl.tail (aggFreeL_tail haf) x
  | case9 =>
    intro _ _ haf
    cases haf

end

theorem clausesOf_okL {p : Program E B G P A} {h : Hir.HRule} :
    ∀ (body : List (Item E B G P A)) (i : Nat) (vs : List (Option Ver)), ClL p h i body →
      ∀ c ∈ clausesOf i body vs, isLatRel p c.2.1 = true → ∀ j ∈ Plan.colsAt h c.1, j < arityOf p c.2.1 - 1 := by
  intro body
  induction body with
  | nil => exact fun _ _ _ _ hc => nomatch hc
  | cons it rest ih =>
    intro i vs hok c hc
    cases it with
    | clause r args conds =>
      rcases List.mem_cons.mp hc with rfl | hc
      · exact hok.head
      · exact ih (i + 1) vs.tail hok.tail c hc
    | _ => exact ih (i + 1) vs.tail hok.tail c hc

theorem anyEmpty_soundL (I : Interp E B G P A) (p : Program E B G P A) (ixs : IxSets) (a : SccSt) (ph : XScc)
    (hV : ViewsOkL p ixs a ph) (h : Hir.HRule) (body : List (Item E B G P A)) (vs : List (Option Ver))
    (hok : ClOk p ixs h 0 body) (hokl : ClL p h 0 body) (he : anyEmpty p ph h body vs = true) :
    evalBody I {} p a body vs [] = [] := by
  simp only [anyEmpty, Bool.and_eq_true, List.any_eq_true] at he
  obtain ⟨_, c, hc, hemp⟩ := he
  apply evalBody_nil_of_empty I {} p a body 0 vs [] ⟨c, hc, ?_⟩
  obtain ⟨h1, h2⟩ := clausesOf_ok body 0 vs hok c hc
  have hv := hV c.2.1 c.2.2 _ h1 h2 (clausesOf_okL body 0 vs hokl c hc)
  apply hv.len
  simpa using hemp

theorem chooseSwap_reorderableL (p : Program E B G P A) (s : XScc) (h : Hir.HRule) (body : List (Item E B G P A))
    (vs : List (Option Ver)) (hs : chooseSwap p s h body vs = true) : Plan.reorderable h = true := by
  unfold chooseSwap at hs
  split at hs
  · cases hs
  · split at hs
    · cases hs
    · rename_i hr
      simpa using hr

theorem exists_of_map_perm {α β : Type} {l l' : List α} (f : α → β) (hp : (l.map f).Perm (l'.map f)) :
    ∀ a ∈ l, ∃ b ∈ l', f a = f b := by
  intro a ha
  have : f a ∈ l'.map f := hp.mem_iff.mp (List.mem_map.mpr ⟨a, ha, rfl⟩)
  obtain ⟨b, hb, e⟩ := List.mem_map.mp this
  exact ⟨b, hb, e.symm⟩

/-- the environments of the plan — swapped or not, for any flag that is set only on a reorderable rule — are those of
`evalBody` only up to `EnvEq`, hence compared by head rows -/
theorem evalFrom_envs (I : Interp E B G P A) (hI : Plan.Ext I) (V : Hir.VarsOf E B) (hS : Plan.Supp I V)
    (p : Program E B G P A) (ixs : IxSets) (a : SccSt) (ph : XScc) (hV : ViewsOkL p ixs a ph) (r : Rule E B G P A)
    (hd : Hir.Desugared V r = true) (hw : Plan.WellScoped V r = true) (hok : ClOk p ixs (Hir.compileRule V r) 0 r.body)
    (hokl : ClL p (Hir.compileRule V r) 0 r.body) (haf : r.aggFree = true) (vs : List (Option Ver)) (b : Bool)
    (hb : b = true → Plan.reorderable (Hir.compileRule V r) = true) :
    (∀ ρ ∈ evalFrom I p ph (Hir.compileRule V r) b 0 r.body vs [], ∃ ρ' ∈ evalBody I {} p a r.body vs [],
      Plan.headRows I r.heads ρ = Plan.headRows I r.heads ρ') ∧
    (∀ ρ' ∈ evalBody I {} p a r.body vs [], ∃ ρ ∈ evalFrom I p ph (Hir.compileRule V r) b 0 r.body vs [],
      Plan.headRows I r.heads ρ = Plan.headRows I r.heads ρ') := by
  have hmem : ∀ ρ, ρ ∈ evalFrom I p ph (Hir.compileRule V r) b 0 r.body vs [] ↔
      ρ ∈ Plan.evalBodyPlan I {} p a (Hir.compileRule V r) b r.body vs [] :=
    fun ρ => evalFrom_iff hV _ 0 r.body vs [] hok hokl haf ρ
  have hperm : ((Plan.evalBodyPlan I {} p a (Hir.compileRule V r) b r.body vs []).map (Plan.headRows I r.heads)).Perm
      ((evalBody I {} p a r.body vs []).map (Plan.headRows I r.heads)) := by
    cases b with
    | false => exact Plan.head_rows_perm I hI {} p a V r hd vs
    | true => exact Plan.head_rows_perm_swapped I hI {} p a V hS r hd hw (hb rfl) vs
  refine ⟨fun ρ hρ => exists_of_map_perm _ hperm ρ ((hmem ρ).mp hρ), fun ρ' hρ' => ?_⟩
  obtain ⟨ρ, hρ, e⟩ := exists_of_map_perm _ hperm.symm ρ' hρ'
  exact ⟨ρ, (hmem ρ).mpr hρ, e.symm⟩

theorem evalRule_envs (I : Interp E B G P A) (hI : Plan.Ext I) (V : Hir.VarsOf E B) (hS : Plan.Supp I V)
    (p : Program E B G P A) (ixs : IxSets) (a : SccSt) (ph : XScc) (hV : ViewsOkL p ixs a ph) (r : Rule E B G P A)
    (hd : Hir.Desugared V r = true) (hw : Plan.WellScoped V r = true) (hok : ClOk p ixs (Hir.compileRule V r) 0 r.body)
    (hokl : ClL p (Hir.compileRule V r) 0 r.body) (haf : r.aggFree = true) (vs : List (Option Ver)) :
    (∀ ρ ∈ evalRule I p ph (Hir.compileRule V r) r.body vs, ∃ ρ' ∈ evalBody I {} p a r.body vs [],
      Plan.headRows I r.heads ρ = Plan.headRows I r.heads ρ') ∧
    (∀ ρ' ∈ evalBody I {} p a r.body vs [], ∃ ρ ∈ evalRule I p ph (Hir.compileRule V r) r.body vs,
      Plan.headRows I r.heads ρ = Plan.headRows I r.heads ρ') := by
  unfold evalRule
  split
  · rename_i he
    rw [anyEmpty_soundL I p ixs a ph hV _ r.body vs hok hokl he]
    exact ⟨fun ρ hρ => (by cases hρ), fun ρ hρ => (by cases hρ)⟩
  · exact evalFrom_envs I hI V hS p ixs a ph hV r hd hw hok hokl haf vs _ (chooseSwap_reorderableL p ph _ r.body vs)

end AscentVerif.PhysLat
