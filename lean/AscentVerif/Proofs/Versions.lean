import AscentVerif.Model.Engine
/-!
# `versionsBase`: closed form and a cons-recursive characterisation

The model builds the variants of `n` dynamic clauses by appending at the end (as `versions_base` does); proofs by induction
on a body need them by the first clause.  `mem_versionsBase_succ` is that view, obtained through the closed form `vk`; the
coverage theorems of `Props/C01.lean` and `seminaive_cover` (`Proofs/EvalBody.lean`) go through it.
-/
namespace AscentVerif.Engine
open AscentVerif

def vk (n k : Nat) : List Ver :=
  List.replicate k Ver.total ++ [Ver.delta] ++ List.replicate (n - k - 1) Ver.totalDelta

theorem vk_snoc (n k : Nat) (hk : k < n) : vk n k ++ [Ver.totalDelta] = vk (n + 1) k := by
  have e : n + 1 - k - 1 = (n - k - 1) + 1 := by
    rw [Nat.sub_right_comm, Nat.add_sub_cancel, Nat.sub_add_cancel (Nat.sub_pos_of_lt hk)]
  rw [vk, vk, e, List.replicate_succ', List.append_assoc]

theorem vk_self (n : Nat) : vk (n + 1) n = List.replicate n Ver.total ++ [Ver.delta] := by
  rw [vk, Nat.add_sub_cancel_left, Nat.sub_self, List.replicate_zero, List.append_nil]

theorem versionsBase_eq_vk (n : Nat) : versionsBase n = (List.range n).map (vk n) := by
  induction n with
  | zero => rfl
  | succ n ih =>
    rw [versionsBase, ih, List.range_succ, List.map_append, List.map_map, List.map_singleton, vk_self]
    congr 1
    exact List.map_congr_left fun k hk => vk_snoc n k (List.mem_range.mp hk)

theorem vk_zero (n : Nat) : vk (n + 1) 0 = Ver.delta :: List.replicate n Ver.totalDelta := by
  simp [vk]

theorem vk_succ (n k : Nat) : vk (n + 1) (k + 1) = Ver.total :: vk n k := by
  simp [vk, List.replicate_succ]

theorem mem_versionsBase_succ (n : Nat) (vs : List Ver) :
    vs ∈ versionsBase (n + 1) ↔
      vs = Ver.delta :: List.replicate n Ver.totalDelta ∨ ∃ v ∈ versionsBase n, vs = Ver.total :: v := by
  rw [versionsBase_eq_vk, versionsBase_eq_vk, List.range_succ_eq_map]
  simp only [List.map_cons, List.map_map, List.mem_cons, List.mem_map, Function.comp, vk_zero]
  constructor
  · rintro (h | ⟨k, hk, rfl⟩)
    · exact .inl h
    · exact .inr ⟨vk n k, ⟨k, hk, rfl⟩, vk_succ n k⟩
  · rintro (h | ⟨v, ⟨k, hk, rfl⟩, rfl⟩)
    · exact .inl h
    · exact .inr ⟨k, hk, (vk_succ n k)⟩

theorem versionsBase_zero : versionsBase 0 = [] := rfl

theorem length_of_mem_versionsBase : ∀ (n : Nat) (vs : List Ver), vs ∈ versionsBase n → vs.length = n := by
  intro n
  induction n with
  | zero => intro vs h; simp [versionsBase] at h
  | succ n ih =>
    intro vs h
    rcases (mem_versionsBase_succ n vs).mp h with rfl | ⟨v, hv, rfl⟩
    · simp
    · simp [ih v hv]

end AscentVerif.Engine
