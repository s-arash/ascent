import AscentVerif.Proofs.NDAgg
import AscentVerif.Proofs.AggRestart
/-!
# Stratified restart for the nondeterministic engine

`Agg.restart_of_spec` / `Agg.timeoutG_sound` (`Proofs/AggRestart.lean`) for EXECUTIONS of the nondeterministic engine (`RunND`,
`Proofs/NDEngine.lean`) and for PREFIXES of executions (`RunPreND`: some completed SCCs, then — inside one SCC — some
completed passes each followed by `shift`; the abstract counterpart of a `run_timeout` that took the early return):
`restartND_facts` and `timeoutND_sound_from`, as `restart_agg` / `timeout_false_sound_agg_from` (`Props/C13Agg.lean`) are
for the serial engine.
-/
namespace AscentVerif.Engine.Agg
open AscentVerif AscentVerif.Engine

variable {E B G P A : Type}

theorem loopPreND_iters {I : Interp E B G P A} {cfg : Config} {p : Program E B G P A} {dyn : List RelId}
    {rules : List (Rule E B G P A)} {s s' : SccSt} (h : LoopPreND I cfg p dyn rules s s') :
    ∃ s₀ s1, Iters (PassND I cfg p dyn rules) s s₀ ∧ PassND I cfg p dyn rules s₀ s1 ∧ s' = shift s1 := by
  induction h with
  | last hpass => exact ⟨_, _, .refl _, hpass, rfl⟩
  | more hpass _ ih =>
    obtain ⟨s₀, s1, hit, hp, rfl⟩ := ih
    exact ⟨s₀, s1, .step hpass hit, hp, rfl⟩

theorem sccPreND_sccPreG {I : Interp E B G P A} {cfg : Config} {p : Program E B G P A} {scc : List Nat} {st : St}
    {a' : SccSt} (h : SccPreND I cfg p scc st a') : ∃ s1, SccPreG (PassND I cfg p) p scc st s1 a' := by
  unfold SccPreND at h
  split at h
  · rename_i hlp
    obtain ⟨s₀, s1, hit, hp, rfl⟩ := loopPreND_iters h
    exact ⟨s1, .inl ⟨hlp, s₀, hit, hp, rfl⟩⟩
  · rename_i hlp
    obtain ⟨s1, hpass, rfl⟩ := h
    exact ⟨s1, .inr ⟨by simpa using hlp, hpass, rfl⟩⟩

section Main
variable (I : Interp E B G P A) (cfg : Config) (p : Program E B G P A) (order : SccOrder)
  (hl : ∀ d ∈ p.rels, d.lat = false)
  (hh : ∀ r ∈ p.rules, ∀ h ∈ r.heads, h.rel < p.rels.length)
  (ho : validOrder p order = true) (hs : ∀ s ∈ order, aggOverDynamic p s = false)
  (hperm : PermInv I)

include hl hh ho hs hperm in
theorem restartND_facts (s t sM s' : St) (hs0 : WFSt' p s) (ht0 : WFSt' p t)
    (hM : RunND I cfg p order s sM)
    (hext : ExtSt p s t) (hsound : ∀ f, factsOf t f → factsOf sM f)
    (hrun : RunND I cfg p order t s') :
    ∀ f, factsOf s' f ↔ factsOf sM f :=
  restart_of_spec hl ho hs hperm hs0.1 (runND_spec I cfg p _ True hl hh order ho hs s sM hs0 (fun _ _ => rfl) hM) hext hsound
    (runND_spec I cfg p _ True hl hh order ho hs t s' ht0 (fun _ _ => rfl) hrun)

include hl hh ho hs in
theorem runND_wf_extends (s s' : St) (hs0 : WFSt' p s) (hrun : RunND I cfg p order s s') :
    WFSt' p s' ∧ ExtSt p s s' ∧ (∀ f, factsOf s f → factsOf s' f) :=
  (runND_spec I cfg p _ True hl hh order ho hs s s' hs0 (fun _ _ => rfl) hrun).1.wf_extends hs0.1

include hl hh ho hs hperm in
/-- `a'` is the SCC state in which the execution is abandoned; only its row vectors survive -/
theorem timeoutND_sound_from (s t sM : St) (a' : SccSt) (hs0 : WFSt' p s) (ht0 : WFSt' p t)
    (hM : RunND I cfg p order s sM)
    (hext : ExtSt p s t) (hsound : ∀ f, factsOf t f → factsOf sM f)
    (hpre : RunPreND I cfg p order t a') :
    a'.rels.length = p.rels.length ∧ ExtSt p s a'.rels ∧ (∀ f, factsOf a'.rels f → factsOf sM f) := by
  obtain ⟨done, scc, rest, stMid, e, hdone, hto⟩ := hpre
  obtain ⟨s1, hto'⟩ := sccPreND_sccPreG hto
  obtain ⟨hwf, hx⟩ := timeoutG_sound hl hh ho hs hperm (passND_frame I cfg p) (fun _ _ => passND_ok I cfg p hl) hs0.1
    (runND_spec I cfg p _ True hl hh order ho hs s sM hs0 (fun _ _ => rfl) hM) hext hsound e ht0
    (sccsND_sccsG I cfg p hdone) hto'
  exact ⟨hwf.len, hx⟩

end Main

end AscentVerif.Engine.Agg
