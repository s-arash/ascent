import AscentVerif.Proofs.IndexHMap
/-!
`move_index_contents` of the three sequential index types (`Idx`, `FullIdx`, `LatIdx`) and of one shard of the concurrent
lattice index (`latShardMove`) written as `drainInto` with the per-key combiner of each (`absorbFn`, keep-the-drained-value,
`latFn`, `latShardFn`), and what `get?_drainInto` then gives per key.  `Props/C19` states the resulting merge laws (and
restates the primed `setAdd` lemmas under the property's names); `IndexConc` lifts them to shards.
-/
namespace AscentVerif.Index

variable {K V : Type} [DecidableEq K]

def absorbFn (v : List V) : Option (List V) → List V
  | some existing => if v.length > existing.length then v ++ existing else existing ++ v
  | none => v

theorem Idx.absorb_eq (to : Idx K V) (k : K) (v : List V) : Idx.absorb to k v = HMap.upsert to k (absorbFn v) := by
  unfold Idx.absorb
  congr

theorem Idx.moveContents_eq (frm to : Idx K V) :
    Idx.moveContents frm to =
      ([], if frm.length > to.length then drainInto absorbFn to frm else drainInto absorbFn frm to) := by
  unfold Idx.moveContents drainInto
  simp only [Idx.absorb_eq]
  by_cases h : frm.length > to.length <;> simp [h]

theorem vals_drainInto_absorb (frm to : Idx K V) (h : (HMap.keys frm).Nodup) (k : K) :
    ((HMap.get? (drainInto absorbFn frm to) k).getD []).Perm
      ((HMap.get? to k).getD [] ++ (HMap.get? frm k).getD []) := by
  rw [get?_drainInto _ _ _ h]
  cases hf : HMap.get? frm k with
  | none => simp
  | some w =>
    cases ht : HMap.get? to k with
    | none => simp [absorbFn]
    | some e =>
      simp only [absorbFn, Option.getD_some]
      split
      · exact List.perm_append_comm
      · exact List.Perm.refl _

theorem get?_drainInto_eq_none {W : Type} (g : W → Option V → V) (frm : HMap K W) (to : HMap K V) (k : K) :
    HMap.get? (drainInto g frm to) k = none ↔ (HMap.get? to k = none ∧ HMap.get? frm k = none) := by
  simp only [HMap.get?_eq_none_iff, mem_keys_drainInto, not_or]

theorem drainInto_absorb_nonempty (frm to : Idx K V)
    (hto : ∀ k vs, HMap.get? to k = some vs → vs ≠ [])
    (hfrm : ∀ k, HMap.get? frm k = some [] → (HMap.get? to k).isSome = true) :
    ∀ k vs, HMap.get? (drainInto absorbFn frm to) k = some vs → vs ≠ [] := by
  induction frm generalizing to with
  | nil => exact hto
  | cons hd tl ih =>
    obtain ⟨a, w⟩ := hd
    rw [drainInto_cons]
    apply ih
    · intro k vs
      rw [HMap.get?_upsert]
      by_cases hk : k = a
      · subst hk
        simp only [if_true, Option.some.injEq]
        intro hvs; subst hvs
        cases ht : HMap.get? to k with
        | some e =>
          have hne := hto k e ht
          simp only [absorbFn]
          split <;> simp [hne]
        | none =>
          simp only [absorbFn]
          intro hw
          have := hfrm k (by simp [HMap.get?_cons, hw])
          simp [ht] at this
      · simp only [hk, if_false]
        exact hto k vs
    · intro k hk
      rw [HMap.get?_upsert]
      by_cases hka : k = a
      · simp [hka]
      · simp only [hka, if_false]
        apply hfrm
        rw [HMap.get?_cons]
        have : ¬ a = k := fun h => hka h.symm
        simp [this, hk]

theorem FullIdx.moveContents_eq {V : Type} (frm to : FullIdx K V) :
    FullIdx.moveContents frm to =
      ([], if frm.length > to.length then drainInto (fun v _ => v) to frm else drainInto (fun v _ => v) frm to) := by
  unfold FullIdx.moveContents drainInto FullIdx.insert
  by_cases h : frm.length > to.length <;> simp [h]

/-- the left-biased union of two options, taken in either order: defined iff one side is, and independent of the
order unless both sides are defined -/
theorem orElse_either {V : Type} {a b r : Option V}
    (h : r = a.orElse (fun _ => b) ∨ r = b.orElse (fun _ => a)) :
    r.isSome = (a.isSome || b.isSome) ∧ (¬ (a.isSome ∧ b.isSome) → r = a.orElse (fun _ => b)) := by
  rcases h with rfl | rfl
  · cases a <;> exact ⟨rfl, fun _ => rfl⟩
  · cases b with
    | none => cases a <;> exact ⟨rfl, fun _ => rfl⟩
    | some y =>
      cases a with
      | none => exact ⟨rfl, fun _ => rfl⟩
      -- the one case where the order shows: both sides are defined
      | some x => exact ⟨rfl, fun hn => absurd ⟨rfl, rfl⟩ hn⟩

/-- where both maps have the key, the value of the map that was drained (the smaller one) wins: which of the two
that is depends on the sizes and is not observable where the key sets are disjoint (`orElse_either`) -/
theorem FullIdx.get?_moveContents {V : Type} (f t : FullIdx K V) (hf : (HMap.keys f).Nodup) (ht : (HMap.keys t).Nodup) (k : K) :
    HMap.get? (FullIdx.moveContents f t).2 k = (HMap.get? t k).orElse (fun _ => HMap.get? f k) ∨
    HMap.get? (FullIdx.moveContents f t).2 k = (HMap.get? f k).orElse (fun _ => HMap.get? t k) := by
  rw [FullIdx.moveContents_eq]
  dsimp only
  split
  · rw [get?_drainInto _ _ _ ht]
    cases HMap.get? t k <;> exact .inl rfl
  · rw [get?_drainInto _ _ _ hf]
    cases HMap.get? f k <;> exact .inr rfl

variable [DecidableEq V]

theorem setAdd_nodup' (s : List V) (v : V) (h : s.Nodup) : (setAdd s v).Nodup := by
  unfold setAdd
  split
  · exact h
  next hv => exact nodup_concat h hv

theorem mem_setAdd' (s : List V) (v x : V) : x ∈ setAdd s v ↔ x ∈ s ∨ x = v := by
  unfold setAdd
  split
  · rename_i hv
    constructor
    · exact Or.inl
    · rintro (h | h)
      · exact h
      · subst h; exact hv
  · simp

theorem nodup_foldl_setAdd (v s : List V) (h : s.Nodup) : (v.foldl setAdd s).Nodup := by
  induction v generalizing s with
  | nil => exact h
  | cons x xs ih => exact ih _ (setAdd_nodup' s x h)

theorem mem_foldl_setAdd (v s : List V) (x : V) : x ∈ v.foldl setAdd s ↔ x ∈ s ∨ x ∈ v := by
  induction v generalizing s with
  | nil => simp
  | cons y ys ih =>
    rw [List.foldl_cons, ih, mem_setAdd', List.mem_cons, or_assoc]

def latFn (v : List V) (o : Option (List V)) : List V := v.foldl setAdd (o.getD [])

theorem LatIdx.moveContents_eq (frm to : LatIdx K V) :
    LatIdx.moveContents frm to = ([], drainInto latFn frm to) := by
  unfold LatIdx.moveContents drainInto
  congr
  funext acc kv
  congr
  funext o
  cases o <;> rfl

def latShardFn (v : List V) : Option (List V) → List V
  | some occ => if v.length > occ.length then occ.foldl setAdd v else v.foldl setAdd occ
  | none => v

theorem latShardMove_eq (frm to : LatIdx Int V) :
    latShardMove frm to =
      ([], if frm.length > to.length then drainInto latShardFn to frm else drainInto latShardFn frm to) := by
  have hG : ∀ (m : LatIdx Int V) (acc : LatIdx Int V),
      m.foldl (fun acc kv => HMap.upsert acc kv.1 fun
        | some occ => if kv.2.length > occ.length then occ.foldl setAdd kv.2 else kv.2.foldl setAdd occ
        | none => kv.2) acc = drainInto latShardFn m acc := by
    intro m acc
    rfl
  unfold latShardMove
  by_cases h : frm.length > to.length
  · simp only [if_pos h]; exact congrArg (Prod.mk []) (hG _ _)
  · simp only [if_neg h]; exact congrArg (Prod.mk []) (hG _ _)

theorem mem_latShardFn (v : List V) (o : Option (List V)) (x : V) :
    x ∈ latShardFn v o ↔ (x ∈ o.getD [] ∨ x ∈ v) := by
  cases o with
  | none => simp [latShardFn]
  | some occ =>
    simp only [latShardFn, Option.getD_some]
    split
    · rw [mem_foldl_setAdd]; exact or_comm
    · rw [mem_foldl_setAdd]

theorem mem_drainInto_latShardFn (frm to : LatIdx K V) (h : (HMap.keys frm).Nodup) (k : K) (x : V) :
    x ∈ (HMap.get? (drainInto latShardFn frm to) k).getD [] ↔
      (x ∈ (HMap.get? to k).getD [] ∨ x ∈ (HMap.get? frm k).getD []) := by
  rw [get?_drainInto _ _ _ h]
  cases hf : HMap.get? frm k with
  | none => simp
  | some w => simp [mem_latShardFn]

theorem nodup_latShardFn (v : List V) (o : Option (List V)) (hv : v.Nodup) (ho : ∀ s : List V, o = some s → s.Nodup) :
    (latShardFn v o).Nodup := by
  cases o with
  | none => exact hv
  | some occ =>
    simp only [latShardFn]
    split
    · exact nodup_foldl_setAdd _ _ hv
    · exact nodup_foldl_setAdd _ _ (ho occ rfl)

theorem sets_drainInto_latShardFn (frm to : LatIdx K V) (h : (HMap.keys frm).Nodup)
    (hf : ∀ k s, HMap.get? frm k = some s → s.Nodup) (ht : ∀ k s, HMap.get? to k = some s → s.Nodup) :
    ∀ k s, HMap.get? (drainInto latShardFn frm to) k = some s → s.Nodup := by
  intro k s
  rw [get?_drainInto _ _ _ h]
  cases hfk : HMap.get? frm k with
  | none => exact ht k s
  | some w =>
    simp only [Option.some.injEq]
    intro hs; subst hs
    exact nodup_latShardFn w _ (hf k w hfk) (fun s hs => ht k s hs)

theorem mem_latShardMove (f t : LatIdx Int V) (hf : (HMap.keys f).Nodup) (ht : (HMap.keys t).Nodup) (k : Int) (x : V) :
    x ∈ (HMap.get? (latShardMove f t).2 k).getD [] ↔
      (x ∈ (HMap.get? t k).getD [] ∨ x ∈ (HMap.get? f k).getD []) := by
  rw [latShardMove_eq]
  dsimp only
  split
  · rw [mem_drainInto_latShardFn t f ht]; exact or_comm
  · rw [mem_drainInto_latShardFn f t hf]

end AscentVerif.Index
