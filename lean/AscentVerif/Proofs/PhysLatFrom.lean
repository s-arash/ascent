import AscentVerif.Proofs.PhysLatTimeout
/-!
# The physical engine with lattices from ANY legal program value

`WFXLat p s`: typed rows, one row per lattice key; the stored indices do not matter (`update_indices` rebuilds them).  From such a
value `run_timeout`, under any deadline and whatever it returns, is as `RunOut` of `Proofs/PhysLatTimeout.lean` says, over the
abstract value `absStX s` with the same rows (`runTimeout_simL`); `run()` is the case of the deadline that never strikes
(`run_simL`).  What `Proofs/NDLattice.lean` proves of the end of every execution (`runNDL_spec'`) holds from `absStX s`, with
the row vectors of `s` as the "input" (as in `Proofs/LatFrom.lean`); `legal_of_exec` reads it off a physical value simulating
that end.
The fresh value `initSt p inp` of `Props/C03Phys.lean` is one legal value; `Props/C13PhysLat.lean` uses the general case.
-/
namespace AscentVerif.PhysLat
open AscentVerif AscentVerif.Engine AscentVerif.Index AscentVerif.Phys

variable {E B G P A : Type}

def WFXLat (p : Program E B G P A) (s : XSt) : Prop :=
  s.length = p.rels.length ∧ (∀ r, ∀ t ∈ (xrel s r).rows, t.length = arityOf p r) ∧
  ∀ r, r < p.rels.length → (declOf p r).lat = true → ((xrel s r).rows.map keyOf).Nodup

theorem xrel_initSt_rows (p : Program E B G P A) (inp : RelId → List Tuple) (r : RelId) :
    (xrel (initSt p inp) r).rows = if r < p.rels.length then inp r else [] := by
  by_cases hr : r < p.rels.length
  · simp only [initSt, xrel_rangeMap _ _ _ hr, hr, if_true]
  · have hr' : p.rels.length ≤ r := Nat.le_of_not_lt hr
    simp only [initSt, xrel_rangeMap_ge _ _ _ hr', hr, if_false]

theorem WFXLat_initSt {p : Program E B G P A} {inp : RelId → List Tuple} (hi : InputOK p inp) : WFXLat p (initSt p inp) := by
  refine ⟨by simp [initSt], ?_, ?_⟩
  · intro r t ht
    rw [xrel_initSt_rows] at ht
    split at ht
    · rename_i hr; exact hi.1 r hr t ht
    · cases ht
  · intro r hr hl
    rw [xrel_initSt_rows, if_pos hr]
    exact hi.2 r hr hl

section
variable {p : Program E B G P A} {s : XSt} (hs : WFXLat p s)
include hs

theorem WFXLat.len : s.length = p.rels.length := hs.1

theorem WFXLat.typed : ∀ r, ∀ t ∈ (xrel s r).rows, t.length = arityOf p r := hs.2.1

theorem WFXLat.keys : ∀ r, r < p.rels.length → (declOf p r).lat = true → ((xrel s r).rows.map keyOf).Nodup := hs.2.2

theorem WFXLat.wfAbs : WFSt' p (absStX s) := by
  refine ⟨by simpa [absStX] using hs.len, ?_⟩
  intro rs hrs i hi
  simp only [absStX, List.mem_map] at hrs
  obtain ⟨pr, _, rfl⟩ := hrs
  cases hi

theorem WFXLat.keysAbs (r : RelId) (hr : r < p.rels.length) (hl : (declOf p r).lat = true) :
    ((relSt (absStX s) r).rows.map keyOf).Nodup := by
  rw [relSt_absStX]
  exact hs.keys r hr hl

end

theorem inDB_absStX (p : Program E B G P A) (s : XSt) :
    inDB p (rowsFn (absStX s)) = fun g => g.rel < p.rels.length ∧ factsOf s g := by
  funext f
  simp only [inDB, rowsFn, relSt_absStX, factsOf]

theorem factsOf_simStL {p : Program E B G P A} {ix : IxSets} {st : St} {xst : XSt} (h : SimStL p ix st xst) :
    Engine.factsOf st = factsOf xst := by
  funext f
  simp only [Engine.factsOf, factsOf, h.rows]

section
variable {I : Interp E B G P A} (L : LatOrder I) {V : Hir.VarsOf E B} {p : Program E B G P A} {ix : IxSets} {order : SccOrder}
  {s : XSt} {fuel : Nat} {out : ProgSt} (hs : WFXLat p s)
include L hs

theorem start_fromL : LPInv I L p (rowsFn (absStX s)) (Engine.updateIndices (absStX s)) ∧
    DBLe I L p (inDB p (rowsFn (absStX s))) (Engine.factsOf (Engine.updateIndices (absStX s))) ∧
    SimStL p ix (Engine.updateIndices (absStX s)) (updateIndices p ix s) := by
  obtain ⟨h1, h2⟩ := LPInv_from (I := I) (L := L) (absStX s) hs.wfAbs hs.keysAbs
  exact ⟨h1, h2, updateIndices_simL p ix s hs.typed (fun r hl => hs.keys r (lat_lt p hl) hl)⟩

variable (hP : ProgFitL I V p ix)
include hP

theorem runTimeout_simL (dl : Deadline) :
    RunOut I L p ix (rowsFn (absStX s)) order (Engine.updateIndices (absStX s)) (runTimeout I V p ix order dl fuel s) :=
  have ⟨hinv0, _, hsim0⟩ := start_fromL (ix := ix) L hs
  runSccsT_simL hP dl fuel order _ _ hinv0 hsim0

theorem run_simL (hrun : run I V p ix order fuel s = some out) :
    ∃ st', RunNDL I p order (absStX s) st' ∧ SimStL p ix st' out.st := by
  obtain ⟨c, hc⟩ := run_never hrun
  have := runTimeout_simL (order := order) (fuel := fuel) L hs hP never
  rwa [hc] at this

/-- of a physical value simulating the end of an execution from `s`, whichever function produced it.  `inp` need agree with the
rows of `s` on the declared relations only (the fresh value stores nothing for an undeclared one) -/
theorem legal_of_exec (ho : validOrder p order = true) {inp : RelId → List Tuple}
    (hrows : ∀ r, r < p.rels.length → (xrel s r).rows = inp r) {st' : St} {xst : XSt}
    (hnd : RunNDL I p order (absStX s) st') (hsim : SimStL p ix st' xst) :
    WFXLat p xst ∧ LClosed I L p (inDB p inp) (factsOf xst) ∧
    (MonotoneProg I L p → ∀ M : DB, KeyUnique p M → LClosed I L p (inDB p inp) M → DBLe I L p (factsOf xst) M) ∧
    ∀ r, r < p.rels.length → (declOf p r).lat = false → SetRows inp r (xrel xst r).rows := by
  obtain ⟨hinv, hcl, hin⟩ := runNDL_spec' (L := L) (inp := rowsFn (absStX s)) hP.prog.1 hP.prog.2.1 order ho (absStX s) st'
    hs.wfAbs.1 (fun _ _ => rfl) hs.keysAbs hnd
  have he : inDB p (rowsFn (absStX s)) = inDB p inp := by
    funext f
    simp only [inDB, rowsFn, relSt_absStX]
    exact propext (and_congr_right fun h => by rw [hrows _ h])
  rw [factsOf_simStL hsim] at hcl hin
  rw [he] at hin
  refine ⟨⟨?_, ?_, ?_⟩, ⟨hin, hcl⟩, ?_, ?_⟩
  · rw [← hsim.len]; exact hinv.len
  · intro r t ht
    rw [← hsim.rows] at ht; exact hsim.typed r t ht
  · intro r _ hl
    rw [← hsim.rows]; exact hinv.keys r hl
  · intro hm M hMk hM
    have := hinv.below M ⟨hm, hMk, by rw [he]; exact hM⟩
    rw [factsOf_simStL hsim] at this
    exact this
  · intro r hr hl
    have := hinv.relset r hr hl
    rw [SetRows, rowsFn, relSt_absStX, hrows r hr, hsim.rows] at this
    exact this

end

end AscentVerif.PhysLat
