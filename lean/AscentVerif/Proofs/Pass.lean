import AscentVerif.Proofs.Head
/-!
# One pass over the rules of an SCC (`evalRules`)

`evalRules_track` is the induction principle of the four nested folds of a pass of the serial engine (`foldl_track` for one
fold).  What a pass establishes is proved from it in `Proofs/AggLatSem.lean` (`ALS.evalRules_spec'`: lattices and aggregation
items; the relational engine is the case without); `evalRules_inv` is the case of a bare invariant.  Before it: the row
numbers a clause reads in a program without lattice relations, where the head update is `headRel` and `cfg` is not read.
-/
namespace AscentVerif.Engine
open AscentVerif

variable {E B G P A : Type}

theorem foldl_track {σ α : Type} (f : σ → α → σ) (Inv : σ → Prop) (R : σ → σ → Prop) (Done : α → σ → Prop)
    (r_refl : ∀ s, R s s) (r_trans : ∀ a b c, R a b → R b c → R a c)
    (done_mono : ∀ a s s', Done a s → R s s' → Done a s') :
    ∀ (l : List α), (∀ s a, a ∈ l → Inv s → Inv (f s a) ∧ R s (f s a) ∧ Done a (f s a)) →
      ∀ s, Inv s → Inv (l.foldl f s) ∧ R s (l.foldl f s) ∧ ∀ a ∈ l, Done a (l.foldl f s) := by
  intro l
  induction l with
  | nil => intro _ s hs; exact ⟨hs, r_refl s, fun a ha => by simp at ha⟩
  | cons a l ih =>
    intro step s hs
    obtain ⟨h1, h2, h3⟩ := step s a (by simp) hs
    obtain ⟨g1, g2, g3⟩ := ih (fun s b hb => step s b (List.mem_cons_of_mem _ hb)) (f s a) h1
    refine ⟨g1, r_trans _ _ _ h2 g2, ?_⟩
    intro b hb
    rcases List.mem_cons.mp hb with rfl | hb
    · exact done_mono _ _ _ h3 g2
    · exact g3 b hb

section View
variable (cfg : Config) (p : Program E B G P A) (hl : ∀ d ∈ p.rels, d.lat = false)

include hl in
theorem clauseRows_none {s : SccSt} {r : RelId} (v : Option Ver) (h : findDyn s.dyn r = none) :
    clauseRows cfg p s r v = (relSt s.rels r).idx := by
  simp only [clauseRows, h, readBag_id cfg p hl]

include hl in
theorem clauseRows_some {s : SccSt} {r : RelId} {d : Dyn} (v : Option Ver) (h : findDyn s.dyn r = some d) :
    clauseRows cfg p s r v =
      match v with
      | some .total => d.total
      | some .delta => d.delta
      | some .totalDelta => d.total ++ d.delta
      | none => d.total := by
  simp only [clauseRows, h, readBag_id cfg p hl]
  cases v with
  | none => rfl
  | some v => cases v <;> rfl

include hl in
theorem mem_clauseRows_some {s : SccSt} {r : RelId} {d : Dyn} {v : Option Ver} (h : findDyn s.dyn r = some d) {i : Nat}
    (hi : i ∈ clauseRows cfg p s r v) : i ∈ d.total ∨ i ∈ d.delta := by
  rw [clauseRows_some cfg p hl v h] at hi
  cases v with
  | none => exact .inl hi
  | some v =>
    cases v with
    | total => exact .inl hi
    | delta => exact .inr hi
    | totalDelta => exact List.mem_append.mp hi

end View

theorem headUpdate_eq_headRel (I : Interp E B G P A) (cfg : Config) (p : Program E B G P A)
    (hl : ∀ d ∈ p.rels, d.lat = false) (s : SccSt) (h : HeadClause E) (ρ : Env) :
    headUpdate I cfg p s h ρ = headRel s h.rel (h.args.map fun e => I.expr e ρ) := by
  rw [headUpdate, declOf_lat p hl]
  rfl

/-- what a body enumerates does not depend on the mode: `cfg` only steers the lattice head update -/
theorem evalBody_cfg (I : Interp E B G P A) (cfg : Config) (p : Program E B G P A) (s : SccSt) :
    ∀ (items : List (Item E B G P A)) (vs : List (Option Ver)) (ρ : Env),
      evalBody I cfg p s items vs ρ = evalBody I {} p s items vs ρ := by
  have hc : ∀ r v, clauseRows cfg p s r v = clauseRows {} p s r v := fun _ _ => rfl
  have ha : ∀ a, aggTuples cfg p s a = aggTuples {} p s a := fun _ => rfl
  intro items
  induction items with
  | nil => intro vs ρ; rfl
  | cons it rest ih =>
    intro vs ρ
    cases it <;> simp only [evalBody, ih, hc, ha]

theorem evalRules_cfg (I : Interp E B G P A) (cfg : Config) (p : Program E B G P A)
    (hl : ∀ d ∈ p.rels, d.lat = false) (dyn : List RelId) (rules : List (Rule E B G P A)) (s : SccSt) :
    evalRules I cfg p dyn rules s = evalRules I {} p dyn rules s := by
  have hh : ∀ s h ρ, headUpdate I cfg p s h ρ = headUpdate I {} p s h ρ := fun s h ρ => by
    rw [headUpdate_eq_headRel I cfg p hl, headUpdate_eq_headRel I {} p hl]
  simp only [evalRules, evalVariant, evalBody_cfg I cfg p, hh]

/-- **the induction principle of a pass of the serial engine** (folds over rules, variants, environments, heads): an
invariant `Inv` kept by every head update of an environment that a body evaluated in an `Inv` state yields (`Q`), a
preorder `R` the updates move along, and what an update achieves for its head (`Done`, stable along `R`).  Afterwards,
every variant was evaluated in some `Inv` state `sv`, and all heads of its environments there are done. -/
theorem evalRules_track (I : Interp E B G P A) (cfg : Config) (p : Program E B G P A) (dynR : List RelId)
    (rules : List (Rule E B G P A)) {Inv : SccSt → Prop} {R : SccSt → SccSt → Prop}
    {Q : Rule E B G P A → Env → Prop} {Done : Rule E B G P A → Env → HeadClause E → SccSt → Prop}
    (r_refl : ∀ s, R s s) (r_trans : ∀ a b c, R a b → R b c → R a c)
    (done_mono : ∀ rule ρ h s s', Done rule ρ h s → R s s' → Done rule ρ h s')
    (hbody : ∀ s rule vs ρ, Inv s → rule ∈ rules → ρ ∈ evalBody I cfg p s rule.body vs [] → Q rule ρ)
    (hhead : ∀ s rule ρ h, Inv s → rule ∈ rules → Q rule ρ → h ∈ rule.heads →
      Inv (headUpdate I cfg p s h ρ) ∧ R s (headUpdate I cfg p s h ρ) ∧ Done rule ρ h (headUpdate I cfg p s h ρ))
    (s : SccSt) (hs : Inv s) :
    Inv (evalRules I cfg p dynR rules s) ∧ R s (evalRules I cfg p dynR rules s) ∧
      ∀ rule ∈ rules, ∀ vs ∈ variants dynR rule, ∃ sv, Inv sv ∧ R sv (evalRules I cfg p dynR rules s) ∧
        ∀ ρ ∈ evalBody I cfg p sv rule.body vs [], ∀ h ∈ rule.heads, Done rule ρ h (evalRules I cfg p dynR rules s) := by
  unfold evalRules
  refine foldl_track _ Inv R (fun rule s => ∀ vs ∈ variants dynR rule, ∃ sv, Inv sv ∧ R sv s ∧
      ∀ ρ ∈ evalBody I cfg p sv rule.body vs [], ∀ h ∈ rule.heads, Done rule ρ h s) r_refl r_trans ?_ rules ?_ s hs
  · intro rule s s' hd hle vs hvs
    obtain ⟨sv, h1, h2, h3⟩ := hd vs hvs
    exact ⟨sv, h1, r_trans _ _ _ h2 hle, fun ρ hρ h hh => done_mono _ _ _ _ _ (h3 ρ hρ h hh) hle⟩
  intro s rule hrule hs
  refine foldl_track _ Inv R (fun vs s => ∃ sv, Inv sv ∧ R sv s ∧
      ∀ ρ ∈ evalBody I cfg p sv rule.body vs [], ∀ h ∈ rule.heads, Done rule ρ h s) r_refl r_trans ?_ _ ?_ s hs
  · rintro vs s s' ⟨sv, h1, h2, h3⟩ hle
    exact ⟨sv, h1, r_trans _ _ _ h2 hle, fun ρ hρ h hh => done_mono _ _ _ _ _ (h3 ρ hρ h hh) hle⟩
  intro sv vs _ hsv
  unfold evalVariant
  have g := foldl_track (fun s ρ => rule.heads.foldl (fun s h => headUpdate I cfg p s h ρ) s)
    (fun s => Inv s) R (fun ρ s => ∀ h ∈ rule.heads, Done rule ρ h s) r_refl r_trans
    (fun ρ s s' hd hle h hh => done_mono _ _ _ _ _ (hd h hh) hle) (evalBody I cfg p sv rule.body vs []) ?_ sv hsv
  · exact ⟨g.1, g.2.1, sv, hsv, g.2.1, g.2.2⟩
  · intro s ρ hρ hs
    exact foldl_track (fun s h => headUpdate I cfg p s h ρ) Inv R (fun h s => Done rule ρ h s) r_refl r_trans
      (fun h s s' hd hle => done_mono _ _ _ _ _ hd hle) rule.heads
      (fun s h hh hs => hhead s rule ρ h hs hrule (hbody sv rule vs ρ hsv hrule hρ) hh) s hs

theorem evalRules_inv (I : Interp E B G P A) (cfg : Config) (p : Program E B G P A) (dynR : List RelId)
    (rules : List (Rule E B G P A)) {Inv : SccSt → Prop} {Q : Rule E B G P A → Env → Prop}
    (hbody : ∀ s rule vs ρ, Inv s → rule ∈ rules → ρ ∈ evalBody I cfg p s rule.body vs [] → Q rule ρ)
    (hhead : ∀ s rule ρ h, Inv s → rule ∈ rules → Q rule ρ → h ∈ rule.heads → Inv (headUpdate I cfg p s h ρ))
    (s : SccSt) (hs : Inv s) : Inv (evalRules I cfg p dynR rules s) :=
  (evalRules_track I cfg p dynR rules (R := fun _ _ => True) (Done := fun _ _ _ _ => True)
    (fun _ => trivial) (fun _ _ _ _ _ => trivial) (fun _ _ _ _ _ _ _ => trivial) hbody
    (fun s rule ρ h hs hr hq hh => ⟨hhead s rule ρ h hs hr hq hh, trivial, trivial⟩) s hs).1

end AscentVerif.Engine
