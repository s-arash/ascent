import AscentVerif.Proofs.AggRestartLink
/-!
# Stratified restart: the engine-level theorems behind `Props/C13Agg.lean`

`sM` is the result of a reference run from `s` (invariant for the inputs `s`, closed under the rules), `t` extends `s` and
holds only facts of `sM`:
* `restart_of_spec`: a completed run from `t` ends with exactly the facts of `sM`;
* `timeoutG_sound`: an interrupted run from `t` leaves again a value between `s` and `sM`.

Both reduce to `strata_agree` (`AggRestartSpec.lean`) through `agree_prefix` and hold of every engine of the shape
`SccsG Pass` (`Proofs/AggScc.lean`).
-/
namespace AscentVerif.Engine.Agg
open AscentVerif AscentVerif.Engine

variable {E B G P A : Type}

theorem getElem?_of_mem_rules {p : Program E B G P A} {rule : Rule E B G P A} (h : rule ∈ p.rules) :
    ∃ i : Nat, p.rules[i]? = some rule :=
  List.getElem?_of_mem h

theorem inPrefix_append (pre X : SccOrder) {i : Nat} : InPrefix (pre ++ X) pre.length i ↔ ∃ scc ∈ pre, i ∈ scc := by
  have hget : ∀ {a}, (ha : a < pre.length) → (pre ++ X).getD a [] = pre[a] := fun ha => by
    rw [List.getD_eq_getElem?_getD, List.getElem?_append_left ha, List.getElem?_eq_getElem ha, Option.getD_some]
  constructor
  · rintro ⟨a, ha, hia⟩
    exact ⟨pre[a], List.getElem_mem ha, hget ha ▸ hia⟩
  · rintro ⟨scc, hscc, hi⟩
    obtain ⟨a, ha, rfl⟩ := List.mem_iff_getElem.mp hscc
    exact ⟨a, ha, hget ha ▸ hi⟩

theorem exists_hybrid (C : RelId → Prop) (v v' : AggClause E A → List Tuple) :
    ∃ w : AggClause E A → List Tuple, (∀ a, C a.rel → v a = w a) ∧ (∀ a, ¬ C a.rel → v' a = w a) := by
  classical
  exact ⟨fun a => if C a.rel then v a else v' a, fun a h => (if_pos h).symm, fun a h => (if_neg h).symm⟩

section Main
variable {I : Interp E B G P A} {cfg : Config} {p : Program E B G P A} {o : SccOrder}
  {Pass : List RelId → List (Rule E B G P A) → SccSt → SccSt → Prop}
  (hl : ∀ d ∈ p.rels, d.lat = false)
  (hh : ∀ r ∈ p.rules, ∀ h ∈ r.heads, h.rel < p.rels.length)
  (ho : validOrder p o = true) (hs : ∀ s ∈ o, aggOverDynamic p s = false)
  (hperm : PermInv I) (hf : FramePass Pass)
  (hpass : ∀ inp aggv scc, PassOK I cfg p inp aggv True Pass scc)
  {s t sM : St} (hlen : s.length = p.rels.length)
  (hM : PInv I p (fun r => (relSt s r).rows) (aggOf cfg p sM) True p.rels.length sM ∧
    ClosedRules I (aggOf cfg p sM) p.rules (factsOf sM))
  (hext : ExtSt p s t) (hsound : ∀ f, factsOf t f → factsOf sM f)

include hl ho hs hperm hlen hM hext hsound in
/-- `strata_agree` at the reference result `sM` and a value `st'` that has the invariant for the inputs `t` and a view `aggv'`
which the items of the first `m` classes read from `st'` itself -/
theorem agree_prefix {st' : St} {aggv' : AggClause E A → List Tuple} {m : Nat}
    (hp' : PInv I p (fun r => (relSt t r).rows) aggv' True p.rels.length st')
    (hcl' : ∀ i rule, p.rules[i]? = some rule → InPrefix o m i →
      ∀ ρ, SatA I (factsOf st') aggv' rule.body [] ρ → ∀ h ∈ rule.heads, factsOf st' (headFact I h ρ))
    (hview : ∀ i rule a, p.rules[i]? = some rule → InPrefix o m i → Item.agg a ∈ rule.body →
      aggOf cfg p st' a = aggv' a) :
    ∀ r, DefinedBy p o m r → ∀ x, factsOf sM ⟨r, x⟩ ↔ factsOf st' ⟨r, x⟩ :=
  strata_agree I p o ho hs (aggOf cfg p sM) aggv' (inDB p fun r => (relSt s r).rows) (inDB p fun r => (relSt t r).rows)
    (factsOf sM) (factsOf st') m hM.1.sound hp'.sound
    (fun f hf => hp'.inp_sub f ⟨hf.1, hext.facts hlen f hf.2⟩)
    (fun f hf => hsound f hf.2)
    (fun _ rule hget _ => hM.2 rule (List.mem_of_getElem? hget)) hcl'
    (fun i rule a hget hpre ha hsame =>
      (aggEq_states hl hperm hM.1 hext hp' a hsame).trans (.of_eq (hview i rule a hget hpre ha)))
    m (Nat.le_refl m)

include hl ho hs hperm hlen hM hext hsound in
/-- `h2`: `s'` is the result of a run from `t` -/
theorem restart_of_spec {s' : St}
    (h2 : PInv I p (fun r => (relSt t r).rows) (aggOf cfg p s') True p.rels.length s' ∧
      ClosedRules I (aggOf cfg p s') p.rules (factsOf s')) :
    ∀ f, factsOf s' f ↔ factsOf sM f := fun f =>
  (agree_prefix hl ho hs hperm hlen hM hext hsound h2.1 (fun _ rule hget _ => h2.2 rule (List.mem_of_getElem? hget))
    (fun _ _ _ _ _ _ => rfl) f.rel (fun _ _ hget _ => inPrefix_all p o ho hget) f.args).symm

include hl hh ho hs hperm hf hpass hlen hM hext hsound in
/-- The SCCs of `done` were completed from `t`, then `scc` was abandoned in the SCC state `a'` (only its row vectors survive).
The interrupted execution is evaluated against a hybrid aggregation view: what the items over a relation defined by the
completed SCCs (those of the SCCs that were entered are among them) read from the value at the entry of `scc`, and the
reference view for all other items. -/
theorem timeoutG_sound {done rest : SccOrder} {scc : List Nat} {stMid : St} {s1 a' : SccSt}
    (e : o = done ++ scc :: rest) (ht0 : WFSt' p t)
    (hdone : SccsG Pass p done (updateIndices t) stMid) (hto : SccPreG Pass p scc stMid s1 a') :
    WF p.rels.length (dynRels p scc) a' ∧ ExtSt p s a'.rels ∧ (∀ f, factsOf a'.rels f → factsOf sM f) := by
  subst e
  obtain ⟨aggv', hin, hout⟩ := exists_hybrid (DefinedBy p (done ++ scc :: rest) done.length) (aggOf cfg p stMid)
    (aggOf cfg p sM)
  -- the relation of an item of `done` or `scc` is defined by `done`
  have hpos : ∀ {i j rule a}, p.rules[i]? = some rule → i ∈ (done ++ scc :: rest).getD j [] → j ≤ done.length →
      Item.agg a ∈ rule.body → aggOf cfg p stMid a = aggv' a :=
    fun hget hij hj ha => hin _ ((agg_definedBy p _ ho hget hs hij ha).mono hj)
  have hread : ∀ scc' ∈ done ++ [scc], ∀ rule ∈ sccRules p scc', ∀ a, Item.agg a ∈ rule.body →
      aggOf cfg p stMid a = aggv' a := by
    intro scc' hscc' rule hrule a ha
    obtain ⟨i, hi, hget⟩ := (mem_sccRules p scc' rule).mp hrule
    obtain ⟨j, hj, hij⟩ := (inPrefix_append (done ++ [scc]) rest).mpr ⟨scc', hscc', hi⟩
    rw [List.append_assoc, List.singleton_append] at hij
    rw [List.length_append, List.length_singleton] at hj
    exact hpos hget hij (Nat.le_of_lt_succ hj) ha
  obtain ⟨hpMid, hclMid⟩ := sccsG_prefix_spec hl hh ho hs hf (hpass _ aggv') (scc :: rest) hdone [] rfl
    (PInv_start I True aggv' ht0 (fun _ _ => rfl)) (fun _ hscc' => nomatch hscc')
    (fun scc' hscc' => hread scc' (List.mem_append_left _ hscc'))
  obtain ⟨hwf', hgood'⟩ := sccPreG_good hl hh hpMid (fun rule hrule a ha =>
    ⟨agg_rel_not_later p done rest scc ho hs rule hrule a ha scc List.mem_cons_self,
      hread scc (List.mem_append_right _ List.mem_cons_self) rule hrule a ha⟩) (hpass _ aggv' scc) hto
  have hagree := agree_prefix hl ho hs hperm hlen hM hext hsound hpMid
    (fun i rule hget hpre => by
      obtain ⟨scc', hscc', hi⟩ := (inPrefix_append done _).mp hpre
      exact hclMid scc' hscc' rule (mem_sccRules_of p hi hget))
    (fun i rule a hget hpre ha => by
      obtain ⟨j, hj, hij⟩ := hpre
      exact hpos hget hij (Nat.le_of_lt hj) ha)
  -- hence the hybrid view is interchangeable with the reference view on every item
  have haggEq : ∀ a, AggEq I (aggOf cfg p sM) aggv' a := by
    intro a
    by_cases hd : DefinedBy p (done ++ scc :: rest) done.length a.rel
    · exact (aggEq_states hl hperm hM.1 hext hpMid a (hagree a.rel hd)).trans (.of_eq (hin a hd))
    · exact .of_eq (hout a hd)
  have hclosed : ClosedA I p.rules aggv' (inDB p fun r => (relSt t r).rows) (factsOf sM) := by
    refine ⟨fun f hf => hsound f hf.2, ?_⟩
    rintro f ⟨rule, hrule, ρ, hsat, h, hhd, rfl⟩
    exact hM.2 rule hrule ρ (SatA.congr_aggEq hsat (fun a _ => (haggEq a).symm)) h hhd
  refine ⟨hwf', hext.append (fun r hr => (hgood' r hr).2), ?_⟩
  intro f hf
  exact derA_least I p.rules aggv' _ _ hclosed f
    ((hgood' f.rel (facts_lt_of_len hwf'.len hf)).1 f.args hf)

end Main

end AscentVerif.Engine.Agg
