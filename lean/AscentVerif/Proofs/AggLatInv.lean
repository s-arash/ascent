import AscentVerif.Proofs.LatScc
import AscentVerif.Proofs.Strata
/-!
# Arbitrary programs (any mix of lattice relations, aggregation, negation, generators): the frame property and the
# structural invariant

What does not depend on which environments a rule body produces holds of every engine `SccsG Pass` (`Proofs/AggScc.lean`)
whose pass is a sequence of head updates, on every program.  The frame property, from ANY state: a head update touches only
a dynamic relation, so a pass, an SCC and a sequence of SCCs leave the other relations as they were, rows and stored index
(`Keeps`, `FramePass`).  The structural invariant `KPInv` (namespace `Engine.AggLat`: arbitrary programs, `Props/C04Lat.lean`):
one row per lattice key and a stored index enumerating exactly the row numbers.  It needs no theory of its own: it is
`LPInvT` for the value's own rows as inputs, NO database to stay below and nothing tracked of the head facts (`KPInv.lp`,
`alongNone`), so `sccG_spec'` applies to every program, in any order of the SCCs (`sccsG_K`).
-/
namespace AscentVerif.Engine.Agg
open AscentVerif AscentVerif.Engine

variable {E B G P A : Type}

theorem keeps_shift (s : SccSt) : Keeps s (shift s) := fun r h => ⟨by rw [findDyn_shift, h]; rfl, rfl⟩

def FramePass (Pass : List RelId → List (Rule E B G P A) → SccSt → SccSt → Prop) : Prop :=
  ∀ dyn rules s s1, Pass dyn rules s s1 → Keeps s s1

theorem detPass_frame' (I : Interp E B G P A) (p : Program E B G P A) : FramePass (detPass I {} p) := by
  rintro dyn rules s _ rfl
  exact evalRules_inv I {} p dyn rules (Inv := Keeps s) (Q := fun _ _ => True) (fun _ _ _ _ _ _ _ => trivial)
    (fun s' _ ρ h hs _ _ _ => hs.trans (PExt_headUpdate I p s' h ρ).nondyn) _ (Keeps.refl s)

theorem detPass_frame (I : Interp E B G P A) (cfg : Config) (p : Program E B G P A) (hl : ∀ d ∈ p.rels, d.lat = false) :
    FramePass (detPass I cfg p) := by
  rw [detPass_cfg I cfg p hl]
  exact detPass_frame' I p

section FrameRun
variable {Pass : List RelId → List (Rule E B G P A) → SccSt → SccSt → Prop} (hf : FramePass Pass)
  {p : Program E B G P A}

include hf in
theorem sccG_nondyn {scc : List Nat} {st st' : St} (h : SccG Pass p scc st st') (r : RelId)
    (hr : (dynRels p scc).contains r = false) : relSt st' r = relSt st r := by
  obtain ⟨s1, s', hpre, _, rfl⟩ := h
  have step : ∀ s s1, Keeps (enterScc st (dynRels p scc)) s → Pass (dynRels p scc) (sccRules p scc) s s1 →
      Keeps (enterScc st (dynRels p scc)) (shift s1) :=
    fun s s1 hs hp => (hs.trans (hf _ _ s s1 hp)).trans (keeps_shift s1)
  obtain ⟨s₀, hs₀, hps, hcase⟩ := hpre.last (Keeps.refl _) step
  have hs' : Keeps (enterScc st (dynRels p scc)) s' := by
    rcases hcase with ⟨_, rfl⟩ | ⟨_, rfl⟩
    · exact step s₀ s1 hs₀ hps
    · exact (step s₀ s1 hs₀ hps).trans (keeps_shift _)
  obtain ⟨hd, hrel⟩ := hs' r (by rw [findDyn_enter, hr]; rfl)
  rw [leaveScc_nondyn hd, hrel, enterScc_rels]

include hf in
theorem sccsG_stable (r : RelId) {rest : SccOrder} {st st' : St} (hrun : SccsG Pass p rest st st') :
    (∀ scc ∈ rest, (dynRels p scc).contains r = false) → relSt st' r = relSt st r := by
  induction hrun with
  | nil => intro _; rfl
  | cons hscc _ ih =>
    intro hr
    rw [ih (fun s hs => hr s (List.mem_cons_of_mem _ hs))]
    exact sccG_nondyn hf hscc r (hr _ List.mem_cons_self)

end FrameRun

/-- any order will do where nothing is to be compared (no relation is a lattice, or no database to stay below) -/
def trivLat (I : Interp E B G P A) : LatOrder I :=
  ⟨fun _ _ _ => True, fun _ _ => trivial, fun _ _ _ _ _ _ => trivial, fun _ _ _ => trivial, fun _ _ _ => trivial,
    fun _ _ _ _ _ _ => trivial, fun _ _ _ _ => trivial⟩

end AscentVerif.Engine.Agg

namespace AscentVerif.Engine.AggLat
open AscentVerif AscentVerif.Engine AscentVerif.Engine.Agg

variable {E B G P A : Type}

section Inv
variable (p : Program E B G P A)

structure KPInv (t : St) : Prop where
  len : t.length = p.rels.length
  keys : ∀ r, (declOf p r).lat = true → ((relSt t r).rows.map keyOf).Nodup
  idxAll : ∀ r i, i < (relSt t r).rows.length ↔ i ∈ (relSt t r).idx

end Inv

section Run
variable {I : Interp E B G P A} {L : LatOrder I} {p : Program E B G P A} {inp : RelId → List Tuple}
  {aggv : AggClause E A → List Tuple} {Pass : List RelId → List (Rule E B G P A) → SccSt → SccSt → Prop}

theorem KPInv.of_lp {K : Prop} {Tg : DB → Prop} {t : St} (h : LPInvT I L p inp K Tg t) : KPInv p t :=
  ⟨h.len, h.keys, h.idxAll⟩

theorem KPInv.lp (I : Interp E B G P A) (L : LatOrder I) {t : St} (h : KPInv p t) :
    LPInvT I L p (fun r => (relSt t r).rows) False (fun _ => False) t :=
  ⟨h.len, h.keys, fun r _ _ => SetRows.input _ r, h.idxAll, fun _ hM => hM.elim, False.elim⟩

theorem alongNone : Along (fun _ _ => True) (fun _ _ => True) := ⟨fun _ => trivial, fun _ _ => trivial, fun _ _ => trivial⟩

/-- with no database to stay below and nothing tracked of the head facts, `LPassOK` says that a pass keeps the state
invariant, which every head update does, whatever environment it comes from -/
theorem detPass_ok0 (st : St) {dynR : List RelId} {rules : List (Rule E B G P A)}
    (hdyn : ∀ rule ∈ rules, ∀ h ∈ rule.heads, dynR.contains h.rel = true) :
    LPassOK I L p inp False (fun _ => False) aggv (fun _ _ => True) (fun _ _ => True) (detPass I {} p) st dynR rules := by
  rintro s _ hinv _ _ rfl
  have h := evalRules_track I {} p dynR rules (Inv := LInvT I L p inp dynR (fun _ => False)) (R := LExt I L p)
    (Q := fun _ _ => True) (Done := fun _ _ _ _ => True) (LExt.refl I L p) (fun _ _ _ => LExt.trans)
    (fun _ _ _ _ _ _ _ => trivial) (fun _ _ _ _ _ _ _ => trivial)
    (fun s rule ρ h hs hr _ hh =>
      have hu := headUpdate_stepT hs (fun _ hM => hM.elim) h ρ (hdyn rule hr h hh) (fun _ hM => hM.elim)
      ⟨hu.1, hu.2.1, trivial⟩)
    { s with changed := false } ⟨WF_reset _ _ hinv.wf, hinv.dlt, hinv.keys, hinv.relset, hinv.below⟩
  exact ⟨h.1, ⟨h.2.1, trivial⟩, fun _ _ _ _ _ _ _ _ => trivial, nofun⟩

variable (hh : ∀ r ∈ p.rules, ∀ h ∈ r.heads, h.rel < p.rels.length)

include hh in
theorem sccsG_K
    (hpass : ∀ scc st, LPassOK I L p inp False (fun _ => False) aggv (fun _ _ => True) (fun _ _ => True) Pass st
      (dynRels p scc) (sccRules p scc))
    {rest : SccOrder} {st st' : St} (hrun : SccsG Pass p rest st st') :
    LPInvT I L p inp False (fun _ => False) st → LPInvT I L p inp False (fun _ => False) st' := by
  induction hrun with
  | nil => exact id
  | cons hscc _ ih => exact fun hp => ih (sccG_spec' alongNone hh (hpass _ _) hp hscc).1

include hh in
theorem runSccs_K (dl : Deadline) (fuel : Nat) (rest : SccOrder) (ps ps' : ProgSt)
    (hp : KPInv p ps.st) (h : runSccs I {} p dl fuel rest ps = .done ps') : KPInv p ps'.st :=
  .of_lp (sccsG_K (aggv := fun _ => []) hh (fun scc st => detPass_ok0 st (dynRels_heads p scc))
    (runSccs_sccsG I {} p h) (hp.lp I (trivLat I)))

theorem KPInv_updateIndices (s : St) (hlen : s.length = p.rels.length)
    (hk : ∀ r, (declOf p r).lat = true → ((relSt s r).rows.map keyOf).Nodup) : KPInv p (updateIndices s) := by
  refine ⟨by simp [updateIndices, hlen], ?_, ?_⟩
  · intro r hl
    rw [relSt_updateIndices]; exact hk r hl
  · intro r i
    rw [relSt_updateIndices]
    simp only [List.mem_range]

theorem KPInv_start (inp : RelId → List Tuple)
    (hi : ∀ r, r < p.rels.length → (declOf p r).lat = true → ((inp r).map keyOf).Nodup) :
    KPInv p (updateIndices (initSt p inp)) := by
  apply KPInv_updateIndices
  · simp [initSt]
  · intro r hl
    have hr := lat_lt p hl
    rw [rows_initSt p inp r hr]; exact hi r hr hl

end Run

end AscentVerif.Engine.AggLat
