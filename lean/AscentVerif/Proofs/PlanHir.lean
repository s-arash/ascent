import AscentVerif.Proofs.PlanBasic
/-!
What `Hir.compileRule` computes.  It is a left fold whose step is a large local function: the step is restated as
`stepC` over named pieces (`compSt`: the state the fold ends in; `compileRule_eq`: what `compileRule` makes of it) and
its effect split in two.  What does not depend on the `simple` flag: grounded variables and `dg` (`gdStep`), the
emitted item (`hitemOf`, whose index columns on a desugared clause are those `isIdx` names: `scanOf_spec`), the bound
variables (`itemBound`).  And the flag, which only ever goes from `true` to `false`: if it is `true` at the end no step
cleared it (`scan_smp`), which for the two clauses of a simple join yields the facts `compile_join` (`PlanBody`) needs
(`clause_simple`).  Also here: the decidable conditions on rules that the theorems of `Props/C01Plan.lean` assume.
-/
namespace AscentVerif.Hir
open AscentVerif AscentVerif.Engine
variable {E B G P A : Type}

def scanStep (V : VarsOf E B) (fci : Option Nat) (dg : List Var) (i : Nat)
    (acc : List Var × List Nat × Bool × List Var) (ja : Nat × Arg E) : List Var × List Nat × Bool × List Var :=
  let (g, idx, smp, here) := acc
  match ja.2 with
  | Arg.var v =>
    if here.contains v then (g, idx, smp, here)
    else if g.contains v then (g, idx ++ [ja.1], if fci == some i then false else smp, if dg.contains v then here else here ++ [v])
    else (g ++ [v], idx, smp, here ++ [v])
  | Arg.expr e =>
    if (V.e e).any here.contains then (g, idx, smp, here)
    else (g, idx ++ [ja.1], if i < 2 + fci.getD 0 then false else smp, here)

def cl1CondVars (body : List (Item E B G P A)) (fci : Option Nat) : List Var :=
  match fci.bind (body[·]?) with
  | some (.clause _ _ c1) => c1.flatMap Cond.boundVars
  | _ => []

def usesCl1 (V : VarsOf E B) (body : List (Item E B G P A)) (fci : Option Nat) (args : List (Arg E)) : Bool :=
  args.any fun
    | .var v => (cl1CondVars body fci).contains v
    | .expr e => (V.e e).any (cl1CondVars body fci).contains

def noRepeat (dg : List Var) (args : List (Arg E)) : Bool :=
  let vars := (args.filterMap argVar?).filter fun v => dg.contains v
  vars.eraseDups.length == vars.length

def condsOkStep (V : VarsOf E B) (acc : Bool × List Var) (c : Cond E B P) : Bool × List Var :=
  if !acc.1 then acc
  else if (Cond.exprVars V c).all acc.2.contains then (true, acc.2 ++ Cond.boundVars c) else (false, acc.2)

def condsOkFold (V : VarsOf E B) (args : List (Arg E)) (conds : List (Cond E B P)) : Bool :=
  (conds.foldl (condsOkStep V) (true, (args.filterMap argVar?).eraseDups)).1

def s1Of (fci : Option Nat) (i : Nat) (conds : List (Cond E B P)) (simple : Bool) : Bool :=
  if fci == some i && conds.any Cond.isIfLet then false else simple

def s2Of (V : VarsOf E B) (body : List (Item E B G P A)) (fci : Option Nat) (i : Nat) (dg : List Var)
    (args : List (Arg E)) (conds : List (Cond E B P)) (s1 : Bool) : Bool :=
  if fci.map (· + 1) == some i && s1 then
    !usesCl1 V body fci args && noRepeat dg args && condsOkFold V args conds
  else s1

def stepC (V : VarsOf E B) (body : List (Item E B G P A)) (fci : Option Nat) (st : St) (ib : Nat × Item E B G P A) : St :=
    let (i, it) := ib
    match it with
    | .clause rel args conds =>
      let s2 := s2Of V body fci i st.dg args conds (s1Of fci i conds st.simple)
      let scan := ((List.range args.length).zip args).foldl (scanStep V fci st.dg i) (st.grounded, [], s2, [])
      let here := scan.2.2.2
      let scan := (scan.1, scan.2.1, scan.2.2.1)
      let g' := scan.1 ++ conds.flatMap Cond.boundVars
      { grounded := g', dg := st.dg ++ here, simple := scan.2.2, items := st.items ++ [.clause rel scan.2.1 false],
        bound := st.bound ++ [args.filterMap argVar? ++ conds.flatMap Cond.boundVars] }
    | .gen v _ => { st with grounded := st.grounded ++ [v], dg := st.dg ++ [v], items := st.items ++ [.gen v], bound := st.bound ++ [[v]] }
    | .cond c =>
      let hi := match c with | .ifc _ => HItem.ifc | .letc .. => HItem.letc | .ifLet .. => HItem.ifLet
      { st with grounded := st.grounded ++ Cond.boundVars c, dg := st.dg ++ Cond.boundVars c, items := st.items ++ [hi], bound := st.bound ++ [Cond.boundVars c] }
    | .agg a =>
      let idx := (List.range a.args.length).filter fun j =>
        match a.args[j]? with
        | some (.key _) => true
        | _ => false
      { st with grounded := st.grounded ++ a.outs, dg := st.dg ++ a.outs, items := st.items ++ [.agg a.rel idx], bound := st.bound ++ [a.outs] }

def simple0 (body : List (Item E B G P A)) : Bool :=
  match firstClauseInd body with
    | some i => (body[i + 1]?.map isClause).getD false
    | none => false

def compSt (V : VarsOf E B) (r : Rule E B G P A) : St :=
  ((List.range r.body.length).zip r.body).foldl (stepC V r.body (firstClauseInd r.body)) { simple := simple0 r.body }

/-- `scanStep` without the `simple` flag: (grounded, index columns, `here`) -/
def scanG (V : VarsOf E B) (dg : List Var) (acc : List Var × List Nat × List Var) (ja : Nat × Arg E) :
    List Var × List Nat × List Var :=
  match ja.2 with
  | Arg.var v =>
    if acc.2.2.contains v then acc
    else if acc.1.contains v then (acc.1, acc.2.1 ++ [ja.1], if dg.contains v then acc.2.2 else acc.2.2 ++ [v])
    else (acc.1 ++ [v], acc.2.1, acc.2.2 ++ [v])
  | Arg.expr e =>
    if (V.e e).any acc.2.2.contains then acc else (acc.1, acc.2.1 ++ [ja.1], acc.2.2)

def proj3 (acc : List Var × List Nat × Bool × List Var) : List Var × List Nat × List Var := (acc.1, acc.2.1, acc.2.2.2)

/-- apart from the flag a scan step is `scanG`; if the `simple` flag is set after it, it was set before, and the step
added an index column only away from the first clause, and then a variable if the clause is one of the first two -/
theorem scanStep_spec (V : VarsOf E B) (fci : Option Nat) (dg : List Var) (i : Nat)
    (acc : List Var × List Nat × Bool × List Var) (ja : Nat × Arg E) :
    proj3 (scanStep V fci dg i acc ja) = scanG V dg (proj3 acc) ja ∧
    ((scanStep V fci dg i acc ja).2.2.1 = true → acc.2.2.1 = true ∧ ((scanStep V fci dg i acc ja).2.1 = acc.2.1 ∨
      (scanStep V fci dg i acc ja).2.1 = acc.2.1 ++ [ja.1] ∧ fci ≠ some i ∧ (i < 2 + fci.getD 0 → ∃ v, ja.2 = .var v))) := by
  obtain ⟨g, idx, smp, here⟩ := acc
  obtain ⟨j, a⟩ := ja
  cases a with
  | var v =>
    unfold scanStep scanG proj3
    dsimp only
    by_cases h1 : here.contains v = true
    · rw [if_pos h1, if_pos h1]; exact ⟨rfl, fun h => ⟨h, .inl rfl⟩⟩
    · rw [if_neg h1, if_neg h1]
      by_cases h2 : g.contains v = true
      · rw [if_pos h2, if_pos h2]
        refine ⟨rfl, fun h => ?_⟩
        dsimp only at h
        by_cases h3 : (fci == some i) = true
        · rw [if_pos h3] at h; cases h
        · rw [if_neg h3] at h
          exact ⟨h, .inr ⟨rfl, fun e => h3 (by rw [e]; exact beq_self_eq_true _), fun _ => ⟨v, rfl⟩⟩⟩
      · rw [if_neg h2, if_neg h2]; exact ⟨rfl, fun h => ⟨h, .inl rfl⟩⟩
  | expr e =>
    unfold scanStep scanG proj3
    dsimp only
    by_cases h1 : (V.e e).any here.contains = true
    · rw [if_pos h1, if_pos h1]; exact ⟨rfl, fun h => ⟨h, .inl rfl⟩⟩
    · rw [if_neg h1, if_neg h1]
      refine ⟨rfl, fun h => ?_⟩
      dsimp only at h
      by_cases h3 : i < 2 + fci.getD 0
      · rw [if_pos h3] at h; cases h
      · rw [if_neg h3] at h
        exact ⟨h, .inr ⟨rfl, fun e => h3 (by rw [e]; simp), fun hlt => absurd hlt h3⟩⟩

theorem scan_proj (V : VarsOf E B) (fci : Option Nat) (dg : List Var) (i : Nat) (jas : List (Nat × Arg E))
    (acc : List Var × List Nat × Bool × List Var) :
    proj3 (jas.foldl (scanStep V fci dg i) acc) = jas.foldl (scanG V dg) (proj3 acc) := by
  induction jas generalizing acc with
  | nil => rfl
  | cons ja jas ih => rw [List.foldl_cons, List.foldl_cons, ih, (scanStep_spec V fci dg i acc ja).1]

/-- the scan of one clause's arguments from the state `gd = (grounded, dg)` -/
def scanOf (V : VarsOf E B) (gd : List Var × List Var) (args : List (Arg E)) : List Var × List Nat × List Var :=
  ((List.range args.length).zip args).foldl (scanG V gd.2) (gd.1, [], [])

/-- `MirBodyItem::bound_vars` -/
def itemBound : Item E B G P A → List Var
  | .clause _ args conds => args.filterMap argVar? ++ conds.flatMap Cond.boundVars
  | .gen v _ => [v]
  | .cond c => Cond.boundVars c
  | .agg a => a.outs

def gdStep (V : VarsOf E B) (gd : List Var × List Var) : Item E B G P A → List Var × List Var
  | .clause _ args conds => ((scanOf V gd args).1 ++ conds.flatMap Cond.boundVars, gd.2 ++ (scanOf V gd args).2.2)
  | .gen v _ => (gd.1 ++ [v], gd.2 ++ [v])
  | .cond c => (gd.1 ++ Cond.boundVars c, gd.2 ++ Cond.boundVars c)
  | .agg a => (gd.1 ++ a.outs, gd.2 ++ a.outs)

def hitemOf (V : VarsOf E B) (gd : List Var × List Var) : Item E B G P A → HItem
  | .clause rel args _ => .clause rel (scanOf V gd args).2.1 false
  | .gen v _ => .gen v
  | .cond (.ifc _) => .ifc
  | .cond (.letc ..) => .letc
  | .cond (.ifLet ..) => .ifLet
  | .agg a => .agg a.rel ((List.range a.args.length).filter fun j =>
        match a.args[j]? with
        | some (.key _) => true
        | _ => false)

theorem stepC_fields (V : VarsOf E B) (body : List (Item E B G P A)) (fci : Option Nat) (st : St) (i : Nat)
    (it : Item E B G P A) :
    ((stepC V body fci st (i, it)).grounded, (stepC V body fci st (i, it)).dg) = gdStep V (st.grounded, st.dg) it ∧
    (stepC V body fci st (i, it)).items = st.items ++ [hitemOf V (st.grounded, st.dg) it] ∧
    (stepC V body fci st (i, it)).bound = st.bound ++ [itemBound it] := by
  cases it with
  | clause rel args conds =>
    simp only [stepC, gdStep, hitemOf, itemBound, scanOf]
    generalize s2Of V body fci i st.dg args conds (s1Of fci i conds st.simple) = s2
    have h := scan_proj V fci st.dg i ((List.range args.length).zip args) (st.grounded, [], s2, [])
    simp only [proj3] at h
    rw [← h]
    exact ⟨rfl, rfl, trivial⟩
  | gen _ _ | agg _ => exact ⟨rfl, rfl, rfl⟩
  | cond c => cases c <;> exact ⟨rfl, rfl, rfl⟩

def gdFold (V : VarsOf E B) (gd : List Var × List Var) (items : List (Item E B G P A)) : List Var × List Var :=
  items.foldl (gdStep V) gd

def hitems (V : VarsOf E B) : List Var × List Var → List (Item E B G P A) → List HItem
  | _, [] => []
  | gd, it :: rest => hitemOf V gd it :: hitems V (gdStep V gd it) rest

theorem gdFold_snoc (V : VarsOf E B) (gd : List Var × List Var) (pre : List (Item E B G P A)) (it : Item E B G P A) :
    gdFold V gd (pre ++ [it]) = gdStep V (gdFold V gd pre) it := by
  simp only [gdFold, List.foldl_append, List.foldl_cons, List.foldl_nil]

theorem fold_fields (V : VarsOf E B) (body : List (Item E B G P A)) (fci : Option Nat) (ibs : List (Nat × Item E B G P A))
    (st : St) :
    ((ibs.foldl (stepC V body fci) st).grounded, (ibs.foldl (stepC V body fci) st).dg)
        = gdFold V (st.grounded, st.dg) (ibs.map (·.2)) ∧
    (ibs.foldl (stepC V body fci) st).items = st.items ++ hitems V (st.grounded, st.dg) (ibs.map (·.2)) ∧
    (ibs.foldl (stepC V body fci) st).bound = st.bound ++ (ibs.map (·.2)).map itemBound := by
  induction ibs generalizing st with
  | nil => simp [gdFold, hitems]
  | cons ib ibs ih =>
    obtain ⟨h1, h2, h3⟩ := stepC_fields V body fci st ib.1 ib.2
    obtain ⟨k1, k2, k3⟩ := ih (stepC V body fci st ib)
    simp only [List.foldl_cons, List.map_cons, gdFold, hitems]
    rw [h1] at k1 k2
    refine ⟨k1, ?_, ?_⟩
    · rw [k2, h2]; simp
    · rw [k3, h3]; simp

theorem map_snd_zip_range {α : Type} (l : List α) : ((List.range l.length).zip l).map (·.2) = l := by
  apply List.map_snd_zip
  simp

theorem mem_zip_range {α : Type} (l : List α) (j : Nat) (a : α) :
    (j, a) ∈ (List.range l.length).zip l ↔ l[j]? = some a := by
  rw [List.mem_iff_getElem?]
  constructor
  · rintro ⟨i, hi⟩
    rw [List.getElem?_zip_eq_some] at hi
    obtain ⟨h1, h2⟩ := hi
    simp only at h1 h2
    have hlt : i < l.length := by
      have := (List.getElem?_eq_some_iff.1 h1).1
      simpa using this
    rw [List.getElem?_range hlt] at h1
    cases h1; exact h2
  · intro h
    have hlt : j < l.length := (List.getElem?_eq_some_iff.1 h).1
    exact ⟨j, List.getElem?_zip_eq_some.2 ⟨List.getElem?_range hlt, h⟩⟩

theorem compSt_fields (V : VarsOf E B) (r : Rule E B G P A) :
    (compSt V r).items = hitems V ([], []) r.body ∧ (compSt V r).bound = r.body.map itemBound := by
  have h := fold_fields V r.body (firstClauseInd r.body) ((List.range r.body.length).zip r.body) { simple := simple0 r.body }
  rw [map_snd_zip_range] at h
  exact ⟨h.2.1, h.2.2⟩

theorem compileRule_eq (V : VarsOf E B) (r : Rule E B G P A) :
    compileRule V r =
      let sj := if ((compSt V r).simple && decide (r.body.length ≥ 2)) = true then firstClauseInd r.body else none
      { heads := r.heads.map (·.rel)
        items :=
          match sj with
          | some i =>
            match r.body[i]?, r.body[i + 1]? with
            | some (.clause r1 args1 _), some (.clause _ args2 _) =>
              (hitems V ([], []) r.body).set i (.clause r1 (indicesGiven args1 (args2.filterMap argVar?)) false)
            | _, _ => hitems V ([], []) r.body
          | none => hitems V ([], []) r.body
        simpleJoinStart := sj
        bound := r.body.map itemBound } := by
  rw [← (compSt_fields V r).1, ← (compSt_fields V r).2]
  rfl

theorem compile_bound (V : VarsOf E B) (r : Rule E B G P A) : (compileRule V r).bound = r.body.map itemBound := by
  rw [compileRule_eq]

theorem compile_nojoin (V : VarsOf E B) (r : Rule E B G P A) (h : (compileRule V r).simpleJoinStart = none) :
    (compileRule V r).items = hitems V ([], []) r.body := by
  rw [compileRule_eq] at h ⊢
  dsimp only at h ⊢
  rw [h]

theorem scan_smp (V : VarsOf E B) (fci : Option Nat) (dg : List Var) (i : Nat) (jas : List (Nat × Arg E))
    (acc : List Var × List Nat × Bool × List Var) (h : (jas.foldl (scanStep V fci dg i) acc).2.2.1 = true) :
    acc.2.2.1 = true ∧ ∀ j ∈ (jas.foldl (scanStep V fci dg i) acc).2.1, j ∈ acc.2.1 ∨
      ∃ a, (j, a) ∈ jas ∧ fci ≠ some i ∧ (i < 2 + fci.getD 0 → ∃ v, a = .var v) := by
  induction jas generalizing acc with
  | nil => exact ⟨h, fun j hj => .inl hj⟩
  | cons ja jas ih =>
    obtain ⟨hsm, hall⟩ := ih _ h
    obtain ⟨hsm', hor⟩ := (scanStep_spec V fci dg i acc ja).2 hsm
    refine ⟨hsm', fun j hj => ?_⟩
    rcases hall j hj with hj' | ⟨a, ha, hf⟩
    · rcases hor with e | ⟨e, hf⟩
      · exact .inl (e ▸ hj')
      · rw [e, List.mem_append, List.mem_singleton] at hj'
        exact hj'.imp_right fun ej => ⟨ja.2, by rw [ej]; exact List.mem_cons_self, hf⟩
    · exact .inr ⟨a, List.mem_cons_of_mem _ ha, hf⟩

theorem s2Of_true {V : VarsOf E B} {body : List (Item E B G P A)} {fci : Option Nat} {i : Nat} {dg : List Var}
    {args : List (Arg E)} {conds : List (Cond E B P)} {s1 : Bool} (h : s2Of V body fci i dg args conds s1 = true) :
    s1 = true ∧ (fci.map (· + 1) = some i →
      usesCl1 V body fci args = false ∧ noRepeat dg args = true ∧ condsOkFold V args conds = true) := by
  unfold s2Of at h
  by_cases hc : (fci.map (· + 1) == some i && s1) = true
  · rw [if_pos hc] at h
    simp only [Bool.and_eq_true, Bool.not_eq_true'] at h hc
    exact ⟨hc.2, fun _ => ⟨h.1.1, h.1.2, h.2⟩⟩
  · rw [if_neg hc] at h
    refine ⟨h, fun he => ?_⟩
    exfalso; apply hc
    simp [he, h]

theorem s1Of_true {fci : Option Nat} {i : Nat} {conds : List (Cond E B P)} {simple : Bool}
    (h : s1Of fci i conds simple = true) : simple = true := by
  unfold s1Of at h
  split at h
  · cases h
  · exact h

theorem stepC_clause_simple (V : VarsOf E B) (body : List (Item E B G P A)) (fci : Option Nat) (st : St) (i : Nat)
    (rel : RelId) (args : List (Arg E)) (conds : List (Cond E B P)) :
    (stepC V body fci st (i, .clause rel args conds)).simple =
      (((List.range args.length).zip args).foldl (scanStep V fci st.dg i)
        (st.grounded, [], s2Of V body fci i st.dg args conds (s1Of fci i conds st.simple), [])).2.2.1 := rfl

theorem stepC_simple_mono (V : VarsOf E B) (body : List (Item E B G P A)) (fci : Option Nat) (st : St)
    (ib : Nat × Item E B G P A) (h : (stepC V body fci st ib).simple = true) : st.simple = true := by
  obtain ⟨i, it⟩ := ib
  cases it with
  | clause rel args conds =>
    rw [stepC_clause_simple] at h
    exact s1Of_true (s2Of_true (scan_smp V fci st.dg i _ _ h).1).1
  | gen _ _ | cond _ | agg _ => exact h

theorem fold_simple_mono (V : VarsOf E B) (body : List (Item E B G P A)) (fci : Option Nat)
    (ibs : List (Nat × Item E B G P A)) (st : St) (h : (ibs.foldl (stepC V body fci) st).simple = true) :
    st.simple = true := by
  induction ibs generalizing st with
  | nil => exact h
  | cons ib ibs ih => exact stepC_simple_mono V body fci st ib (ih _ h)

/-! ## rules in the image of `rule_desugar_repeated_vars`

`compile_rule_to_ir_rule` runs after `rule_desugar_repeated_vars`, which replaces every clause argument mentioning a
variable it first met as an earlier argument of the SAME clause by a fresh variable plus an equality condition (`dg`: the
variables it has met; those bound by conditions attached to a clause it does not record).
`Hir.compileRule` accepts rules in which that has not been done and mimics the effect on the plan (the `here` list).
The engine model `evalBody` evaluates such an argument as a filter in the environment before the clause, which is the
same thing for a repeated variable but not for an expression; the theorems about the plan are stated for rules on which
the pass has nothing left to do: `argsOk` says that the `here` branches of the scan are never taken. -/

def hereStep (dg here : List Var) (v : Var) : List Var := if dg.contains v then here else here ++ [v]

/-- no argument mentions a variable that the pass first met as an earlier argument of the same clause (`dg`: the variables
it has met before the clause; `here`: those the clause has added so far) -/
def argsOk (V : VarsOf E B) (dg : List Var) : List (Arg E) → List Var → Bool
  | [], _ => true
  | .var v :: as, here => !here.contains v && argsOk V dg as (hereStep dg here v)
  | .expr e :: as, here => !(V.e e).any here.contains && argsOk V dg as here

/-- the `here` list after the arguments of a clause on which the pass has nothing left to do -/
def hereOf (dg : List Var) : List (Arg E) → List Var → List Var
  | [], here => here
  | .var v :: as, here => hereOf dg as (hereStep dg here v)
  | .expr _ :: as, here => hereOf dg as here

def itemOk (V : VarsOf E B) (gd : List Var × List Var) : Item E B G P A → Bool
  | .clause _ args _ => argsOk V gd.2 args []
  | _ => true

def desugFrom (V : VarsOf E B) : List Var × List Var → List (Item E B G P A) → Bool
  | _, [] => true
  | gd, it :: rest => itemOk V gd it && desugFrom V (gdStep V gd it) rest

/-- the body is a fixed point of `rule_desugar_repeated_vars` -/
def Desugared (V : VarsOf E B) (r : Rule E B G P A) : Bool := desugFrom V ([], []) r.body

def isIdx (g : List Var) : Arg E → Bool
  | .var v => g.contains v
  | .expr _ => true

def GdOk (gd : List Var × List Var) : Prop := ∀ v ∈ gd.2, v ∈ gd.1

theorem mem_hereStep_iff {dg here : List Var} {v w : Var} : w ∈ hereStep dg here v ↔ w ∈ here ∨ w = v ∧ v ∉ dg := by
  unfold hereStep
  split <;> simp_all

theorem mem_hereStep {dg here : List Var} {v w : Var} (h : w ∈ hereStep dg here v) : w ∈ here ∨ w = v :=
  (mem_hereStep_iff.1 h).imp_right And.left

/-- the invariant of the scan of a desugared clause: `g` is `g₀` (what was grounded before the clause) plus what the
clause has grounded itself (`here`).  Since no argument mentions a variable of `here` (`argsOk`), being grounded in `g` and
in `g₀` is the same for every argument, so the index columns are those `isIdx g₀` names. -/
theorem scan_spec (V : VarsOf E B) (dg g₀ : List Var) (hdg : ∀ v ∈ dg, v ∈ g₀)
    (jas : List (Nat × Arg E)) (g : List Var) (idx : List Nat) (here : List Var)
    (hinv : ∀ v, v ∈ g ↔ v ∈ g₀ ∨ v ∈ here) (hok : argsOk V dg (jas.map (·.2)) here = true) :
    (jas.foldl (scanG V dg) (g, idx, here)).2.1 = idx ++ (jas.filter fun ja => isIdx g₀ ja.2).map (·.1) ∧
    (∀ v, v ∈ (jas.foldl (scanG V dg) (g, idx, here)).1 ↔ v ∈ g ∨ v ∈ (jas.map (·.2)).filterMap argVar?) ∧
    (∀ v ∈ (jas.foldl (scanG V dg) (g, idx, here)).2.2, v ∈ (jas.foldl (scanG V dg) (g, idx, here)).1) ∧
    (jas.foldl (scanG V dg) (g, idx, here)).2.2 = hereOf dg (jas.map (·.2)) here := by
  induction jas generalizing g idx here with
  | nil => exact ⟨by simp, by simp, fun v hv => (hinv v).2 (.inr hv), rfl⟩
  | cons ja jas ih =>
    obtain ⟨j, a⟩ := ja
    simp only [List.foldl_cons, List.filter_cons, List.map_cons, List.filterMap_cons]
    cases a with
    | var v =>
      simp only [List.map_cons, argsOk, Bool.and_eq_true, Bool.not_eq_true'] at hok
      have hh : v ∉ here := fun h => by rw [List.contains_iff_mem.2 h] at hok; exact Bool.noConfusion hok.1
      by_cases hg : v ∈ g
      · have hv0 : v ∈ g₀ := ((hinv v).1 hg).resolve_right hh
        have hstep : scanG V dg (g, idx, here) (j, .var v) = (g, idx ++ [j], hereStep dg here v) := by
          simp only [scanG, hok.1, List.contains_iff_mem.2 hg, Bool.false_eq_true, if_false, if_true]; rfl
        obtain ⟨k1, k2, k3, k4⟩ := ih g (idx ++ [j]) (hereStep dg here v)
          (fun w => ⟨fun h => ((hinv w).1 h).imp_right (mem_hereStep_iff.2 ∘ .inl), fun h => h.elim (fun h => (hinv w).2 (.inl h))
            fun h => (mem_hereStep h).elim (fun h => (hinv w).2 (.inr h)) fun e => e ▸ hg⟩) hok.2
        rw [hstep]
        refine ⟨?_, fun w => ?_, k3, k4⟩
        · simp only [k1, isIdx, List.contains_iff_mem.2 hv0, if_true, List.map_cons, List.append_assoc, List.singleton_append]
        · simp only [k2 w, argVar?, List.mem_cons]
          exact ⟨fun h => h.imp_right .inr, fun h => h.elim .inl fun h => h.elim (fun e => .inl (e ▸ hg)) .inr⟩
      · have hv0 : v ∉ g₀ := fun h => hg ((hinv v).2 (.inl h))
        have hvdg : dg.contains v = false := Plan.contains_false_of_not_mem fun h => hv0 (hdg v h)
        have hstep : scanG V dg (g, idx, here) (j, .var v) = (g ++ [v], idx, hereStep dg here v) := by
          simp only [scanG, hereStep, hok.1, Plan.contains_false_of_not_mem hg, hvdg, Bool.false_eq_true, if_false]
        have hhs : hereStep dg here v = here ++ [v] := by simp only [hereStep, hvdg, Bool.false_eq_true, if_false]
        obtain ⟨k1, k2, k3, k4⟩ := ih (g ++ [v]) idx (hereStep dg here v)
          (fun w => by rw [hhs, List.mem_append, List.mem_append, hinv w, or_assoc]) hok.2
        rw [hstep]
        refine ⟨?_, fun w => ?_, k3, k4⟩
        · simp only [k1, isIdx, Plan.contains_false_of_not_mem hv0, Bool.false_eq_true, if_false]
        · simp only [k2 w, argVar?, List.mem_cons, List.mem_append, List.not_mem_nil, false_or, or_assoc]
    | expr e =>
      simp only [List.map_cons, argsOk, Bool.and_eq_true, Bool.not_eq_true'] at hok
      have hstep : scanG V dg (g, idx, here) (j, .expr e) = (g, idx ++ [j], here) := by
        simp only [scanG, hok.1, Bool.false_eq_true, if_false]
      obtain ⟨k1, k2, k3, k4⟩ := ih g (idx ++ [j]) here hinv hok.2
      rw [hstep]
      refine ⟨?_, fun w => ?_, k3, k4⟩
      · simp only [k1, isIdx, if_true, List.map_cons, List.append_assoc, List.singleton_append]
      · simp only [k2 w, argVar?]

theorem scanOf_spec (V : VarsOf E B) (gd : List Var × List Var) (hgd : GdOk gd) (args : List (Arg E))
    (hok : argsOk V gd.2 args [] = true) :
    (∀ j, j ∈ (scanOf V gd args).2.1 ↔ ∃ a, args[j]? = some a ∧ isIdx gd.1 a = true) ∧
    (∀ v, v ∈ (scanOf V gd args).1 ↔ v ∈ gd.1 ∨ v ∈ args.filterMap argVar?) ∧
    (∀ v ∈ (scanOf V gd args).2.2, v ∈ (scanOf V gd args).1) ∧
    (scanOf V gd args).2.2 = hereOf gd.2 args [] := by
  have hm := map_snd_zip_range args
  obtain ⟨k1, k2, k3, k4⟩ := scan_spec V gd.2 gd.1 hgd ((List.range args.length).zip args) gd.1 [] []
    (fun v => by simp) (by rw [hm]; exact hok)
  rw [hm] at k2 k4
  refine ⟨fun j => ?_, k2, k3, k4⟩
  show j ∈ (((List.range args.length).zip args).foldl (scanG V gd.2) (gd.1, [], [])).2.1 ↔ _
  rw [k1]
  simp only [List.nil_append, List.mem_map, List.mem_filter]
  constructor
  · rintro ⟨⟨j', a⟩, ⟨hm', hi⟩, rfl⟩
    exact ⟨a, (mem_zip_range args j' a).1 hm', hi⟩
  · rintro ⟨a, ha, hi⟩
    exact ⟨(j, a), ⟨(mem_zip_range args j a).2 ha, hi⟩, rfl⟩

/-- the variables a desugared clause adds to `dg` -/
theorem scanOf_here (V : VarsOf E B) (gd : List Var × List Var) (hgd : GdOk gd) (args : List (Arg E))
    (hok : argsOk V gd.2 args [] = true) : (scanOf V gd args).2.2 = hereOf gd.2 args [] :=
  (scanOf_spec V gd hgd args hok).2.2.2

theorem gdStep_spec (V : VarsOf E B) (gd : List Var × List Var) (hgd : GdOk gd) (it : Item E B G P A)
    (hok : itemOk V gd it = true) :
    GdOk (gdStep V gd it) ∧ ∀ v, v ∈ (gdStep V gd it).1 ↔ v ∈ gd.1 ∨ v ∈ itemBound it := by
  have happ : ∀ vs : List Var, GdOk (gd.1 ++ vs, gd.2 ++ vs) := fun vs v hv =>
    (List.mem_append.1 hv).elim (fun h => List.mem_append_left _ (hgd v h)) (List.mem_append_right _)
  cases it with
  | clause r args conds =>
    obtain ⟨_, k2, k3, _⟩ := scanOf_spec V gd hgd args hok
    constructor
    · intro v hv
      simp only [gdStep, List.mem_append] at hv ⊢
      rcases hv with h | h
      · exact .inl ((k2 v).2 (.inl (hgd v h)))
      · exact .inl (k3 v h)
    · intro v
      simp only [gdStep, itemBound, List.mem_append, k2 v, or_assoc]
  | gen _ _ | cond _ | agg _ => exact ⟨happ _, fun _ => List.mem_append⟩

theorem gdOk_nil : GdOk (([], []) : List Var × List Var) := fun _ h => by cases h

theorem gdFold_spec (V : VarsOf E B) (pre : List (Item E B G P A)) (gd : List Var × List Var)
    (rest : List (Item E B G P A)) (hgd : GdOk gd) (hd : desugFrom V gd (pre ++ rest) = true) :
    GdOk (gdFold V gd pre) ∧ desugFrom V (gdFold V gd pre) rest = true ∧
    ∀ v, v ∈ (gdFold V gd pre).1 ↔ v ∈ gd.1 ∨ v ∈ pre.flatMap itemBound := by
  induction pre generalizing gd with
  | nil => exact ⟨hgd, hd, fun v => by simp [gdFold]⟩
  | cons it pre ih =>
    simp only [List.cons_append, desugFrom, Bool.and_eq_true] at hd
    obtain ⟨h1, h2⟩ := gdStep_spec V gd hgd it hd.1
    obtain ⟨k1, k2, k3⟩ := ih (gdStep V gd it) h1 hd.2
    refine ⟨k1, k2, fun v => ?_⟩
    have : gdFold V gd (it :: pre) = gdFold V (gdStep V gd it) pre := rfl
    rw [this, k3 v, h2 v]
    simp only [List.flatMap_cons, List.mem_append, or_assoc]

/-- `condsOk` of `compile_rule_to_ir_rule`: every condition of the second clause only mentions variables of the clause
itself and variables bound by its earlier conditions -/
def condsIn (V : VarsOf E B) : List Var → List (Cond E B P) → Bool
  | _, [] => true
  | acc, c :: cs => (Cond.exprVars V c).all acc.contains && condsIn V (acc ++ Cond.boundVars c) cs

theorem condsOk_false (V : VarsOf E B) (conds : List (Cond E B P)) (acc : List Var) :
    (conds.foldl (condsOkStep V) (false, acc)).1 = false := by
  induction conds with
  | nil => rfl
  | cons c cs ih =>
    have : condsOkStep V (false, acc) c = (false, acc) := by simp [condsOkStep]
    rw [List.foldl_cons, this]; exact ih

theorem condsOk_eq (V : VarsOf E B) (conds : List (Cond E B P)) (acc : List Var) :
    (conds.foldl (condsOkStep V) (true, acc)).1 = condsIn V acc conds := by
  induction conds generalizing acc with
  | nil => rfl
  | cons c cs ih =>
    simp only [List.foldl_cons, condsIn]
    by_cases h : (Cond.exprVars V c).all acc.contains = true
    · have : condsOkStep V (true, acc) c = (true, acc ++ Cond.boundVars c) := by simp [condsOkStep, h]
      rw [this, ih, h]; rfl
    · have : condsOkStep V (true, acc) c = (false, acc) := by simp [condsOkStep, h]
      rw [this, condsOk_false, Bool.eq_false_iff.2 h]; rfl

theorem condsIn_congr (V : VarsOf E B) (conds : List (Cond E B P)) (acc acc' : List Var)
    (h : ∀ v, v ∈ acc ↔ v ∈ acc') : condsIn V acc conds = condsIn V acc' conds := by
  induction conds generalizing acc acc' with
  | nil => rfl
  | cons c cs ih =>
    simp only [condsIn]
    have h1 : (Cond.exprVars V c).all acc.contains = (Cond.exprVars V c).all acc'.contains := by
      apply List.all_congr rfl
      intro v
      rw [List.contains_eq_mem, List.contains_eq_mem]
      simp [h v]
    rw [h1, ih (acc ++ Cond.boundVars c) (acc' ++ Cond.boundVars c)]
    intro v; simp [h v]

theorem eraseDups_length_le {κ : Type} [BEq κ] (l : List κ) : l.eraseDups.length ≤ l.length := by
  induction l using Plan.filter_ne_induction (id : κ → κ) with
  | nil => simp
  | cons a l ih =>
    rw [List.eraseDups_cons]
    exact Nat.succ_le_succ (Nat.le_trans ih (List.length_filter_le _ l))

theorem nodup_of_eraseDups_length {κ : Type} [BEq κ] [LawfulBEq κ] (l : List κ) (he : l.eraseDups.length = l.length) :
    l.Nodup := by
  induction l using Plan.filter_ne_induction (id : κ → κ) with
  | nil => simp
  | cons a l ih =>
    rw [List.eraseDups_cons] at he
    simp only [List.length_cons, id] at he ih
    have h1 := List.length_filter_le (fun b => !(b == a)) l
    have h2 := eraseDups_length_le (l.filter fun b => !(b == a))
    have h4 : l.filter (fun b => !(b == a)) = l := by
      rw [List.filter_eq_self]; exact List.length_filter_eq_length_iff.1 (by omega)
    rw [h4] at he ih
    rw [List.nodup_cons]
    refine ⟨fun hm => ?_, ih (by omega)⟩
    have := (List.filter_eq_self.1 h4) a hm
    simp at this

/-- `(range n).zip l` from a start index, so that the fold of `compileRule` can be split at a position -/
def zipFrom {α : Type} (s : Nat) (l : List α) : List (Nat × α) := (List.range' s l.length).zip l

theorem zipFrom_cons {α : Type} (s : Nat) (a : α) (l : List α) : zipFrom s (a :: l) = (s, a) :: zipFrom (s + 1) l := by
  simp [zipFrom, List.range'_succ]

theorem zipFrom_append {α : Type} : ∀ (l₁ l₂ : List α) (s : Nat),
    zipFrom s (l₁ ++ l₂) = zipFrom s l₁ ++ zipFrom (s + l₁.length) l₂ := by
  intro l₁ l₂
  induction l₁ with
  | nil => intro s; simp [zipFrom]
  | cons a l₁ ih =>
    intro s
    rw [List.cons_append, zipFrom_cons, zipFrom_cons, ih (s + 1)]
    simp only [List.cons_append, List.length_cons]
    congr 3; omega

theorem map_snd_zipFrom {α : Type} (s : Nat) (l : List α) : (zipFrom s l).map (·.2) = l := by
  apply List.map_snd_zip; simp

theorem zip_range_eq {α : Type} (l : List α) : (List.range l.length).zip l = zipFrom 0 l := by
  simp [zipFrom, List.range_eq_range']

theorem hitems_length (V : VarsOf E B) : ∀ (items : List (Item E B G P A)) (gd : List Var × List Var),
    (hitems V gd items).length = items.length := by
  intro items
  induction items with
  | nil => exact fun _ => rfl
  | cons it rest ih => intro gd; simp [hitems, ih]

theorem hitems_append (V : VarsOf E B) : ∀ (l₁ l₂ : List (Item E B G P A)) (gd : List Var × List Var),
    hitems V gd (l₁ ++ l₂) = hitems V gd l₁ ++ hitems V (gdFold V gd l₁) l₂ := by
  intro l₁ l₂
  induction l₁ with
  | nil => exact fun _ => rfl
  | cons it l₁ ih =>
    intro gd
    simp only [List.cons_append, hitems]
    rw [ih]; rfl

theorem decomp_two {α : Type} (l : List α) (k : Nat) (x y : α) (h1 : l[k]? = some x) (h2 : l[k + 1]? = some y) :
    l = l.take k ++ x :: y :: l.drop (k + 2) ∧ (l.take k).length = k := by
  have hk : k < l.length := (List.getElem?_eq_some_iff.1 h1).1
  have hk1 : k + 1 < l.length := (List.getElem?_eq_some_iff.1 h2).1
  constructor
  · have e1 : l.drop k = l[k] :: l.drop (k + 1) := List.drop_eq_getElem_cons hk
    have e2 : l.drop (k + 1) = l[k + 1] :: l.drop (k + 1 + 1) := List.drop_eq_getElem_cons hk1
    have hx : l[k] = x := (List.getElem?_eq_some_iff.1 h1).2
    have hy : l[k + 1] = y := (List.getElem?_eq_some_iff.1 h2).2
    conv => lhs; rw [← List.take_append_drop k l, e1, e2, hx, hy]
  · rw [List.length_take]; omega

/-- a desugared clause at one of the first two clause positions after which `simple` is still set: its arguments are
variables, new ones at the first clause; at the second the three checks of `compile_rule_to_ir_rule` passed -/
theorem clause_simple {V : VarsOf E B} {body : List (Item E B G P A)} {fci : Option Nat} {st : St}
    {gd : List Var × List Var} (e : (st.grounded, st.dg) = gd) (hgd : GdOk gd) {i : Nat} {rel : RelId}
    {args : List (Arg E)} {conds : List (Cond E B P)} (hok : argsOk V gd.2 args [] = true) (hlt : i < 2 + fci.getD 0)
    (h : (stepC V body fci st (i, .clause rel args conds)).simple = true) :
    (∀ a ∈ args, ∃ v, a = Arg.var v ∧ (fci = some i → v ∉ gd.1)) ∧
    (fci.map (· + 1) = some i →
      usesCl1 V body fci args = false ∧ noRepeat gd.2 args = true ∧ condsOkFold V args conds = true) := by
  subst e
  rw [stepC_clause_simple] at h
  obtain ⟨hs2, hall⟩ := scan_smp V fci st.dg i _ _ h
  refine ⟨fun a ha => ?_, (s2Of_true hs2).2⟩
  obtain ⟨j, hj⟩ := List.mem_iff_getElem?.1 ha
  -- an index column of the clause is in the scan's output, so the step that added it left the flag set
  have hidx : isIdx st.grounded a = true → fci ≠ some i ∧ (i < 2 + fci.getD 0 → ∃ v, a = .var v) := fun hi => by
    have hjc : j ∈ (scanOf V (st.grounded, st.dg) args).2.1 := ((scanOf_spec V _ hgd args hok).1 j).2 ⟨a, hj, hi⟩
    have e : (scanOf V (st.grounded, st.dg) args).2.1 = _ :=
      congrArg (·.2.1) (scan_proj V fci st.dg i _ (st.grounded, [], s2Of V body fci i st.dg args conds (s1Of fci i conds st.simple), [])).symm
    rw [e] at hjc
    obtain ⟨a', ha', hf⟩ := (hall j hjc).resolve_left List.not_mem_nil
    rw [mem_zip_range, hj] at ha'
    cases ha'
    exact hf
  cases a with
  | var v => exact ⟨v, rfl, fun hf hv => (hidx (List.contains_iff_mem.2 hv)).1 hf⟩
  | expr e =>
    obtain ⟨v, hv⟩ := (hidx rfl).2 hlt
    cases hv

theorem fold_at (V : VarsOf E B) (body : List (Item E B G P A)) (fci : Option Nat) (pre : List (Item E B G P A))
    (it : Item E B G P A) (rest : List (Item E B G P A)) (st : St)
    (h : ((zipFrom 0 (pre ++ it :: rest)).foldl (stepC V body fci) st).simple = true) :
    ∃ stk : St, (stk.grounded, stk.dg) = gdFold V (st.grounded, st.dg) pre ∧
      (stepC V body fci stk (pre.length, it)).simple = true := by
  rw [zipFrom_append, zipFrom_cons, List.foldl_append, List.foldl_cons, Nat.zero_add] at h
  refine ⟨_, ?_, fold_simple_mono V body fci _ _ h⟩
  have := (fold_fields V body fci (zipFrom 0 pre) st).1
  rwa [map_snd_zipFrom] at this

theorem isClause_iff (it : Item E B G P A) : isClause it = true ↔ ∃ r a c, it = .clause r a c := by
  cases it <;> simp [isClause]

end AscentVerif.Hir
