import AscentVerif.Model.EnginePhysParLatTimeout
import AscentVerif.Proofs.PhysParLatRun
import AscentVerif.Proofs.PhysParLatSt
import AscentVerif.Proofs.PhysParTimeout
/-!
# `run_timeout` and `run()` of the parallel engine with lattices

`run()` IS `run_timeout` under the deadline that never passes (`run_never`: an induction on the fuel and one on the SCC order,
nothing about the engine; with `#![generate_run_timeout]` the generated `run()` is the call `run_timeout(Duration::MAX)`).  So the
skeleton — the loop of a looping SCC, one SCC, the SCCs in order — is walked once, for `run_timeout`, with a postcondition per
outcome (`LoopOut`, `RunOut`): `runTimeout_simP`.  The call never panics; `true` = an execution of the nondeterministic lattice
engine from the start value, simulated (`PStInv`); `false` = the value left is `Abandoned`: the row vectors stay, every stored
index is unfrozen (`abandon_soundP`), and the rows satisfy the invariant `LInv` of `Proofs/LatInv.lean` that held in the SCC state
the abandoned physical state simulated — a semantic description of the interrupted call, not a prefix of an execution.
-/
namespace AscentVerif.PhysParLat
open AscentVerif AscentVerif.Engine AscentVerif.Index AscentVerif.Phys AscentVerif.PhysLat AscentVerif.PhysPar

variable {E B G P A : Type}

theorem sccLoop_succ (I : Interp E B G P A) (V : Hir.VarsOf E B) (p : Program E B G P A) (σ : PhysPar.Sched E B G P A)
    (interRule : Bool) (dyn : List RelId) (rules : List (Rule E B G P A)) (fuel : Nat) (rs : RunSt) :
    sccLoop I V p σ interRule dyn rules (fuel + 1) rs =
      (iteration I V p σ interRule rs.clock dyn rules rs.st >>= fun s1 =>
       shift s1.1 >>= fun s2 =>
       if !s1.1.pc.changed then pure (some { st := s2, clock := s1.2, iters := rs.iters + 1 })
       else sccLoop I V p σ interRule dyn rules fuel { st := s2, clock := s1.2, iters := rs.iters + 1 }) := rfl

theorem runScc_eq (I : Interp E B G P A) (V : Hir.VarsOf E B) (p : Program E B G P A) (σ : PhysPar.Sched E B G P A)
    (interRule : Bool) (threads fuel : Nat) (scc : List Nat) (ps : ProgSt) :
    runScc I V p σ interRule threads fuel scc ps =
      if isLooping p scc then
        sccLoop I V p σ interRule (dynRels p scc) (sccRules p scc) fuel
          { st := enterScc threads p scc ps.st, clock := ps.clock, iters := 0 } >>= fun r =>
        pure (r.map fun rs => { st := leaveScc p scc rs.st, clock := rs.clock, iters := ps.iters ++ [rs.iters] })
      else
        iteration I V p σ interRule ps.clock (dynRels p scc) (sccRules p scc) (enterScc threads p scc ps.st) >>= fun s1 =>
        shift s1.1 >>= fun s2 =>
        shift s2 >>= fun s3 =>
        pure (some { st := leaveScc p scc s3, clock := s1.2, iters := ps.iters ++ [1] }) := rfl

theorem sccLoopT_succ (I : Interp E B G P A) (V : Hir.VarsOf E B) (p : Program E B G P A) (σ : PhysPar.Sched E B G P A)
    (interRule : Bool) (dyn : List RelId) (rules : List (Rule E B G P A)) (dl : Deadline) (fuel : Nat) (rs : RunStT) :
    sccLoopT I V p σ interRule dyn rules dl (fuel + 1) rs =
      (iteration I V p σ interRule rs.clock dyn rules rs.st >>= fun s1 =>
       shift s1.1 >>= fun s2 =>
       if !s1.1.pc.changed then
         pure (.done { st := s2, clock := s1.2, checks := rs.checks, iters := rs.iters + 1 })
       else if dl rs.checks then
         pure (.timedOut { st := s2, clock := s1.2, checks := rs.checks + 1, iters := rs.iters + 1 })
       else sccLoopT I V p σ interRule dyn rules dl fuel
         { st := s2, clock := s1.2, checks := rs.checks + 1, iters := rs.iters + 1 }) := rfl

/-- what `runSccT` does with the result of the loop of a looping SCC -/
def endLoopT (threads : Nat) (p : Program E B G P A) (scc : List Nat) (ps : ProgStT) : Outcome RunStT → Outcome ProgStT
  | .done rs => .done { st := leaveScc p scc rs.st, clock := rs.clock, checks := rs.checks, iters := ps.iters ++ [rs.iters] }
  | .timedOut rs =>
    .timedOut { st := abandonScc threads p scc rs.st, clock := rs.clock, checks := rs.checks, iters := ps.iters ++ [rs.iters] }
  | .outOfFuel => .outOfFuel

theorem runSccT_eq (I : Interp E B G P A) (V : Hir.VarsOf E B) (p : Program E B G P A) (σ : PhysPar.Sched E B G P A)
    (interRule : Bool) (threads : Nat) (dl : Deadline) (fuel : Nat) (scc : List Nat) (ps : ProgStT) :
    runSccT I V p σ interRule threads dl fuel scc ps =
      if isLooping p scc then
        sccLoopT I V p σ interRule (dynRels p scc) (sccRules p scc) dl fuel
          { st := enterScc threads p scc ps.st, clock := ps.clock, checks := ps.checks, iters := 0 } >>= fun r =>
        pure (endLoopT threads p scc ps r)
      else
        iteration I V p σ interRule ps.clock (dynRels p scc) (sccRules p scc) (enterScc threads p scc ps.st) >>= fun s1 =>
        shift s1.1 >>= fun s2 =>
        shift s2 >>= fun s3 =>
        if dl ps.checks then
          pure (.timedOut { st := abandonScc threads p scc s3, clock := s1.2, checks := ps.checks + 1,
                            iters := ps.iters ++ [1] })
        else
          pure (.done { st := leaveScc p scc s3, clock := s1.2, checks := ps.checks + 1, iters := ps.iters ++ [1] }) := by
  unfold runSccT
  split
  · show (_ >>= _) = (_ >>= _)
    congr 1
    funext r
    cases r <;> rfl
  · rfl

/-! ## `run()` is `run_timeout` with a deadline that never passes -/

def RunStT.toRunSt (rs : RunStT) : RunSt := ⟨rs.st, rs.clock, rs.iters⟩
def ProgStT.toProgSt (ps : ProgStT) : ProgSt := ⟨ps.st, ps.clock, ps.iters⟩

section EqT
variable (I : Interp E B G P A) (V : Hir.VarsOf E B) (p : Program E B G P A) (σ : PhysPar.Sched E B G P A) (interRule : Bool)

theorem sccLoop_never (dyn : List RelId) (rules : List (Rule E B G P A)) : ∀ (fuel : Nat) (rs : RunStT),
    sccLoop I V p σ interRule dyn rules fuel rs.toRunSt =
      (sccLoopT I V p σ interRule dyn rules never fuel rs).map (doneOpt RunStT.toRunSt) := by
  intro fuel
  induction fuel with
  | zero => intro rs; rfl
  | succ fuel ih =>
    intro rs
    rw [sccLoop_succ, sccLoopT_succ]
    show (iteration I V p σ interRule rs.clock dyn rules rs.st >>= _) = _
    cases iteration I V p σ interRule rs.clock dyn rules rs.st with
    | panic => rfl
    | ok s1 =>
      rw [bind_ok, bind_ok]
      cases shift s1.1 with
      | panic => rfl
      | ok s2 =>
        rw [bind_ok, bind_ok]
        cases s1.1.pc.changed with
        | false => rfl
        | true => exact ih { st := s2, clock := s1.2, checks := rs.checks + 1, iters := rs.iters + 1 }

theorem runScc_never (threads fuel : Nat) (scc : List Nat) (ps : ProgStT) :
    runScc I V p σ interRule threads fuel scc ps.toProgSt =
      (runSccT I V p σ interRule threads never fuel scc ps).map (doneOpt ProgStT.toProgSt) := by
  rw [runScc_eq, runSccT_eq]
  by_cases hlp : isLooping p scc = true
  · rw [if_pos hlp, if_pos hlp]
    have := sccLoop_never I V p σ interRule (dynRels p scc) (sccRules p scc) fuel
      { st := enterScc threads p scc ps.st, clock := ps.clock, checks := ps.checks, iters := 0 }
    show (sccLoop I V p σ interRule (dynRels p scc) (sccRules p scc) fuel
      (RunStT.toRunSt { st := enterScc threads p scc ps.st, clock := ps.clock, checks := ps.checks, iters := 0 }) >>= _) = _
    rw [this]
    cases sccLoopT I V p σ interRule (dynRels p scc) (sccRules p scc) never fuel _ with
    | panic => rfl
    | ok out => cases out <;> rfl
  · rw [if_neg hlp, if_neg hlp]
    show (iteration I V p σ interRule ps.clock (dynRels p scc) (sccRules p scc) (enterScc threads p scc ps.st) >>= _) = _
    cases iteration I V p σ interRule ps.clock (dynRels p scc) (sccRules p scc) (enterScc threads p scc ps.st) with
    | panic => rfl
    | ok s1 =>
      rw [bind_ok, bind_ok]
      cases shift s1.1 with
      | panic => rfl
      | ok s2 =>
        rw [bind_ok, bind_ok]
        cases shift s2 with
        | panic => rfl
        | ok s3 => rfl

theorem runSccs_never (threads fuel : Nat) : ∀ (order : SccOrder) (ps : ProgStT),
    runSccs I V p σ interRule threads fuel order ps.toProgSt =
      (runSccsT I V p σ interRule threads never fuel order ps).map (doneOpt ProgStT.toProgSt) := by
  intro order
  induction order with
  | nil => intro ps; rfl
  | cons scc rest ih =>
    intro ps
    unfold runSccs runSccsT
    rw [runScc_never]
    cases runSccT I V p σ interRule threads never fuel scc ps with
    | panic => rfl
    | ok out =>
      cases out with
      | done ps1 => exact ih ps1
      | _ => rfl

theorem run_never (ix : IxSets) (order : SccOrder) (threads fuel : Nat) (s : PLSt) :
    run I V p ix order σ interRule threads fuel s =
      (runTimeout I V p ix order σ interRule threads never fuel s).map (doneOpt ProgStT.toProgSt) := by
  show (updateIndices threads σ p ix s >>= fun s0 => runSccs I V p σ interRule threads fuel order _) =
    Res.map _ (updateIndices threads σ p ix s >>= fun s0 => runSccsT I V p σ interRule threads never fuel order _)
  cases updateIndices threads σ p ix s with
  | panic => rfl
  | ok s0 => exact runSccs_never I V p σ interRule threads fuel order { st := s0, clock := 0, checks := 0, iters := [] }

end EqT

theorem abandon_lat_length (threads : Nat) (p : Program E B G P A) (scc : List Nat) (s : PLScc) :
    (abandonScc threads p scc s).lat.length = s.lrels.length := by
  simp [abandonScc]

theorem abandon_lrel (threads : Nat) (p : Program E B G P A) (scc : List Nat) (s : PLScc) (r : RelId)
    (hr : r < s.lrels.length) :
    lrel (abandonScc threads p scc s).lat r =
      if isLatRel p r && (dynRels p scc ++ (sccRules p scc).flatMap Rule.bodyRels).contains r then
        { lrel s.lrels r with idxs := (lrel s.lrels r).idxs.map fun ci => (ci.1, ci.2.fresh) }
      else lrel s.lrels r := by
  show lrel ((List.range s.lrels.length).map _) r = _
  rw [lrel_rangeMap _ _ _ hr]

theorem abandon_lrows (threads : Nat) (p : Program E B G P A) (scc : List Nat) (s : PLScc) (r : RelId) :
    (lrel (abandonScc threads p scc s).lat r).rows = (lrel s.lrels r).rows :=
  getD_rangeMap_rows _ s.lrels LCRel.rows (fun r => by split <;> rfl) r

theorem abandon_xrows (threads : Nat) (p : Program E B G P A) (scc : List Nat) (s : PLScc) (r : RelId) :
    xrows (abandonScc threads p scc s) r = (pcrel s.pc.rels r).rows ++ (lrel s.lrels r).rows := by
  show (pcrel (PhysPar.abandonScc threads p scc s.pc) r).rows ++ (lrel (abandonScc threads p scc s).lat r).rows = _
  rw [abandonPar_rows, abandon_lrows]

/-- the early return leaves only unfrozen lattice indices in the struct: the touched ones are `Default`, the others were never
frozen (as `PhysPar.abandonPar_flags` for the plain part) -/
theorem abandon_lflags (threads : Nat) (p : Program E B G P A) (scc : List Nat) {s : PLScc}
    (hlfl : LFlags p (bodyOnly p scc) false s) : LStFlags p (abandonScc threads p scc s).lat := by
  intro r hr hl
  have hr' : r < s.lrels.length := by rw [abandon_lat_length] at hr; exact hr
  have g := hlfl.rels r hr' hl
  rw [abandon_lrel threads p scc s r hr']
  split
  · exact List.forall_mem_map.mpr fun c hc => (g c hc).fresh
  · rename_i ht
    have hb : (bodyOnly p scc).contains r = false := by
      cases hb : (bodyOnly p scc).contains r with
      | false => rfl
      | true =>
        have hm := (List.mem_filter.mp (List.contains_iff_mem.mp hb)).1
        rw [hl, Bool.true_and] at ht
        exact absurd (List.contains_iff_mem.mpr (List.mem_append_right _ hm)) ht
    rw [hb] at g
    exact g

/-- **the early return** keeps the row vectors and leaves a value `run()` may be called on -/
theorem abandon_soundP (threads : Nat) (p : Program E B G P A) (scc : List Nat) {ix : IxSets} {a : SccSt} {s : PLScc}
    (h : PIS p ix (max threads 1) (bodyOnly p scc) false a s) :
    WFSt p (abandonScc threads p scc s) ∧ ∀ r, xrows (abandonScc threads p scc s) r = (relSt a.rels r).rows := by
  obtain ⟨hsim, hpl, hfl, hlfl⟩ := h
  have hrows : ∀ r, xrows (abandonScc threads p scc s) r = (relSt a.rels r).rows := by
    intro r
    rw [abandon_xrows, hsim.rows r, erase_rows_split p s hpl r]
  refine ⟨wfSt_of_flags ((abandonPar_length threads p scc s.pc).trans hpl.len) ((abandon_lat_length threads p scc s).trans hpl.llen)
    (abandonPar_flags threads p scc hfl) (abandon_lflags threads p scc hlfl) (fun r hl => ?_) (fun r hl => ?_)
    (fun r t ht => hsim.typed r t (hrows r ▸ ht)), hrows⟩
  · exact (abandonPar_rows threads p scc s.pc r).trans (hpl.prow r hl)
  · by_cases hr : r < s.lrels.length
    · rw [abandon_lrel threads p scc s r hr, hl, Bool.false_and, if_neg Bool.false_ne_true]
      exact hpl.lrow r hl
    · exact lrel_of_ge _ _ (by rw [abandon_lat_length]; exact Nat.le_of_not_lt hr)

/-- what an interrupted call leaves, relative to the facts `base` of an earlier value of the same call -/
structure Abandoned (I : Interp E B G P A) (L : LatOrder I) (p : Program E B G P A) (inp : RelId → List Tuple) (base : DB)
    (pst : PLSt) : Prop where
  wf : WFSt p pst
  keys : ∀ r, (declOf p r).lat = true → ((xrows pst r).map keyOf).Nodup
  relset : ∀ r, r < p.rels.length → (declOf p r).lat = false → SetRows inp r (xrows pst r)
  below : ∀ M, Tgt I L p inp M → DBLe I L p (factsOf pst) M
  above : DBLe I L p base (factsOf pst)

theorem Abandoned.mono {I : Interp E B G P A} {L : LatOrder I} {p : Program E B G P A} {inp : RelId → List Tuple}
    {base base' : DB} {pst : PLSt} (h : Abandoned I L p inp base pst) (hle : DBLe I L p base' base) :
    Abandoned I L p inp base' pst :=
  ⟨h.wf, h.keys, h.relset, h.below, DBLe.trans hle h.above⟩

theorem abandonScc_abandoned (I : Interp E B G P A) (L : LatOrder I) (threads : Nat) (p : Program E B G P A) (scc : List Nat)
    {ix : IxSets} {inp : RelId → List Tuple} {st : St} {a : SccSt} {s : PLScc}
    (h : PIS p ix (max threads 1) (bodyOnly p scc) false a s) (hinv : LInv I L p inp (dynRels p scc) a)
    (hb : DBLe I L p (Engine.factsOf st) (FactsS a)) :
    Abandoned I L p inp (Engine.factsOf st) (abandonScc threads p scc s) := by
  obtain ⟨hw, hrows⟩ := abandon_soundP threads p scc h
  have hf : FactsS a = factsOf (abandonScc threads p scc s) := by
    funext f
    simp only [FactsS, rowsOf, factsOf, hrows]
  refine ⟨hw, ?_, ?_, ?_, ?_⟩
  · intro r hl
    rw [hrows]; exact hinv.keys r hl
  · intro r hr hl
    rw [hrows]; exact hinv.relset r hr hl
  · intro M hM
    rw [← hf]; exact hinv.below M hM
  · rw [← hf]; exact hb

section Body
variable {I : Interp E B G P A} {L : LatOrder I} {V : Hir.VarsOf E B} {p : Program E B G P A} {ix : IxSets}
  {inp : RelId → List Tuple} {dynR : List RelId} {rules : List (Rule E B G P A)} {N : Nat} {bo : List RelId}
  (cx : PassCtx I V p ix dynR rules N bo) (σ : PhysPar.Sched E B G P A) (interRule : Bool)
include cx

theorem iterShift_simP (k : Nat) {a : SccSt} {s : PLScc} (h : PIS p ix N bo false a s)
    (hinv : LInv I L p inp dynR a) (hne : NewEmpty a) :
    ∃ s1 k' s2, iteration I V p σ interRule k dynR rules s = .ok (s1, k') ∧ shift s1 = .ok s2 ∧
      ∃ a1, PassNDL I p dynR rules a a1 ∧ a1.changed = s1.pc.changed ∧ PIS p ix N bo false (Engine.shift a1) s2 ∧
        LInv I L p inp dynR a1 ∧ DBLe I L p (FactsS a) (FactsS a1) := by
  obtain ⟨s1, k', hit, a1, hpass, h1⟩ := iteration_simP cx σ interRule k h (LInv_reset hinv) hne
  obtain ⟨hinv1, hext, _⟩ := passNDL_spec rules cx.sub cx.dyn a a1 (LInv_reset hinv) hpass
  obtain ⟨s2, hsh, h2⟩ := shift_simP h1 hinv1.wf hinv1.keys
  exact ⟨s1, k', s2, hit, hsh, a1, hpass, h1.sim.changed, h2, hinv1, hext.dble⟩

/-- a non-looping SCC: one iteration and two merges -/
theorem once_simP (k : Nat) {a : SccSt} {s : PLScc} (h : PIS p ix N bo false a s)
    (hinv : LInv I L p inp dynR a) (hne : NewEmpty a) :
    ∃ s1 k' s2 s3, iteration I V p σ interRule k dynR rules s = .ok (s1, k') ∧ shift s1 = .ok s2 ∧ shift s2 = .ok s3 ∧
      ∃ a1, PassNDL I p dynR rules a a1 ∧ PIS p ix N bo false (Engine.shift (Engine.shift a1)) s3 ∧
        LInv I L p inp dynR (Engine.shift (Engine.shift a1)) ∧
        DBLe I L p (FactsS a) (FactsS (Engine.shift (Engine.shift a1))) := by
  obtain ⟨s1, k', s2, hit, hsh, a1, hpass, _, h2, hinv1, hle⟩ := iterShift_simP cx σ interRule k h hinv hne
  have hinv2 := LInv_shift hinv1
  obtain ⟨s3, hsh3, h3⟩ := shift_simP h2 hinv2.wf hinv2.keys
  exact ⟨s1, k', s2, s3, hit, hsh, hsh3, a1, hpass, h3, LInv_shift hinv2, hle⟩

end Body

/-- the standing hypotheses of a run; `RunCtx.pass` gives those of a pass for every SCC -/
structure RunCtx (I : Interp E B G P A) (V : Hir.VarsOf E B) (p : Program E B G P A) (ix : IxSets) : Prop where
  ext : Plan.Ext I
  supp : Plan.Supp I V
  hff : ∀ r a b, (I.joinMut r a b).2 = false → (I.joinMut r a b).1 = a
  prog : LatticeProg p
  decl : BodyDeclared p
  ar : ∀ r, isLatRel p r = true → 0 < arityOf p r
  fit : ∀ r ∈ p.rules, RuleFitL V p (ixP p ix) r

theorem runCtx_of_latPlanOk {I : Interp E B G P A} {V : Hir.VarsOf E B} {p : Program E B G P A} {ix : IxSets}
    (hI : Plan.Ext I) (hS : Plan.Supp I V) (hff : ∀ r a b, (I.joinMut r a b).2 = false → (I.joinMut r a b).1 = a)
    (hp : LatticeProg p) (hb : BodyDeclared p) (hplan : PhysLat.latPlanOk V p ix = true)
    (hd : ∀ r ∈ p.rules, Hir.Desugared V r = true ∧ Plan.WellScoped V r = true) : RunCtx I V p ix := by
  have hR := ruleFitL_of_latPlanOk V p ix hp hplan hd
  exact ⟨hI, hS, hff, hp, hb, arity_pos_of_latPlanOk V p ix hplan, fun r hr =>
    { hR r hr with clok := clOk_ixP p ix _ 0 r.body (hR r hr).clok }⟩

section Ctx
variable {I : Interp E B G P A} {L : LatOrder I} {V : Hir.VarsOf E B} {p : Program E B G P A} {ix : IxSets}
  {inp : RelId → List Tuple} (c : RunCtx I V p ix) (σ : PhysPar.Sched E B G P A) (interRule : Bool) (threads : Nat)
include c

theorem RunCtx.pass (scc : List Nat) :
    PassCtx I V p ix (dynRels p scc) (sccRules p scc) (max threads 1) (bodyOnly p scc) := by
  have hrules := sccRules_sub p scc
  refine ⟨c.ext, c.supp, c.hff, by omega, dynRels_lt p c.prog.2.1 scc, c.ar, hrules, dynRels_heads p scc,
    fun r hr => c.fit r (hrules r hr), ?_⟩
  · intro rule hrule r hr hnd
    refine ⟨?_, c.decl rule (hrules rule hrule) r hr⟩
    rw [List.contains_iff_mem]
    unfold bodyOnly
    rw [List.mem_filter]
    exact ⟨List.mem_flatMap.mpr ⟨rule, hrule, hr⟩, by rw [hnd]; rfl⟩

end Ctx

/-- what the loop of a looping SCC entered in `a` (from the value `st`) leaves, per outcome -/
def LoopOut (I : Interp E B G P A) (L : LatOrder I) (p : Program E B G P A) (ix : IxSets) (inp : RelId → List Tuple)
    (dynR : List RelId) (rules : List (Rule E B G P A)) (N : Nat) (bo : List RelId) (st : St) (a : SccSt) :
    Outcome RunStT → Prop
  | .done rs => ∃ a', LoopNDL I p dynR rules a a' ∧ PIS p ix N bo false a' rs.st ∧ LInv I L p inp dynR a'
  | .timedOut rs => ∃ a', PIS p ix N bo false a' rs.st ∧ LInv I L p inp dynR a' ∧
      DBLe I L p (Engine.factsOf st) (FactsS a')
  | .outOfFuel => True

/-- the same between SCCs: `true` = an execution `R` of the nondeterministic lattice engine, simulated; `false` = `Abandoned` -/
def RunOut (I : Interp E B G P A) (L : LatOrder I) (p : Program E B G P A) (ix : IxSets) (inp : RelId → List Tuple) (N : Nat)
    (base : DB) (R : St → Prop) : Outcome ProgStT → Prop
  | .done ps' => ∃ st', R st' ∧ PStInv p ix N st' ps'.st
  | .timedOut ps' => Abandoned I L p inp base ps'.st
  | .outOfFuel => True

theorem RunOut.imp {I : Interp E B G P A} {L : LatOrder I} {p : Program E B G P A} {ix : IxSets} {inp : RelId → List Tuple}
    {N : Nat} {base base' : DB} {R R' : St → Prop} {out : Outcome ProgStT} (h : RunOut I L p ix inp N base R out)
    (hR : ∀ st', R st' → R' st') (hle : DBLe I L p base' base) : RunOut I L p ix inp N base' R' out := by
  cases out with
  | done ps' => exact Exists.imp (fun st' h' => ⟨hR st' h'.1, h'.2⟩) h
  | timedOut ps' => exact Abandoned.mono h hle
  | outOfFuel => trivial

section Loop
variable {I : Interp E B G P A} {L : LatOrder I} {V : Hir.VarsOf E B} {p : Program E B G P A} {ix : IxSets}
  {inp : RelId → List Tuple} {dynR : List RelId} {rules : List (Rule E B G P A)} {N : Nat} {bo : List RelId}
  (cx : PassCtx I V p ix dynR rules N bo) (σ : PhysPar.Sched E B G P A) (interRule : Bool)
include cx

theorem sccLoopT_simP (dl : Deadline) (st : St) :
    ∀ (fuel : Nat) (rs : RunStT) (a : SccSt), LInv I L p inp dynR a → NewEmpty a →
      DBLe I L p (Engine.factsOf st) (FactsS a) → PIS p ix N bo false a rs.st →
      ∃ out, sccLoopT I V p σ interRule dynR rules dl fuel rs = .ok out ∧ LoopOut I L p ix inp dynR rules N bo st a out := by
  intro fuel
  induction fuel with
  | zero => exact fun rs a _ _ _ _ => ⟨.outOfFuel, rfl, trivial⟩
  | succ fuel ih =>
    intro rs a hinv hne hb h
    obtain ⟨s1, k', s2, hit, hsh, a1, hpass, hch, h2, hinv1, hle⟩ := iterShift_simP cx σ interRule rs.clock h hinv hne
    have hinv' := LInv_shift hinv1
    have hb' : DBLe I L p (Engine.factsOf st) (FactsS (Engine.shift a1)) := DBLe.trans hb hle
    rw [sccLoopT_succ, hit, bind_ok, hsh, bind_ok]
    cases hc : s1.pc.changed with
    | false => exact ⟨_, rfl, _, LoopNDL.exit hpass (by rw [hch, hc]), h2, hinv'⟩
    | true =>
      cases hd : dl rs.checks with
      | true => exact ⟨_, rfl, Engine.shift a1, h2, hinv', hb'⟩
      | false =>
        obtain ⟨out, hout, hpost⟩ := ih { st := s2, clock := k', checks := rs.checks + 1, iters := rs.iters + 1 }
          (Engine.shift a1) hinv' (NewEmpty_shift a1) hb' h2
        refine ⟨out, hout, ?_⟩
        -- the rest of the loop started one pass later
        cases out with
        | done rs' =>
          obtain ⟨a', hloop, g⟩ := hpost
          exact ⟨a', LoopNDL.more hpass (by rw [hch, hc]) hloop, g⟩
        | timedOut rs' => exact hpost
        | outOfFuel => trivial

end Loop

section Run
variable {I : Interp E B G P A} {L : LatOrder I} {V : Hir.VarsOf E B} {p : Program E B G P A} {ix : IxSets}
  {inp : RelId → List Tuple} (c : RunCtx I V p ix) (σ : PhysPar.Sched E B G P A) (interRule : Bool) (threads : Nat)
include c

theorem runSccT_simP (dl : Deadline) (fuel : Nat) (scc : List Nat) (ps : ProgStT) (st : St)
    (hinv : LPInv I L p inp st) (hs : PStInv p ix (max threads 1) st ps.st) :
    ∃ out, runSccT I V p σ interRule threads dl fuel scc ps = .ok out ∧
      RunOut I L p ix inp (max threads 1) (Engine.factsOf st) (SccNDL I p scc st) out := by
  have cx := c.pass threads scc
  have hinv0 := LInvT_tgt.mp (hinv.enter (dynRels p scc) cx.lt)
  have hne0 := NewEmpty_enterScc st (dynRels p scc)
  have hb0 : DBLe I L p (Engine.factsOf st) (FactsS (Engine.enterScc st (dynRels p scc))) := by
    rw [FactsS_enter]; exact DBLe.refl _
  have h0 := enter_PIS threads cx.lt hs
  rw [runSccT_eq]
  by_cases hlp : isLooping p scc = true
  · rw [if_pos hlp]
    obtain ⟨out, hout, hpost⟩ := sccLoopT_simP cx σ interRule dl st fuel
      { st := enterScc threads p scc ps.st, clock := ps.clock, checks := ps.checks, iters := 0 } _ hinv0 hne0 hb0 h0
    rw [hout, bind_ok]
    refine ⟨_, rfl, ?_⟩
    cases out with
    | done rs =>
      obtain ⟨a', hnd, h', hinva'⟩ := hpost
      refine ⟨Engine.leaveScc a', ?_, leave_inv p scc h' hinva'.wf cx.lt⟩
      unfold SccNDL
      rw [if_pos hlp]
      exact ⟨a', hnd, rfl⟩
    | timedOut rs =>
      obtain ⟨a', h', hinva', hba'⟩ := hpost
      exact abandonScc_abandoned I L threads p scc h' hinva' hba'
    | outOfFuel => trivial
  · rw [if_neg hlp]
    obtain ⟨s1, k', s2, s3, hit, hsh, hsh3, a1, hpass, h3, hinv3, hle⟩ := once_simP cx σ interRule ps.clock h0 hinv0 hne0
    rw [hit, bind_ok, hsh, bind_ok, hsh3, bind_ok]
    cases hd : dl ps.checks with
    | false =>
      refine ⟨_, rfl, Engine.leaveScc (Engine.shift (Engine.shift a1)), ?_, leave_inv p scc h3 hinv3.wf cx.lt⟩
      unfold SccNDL
      rw [if_neg hlp]
      exact ⟨a1, hpass, rfl⟩
    | true =>
      exact ⟨_, rfl, abandonScc_abandoned I L threads p scc h3 hinv3 (DBLe.trans hb0 hle)⟩

theorem runSccsT_simP (dl : Deadline) (fuel : Nat) : ∀ (order : SccOrder) (ps : ProgStT) (st : St),
    LPInv I L p inp st → PStInv p ix (max threads 1) st ps.st →
    ∃ out, runSccsT I V p σ interRule threads dl fuel order ps = .ok out ∧
      RunOut I L p ix inp (max threads 1) (Engine.factsOf st) (SccsNDL I p order st) out := by
  intro order
  induction order with
  | nil => exact fun ps st _ hs => ⟨.done ps, rfl, st, SccsNDL.nil, hs⟩
  | cons scc rest ih =>
    intro ps st hinv hs
    obtain ⟨out, hout, hpost⟩ := runSccT_simP c σ interRule threads dl fuel scc ps st hinv hs
    cases out with
    | done ps1 =>
      obtain ⟨st1, hnd, hs1⟩ := hpost
      obtain ⟨hinv1, _, hle, _⟩ := sccNDL_spec c.prog.1 c.prog.2.1 scc st st1 hinv hnd
      obtain ⟨out2, hout2, hpost2⟩ := ih ps1 st1 hinv1 hs1
      exact ⟨out2, by simp only [runSccsT, hout]; exact hout2, hpost2.imp (fun _ h => SccsNDL.cons hnd h) hle⟩
    | timedOut x => exact ⟨.timedOut x, by simp only [runSccsT, hout], hpost⟩
    | outOfFuel => exact ⟨.outOfFuel, by simp only [runSccsT, hout], trivial⟩

end Run

/-- **`run_timeout`, every outcome**: never panics; `true` = an execution of the nondeterministic lattice engine from the
start value, simulated; `false` = `Abandoned` relative to the start value -/
theorem runTimeout_simP (I : Interp E B G P A) (L : LatOrder I) (V : Hir.VarsOf E B) (p : Program E B G P A) (ix : IxSets)
    (order : SccOrder) (c : RunCtx I V p ix) (σ : PhysPar.Sched E B G P A) (interRule : Bool)
    (threads : Nat) (dl : Deadline) (fuel : Nat) (s : PLSt) (hs : WFSt p s) (hi : InputOK p (xrows s)) :
    ∃ out, runTimeout I V p ix order σ interRule threads dl fuel s = .ok out ∧
      RunOut I L p ix (xrows s) (max threads 1) (inDB p (xrows s)) (RunNDL I p order (Engine.initSt p (xrows s))) out := by
  obtain ⟨s0, hupd, hst0⟩ := updateIndices_inv threads σ p ix s hs hi c.ar
  obtain ⟨hinv0, hin0⟩ := LPInv_start (I := I) (L := L) (p := p) (inp := xrows s) hi.2
  obtain ⟨out, hout, hpost⟩ := runSccsT_simP c σ interRule threads dl fuel order
    { st := s0, clock := 0, checks := 0, iters := [] } _ hinv0 hst0
  exact ⟨out, bind_eq_ok.mpr ⟨s0, hupd, hout⟩, hpost.imp (fun _ h => h) hin0⟩

end AscentVerif.PhysParLat
