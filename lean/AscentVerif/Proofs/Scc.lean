import AscentVerif.Proofs.Pass
/-!
# One SCC: `shift`, entering and leaving, its rules and dynamic relations

`shift` (`total += delta; delta := new`) and what it keeps of `WF`; `NewEmpty` (the state at the top of an iteration),
`Settled` (the state after an iteration that changed nothing), `hasDyn` (a rule with a dynamic clause: on SCC entry `total`
is empty, so only the other rules have instances over it).  `enterScc` puts the stored index of every dynamic relation into
`delta`; `leaveScc` writes `total` back, one `leaveStep` per dynamic relation.  What the model's `sccRules`, `dynRels`,
`isLooping` give the invariants (the heads of an SCC's rules are its dynamic relations, they are declared, a non-looping SCC
reads none of them), and what the early return of `run_timeout` leaves of a relation (`relSt_abandon`, `Agg.abandon_rows`).
-/
namespace AscentVerif.Engine
open AscentVerif

variable {E B G P A : Type}

def shiftD (d : Dyn) : Dyn := { d with total := d.total ++ d.delta, delta := d.new, new := [] }

theorem shift_dyn (s : SccSt) : (shift s).dyn = s.dyn.map shiftD := rfl
theorem shift_rels (s : SccSt) : (shift s).rels = s.rels := rfl
theorem shift_rowsOf (s : SccSt) (r : RelId) : rowsOf (shift s) r = rowsOf s r := rfl

theorem findDyn_shift (s : SccSt) (r : RelId) : findDyn (shift s).dyn r = (findDyn s.dyn r).map shiftD := by
  rw [shift_dyn]; exact findDyn_map s.dyn shiftD (fun _ => rfl) r

theorem findDyn_shift_some {s : SccSt} {r : RelId} {d' : Dyn} (h : findDyn (shift s).dyn r = some d') :
    ∃ d, findDyn s.dyn r = some d ∧ shiftD d = d' :=
  Option.map_eq_some_iff.mp ((findDyn_shift s r).symm.trans h)

theorem WF_shift {n : Nat} {dynR : List RelId} {s : SccSt} (h : WF n dynR s) : WF n dynR (shift s) := by
  refine ⟨h.len, ?_, ?_, ?_, ?_⟩
  · intro r
    rw [findDyn_shift, Option.isSome_map]
    exact h.dyn_iff r
  · intro y hy
    obtain ⟨x, hx, rfl⟩ := List.mem_map.mp hy
    exact (findDyn_shift s x.rel).trans (congrArg (Option.map shiftD) (h.uniq x hx))
  · intro r d' hd' i
    obtain ⟨d, hd, rfl⟩ := findDyn_shift_some hd'
    rw [shift_rowsOf, h.cover r d hd i]
    show _ ↔ i ∈ d.total ++ d.delta ∨ i ∈ d.new ∨ i ∈ []
    rw [List.mem_append, or_assoc, or_iff_left (List.not_mem_nil (a := i))]
  · intro r hd' i
    rw [findDyn_shift, Option.map_eq_none_iff] at hd'
    exact h.cover_nd r hd' i

section Iter
variable (n : Nat) (dynR : List RelId)

def Settled (s : SccSt) : Prop := ∀ r d, findDyn s.dyn r = some d → d.delta = [] ∧ d.new = []

def NewEmpty (s : SccSt) : Prop := ∀ r d, findDyn s.dyn r = some d → d.new = []

theorem NewEmpty_shift (s : SccSt) : NewEmpty (shift s) := by
  intro r d' hd'
  obtain ⟨d, _, rfl⟩ := findDyn_shift_some hd'
  rfl

theorem Settled_shift {s : SccSt} (h : NewEmpty s) : Settled (shift s) := by
  intro r d' hd'
  obtain ⟨d, hd, rfl⟩ := findDyn_shift_some hd'
  exact ⟨h r d hd, rfl⟩

def hasDyn (rule : Rule E B G P A) : Prop := dynCount dynR rule.body ≠ 0

theorem WF_reset {s : SccSt} (h : WF n dynR s) : WF n dynR { s with changed := false } :=
  ⟨h.len, h.dyn_iff, h.uniq, h.cover, h.cover_nd⟩

end Iter

theorem enterScc_rels (st : St) (dynR : List RelId) : (enterScc st dynR).rels = st := by
  simp [enterScc]

theorem findDyn_enter (st : St) (dynR : List RelId) (r : RelId) :
    findDyn (enterScc st dynR).dyn r =
      if dynR.contains r then some ⟨r, [], (relSt st r).idx, []⟩ else none := by
  simp only [enterScc]
  induction dynR with
  | nil => rfl
  | cons x xs ih =>
    simp only [List.map_cons, findDyn, List.find?_cons, List.contains_cons]
    by_cases hx : x = r
    · subst hx; simp
    · have h1 : (x == r) = false := by simpa using hx
      have h2 : (r == x) = false := by simpa using (fun h : r = x => hx h.symm)
      simp only [h1, h2, Bool.false_or]
      exact ih

theorem findDyn_enter_some {st : St} {dynR : List RelId} {r : RelId} {d : Dyn}
    (h : findDyn (enterScc st dynR).dyn r = some d) :
    dynR.contains r = true ∧ d = ⟨r, [], (relSt st r).idx, []⟩ := by
  rw [findDyn_enter] at h
  split at h
  · rename_i hc
    exact ⟨hc, (Option.some.inj h).symm⟩
  · cases h

theorem NewEmpty_enterScc (st : St) (dynR : List RelId) : NewEmpty (enterScc st dynR) := by
  intro r d hd
  rw [(findDyn_enter_some hd).2]

theorem WF_enterScc {n : Nat} {st : St} (dynR : List RelId) (hlen : st.length = n)
    (hidx : ∀ r i, i < (relSt st r).rows.length ↔ i ∈ (relSt st r).idx) : WF n dynR (enterScc st dynR) := by
  refine ⟨by rw [enterScc_rels]; exact hlen, ?_, ?_, ?_, ?_⟩
  · intro r
    rw [findDyn_enter]
    cases dynR.contains r <;> rfl
  · intro d hd
    simp only [enterScc, List.mem_map] at hd
    obtain ⟨x, hx, rfl⟩ := hd
    have := findDyn_enter st dynR x
    rw [List.contains_iff_mem.mpr hx] at this
    exact this
  · intro r d hd i
    obtain ⟨_, rfl⟩ := findDyn_enter_some hd
    simp only [rowsOf, enterScc_rels, List.not_mem_nil, false_or, or_false]
    exact hidx r i
  · intro r _ i
    simp only [rowsOf, enterScc_rels]
    exact hidx r i

def leaveStep (st : St) (d : Dyn) : St := setNth st d.rel { relSt st d.rel with idx := d.total }

theorem leaveScc_eq (s : SccSt) : leaveScc s = s.dyn.foldl leaveStep s.rels := rfl

theorem leaveStep_length (st : St) (d : Dyn) : (leaveStep st d).length = st.length := length_setNth ..

theorem leave_length (L : List Dyn) (st : St) : (L.foldl leaveStep st).length = st.length :=
  foldl_setNth_length (⟨[], []⟩ : RelSt) Dyn.rel (fun rs d => { rs with idx := d.total }) L st

theorem leave_rows (r : RelId) (L : List Dyn) (st : St) (h : ∀ d ∈ L, d.rel < st.length) :
    (relSt (L.foldl leaveStep st) r).rows = (relSt st r).rows :=
  (leaveG_rows (⟨[], []⟩ : RelSt) Dyn.rel (fun rs d => { rs with idx := d.total }) RelSt.rows (fun _ _ => rfl) L st h).2 r

theorem leave_untouched (r : RelId) (L : List Dyn) (st : St) (h : ∀ d ∈ L, d.rel ≠ r) :
    relSt (L.foldl leaveStep st) r = relSt st r :=
  foldl_setNth_untouched (⟨[], []⟩ : RelSt) Dyn.rel (fun rs d => { rs with idx := d.total }) r L st h

theorem leave_touched (r : RelId) (T : List Nat) : ∀ (L : List Dyn) (st : St), (∀ d ∈ L, d.rel < st.length) →
    (∀ d ∈ L, d.rel = r → d.total = T) → ((∃ d ∈ L, d.rel = r) ∨ (relSt st r).idx = T) →
    (relSt (L.foldl leaveStep st) r).idx = T := by
  intro L
  induction L with
  | nil =>
    intro _ _ _ h
    rcases h with ⟨d, hd, _⟩ | h
    · simp at hd
    · exact h
  | cons d L ih =>
    intro st hlt hT h
    rw [List.foldl_cons]
    apply ih
    · exact fun d' hd' => leaveStep_length st d ▸ hlt d' (List.mem_cons_of_mem _ hd')
    · exact fun d' hd' => hT d' (List.mem_cons_of_mem _ hd')
    · by_cases hr : d.rel = r
      · right
        subst hr
        simp [leaveStep, relSt_setNth_self _ _ _ (hlt d (by simp)), hT d (by simp) rfl]
      · rcases h with ⟨d', hd', hr'⟩ | h
        · rcases List.mem_cons.mp hd' with rfl | hd'
          · exact absurd hr' hr
          · exact .inl ⟨d', hd', hr'⟩
        · right
          rw [show relSt (leaveStep st d) r = relSt st r from relSt_setNth_ne _ _ _ _ (Ne.symm hr)]
          exact h

theorem sccRules_sub (p : Program E B G P A) (scc : List Nat) : ∀ rule ∈ sccRules p scc, rule ∈ p.rules := by
  intro rule h
  simp only [sccRules, List.mem_filterMap] at h
  obtain ⟨i, _, hi⟩ := h
  exact List.mem_of_getElem? hi

theorem dynRels_mem (p : Program E B G P A) (scc : List Nat) (r : RelId) :
    (dynRels p scc).contains r = true ↔ ∃ rule ∈ sccRules p scc, ∃ h ∈ rule.heads, h.rel = r := by
  rw [List.contains_iff_mem, dynRels, List.mem_eraseDups, List.mem_flatMap]
  simp only [Rule.headRels, List.mem_map]

theorem notLooping (p : Program E B G P A) (scc : List Nat) (h : isLooping p scc = false) :
    ∀ rule ∈ sccRules p scc, ∀ b ∈ rule.body.filterMap Item.rel?, (dynRels p scc).contains b = false := by
  intro rule hr b hb
  rw [isLooping, List.any_eq_false] at h
  have := h rule hr
  rw [Bool.not_eq_true, List.any_eq_false] at this
  exact Bool.not_eq_true _ ▸ this b hb

theorem dynRels_heads (p : Program E B G P A) (scc : List Nat) :
    ∀ rule ∈ sccRules p scc, ∀ h ∈ rule.heads, (dynRels p scc).contains h.rel = true :=
  fun rule hr h hhd => (dynRels_mem p scc h.rel).mpr ⟨rule, hr, h, hhd, rfl⟩

theorem dynRels_lt (p : Program E B G P A) (hh : ∀ r ∈ p.rules, ∀ h ∈ r.heads, h.rel < p.rels.length) (scc : List Nat) :
    ∀ r, (dynRels p scc).contains r = true → r < p.rels.length := by
  intro r hr
  obtain ⟨rule, hrule, h, hhd, rfl⟩ := (dynRels_mem p scc r).mp hr
  exact hh rule (sccRules_sub p scc rule hrule) h hhd

theorem relSt_abandon (p : Program E B G P A) (scc : List Nat) (s : SccSt) (r : RelId) :
    relSt (abandonScc p scc s) r =
      if r < s.rels.length then
        (if (dynRels p scc ++ (sccRules p scc).flatMap Rule.bodyRels).contains r then
          { relSt s.rels r with idx := [] } else relSt s.rels r)
      else ⟨[], []⟩ := by
  split
  · next hr => exact relSt_map_range _ _ r hr
  · next hr =>
    refine relSt_of_ge _ _ ?_
    rw [abandonScc, List.length_map, List.length_range]
    exact Nat.le_of_not_lt hr

namespace Agg

theorem abandon_rows (p : Program E B G P A) (scc : List Nat) (s : SccSt) (r : RelId) :
    (relSt (abandonScc p scc s) r).rows = rowsOf s r := by
  rw [relSt_abandon]
  split
  · split <;> rfl
  · rename_i hr
    rw [rowsOf, relSt_of_ge _ _ (Nat.le_of_not_lt hr)]

theorem facts_abandon (p : Program E B G P A) (scc : List Nat) (s : SccSt) : factsOf (abandonScc p scc s) = FactsS s := by
  funext f
  simp only [factsOf, FactsS, abandon_rows]

end Agg

end AscentVerif.Engine
