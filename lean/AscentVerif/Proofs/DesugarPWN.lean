import AscentVerif.Proofs.DesugarPWNSyn
/-!
# Passes 3–5 of the desugaring (pattern arguments, wildcards, negation) preserve the documented meaning

A clause pass simulates its input up to its generated names as soon as, on every clause, the new arguments followed by the
generated conditions match the tuples the old arguments match (`mapClauses_sim`): everything else in the body is a frame
that mentions no generated name.  For the wildcard pass that is `freshen_sim`; `!r(args)` and `agg () = not() in r(args)`
are the same step (`stepF_negItem`).  The pattern pass binds the column of a `?pattern` argument to `__arg_pattern_N` at once
and runs `if let pattern = __arg_pattern_N` after the last argument; the two orders agree because the later arguments do not
mention the pattern's variables (`PatScopedArgs`) and a frame commutes with bindings it does not mention (`Frame.push`).
`pwn_correct` composes the three passes with `Sim.trans`.
-/
namespace AscentVerif.Surface
open AscentVerif AscentVerif.Engine

variable {E B G P A : Type}

theorem matchAggArgs_toAgg (I : Interp E B G P A) (ρ : Env) (args : List (NArg E)) (t : Tuple) (acc : Env) :
    matchAggArgs I ρ (args.map NArg.toAgg) t acc = if matchNArgs I ρ args t then some acc else none := by
  induction args generalizing t with
  | nil => cases t <;> rfl
  | cons a as ih =>
    cases t with
    | nil => rw [List.map_cons, matchAggArgs_cons_nil, matchNArgs_cons_nil]; rfl
    | cons x xs =>
      have h1 : matchAggArg I ρ a.toAgg x acc = if matchNArg I ρ a x then some acc else none := by
        cases a with
        | wild => rfl
        | expr e => simp only [NArg.toAgg, matchAggArg, matchArg, matchNArg, decide_eq_true_eq]
      rw [List.map_cons, matchAggArgs_cons, matchNArgs_cons, h1]
      cases matchNArg I ρ a x with
      | false => rfl
      | true => exact ih xs

theorem stepF_negItem {I : Interp E B G P A} {ops : Ops E B G A} (hS : SugarSound I ops) (D : DB) (agg : RelId → List Tuple)
    (f : FItem E B G P A) (ρ ρ' : Env) : StepF I D agg (negItem ops f) ρ ρ' ↔ StepF I D agg f ρ ρ' := by
  cases f with
  | neg r as =>
    simp only [negItem, StepF, aggEnvs, hS.notA]
    have hbag : (aggBag I { outs := [], fn := ops.notA, boundArgs := [], rel := r, args := as.map NArg.toAgg } ρ (agg r)).isEmpty = true ↔
        ∀ t ∈ agg r, matchNArgs I ρ as t = false := by
      simp only [aggBag, matchAggArgs_toAgg, List.isEmpty_iff, List.filterMap_eq_nil_iff]
      constructor
      · intro h t ht
        have := h t ht
        cases hm : matchNArgs I ρ as t <;> simp_all
      · intro h t ht
        simp [h t ht]
    by_cases hb : ∀ t ∈ agg r, matchNArgs I ρ as t = false
    · rw [if_pos (hbag.mpr hb)]
      simp only [List.filterMap_cons, List.length_nil, if_true, List.zip_nil_left, List.nil_append, List.filterMap_nil,
        List.mem_singleton]
      exact ⟨fun h => ⟨h, hb⟩, fun h => h.1⟩
    · rw [if_neg (mt hbag.mp hb)]
      simp only [List.filterMap_nil, List.not_mem_nil, false_iff]
      exact fun h => hb h.2
  | _ => exact Iff.rfl

theorem satF_negItems {I : Interp E B G P A} {ops : Ops E B G A} (hS : SugarSound I ops) (D : DB) (agg : RelId → List Tuple)
    (fs : List (FItem E B G P A)) (ρ ρ' : Env) :
    SatF I D agg (fs.map (negItem ops)) ρ ρ' ↔ SatF I D agg fs ρ ρ' := by
  induction fs generalizing ρ with
  | nil => exact Iff.rfl
  | cons f fs ih => simp only [List.map_cons, SatF, stepF_negItem hS, ih]

section
variable {I : Interp E B G P A} {varsE : E → List Var} {varsB : B → List Var} {varsG : G → List Var}
  (hV : VarsSound I varsE varsB varsG)
include hV

theorem mapClauses_sim (D : DB) (agg : RelId → List Tuple) (gen : Nat → Var)
    (F : List (SArg E P) → Nat → List (SArg E P) × List (Cond E B P) × Nat) (fs : List (FItem E B G P A)) :
    ∀ k, (∀ f ∈ fs, ∀ v ∈ FItem.mentions varsE varsB varsG f, ¬ GenOf gen v) →
      (∀ r as cs, FItem.clause r as cs ∈ fs → ∀ t k ρ σ, GenRel gen k ρ σ →
        OptRel (GenRel gen (F as k).2.2) ((matchSArgs I (F as k).1 t ρ).bind (satConds I (F as k).2.1)) (matchSArgs I as t σ)) →
      ∃ k', Sim (GenRel gen k) (GenRel gen k') (SatF I D agg (mapClauses F fs k)) (SatF I D agg fs) := by
  induction fs with
  | nil => exact fun k _ _ => ⟨k, fun ρ σ hr => ⟨fun _ h => ⟨σ, rfl, h ▸ hr⟩, fun _ h => ⟨ρ, rfl, h ▸ hr⟩⟩⟩
  | cons f rest ih =>
    intro k hm hF
    have hmf := hm f List.mem_cons_self
    have ih' := fun k => ih k (fun g hg => hm g (List.mem_cons_of_mem _ hg))
      (fun r as cs h => hF r as cs (List.mem_cons_of_mem _ h))
    by_cases hf : ∃ r as cs, f = FItem.clause r as cs
    · obtain ⟨r, as, cs, rfl⟩ := hf
      obtain ⟨k', hrest⟩ := ih' (F as k).2.2
      refine ⟨k', ((sim_tuples _ fun t ρ σ hr => ?_).congr (stepF_clause_iff I D agg r _ _) (stepF_clause_iff I D agg r _ _)).comp hrest⟩
      -- the generated conditions come first, then the clause's own, which mention no generated name
      rw [bind_satConds_append]
      exact (hF r as cs List.mem_cons_self t k ρ σ hr).bind fun ρ₁ σ₁ hr₁ =>
        (frame_satConds hV cs).optRel (GenRel.frameRel (fun v hv => hmf v (List.mem_append_right _ hv)) _) hr₁
    · obtain ⟨k', hrest⟩ := ih' k
      rw [mapClauses_cons_other F fun r as cs h => hf ⟨r, as, cs, h⟩]
      exact ⟨k', ((frame_stepF hV D agg f).sim (GenRel.frameRel hmf k)).comp hrest⟩

/-- a selected argument accepts every value and binds nothing (`hsel`), so the fresh variable column in its place matches alike -/
theorem freshen_sim {gen : Nat → Var} (hinj : ∀ i j, gen i = gen j → i = j) {sel : SArg E P → Bool}
    (hsel : ∀ a x σ, sel a = true → matchSArg I a x σ = some σ) (as : List (SArg E P)) :
    ∀ (t : Tuple) (k : Nat) (ρ σ : Env), (∀ v ∈ as.flatMap (SArg.mentions varsE), ¬ GenOf gen v) → GenRel gen k ρ σ →
      OptRel (GenRel gen (freshen gen sel as k).2) (matchSArgs I (freshen gen sel as k).1 t ρ) (matchSArgs I as t σ) := by
  induction as with
  | nil =>
    intro t k ρ σ _ hr
    cases t with
    | nil => exact hr
    | cons x xs => trivial
  | cons a as ih =>
    intro t k ρ σ hm hr
    have hm' := fun v hv => hm v (List.mem_append_right _ hv)
    by_cases ha : sel a = true
    · rw [freshen_cons_sel gen ha]
      cases t with
      | nil => simp only [matchSArgs_cons_nil]; trivial
      | cons x xs =>
        rw [matchSArgs_cons, matchSArgs_cons, hsel a x σ ha]
        simp only [matchSArg, hr.2 k (Nat.le_refl k), Option.bind_some]
        exact ih xs (k + 1) _ σ hm' (hr.cons_gen hinj x)
    · rw [freshen_cons_keep gen ha]
      cases t with
      | nil => simp only [matchSArgs_cons_nil]; trivial
      | cons x xs =>
        simp only [matchSArgs_cons]
        exact ((frame_matchSArg hV a x).optRel (GenRel.frameRel (fun v hv => hm v (List.mem_append_left _ hv)) k) hr).bind
          fun ρ₁ σ₁ hr₁ => ih xs k ρ₁ σ₁ hm' hr₁

theorem wildItems_sim (D : DB) (agg : RelId → List Tuple) (fs : List (FItem E B G P A)) (k : Nat)
    (hm : ∀ f ∈ fs, ∀ v ∈ FItem.mentions varsE varsB varsG f, ¬ GenOf gsWild v) :
    ∃ k', Sim (GenRel gsWild k) (GenRel gsWild k') (SatF I D agg (wildItems fs k)) (SatF I D agg fs) := by
  rw [wildItems_eq]
  refine mapClauses_sim hV D agg gsWild wildF fs k hm fun r as cs hmem t k ρ σ hr => ?_
  simp only [wildF, wildArgs_eq, satConds, Option.bind_fun_some]
  refine freshen_sim hV (gs_inj 1) (fun a x σ ha => ?_) as t k ρ σ (fun v hv => hm _ hmem v (List.mem_append_left _ hv)) hr
  cases a with
  | wild => rfl
  | _ => cases ha

end

theorem patScoped_tail {varsE : E → List Var} {a : SArg E P} {as : List (SArg E P)} (h : PatScopedArgs varsE (a :: as)) :
    PatScopedArgs varsE as := by
  intro pre p vs post he v hv hmem
  refine h (a :: pre) p vs post (by rw [he]; rfl) v hv ?_
  simp only [List.cons_append, List.flatMap_cons, List.mem_append]
  exact .inr hmem

theorem satConds_ifLet_var {I : Interp E B G P A} {ops : Ops E B G A} (hS : SugarSound I ops) (p : P) (vs : List Var) (g : Var)
    (C : List (Cond E B P)) (ρ₁ : Env) (x : Val) (hg : Env.get? ρ₁ g = some x) :
    satConds I (Cond.ifLet p vs (ops.varE g) :: C) ρ₁ =
      (I.pat p x).bind fun ys => if ys.length = vs.length then satConds I C (vs.zip ys ++ ρ₁) else none := by
  simp only [satConds, satCond, hS.varE g ρ₁ x hg]
  cases I.pat p x with
  | none => rfl
  | some ys =>
    simp only [Option.bind_some]
    split <;> rfl

section
variable {I : Interp E B G P A} {ops : Ops E B G A} {varsB : B → List Var} {varsG : G → List Var}
  (hS : SugarSound I ops) (hV : VarsSound I ops.varsE varsB varsG)
include hS hV

theorem pat_step (p : P) (vs : List Var)
    (as as' : List (SArg E P)) (C : List (Cond E B P)) (k k'' : Nat) (x : Val) (xs : Tuple) (ρ σ : Env)
    (hvs_np : ∀ v ∈ vs, ¬ GenOf gsPat v)
    (has' : ∀ v ∈ as'.flatMap (SArg.mentions ops.varsE), v ∉ vs ∧ v ≠ gsPat k)
    (hr : GenRel gsPat k ρ σ)
    (ih : ∀ ρ σ, GenRel gsPat (k + 1) ρ σ →
      OptRel (GenRel gsPat k'') ((matchSArgs I as' xs ρ).bind (satConds I C)) (matchSArgs I as xs σ)) :
    OptRel (GenRel gsPat k'')
      ((matchSArgs I as' xs ((gsPat k, x) :: ρ)).bind (satConds I (Cond.ifLet p vs (ops.varE (gsPat k)) :: C)))
      ((I.pat p x).bind fun ys => if ys.length = vs.length then matchSArgs I as xs (vs.zip ys ++ σ) else none) := by
  have hfr := frame_matchSArgs hV as' xs
  -- the later arguments leave the generated column alone, so the `if let` reads `x`
  have hL : (matchSArgs I as' xs ((gsPat k, x) :: ρ)).bind (satConds I (Cond.ifLet p vs (ops.varE (gsPat k)) :: C)) =
      (matchSArgs I as' xs ((gsPat k, x) :: ρ)).bind fun ρ₁ =>
        (I.pat p x).bind fun ys => if ys.length = vs.length then satConds I C (vs.zip ys ++ ρ₁) else none :=
    Option.bind_congr fun ρ₁ hM => by
      obtain ⟨n, rfl, hk, -⟩ := hfr _ ρ₁ hM
      exact satConds_ifLet_var hS p vs (gsPat k) C _ x (by
        rw [get?_append_of_not_key (fun q hq he => (has' _ (hk q hq)).2 he), get?_cons, if_pos rfl])
  rw [hL]
  cases I.pat p x with
  | none => simp only [Option.bind_none, Option.bind_fun_none]; trivial
  | some ys =>
    by_cases hl : ys.length = vs.length
    · simp only [Option.bind_some, if_pos hl]
      -- matching the later arguments first and binding the pattern variables afterwards, or the other way round
      have h₁ := (hfr.push (m := vs.zip ys) (fun q hq hmem => (has' _ hmem).1 (zip_keys hq)) ((gsPat k, x) :: ρ)).bind
        fun _ _ he => (frame_satConds hV C).optRel (envEqv_frameRel _) he
      simp only [Option.bind_assoc, Option.bind_some] at h₁
      exact h₁.trans_left
        (ih _ _ ((hr.cons_gen (gs_inj 2) x).append fun q hq => hvs_np _ (zip_keys hq)))
        fun _ _ _ hab hbc => hbc.of_envEqv_left hab
    · simp only [Option.bind_some, if_neg hl, Option.bind_fun_none]; trivial

theorem patArgs_sim (as : List (SArg E P)) :
    ∀ (t : Tuple) (k : Nat) (ρ σ : Env),
      (∀ v ∈ as.flatMap (SArg.mentions ops.varsE), ¬ GenOf gsPat v) → PatScopedArgs ops.varsE as → GenRel gsPat k ρ σ →
      OptRel (GenRel gsPat (patArgs (B := B) ops as k).2.2)
        ((matchSArgs I (patArgs (B := B) ops as k).1 t ρ).bind (satConds I (patArgs ops as k).2.1)) (matchSArgs I as t σ) := by
  induction as with
  | nil =>
    intro t k ρ σ _ _ hr
    cases t with
    | nil => exact hr
    | cons x xs => trivial
  | cons a as ih =>
    intro t k ρ σ hm hps hr
    have hm' := fun v hv => hm v (List.mem_append_right _ hv)
    have hma := fun v hv => hm v (List.mem_append_left _ hv)
    have hps' := patScoped_tail hps
    cases t with
    | nil => cases a <;> trivial
    | cons x xs =>
      cases a with
      | pat p vs =>
        have hvs_as : ∀ v ∈ vs, v ∉ as.flatMap (SArg.mentions ops.varsE) := fun v hv => hps [] p vs as rfl v hv
        simp only [patArgs, matchSArgs, hr.2 k (Nat.le_refl k)]
        refine pat_step hS hV p vs as _ _ k _ x xs ρ σ hma ?_ hr (fun ρ' σ' hr' => ih xs (k + 1) ρ' σ' hm' hps' hr')
        intro v hv
        rw [patArgs_fst] at hv
        rcases freshen_flatMap gsPat _ _ (fun _ => rfl) as (k + 1) v hv with ⟨j, hj, rfl⟩ | hmem
        · exact ⟨fun hin => hma _ hin ⟨j, rfl⟩, fun he => by have := gs_inj 2 _ _ he; omega⟩
        · exact ⟨fun hin => hvs_as v hin hmem, fun he => hm' v hmem ⟨k, he⟩⟩
      | _ =>
        simp only [patArgs]
        rw [matchSArgs_cons, matchSArgs_cons, Option.bind_assoc]
        exact ((frame_matchSArg hV _ x).optRel (GenRel.frameRel hma k) hr).bind fun ρ₁ σ₁ hr₁ => ih xs k ρ₁ σ₁ hm' hps' hr₁

theorem patItems_sim (D : DB) (agg : RelId → List Tuple)
    (fs : List (FItem E B G P A)) (k : Nat)
    (hm : ∀ f ∈ fs, ∀ v ∈ FItem.mentions ops.varsE varsB varsG f, ¬ GenOf gsPat v)
    (hps : ∀ r as cs, FItem.clause r as cs ∈ fs → PatScopedArgs ops.varsE as) :
    ∃ k', Sim (GenRel gsPat k) (GenRel gsPat k') (SatF I D agg (patItems ops fs k)) (SatF I D agg fs) := by
  rw [patItems_eq]
  exact mapClauses_sim hV D agg gsPat (patArgs ops) fs k hm fun r as cs hmem t k ρ σ hr =>
    patArgs_sim hS hV as t k ρ σ (fun v hv => hm _ hmem v (List.mem_append_left _ hv)) (hps r as cs hmem) hr

end

theorem pwn_correct (I : Interp E B G P A) (ops : Ops E B G A) {varsB : B → List Var} {varsG : G → List Var}
    (hS : SugarSound I ops) (hV : VarsSound I ops.varsE varsB varsG) (D : DB) (agg : RelId → List Tuple)
    (fs : List (FItem E B G P A))
    (hres : ∀ f ∈ fs, ∀ v ∈ FItem.mentions ops.varsE varsB varsG f, v < reservedBase)
    (hws : ∀ rel args conds, FItem.clause rel args conds ∈ fs → WellScopedArgs ops.varsE args) :
    Sim (fun ρ σ => ρ = [] ∧ σ = []) AgreeUser (SatF I D agg (pwn ops fs)) (SatF I D agg fs) := by
  obtain ⟨_, hpat⟩ := patItems_sim hS hV D agg fs 0 (fun f hf v hv => not_gs_of_lt (d := 2) (hres f hf v hv))
    fun r as cs h => (hws r as cs h).2
  obtain ⟨_, hwild⟩ := wildItems_sim hV D agg (patItems ops fs 0) 1 fun f hf v hv =>
    (patItems_mentions ops hS.varsE_varE fs 0 f hf v hv).elim (gs_disjoint (d := 2) (d' := 1) (by decide))
      fun ⟨f₀, hf₀, hv₀⟩ => not_gs_of_lt (d := 1) (hres f₀ hf₀ v hv₀)
  refine ((hwild.trans hpat).mono ?_ ?_).congr (fun ρ ρ' => satF_negItems hS D agg _ ρ ρ') fun _ _ => Iff.rfl
  · rintro _ _ ⟨rfl, rfl⟩
    exact ⟨[], GenRel.nil _ _, GenRel.nil _ _⟩
  · rintro ρ σ ⟨τ, h₁, h₂⟩ v hv
    exact (h₁.1 v (not_gs_of_lt (d := 1) hv)).trans (h₂.1 v (not_gs_of_lt (d := 2) hv))

#print axioms pwn_correct

end AscentVerif.Surface
