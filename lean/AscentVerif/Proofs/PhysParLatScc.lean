import AscentVerif.Proofs.PhysParLatBasic
import AscentVerif.Proofs.PhysLatScc
import AscentVerif.Proofs.IndexMerge
/-!
# The parallel engine with lattices: the merge, freezing, the invariant between SCCs, SCC entry

`shift_simP`: the merge of every dynamic relation (for a lattice `mergeLx` per index: `CLatIndex::move_index_contents` on the
set-valued ones) goes through on unfrozen indices and simulates `Engine.shift`.  `freezeAll` / `unfreezeAll` at the ends of an
iteration are invisible after erasure.  `PStInv` is the invariant between SCCs; a value satisfying it is one `run()` may be called
on (`PStInv.wfSt`), and SCC entry takes it to the invariant `PIS` inside the SCC (`enter_PIS`).
-/
namespace AscentVerif.PhysParLat
open AscentVerif AscentVerif.Engine AscentVerif.Index AscentVerif.Phys AscentVerif.PhysLat AscentVerif.PhysPar

variable {E B G P A : Type}

theorem latMove_eq (frm to : LIx) :
    latMove frm to =
      ([], if frm.length > to.length then drainInto latShardFn to frm else drainInto latShardFn frm to) := by
  unfold latMove drainInto
  by_cases h : frm.length > to.length
  · simp only [if_pos h]
    congr
    funext acc kv
    congr
    funext o
    cases o <;> rfl
  · simp only [if_neg h]
    congr
    funext acc kv
    congr
    funext o
    cases o <;> rfl

/-- `move_index_contents(delta, total)` of a set-valued index of a lattice -/
theorem LOk_latMove {kc : List Nat} {rows : List Tuple} {bt bd cols : List Nat} {mt md : LIx}
    (ht : LOk kc rows bt cols (.rows mt)) (hd : LOk kc rows bd cols (.rows md)) :
    LOk kc rows (bt ++ bd) cols (.rows (latMove md mt).2) ∧ (latMove md mt).1 = [] := by
  obtain ⟨⟨hne, hnt, hst⟩, ht2⟩ := ht
  obtain ⟨⟨_, hnd, hsd⟩, hd2⟩ := hd
  have h1 : ∀ k i, i ∈ (HMap.get? mt k).getD [] ↔ i ∈ bt ∧ Plan.proj cols (rowAt rows i) = k := ht2
  have h2 : ∀ k i, i ∈ (HMap.get? md k).getD [] ↔ i ∈ bd ∧ Plan.proj cols (rowAt rows i) = k := hd2
  rw [latMove_eq]
  refine ⟨⟨⟨hne, ?_, ?_⟩, ?_⟩, rfl⟩
  · exact nodup_keys_ite_drainInto _ _ md mt hnd hnt
  · show ∀ (k : List Val) (s : List Nat), HMap.get? (if md.length > mt.length then _ else _) k = some s → s.Nodup
    split
    · exact sets_drainInto_latShardFn mt md hnt hst hsd
    · exact sets_drainInto_latShardFn md mt hnd hsd hst
  · intro k i
    show i ∈ (HMap.get? (if md.length > mt.length then _ else _) k).getD [] ↔ _
    have hgoal : (i ∈ (HMap.get? mt k).getD [] ∨ i ∈ (HMap.get? md k).getD []) ↔
        i ∈ bt ++ bd ∧ Plan.proj cols (rowAt rows i) = k := by
      rw [h1, h2, List.mem_append]
      exact or_and_right.symm
    split
    · rw [mem_drainInto_latShardFn mt md hnt, ← hgoal]; exact or_comm
    · rw [mem_drainInto_latShardFn md mt hnd, ← hgoal]

theorem mergeLx_ok {kc cols : List Nat} {t : Tri LCx} (hf : LTriFlags kc false (cols, t)) :
    ∃ t', mergeLx t = .ok t' ∧ LTriFlags kc false (cols, t') ∧
      ∀ (p : Program E B G P A) (r : RelId) (rows : List Tuple) (bt bd bn : List Nat), isLatRel p r = true →
        (cols = keyCols p r → ∀ i ∈ bt, ∀ j ∈ bd, Plan.proj cols (rowAt rows i) = Plan.proj cols (rowAt rows j) → i = j) →
        XOk p r rows bt cols t.total.erase → XOk p r rows bd cols t.delta.erase → XOk p r rows bn cols t.new.erase →
        XOk p r rows (bt ++ bd) cols t'.total.erase ∧ XOk p r rows bn cols t'.delta.erase ∧
          XOk p r rows [] cols t'.new.erase := by
  obtain ⟨tt, td, tn⟩ := t
  obtain ⟨⟨k1, f1⟩, ⟨k2, f2⟩, hn⟩ := hf
  cases hk : (cols == kc) with
  | true =>
    rw [hk] at k1 k2
    obtain ⟨ft, mt, rfl⟩ := LCx.eq_key_of_isKey k1
    obtain ⟨fd, md, rfl⟩ := LCx.eq_key_of_isKey k2
    obtain rfl : ft = false := f1
    obtain rfl : fd = false := f2
    have k3 : tn.isKey = (cols == kc) := hn.kind
    rw [hk] at k3
    obtain ⟨fn, mn, rfl⟩ := LCx.eq_key_of_isKey k3
    refine ⟨_, rfl, ⟨⟨by rw [hk]; rfl, rfl⟩, hn, ⟨by rw [hk]; rfl, rfl⟩⟩, ?_⟩
    intro p r rows bt bd bn hlat hu ht hd hn
    exact XOk_shift (t := ⟨.key mt, .key md, .key mn⟩) ht hd hn (fun _ => hu)
  | false =>
    rw [hk] at k1 k2
    obtain ⟨ft, mt, rfl⟩ := LCx.eq_rows_of_isKey k1
    obtain ⟨fd, md, rfl⟩ := LCx.eq_rows_of_isKey k2
    obtain rfl : ft = false := f1
    obtain rfl : fd = false := f2
    refine ⟨_, rfl, ⟨⟨by rw [hk]; rfl, rfl⟩, hn, ⟨by rw [hk]; rfl, rfl⟩⟩, ?_⟩
    intro p r rows bt bd bn hlat hu ht hd hn
    refine ⟨XOk_lat hlat fun hc => (LOk_latMove (ht.1 hlat hc) (hd.1 hlat hc)).1, hn, XOk_lat hlat fun hc => ?_⟩
    show LOk _ _ _ _ (.rows (latMove md mt).1)
    rw [(LOk_latMove (ht.1 hlat hc) (hd.1 hlat hc)).2]
    exact LOk_emptyLike (ht.1 hlat hc) rows

theorem mergeLDyn_eq (d : LCDyn) :
    mergeLDyn d = (foldRes (fun (done : List (List Nat × Tri LCx)) (ci : List Nat × Tri LCx) =>
      mergeLx ci.2 >>= fun t => pure (done ++ [(ci.1, t)])) d.idxs [] >>= fun idxs => pure { d with idxs := idxs }) := rfl

theorem mergeLDyn_ok {p : Program E B G P A} {d : LCDyn} (hf : LDynFlags p false d) :
    ∃ d', mergeLDyn d = .ok d' ∧ d'.rel = d.rel ∧ LDynFlags p false d' ∧
      ∀ (ix : IxSets) (rows : List Tuple) (ad : Dyn), isLatRel p d.rel = true →
        (∀ i ∈ ad.total, ∀ j ∈ ad.delta,
          Plan.proj (keyCols p d.rel) (rowAt rows i) = Plan.proj (keyCols p d.rel) (rowAt rows j) → i = j) →
        XTriOk p ix d.rel rows ad ⟨[], [], []⟩ (eraseLDyn d).idxs →
        XTriOk p ix d.rel rows (Engine.shiftD ad) ⟨[], [], []⟩ (eraseLDyn d').idxs := by
  obtain ⟨idxs, hfold, hrel2⟩ := foldRes_collect (fun (ci : List Nat × Tri LCx) => mergeLx ci.2)
    (fun ci t => (ci.1, t))
    (fun ci ci' => ci'.1 = ci.1 ∧ LTriFlags (keyCols p d.rel) false ci' ∧
      ∀ (rows : List Tuple) (bt bd bn : List Nat), isLatRel p d.rel = true →
        (ci.1 = keyCols p d.rel → ∀ i ∈ bt, ∀ j ∈ bd,
          Plan.proj ci.1 (rowAt rows i) = Plan.proj ci.1 (rowAt rows j) → i = j) →
        XOk p d.rel rows bt ci.1 ci.2.total.erase → XOk p d.rel rows bd ci.1 ci.2.delta.erase →
        XOk p d.rel rows bn ci.1 ci.2.new.erase →
        XOk p d.rel rows (bt ++ bd) ci'.1 ci'.2.total.erase ∧ XOk p d.rel rows bn ci'.1 ci'.2.delta.erase ∧
          XOk p d.rel rows [] ci'.1 ci'.2.new.erase)
    d.idxs (by
      intro ci hci
      obtain ⟨t', h1, h2, h3⟩ := mergeLx_ok (t := ci.2) (cols := ci.1) (hf ci hci)
      exact ⟨t', h1, rfl, h2, fun rows bt bd bn hl hu => h3 p d.rel rows bt bd bn hl hu⟩)
  refine ⟨{ d with idxs := idxs }, by rw [mergeLDyn_eq, hfold]; rfl, rfl, ?_, ?_⟩
  · intro c' hc'
    obtain ⟨c, _, hq⟩ := hrel2.forall_right c' hc'
    exact hq.2.1
  · intro ix rows ad hlat hu tri
    obtain ⟨hcols, hall⟩ := (XTriOk_lat hlat).mp tri
    refine (XTriOk_lat hlat).mpr ⟨?_, ?_⟩
    · rw [← hcols]
      exact (Rel2.map_eq _ _ (fun c c' hq => hq.1.symm) hrel2).symm
    · intro c' hc'
      obtain ⟨c, hc, hq⟩ := hrel2.forall_right c' hc'
      obtain ⟨g1, g2, g3⟩ := hall c hc
      exact hq.2.2 rows _ _ _ hlat (fun hck i hi j hj hp => hu i hi j hj (by rw [← hck]; exact hp)) g1 g2 g3

theorem shift_eq (s : PLScc) :
    shift s = (PhysPar.shiftPar s.pc >>= fun pc =>
      foldRes (fun (done : List LCDyn) (d : LCDyn) => mergeLDyn d >>= fun d' => pure (done ++ [d'])) s.ldyn [] >>= fun ldyn =>
      pure { s with pc := pc, ldyn := ldyn }) := rfl

theorem shift_simP {p : Program E B G P A} {ix : IxSets} {dynR : List RelId} {N : Nat} {bo : List RelId} {a : SccSt}
    {s : PLScc} (h : PIS p ix N bo false a s) (hwf : WF p.rels.length dynR a)
    (hkeys : ∀ r, isLatRel p r = true → ((rowsOf a r).map keyOf).Nodup) :
    ∃ s', shift s = .ok s' ∧ PIS p ix N bo false (Engine.shift a) s' := by
  obtain ⟨hsim, hpl, hfl, hlfl⟩ := h
  -- a plain dynamic relation: the serial merge keeps the three bags (`IxOk_shift`), the shards hold the same (`IdxsSame.triOk`)
  obtain ⟨dyn', hfoldP, hrelP⟩ := foldRes_collect mergeDyn (fun _ d' => d')
    (fun d d' => d'.rel = d.rel ∧ DynFlags N false d' ∧
      ∀ (ixr : List (List Nat)) (rows : List Tuple) (ad : Dyn), TriOk ixr rows ad d.erase.full d.erase.idxs →
        TriOk ixr rows (shiftD ad) d'.erase.full d'.erase.idxs)
    s.pc.dyn fun d hd => by
      obtain ⟨d', h1, h2, hrel, hfull, hidx⟩ := mergeDyn_same (hfl.dyn d hd).1
      refine ⟨d', h1, hrel, h2, fun ixr rows ad tri => hfull ▸ hidx.triOk ?_⟩
      obtain ⟨f1, f2, f3⟩ := FullOk_shift tri.ft tri.fd tri.fn
      exact TriOk.of_map (d := shiftD ad) d.erase.idxs (·.1) (fun ci => shiftIx ci.2) f1 f2 f3 tri.cols
        fun c hc => IxOk_shift (tri.it c hc) (tri.id c hc) (tri.inw c hc)
  obtain ⟨ldyn', hfoldL, hrelL⟩ := foldRes_collect mergeLDyn (fun _ d' => d') _ s.ldyn fun d hd =>
    mergeLDyn_ok (hlfl.dyn d hd).1
  have hshP : PhysPar.shiftPar s.pc = .ok { s.pc with dyn := dyn' } := by rw [shiftPar_eq, hfoldP]; rfl
  have hpl' : PLWf p { s with pc := { s.pc with dyn := dyn' }, ldyn := ldyn' } :=
    hpl.congr rfl rfl (Rel2.map_eq (fun d : PCDyn => d.rel) (fun d : PCDyn => d.rel) (fun c c' hq => hq.1.symm) hrelP).symm
      (Rel2.map_eq (fun d : LCDyn => d.rel) (fun d : LCDyn => d.rel) (fun c c' hq => hq.1.symm) hrelL).symm
      (fun _ _ => rfl) fun _ _ => rfl
  refine ⟨{ s with pc := { s.pc with dyn := dyn' }, ldyn := ldyn' }, by rw [shift_eq, hshP, bind_ok, hfoldL]; rfl,
    ⟨?_, hpl', ?_, ?_⟩⟩
  · -- entry by entry, the erased dynamic relations after the merge are those before it with the versions shifted
    have hR : Rel2 (fun x y : XDyn => y.rel = x.rel ∧ ∀ (rows : List Tuple) (ad : Dyn),
        (isLatRel p x.rel = true → ∀ i ∈ ad.total, ∀ j ∈ ad.delta,
          Plan.proj (keyCols p x.rel) (rowAt rows i) = Plan.proj (keyCols p x.rel) (rowAt rows j) → i = j) →
        XTriOk p (ixP p ix) x.rel rows ad x.full x.idxs → XTriOk p (ixP p ix) x.rel rows (shiftD ad) y.full y.idxs)
        (s.erase p).dyn (({ s with pc := { s.pc with dyn := dyn' }, ldyn := ldyn' } : PLScc).erase p).dyn :=
      Rel2.append
        (Rel2.map erasePDyn erasePDyn (fun _ _ h => h) (hrelP.imp_mem fun d hd d' hq => ⟨hq.1, fun rows ad _ tri =>
          (XTriOk_plain (hpl.pdyn d hd)).mpr (hq.2.2 _ rows ad ((XTriOk_plain (hpl.pdyn d hd)).mp tri))⟩))
        (Rel2.map eraseLDyn eraseLDyn (fun _ _ h => h) (hrelL.imp_mem fun d hd d' hq => ⟨hq.1, fun rows ad hu tri =>
          hq.2.2 _ rows ad (hpl.ldyn d hd) (hu (hpl.ldyn d hd)) tri⟩))
    have hfind := fun r => Rel2_find? (fun x : XDyn => x.rel) (fun x : XDyn => x.rel) (fun _ _ hq => hq.1) hR r
    refine SimP.of_find hsim.len hsim.rows hsim.changed (fun r => ?_) (fun r hr hnd => ?_) hsim.typed
    · rw [findDyn_shift]
      rcases hsim.find r with ⟨h1, h2⟩ | ⟨d, pd, h1, h2, rfl, tri⟩
      · rw [h1]
        exact .inl ⟨rfl, (hfind r).1 h2⟩
      · obtain ⟨pd', h3, hq⟩ := (hfind pd.rel).2 pd h2
        rw [h1]
        refine .inr ⟨shiftD d, pd', rfl, h3, hq.1, hq.2 (rowsOf a pd.rel) d (fun hl i hi j hj hp => ?_) tri⟩
        -- a lattice has one row per key, so `total` and `delta` share no key
        obtain ⟨bT, bD, _⟩ := WF.bag_lt hwf h1
        exact idx_of_proj_keyCols (hsim.typed pd.rel) (hkeys pd.rel hl) (bT i hi) (bD j hj) hp
    · rw [findDyn_shift, Option.map_eq_none_iff] at hnd
      exact hsim.nd r hr hnd
  · refine ⟨?_, hfl.rels⟩
    intro d' hd'
    obtain ⟨d, hd, hq⟩ := hrelP.forall_right d' hd'
    exact ⟨hq.2.1, by rw [hq.1]; exact (hfl.dyn d hd).2⟩
  · refine ⟨?_, hlfl.rels⟩
    intro d' hd'
    obtain ⟨d, hd, hq⟩ := hrelL.forall_right d' hd'
    exact ⟨hq.2.1, by rw [hq.1]; exact (hlfl.dyn d hd).2⟩

def freezeAll (s : PLScc) : PLScc :=
  { s with pc := { s.pc with dyn := s.pc.dyn.map PhysPar.freezeDyn, changed := false }, ldyn := s.ldyn.map freezeLDyn }

def unfreezeAll (s : PLScc) : PLScc :=
  { s with pc := { s.pc with dyn := s.pc.dyn.map PhysPar.unfreezeDyn }, ldyn := s.ldyn.map unfreezeLDyn }

theorem erasePDyn_freeze (d : PCDyn) : erasePDyn (freezeDyn d) = erasePDyn d := by
  simp [erasePDyn, freezeDyn, eraseTriF, PCFull.freeze, List.map_map, Function.comp_def]

theorem erasePDyn_unfreeze (d : PCDyn) : erasePDyn (unfreezeDyn d) = erasePDyn d := by
  simp [erasePDyn, unfreezeDyn, eraseTriF, PCFull.unfreeze, List.map_map, Function.comp_def]

theorem eraseLDyn_freeze (d : LCDyn) : eraseLDyn (freezeLDyn d) = eraseLDyn d := by
  simp [eraseLDyn, freezeLDyn, List.map_map, Function.comp_def]

theorem eraseLDyn_unfreeze (d : LCDyn) : eraseLDyn (unfreezeLDyn d) = eraseLDyn d := by
  simp [eraseLDyn, unfreezeLDyn, List.map_map, Function.comp_def]

theorem erase_freezeAll (p : Program E B G P A) (s : PLScc) : (freezeAll s).erase p = { s.erase p with changed := false } := by
  show XScc.mk _ _ _ = XScc.mk _ _ _
  congr 1
  show (s.pc.dyn.map freezeDyn).map erasePDyn ++ (s.ldyn.map freezeLDyn).map eraseLDyn = _
  rw [map_map_congr s.pc.dyn erasePDyn_freeze, map_map_congr s.ldyn eraseLDyn_freeze]
  rfl

theorem erase_unfreezeAll (p : Program E B G P A) (s : PLScc) : (unfreezeAll s).erase p = s.erase p := by
  show XScc.mk _ _ _ = XScc.mk _ _ _
  congr 1
  show (s.pc.dyn.map unfreezeDyn).map erasePDyn ++ (s.ldyn.map unfreezeLDyn).map eraseLDyn = _
  rw [map_map_congr s.pc.dyn erasePDyn_unfreeze, map_map_congr s.ldyn eraseLDyn_unfreeze]

theorem PLWf_mapDyn {p : Program E B G P A} {s : PLScc} (h : PLWf p s) (f : PCDyn → PCDyn) (g : LCDyn → LCDyn)
    (hf : ∀ d, (f d).rel = d.rel) (hg : ∀ d, (g d).rel = d.rel) (c : Bool) :
    PLWf p { s with pc := { s.pc with dyn := s.pc.dyn.map f, changed := c }, ldyn := s.ldyn.map g } :=
  h.congr rfl rfl ((List.map_map ..).trans (List.map_congr_left fun d _ => hf d))
    ((List.map_map ..).trans (List.map_congr_left fun d _ => hg d)) (fun _ _ => rfl) fun _ _ => rfl

theorem PLWf_freezeAll {p : Program E B G P A} {s : PLScc} (h : PLWf p s) : PLWf p (freezeAll s) :=
  PLWf_mapDyn h PhysPar.freezeDyn freezeLDyn (fun _ => rfl) (fun _ => rfl) false

theorem PLWf_unfreezeAll {p : Program E B G P A} {s : PLScc} (h : PLWf p s) : PLWf p (unfreezeAll s) :=
  PLWf_mapDyn h PhysPar.unfreezeDyn unfreezeLDyn (fun _ => rfl) (fun _ => rfl) s.pc.changed

theorem LFlags_freezeAll {p : Program E B G P A} {bo : List RelId} {s : PLScc} (h : LFlags p bo false s) :
    LFlags p bo true (freezeAll s) := by
  refine ⟨?_, h.rels⟩
  intro d' hd'
  obtain ⟨d, hd, rfl⟩ := List.mem_map.mp hd'
  refine ⟨?_, (h.dyn d hd).2⟩
  intro ci hci
  obtain ⟨c, hc, rfl⟩ := List.mem_map.mp hci
  have g := (h.dyn d hd).1 c hc
  exact ⟨g.total.freeze, g.delta.freeze, g.new⟩

theorem LFlags_unfreezeAll {p : Program E B G P A} {bo : List RelId} {s : PLScc} (h : LFlags p bo true s) :
    LFlags p bo false (unfreezeAll s) := by
  refine ⟨?_, h.rels⟩
  intro d' hd'
  obtain ⟨d, hd, rfl⟩ := List.mem_map.mp hd'
  refine ⟨?_, (h.dyn d hd).2⟩
  intro ci hci
  obtain ⟨c, hc, rfl⟩ := List.mem_map.mp hci
  have g := (h.dyn d hd).1 c hc
  exact ⟨g.total.unfreeze, g.delta.unfreeze, g.new⟩

/-- the invariant between SCCs: the serial simulation `PhysLat.SimStL` on the erased value, the split of the relations over the
two parts, every stored index unfrozen -/
structure PStInv (p : Program E B G P A) (ix : IxSets) (N : Nat) (st : St) (pst : PLSt) : Prop where
  sim : SimStL p (ixP p ix) st (pst.erase p)
  len : pst.pc.length = p.rels.length
  llen : pst.lat.length = p.rels.length
  pfl : StFlags N pst.pc
  lfl : LStFlags p pst.lat
  prow : ∀ r, isLatRel p r = true → (pcrel pst.pc r).rows = []
  lrow : ∀ r, isLatRel p r = false → lrel pst.lat r = ⟨[], []⟩

theorem PStInv.rows {p : Program E B G P A} {ix : IxSets} {N : Nat} {st : St} {pst : PLSt} (h : PStInv p ix N st pst)
    (r : RelId) : (relSt st r).rows = xrows pst r := by
  rw [h.sim.rows r, xrel_eraseSt p _ h.len r]
  exact eraseRel_rows_split p _ _ r (h.prow r) (h.lrow r)

/-- used for what SCC exit leaves (`PStInv.wfSt`) and for what the early return leaves (`abandon_soundP`) -/
theorem wfSt_of_flags {p : Program E B G P A} {N : Nat} {pst : PLSt} (hlen : pst.pc.length = p.rels.length)
    (hllen : pst.lat.length = p.rels.length) (hpfl : StFlags N pst.pc) (hlfl : LStFlags p pst.lat)
    (hprow : ∀ r, isLatRel p r = true → (pcrel pst.pc r).rows = [])
    (hlrow : ∀ r, isLatRel p r = false → lrel pst.lat r = ⟨[], []⟩)
    (hty : ∀ r, ∀ t ∈ xrows pst r, t.length = arityOf p r) : WFSt p pst := by
  refine ⟨⟨hlen, fun r t ht => hty r t (List.mem_append_left _ ht), hpfl.unfrozen⟩, hllen, hprow,
    fun r hl => by rw [hlrow r hl], fun r t ht => hty r t (List.mem_append_right _ ht), fun l hl ci hci => ?_⟩
  obtain ⟨r, hr, rfl⟩ := List.mem_iff_getElem.mp hl
  have hlr : lrel pst.lat r = pst.lat[r] := getD_of_lt _ _ r hr
  rw [← hlr] at hci
  cases hlat : isLatRel p r with
  | true => exact (hlfl r hr hlat ci hci).frozen
  | false => rw [hlrow r hlat] at hci; cases hci

theorem PStInv.wfSt {p : Program E B G P A} {ix : IxSets} {N : Nat} {st : St} {pst : PLSt} (h : PStInv p ix N st pst) :
    WFSt p pst :=
  wfSt_of_flags h.len h.llen h.pfl h.lfl h.prow h.lrow fun r t ht => h.sim.typed r t (by rw [h.rows r]; exact ht)

theorem dynRels_nodup (p : Program E B G P A) (scc : List Nat) : (dynRels p scc).Nodup :=
  nodup_eraseDups _

/-- the dynamic entry of a lattice at SCC entry -/
def mkLDyn (s : PLSt) (r : RelId) : LCDyn :=
  { rel := r, idxs := (lrel s.lat r).idxs.map fun ci => (ci.1, { total := ci.2.fresh, delta := ci.2, new := ci.2.fresh }) }

/-- the dynamic entry of a plain relation at SCC entry -/
def mkPDyn (threads : Nat) (s : PCSt) (r : RelId) : PCDyn :=
  { rel := r, full := { total := PCFull.new, delta := (pcrel s r).full, new := PCFull.new }
    idxs := (pcrel s r).idxs.map fun ci =>
      (ci.1, { total := PCx.new threads ci.1, delta := ci.2, new := PCx.new threads ci.1 }) }

theorem enter_ldyn (threads : Nat) (p : Program E B G P A) (scc : List Nat) (s : PLSt) :
    (enterScc threads p scc s).ldyn = ((dynRels p scc).filter fun r => isLatRel p r).map (mkLDyn s) := rfl

theorem enter_pdyn (threads : Nat) (p : Program E B G P A) (scc : List Nat) (s : PLSt) :
    (enterScc threads p scc s).pc.dyn = ((dynRels p scc).filter fun r => !isLatRel p r).map (mkPDyn threads s.pc) := by
  show ((dynRels p scc).map (mkPDyn threads s.pc)).filter (fun d => !isLatRel p d.rel) = _
  rw [List.filter_map]
  rfl

theorem enter_pcrels (threads : Nat) (p : Program E B G P A) (scc : List Nat) (s : PLSt) :
    (enterScc threads p scc s).pc.rels = (PhysPar.enterScc threads p scc s.pc).rels := rfl

theorem enter_pcrel (threads : Nat) (p : Program E B G P A) (scc : List Nat) (s : PLSt) (r : RelId) (hr : r < s.pc.length) :
    pcrel (enterScc threads p scc s).pc.rels r =
      if (dynRels p scc).contains r then
        { pcrel s.pc r with full := PCFull.new, idxs := (pcrel s.pc r).idxs.map fun ci => (ci.1, PCx.new threads ci.1) }
      else if (bodyOnly p scc).contains r then
        { pcrel s.pc r with full := (pcrel s.pc r).full.freeze, idxs := (pcrel s.pc r).idxs.map fun ci => (ci.1, ci.2.freeze) }
      else pcrel s.pc r := by
  rw [enter_pcrels, PhysPar.enterScc_eq]
  simp only [pcrel_rangeMap _ _ _ hr]

theorem enter_lrel (threads : Nat) (p : Program E B G P A) (scc : List Nat) (s : PLSt) (r : RelId) (hr : r < s.pc.length) :
    lrel (enterScc threads p scc s).lrels r =
      if !isLatRel p r then lrel s.lat r
      else if (dynRels p scc).contains r then
        { lrel s.lat r with idxs := (lrel s.lat r).idxs.map fun ci => (ci.1, ci.2.fresh) }
      else if (bodyOnly p scc).contains r then
        { lrel s.lat r with idxs := (lrel s.lat r).idxs.map fun ci => (ci.1, ci.2.freeze) }
      else lrel s.lat r := by
  simp only [enterScc, lrel_rangeMap _ _ _ hr]
  rfl

theorem enter_lrels_length (threads : Nat) (p : Program E B G P A) (scc : List Nat) (s : PLSt) :
    (enterScc threads p scc s).lrels.length = s.pc.length := by
  show ((List.range s.pc.length).map _).length = _
  rw [List.length_map, List.length_range]

theorem enter_pcrels_length (threads : Nat) (p : Program E B G P A) (scc : List Nat) (s : PLSt) :
    (enterScc threads p scc s).pc.rels.length = s.pc.length := by
  rw [enter_pcrels, PhysPar.enterScc_eq]
  show ((List.range s.pc.length).map _).length = _
  rw [List.length_map, List.length_range]

theorem findLDyn_enter (threads : Nat) (p : Program E B G P A) (scc : List Nat) (s : PLSt) (r : RelId) :
    findLDyn (enterScc threads p scc s).ldyn r =
      if (dynRels p scc).contains r && isLatRel p r then some (mkLDyn s r) else none := by
  rw [enter_ldyn]
  show List.find? (fun x : LCDyn => x.rel == r) _ = _
  rw [find?_map_mk (fun x : LCDyn => x.rel) (mkLDyn s) (fun _ => rfl), contains_filter]

theorem findPCDyn_enter (threads : Nat) (p : Program E B G P A) (scc : List Nat) (s : PLSt) (r : RelId) :
    findPCDyn (enterScc threads p scc s).pc.dyn r =
      if (dynRels p scc).contains r && !isLatRel p r then some (mkPDyn threads s.pc r) else none := by
  rw [enter_pdyn]
  show List.find? (fun x : PCDyn => x.rel == r) _ = _
  rw [find?_map_mk (fun x : PCDyn => x.rel) (mkPDyn threads s.pc) (fun _ => rfl), contains_filter]

theorem enter_wf (threads : Nat) (p : Program E B G P A) (scc : List Nat) {ix : IxSets} {N : Nat} {st : St} {pst : PLSt}
    (h : PStInv p ix N st pst) : PLWf p (enterScc threads p scc pst) := by
  refine ⟨by rw [enter_pcrels_length, h.len], by rw [enter_lrels_length, h.len], ?_, ?_, ?_, ?_, ?_, ?_⟩
  · intro d hd
    rw [enter_pdyn] at hd
    obtain ⟨r, hr, rfl⟩ := List.mem_map.mp hd
    exact (Bool.not_eq_true' _).mp (List.mem_filter.mp hr).2
  · intro d hd
    rw [enter_ldyn] at hd
    obtain ⟨r, hr, rfl⟩ := List.mem_map.mp hd
    exact (List.mem_filter.mp hr).2
  · intro r hl
    have hr : r < pst.pc.length := by rw [h.len]; exact lat_lt p hl
    rw [enter_pcrel _ _ _ _ _ hr]
    split
    · exact h.prow r hl
    · split
      · exact h.prow r hl
      · exact h.prow r hl
  · intro r hl
    by_cases hr : r < pst.pc.length
    · rw [enter_lrel _ _ _ _ _ hr]
      simp only [hl, Bool.not_false, if_true]
      exact h.lrow r hl
    · rw [lrel_of_ge _ _ (by rw [enter_lrels_length]; exact Nat.le_of_not_lt hr)]
  · rw [enter_pdyn, List.map_map]
    show (((dynRels p scc).filter fun r => !isLatRel p r).map fun r => r).Nodup
    rw [List.map_id']
    exact (dynRels_nodup p scc).filter _
  · rw [enter_ldyn, List.map_map]
    show (((dynRels p scc).filter fun r => isLatRel p r).map fun r => r).Nodup
    rw [List.map_id']
    exact (dynRels_nodup p scc).filter _

theorem eraseLDyn_mk (p : Program E B G P A) (s : PLSt) (r : RelId) (hl : isLatRel p r = true) :
    eraseLDyn (mkLDyn s r) =
      ⟨r, ⟨[], (eraseRel p s.pc s.lat r).full, []⟩, (eraseRel p s.pc s.lat r).idxs.map fun ci =>
        (ci.1, ⟨emptyLike ci.2, ci.2, emptyLike ci.2⟩)⟩ := by
  rw [eraseRel_lat p _ _ r hl]
  simp [eraseLDyn, mkLDyn, List.map_map, Function.comp_def, LCx.erase_fresh]

theorem erasePDyn_mk (p : Program E B G P A) (threads : Nat) (s : PLSt) (r : RelId) (hl : isLatRel p r = false) :
    erasePDyn (mkPDyn threads s.pc r) =
      ⟨r, ⟨[], (eraseRel p s.pc s.lat r).full, []⟩, (eraseRel p s.pc s.lat r).idxs.map fun ci =>
        (ci.1, ⟨emptyLike ci.2, ci.2, emptyLike ci.2⟩)⟩ := by
  rw [eraseRel_plain p _ _ r hl]
  simp [erasePDyn, mkPDyn, eraseTriF, PCFull.new, List.map_map, Function.comp_def, erase_new, emptyLike]

theorem enter_xrel (threads : Nat) (p : Program E B G P A) (scc : List Nat) (pst : PLSt) (r : RelId) (hr : r < pst.pc.length) :
    eraseRel p (enterScc threads p scc pst).pc.rels (enterScc threads p scc pst).lrels r =
      if (dynRels p scc).contains r then
        { eraseRel p pst.pc pst.lat r with full := [], idxs := (eraseRel p pst.pc pst.lat r).idxs.map fun ci => (ci.1, emptyLike ci.2) }
      else eraseRel p pst.pc pst.lat r := by
  cases hl : isLatRel p r with
  | true =>
    rw [eraseRel_lat p _ _ r hl, eraseRel_lat p _ _ r hl, enter_lrel _ _ _ _ _ hr]
    simp only [hl, Bool.not_true, Bool.false_eq_true, if_false]
    split
    · simp [List.map_map, Function.comp_def, LCx.erase_fresh]
    · split
      · simp [List.map_map, Function.comp_def]
      · rfl
  | false =>
    rw [eraseRel_plain p _ _ r hl, eraseRel_plain p _ _ r hl, enter_pcrel _ _ _ _ _ hr]
    split
    · simp [List.map_map, Function.comp_def, erase_new, emptyLike, PCFull.new]
    · split
      · simp [List.map_map, Function.comp_def, PCFull.freeze]
      · rfl

theorem enter_simP (threads : Nat) (p : Program E B G P A) (scc : List Nat) {ix : IxSets} {N : Nat} {st : St} {pst : PLSt}
    (h : PStInv p ix N st pst) (hlt : ∀ r, (dynRels p scc).contains r = true → r < p.rels.length) :
    SimP p (ixP p ix) (Engine.enterScc st (dynRels p scc)) ((enterScc threads p scc pst).erase p) := by
  have W := enter_wf threads p scc h
  have hstlen : st.length = p.rels.length := by rw [h.sim.len, eraseSt_length, h.len]
  have hxs : ∀ r, xrel (pst.erase p) r = eraseRel p pst.pc pst.lat r := xrel_eraseSt p pst h.len
  -- after erasure SCC entry is `PhysLat.enterScc` up to the order of the dynamic entries, which `SimP` does not see
  refine (enter_simL h.sim (dynRels p scc) fun r hr => by
    rw [hstlen]; exact hlt r (List.contains_iff_mem.mpr hr)).toSimP.congr_right ?_ ?_ rfl ?_
  · rw [erase_rels_length, W.len, ← h.len]
    simp [PhysLat.enterScc, eraseSt_length]
  · intro r
    rw [xrel_erase p _ W.len]
    by_cases hr : r < pst.pc.length
    · rw [enter_xrel threads p scc pst r hr, ← hxs]
      show _ = xrel ((List.range (pst.erase p).length).map _) r
      rw [xrel_rangeMap _ _ _ (eraseSt_length p pst ▸ hr)]
    · have hr' : pst.pc.length ≤ r := Nat.le_of_not_lt hr
      rw [eraseRel_ge p _ _ r (by rw [← h.len]; exact hr') (by rw [W.len, ← h.len]; exact hr')]
      show _ = xrel ((List.range (pst.erase p).length).map _) r
      rw [xrel_rangeMap_ge _ _ _ (eraseSt_length p pst ▸ hr')]
  · intro r
    have hser : findXDyn (PhysLat.enterScc (pst.erase p) (dynRels p scc)).dyn r =
        if (dynRels p scc).contains r then some ⟨r, ⟨[], (xrel (pst.erase p) r).full, []⟩,
          (xrel (pst.erase p) r).idxs.map fun ci => (ci.1, ⟨emptyLike ci.2, ci.2, emptyLike ci.2⟩)⟩ else none :=
      find?_map_mk (fun x : XDyn => x.rel) _ (fun _ => rfl) _ r
    rw [hser, hxs]
    cases hl : isLatRel p r with
    | true =>
      rw [findXDyn_erase_lat p _ W.pdyn r hl, findLDyn_enter, hl, Bool.and_true]
      split
      · exact congrArg some (eraseLDyn_mk p pst r hl)
      · rfl
    | false =>
      rw [findXDyn_erase_plain p _ W.ldyn r hl, findPCDyn_enter, hl, Bool.not_false, Bool.and_true]
      split
      · exact congrArg some (erasePDyn_mk p threads pst r hl)
      · rfl

theorem enter_flags (threads : Nat) (p : Program E B G P A) (scc : List Nat) {ix : IxSets} {st : St} {pst : PLSt}
    (h : PStInv p ix (max threads 1) st pst) :
    Flags (max threads 1) (bodyOnly p scc) false (enterScc threads p scc pst).pc ∧
      LFlags p (bodyOnly p scc) false (enterScc threads p scc pst) := by
  have F := Flags_enterScc threads p scc pst.pc h.pfl
  refine ⟨⟨fun d hd => F.dyn d (List.mem_filter.mp hd).1, F.rels⟩, ?_, ?_⟩
  · intro d hd
    rw [enter_ldyn] at hd
    obtain ⟨r, hr, rfl⟩ := List.mem_map.mp hd
    obtain ⟨hr1, hl⟩ := List.mem_filter.mp hr
    have hrl : r < pst.lat.length := by rw [h.llen]; exact lat_lt p hl
    refine ⟨?_, bodyOnly_dyn p scc r (List.contains_iff_mem.mpr hr1)⟩
    intro ci hci
    obtain ⟨c, hc, rfl⟩ := List.mem_map.mp hci
    have g := h.lfl r hrl hl c hc
    exact ⟨g.fresh, g, g.fresh⟩
  · intro r hr hl
    have hr' : r < pst.pc.length := by rw [enter_lrels_length] at hr; exact hr
    have hrl : r < pst.lat.length := by rw [h.llen, ← h.len]; exact hr'
    have g := h.lfl r hrl hl
    rw [enter_lrel _ _ _ _ _ hr']
    simp only [hl, Bool.not_true, Bool.false_eq_true, if_false]
    by_cases hd : (dynRels p scc).contains r = true
    · rw [if_pos hd, bodyOnly_dyn p scc r hd]
      exact List.forall_mem_map.mpr fun c hc => (g c hc).fresh
    · rw [if_neg hd]
      by_cases hb : (bodyOnly p scc).contains r = true
      · rw [if_pos hb, hb]
        exact List.forall_mem_map.mpr fun c hc => (g c hc).freeze
      · rw [if_neg hb]
        have hb' : (bodyOnly p scc).contains r = false := by simpa using hb
        rw [hb']
        exact g

theorem enter_PIS {p : Program E B G P A} {ix : IxSets} (threads : Nat) {scc : List Nat}
    (hlt : ∀ r, (dynRels p scc).contains r = true → r < p.rels.length) {st : St} {pst : PLSt}
    (hs : PStInv p ix (max threads 1) st pst) :
    PIS p ix (max threads 1) (bodyOnly p scc) false (Engine.enterScc st (dynRels p scc)) (enterScc threads p scc pst) :=
  ⟨enter_simP threads p scc hs hlt, enter_wf threads p scc hs, (enter_flags threads p scc hs).1,
    (enter_flags threads p scc hs).2⟩

end AscentVerif.PhysParLat
