import AscentVerif.Props.C08
import AscentVerif.Props.C06
import AscentVerif.Proofs.DesugarPWNBase
/-!
# C08 (semantics): renaming the variables of a surface body injectively ON A SET does not change its documented meaning

`τ` needs to be injective only on a set `S` that contains the variables of the items and the keys of the start environment: the
relation `RenOn τ S` of Proofs/EnvSim.lean (`σ` is `ρ` renamed and the keys of `ρ` lie in `S`) is kept by every step, since every
key that arises during a run is bound by an item.  `stepF_sim` (on the lemmas of EnvSim) is about `FItem.ren`, the surface
counterpart of `Engine.Item.ren`: variables renamed by `τ`, fragments mapped by any `rE`, `rB`, `rG`.  The renaming pass
(`stepF_renOn`) and, with nothing renamed, that the keys stay in `S` (`stepF_keys`) are its instances; `sat_renOn`, the same for
whole bodies, is what Props/C08Sem.lean uses.  The hypothesis on the embedded fragments, `RenLaw`, follows from the usual renaming
lemma `SubstLaw`, which holds for the expression language of the ties (`stdOps_substLaw`).
-/
namespace AscentVerif.Surface.Sem
open AscentVerif AscentVerif.Engine AscentVerif.Surface

variable {E B G P A : Type}

/-- what is assumed of the semantics of the embedded Rust fragments: the analogue of `Engine.RenSound` (Props/C06.lean) for a
renaming that is injective only on the variables of the fragment and the variables the environment binds -/
structure RenLaw (I : Interp E B G P A) (ops : Ops E B G A) (varsB : B → List Var) (varsG : G → List Var) : Prop where
  expr : ∀ (τ : Var → Var) (e : E) (ρ : Env), InjOn τ (fun v => v ∈ ops.varsE e ∨ ∃ p ∈ ρ, p.1 = v) →
    I.expr (renE ops τ e) (renEnv τ ρ) = I.expr e ρ
  test : ∀ (τ : Var → Var) (b : B) (ρ : Env), InjOn τ (fun v => v ∈ varsB b ∨ ∃ p ∈ ρ, p.1 = v) →
    I.test (ops.subB (fun x => ops.varE (τ x)) b) (renEnv τ ρ) = I.test b ρ
  gen : ∀ (τ : Var → Var) (g : G) (ρ : Env), InjOn τ (fun v => v ∈ varsG g ∨ ∃ p ∈ ρ, p.1 = v) →
    I.gen (ops.subG (fun x => ops.varE (τ x)) g) (renEnv τ ρ) = I.gen g ρ

/-- the usual renaming lemma of a semantics (no injectivity, any `ρ'` that agrees with `ρ` along `τ`); it implies `RenLaw` -/
structure SubstLaw (I : Interp E B G P A) (ops : Ops E B G A) (varsB : B → List Var) (varsG : G → List Var) : Prop where
  expr : ∀ (τ : Var → Var) (e : E) (ρ ρ' : Env), (∀ v ∈ ops.varsE e, Env.get? ρ' (τ v) = Env.get? ρ v) →
    I.expr (renE ops τ e) ρ' = I.expr e ρ
  test : ∀ (τ : Var → Var) (b : B) (ρ ρ' : Env), (∀ v ∈ varsB b, Env.get? ρ' (τ v) = Env.get? ρ v) →
    I.test (ops.subB (fun x => ops.varE (τ x)) b) ρ' = I.test b ρ
  gen : ∀ (τ : Var → Var) (g : G) (ρ ρ' : Env), (∀ v ∈ varsG g, Env.get? ρ' (τ v) = Env.get? ρ v) →
    I.gen (ops.subG (fun x => ops.varE (τ x)) g) ρ' = I.gen g ρ

theorem RenLaw.of_subst {I : Interp E B G P A} {ops : Ops E B G A} {varsB : B → List Var} {varsG : G → List Var}
    (h : SubstLaw I ops varsB varsG) : RenLaw I ops varsB varsG := by
  have key : ∀ (τ : Var → Var) (vs : List Var) (ρ : Env), InjOn τ (fun v => v ∈ vs ∨ ∃ p ∈ ρ, p.1 = v) →
      ∀ v ∈ vs, Env.get? (renEnv τ ρ) (τ v) = Env.get? ρ v :=
    fun τ vs ρ hτ v hv => get?_renEnv_on hτ (fun p hp => .inr ⟨p, hp, rfl⟩) (.inl hv)
  exact ⟨fun τ e ρ hτ => h.expr τ e ρ _ (key τ _ ρ hτ), fun τ b ρ hτ => h.test τ b ρ _ (key τ _ ρ hτ),
    fun τ g ρ hτ => h.gen τ g ρ _ (key τ _ ρ hτ)⟩

/-- with `τ = id`: the interpretation looks up only the variables of a fragment (the hypothesis `Engine.VarsSound` of Props/C06.lean) -/
theorem SubstLaw.varsSound {I : Interp E B G P A} {ops : Ops E B G A} {varsB : B → List Var} {varsG : G → List Var}
    (hL : OpsLaws ops) (h : SubstLaw I ops varsB varsG) : VarsSound I ops.varsE varsB varsG where
  expr e ρ ρ' ha := by
    have := h.expr id e ρ' ρ ha
    rwa [renE_id hL] at this
  test b ρ ρ' ha := by
    have := h.test id b ρ' ρ ha
    rwa [show (fun x => ops.varE (id x)) = ops.varE from rfl, hL.subB_id] at this
  gen g ρ ρ' ha := by
    have := h.gen id g ρ' ρ ha
    rwa [show (fun x => ops.varE (id x)) = ops.varE from rfl, hL.subG_id] at this

section
variable {I : Interp E B G P A} {ops : Ops E B G A} {varsB : B → List Var} {varsG : G → List Var}
  {τ : Var → Var} {S : Var → Prop}

theorem InjOn.on_vars (hτ : InjOn τ S) {ρ : Env} (hk : Keys S ρ) {vs : List Var} (he : ∀ v ∈ vs, S v) :
    InjOn τ (fun v => v ∈ vs ∨ ∃ p ∈ ρ, p.1 = v) :=
  hτ.mono (by
    rintro v (hv | ⟨p, hp, rfl⟩)
    · exact he v hv
    · exact hk p hp)

theorem RenLaw.expr_on (hR : RenLaw I ops varsB varsG) (hτ : InjOn τ S) {ρ : Env} (hk : Keys S ρ) {e : E}
    (he : ∀ v ∈ ops.varsE e, S v) : I.expr (renE ops τ e) (renEnv τ ρ) = I.expr e ρ :=
  hR.expr τ e ρ (hτ.on_vars hk he)

theorem RenLaw.test_on (hR : RenLaw I ops varsB varsG) (hτ : InjOn τ S) {ρ : Env} (hk : Keys S ρ) {b : B}
    (he : ∀ v ∈ varsB b, S v) : I.test (ops.subB (fun x => ops.varE (τ x)) b) (renEnv τ ρ) = I.test b ρ :=
  hR.test τ b ρ (hτ.on_vars hk he)

theorem RenLaw.gen_on (hR : RenLaw I ops varsB varsG) (hτ : InjOn τ S) {ρ : Env} (hk : Keys S ρ) {g : G}
    (he : ∀ v ∈ varsG g, S v) : I.gen (ops.subG (fun x => ops.varE (τ x)) g) (renEnv τ ρ) = I.gen g ρ :=
  hR.gen τ g ρ (hτ.on_vars hk he)

theorem RenLaw.interpSim (hR : RenLaw I ops varsB varsG) (hτ : InjOn τ S) :
    InterpSim id S (RenOn τ S) I I (renE ops τ) (ops.subB fun x => ops.varE (τ x)) ops.varsE varsB :=
  ⟨fun h hv => h.1 ▸ hR.expr_on hτ h.2 hv, fun h hv => h.1 ▸ hR.test_on hτ h.2 hv,
   pat_map_id I⟩

theorem varsCond_eq (c : Cond E B P) : varsCond ops varsB c = Cond.vars ops.varsE varsB c := by
  cases c <;> rfl

theorem vars_clause {r : RelId} {as : List (SArg E P)} {conds : List (Cond E B P)}
    (hv : ∀ v ∈ varsFItem ops varsB varsG (.clause r as conds : FItem E B G P A), S v) :
    (∀ a ∈ as, ∀ v ∈ varsSArg ops a, S v) ∧ ∀ c ∈ conds, ∀ v ∈ varsCond ops varsB c, S v := by
  rw [varsFItem_clause] at hv
  exact ⟨fun a ha v hv' => hv v (List.mem_append_left _ (List.mem_flatMap.2 ⟨a, ha, hv'⟩)),
    fun c hc v hv' => hv v (List.mem_append_right _ (List.mem_flatMap.2 ⟨c, hc, hv'⟩))⟩

theorem vars_agg {a : AggClause E A} (hv : ∀ v ∈ varsFItem ops varsB varsG (.agg a : FItem E B G P A), S v) :
    (∀ v ∈ a.outs, S v) ∧ (∀ v ∈ a.boundArgs, S v) ∧ ∀ x ∈ a.args, ∀ v ∈ varsAggArg ops x, S v := by
  rw [varsFItem_agg] at hv
  exact ⟨fun v h => hv v (List.mem_append_left _ (List.mem_append_left _ h)),
    fun v h => hv v (List.mem_append_left _ (List.mem_append_right _ h)),
    fun x hx v h => hv v (List.mem_append_right _ (List.mem_flatMap.2 ⟨x, hx, h⟩))⟩

theorem vars_neg {r : RelId} {as : List (NArg E)} (hv : ∀ v ∈ varsFItem ops varsB varsG (.neg r as : FItem E B G P A), S v) :
    ∀ a ∈ as, ∀ v ∈ varsNArg ops a, S v := by
  rw [varsFItem_neg] at hv
  exact fun a ha v h => hv v (List.mem_flatMap.2 ⟨a, ha, h⟩)

def SArg.ren (τ : Var → Var) (rE : E → E) : SArg E P → SArg E P
  | .var v => .var (τ v)
  | .expr e => .expr (rE e)
  | .wild => .wild
  | .pat p vs => .pat p (vs.map τ)

def NArg.ren (rE : E → E) : NArg E → NArg E
  | .wild => .wild
  | .expr e => .expr (rE e)

def FItem.ren (τ : Var → Var) (rE : E → E) (rB : B → B) (rG : G → G) : FItem E B G P A → FItem E B G P A
  | .clause r as conds => .clause r (as.map (SArg.ren τ rE)) (conds.map (Cond.ren τ rE rB))
  | .cond c => .cond (Cond.ren τ rE rB c)
  | .gen v g => .gen (τ v) (rG g)
  | .agg a => .agg (AggClause.ren τ rE a)
  | .neg r as => .neg r (as.map (NArg.ren rE))

section
variable {R : Env → Env → Prop} {rE : E → E} {rB : B → B} {rG : G → G} {D : DB} {agg : RelId → List Tuple}
  (hE : EnvSim τ id S R) (hI : InterpSim id S R I I rE rB ops.varsE varsB)
include hE hI

theorem matchSArg_sim (a : SArg E P) (hv : ∀ v ∈ varsSArg ops a, S v) (x : Val) {ρ σ : Env} (h : R ρ σ) :
    OptRel R (matchSArg I a x ρ) (matchSArg I (SArg.ren τ rE a) x σ) := by
  cases a with
  -- a variable or expression argument is matched as in a core clause
  | var v => exact matchArg_sim (fun _ _ e => e) hE hI h h (.var v) hv x
  | expr e => exact matchArg_sim (fun _ _ e => e) hE hI h h (.expr e) hv x
  | wild => exact h
  | pat p vs =>
    simp only [SArg.ren, matchSArg]
    cases I.pat p x with
    | none => trivial
    | some ys =>
      simp only [Option.bind_some, List.length_map]
      have hz := hE.zip h hv ys
      rw [List.map_id] at hz
      exact .ite Iff.rfl hz

theorem matchSArgs_sim (args : List (SArg E P)) (hv : ∀ a ∈ args, ∀ v ∈ varsSArg ops a, S v) (t : Tuple) {ρ σ : Env} (h : R ρ σ) :
    OptRel R (matchSArgs I args t ρ) (matchSArgs I (args.map (SArg.ren τ rE)) t σ) := by
  induction args generalizing t ρ σ with
  | nil =>
    cases t with
    | nil => exact h
    | cons x xs => trivial
  | cons a as ih =>
    cases t with
    | nil =>
      rw [List.map_cons, matchSArgs_cons_nil, matchSArgs_cons_nil]
      trivial
    | cons x xs =>
      rw [List.map_cons, matchSArgs_cons, matchSArgs_cons]
      exact (matchSArg_sim hE hI a (hv a List.mem_cons_self) x h).bind fun _ _ h' =>
        ih (fun a ha => hv a (List.mem_cons_of_mem _ ha)) xs h'

omit hE in
theorem matchNArgs_sim {ρ σ : Env} (h : R ρ σ) (as : List (NArg E)) (hv : ∀ a ∈ as, ∀ v ∈ varsNArg ops a, S v) :
    ∀ t : Tuple, matchNArgs I σ (as.map (NArg.ren rE)) t = matchNArgs I ρ as t :=
  matchNArgs_map (NArg.ren rE) as fun a ha x => by
    cases a with
    | wild => rfl
    | expr e => simp only [NArg.ren, matchNArg, hI.expr h (e := e) (fun v hv' => hv _ ha v (by simpa [varsNArg] using hv')), id]

/-- `hG`: what the relation means for a generator; `hnil`: an aggregation matches its relation arguments from the empty environment -/
theorem stepF_sim (hG : ∀ {ρ σ : Env} (g : G), R ρ σ → (∀ v ∈ varsG g, S v) → I.gen (rG g) σ = I.gen g ρ) (hnil : R [] [])
    (f : FItem E B G P A) (hv : ∀ v ∈ varsFItem ops varsB varsG f, S v) :
    Sim R R (StepF I D agg f) (StepF I D agg (FItem.ren τ rE rB rG f)) := by
  cases f with
  | clause r as conds =>
    obtain ⟨ha, hc⟩ := vars_clause hv
    have hc' : ∀ v ∈ conds.flatMap (Cond.vars ops.varsE varsB), S v := fun v hm => by
      obtain ⟨c, hcm, hvc⟩ := List.mem_flatMap.1 hm
      exact hc c hcm v (varsCond_eq (ops := ops) c ▸ hvc)
    exact (sim_tuples (F := fun t ρ => (matchSArgs I as t ρ).bind (satConds I conds))
      (H := fun t σ => (matchSArgs I (as.map (SArg.ren τ rE)) t σ).bind (satConds I (conds.map (Cond.ren τ rE rB))))
      (fun t => D ⟨r, t⟩) fun t _ _ h =>
        (matchSArgs_sim hE hI as ha t h).bind fun _ _ h' => satConds_sim hE hI conds hc' h').congr
      (fun ρ ρ' => stepF_clause_iff I D agg r as conds ρ ρ') fun σ σ' => stepF_clause_iff I D agg r _ _ σ σ'
  | cond c => exact sim_fun_iff.2 fun _ _ h => satCond_sim hE hI h c (varsCond_eq (ops := ops) c ▸ hv)
  | gen v g =>
    intro ρ σ h
    have hg := hG g h (fun w hw => hv w (by simp [varsFItem, hw]))
    have hSv : S v := hv v (by simp [varsFItem])
    constructor
    · rintro _ ⟨x, hx, rfl⟩
      exact ⟨_, ⟨x, by rw [hg]; exact hx, rfl⟩, hE.cons h hSv x⟩
    · rintro _ ⟨x, hx, rfl⟩
      exact ⟨_, ⟨x, by rw [← hg]; exact hx, rfl⟩, hE.cons h hSv x⟩
  | agg a =>
    obtain ⟨ho, hb, hargs⟩ := vars_agg hv
    refine aggEnvs_sim hE hI hnil a (fun v hm => hargs _ hm v (List.mem_singleton_self v)) hb (fun v hm => ?_) ho (agg a.rel)
    obtain ⟨x, hx, hvx⟩ := List.mem_flatMap.1 hm
    cases x with
    | key e => exact hargs _ hx v hvx
    | wild | bound _ => cases hvx
  | neg r as =>
    intro ρ σ h
    have hm := matchNArgs_sim hI h as (vars_neg hv)
    constructor
    · rintro _ ⟨rfl, hn⟩
      exact ⟨σ, ⟨rfl, fun t ht => (hm t).trans (hn t ht)⟩, h⟩
    · rintro _ ⟨rfl, hn⟩
      exact ⟨ρ, ⟨rfl, fun t ht => (hm t).symm.trans (hn t ht)⟩, h⟩

end

theorem renCond_eq (c : Cond E B P) : renCond ops τ c = Cond.ren τ (renE ops τ) (ops.subB fun x => ops.varE (τ x)) c := by
  cases c <;> rfl

/-- `hok`: without it `renFItem` turns a relation argument marked as bound into a `.key` (see `aggOkF`) -/
theorem renFItem_eq (f : FItem E B G P A) (hok : aggOkF f) :
    renFItem ops true τ f =
      FItem.ren τ (renE ops τ) (ops.subB fun x => ops.varE (τ x)) (ops.subG fun x => ops.varE (τ x)) f := by
  cases f with
  | clause r as conds =>
    simp only [renFItem, FItem.ren, FItem.clause.injEq, true_and]
    exact ⟨List.map_congr_left fun a _ => by cases a <;> rfl, List.map_congr_left fun c _ => renCond_eq c⟩
  | cond c => simp only [renFItem, FItem.ren, renCond_eq]
  | gen v g => rfl
  | agg a =>
    simp only [renFItem, FItem.ren, AggClause.ren, if_true, FItem.agg.injEq, AggClause.mk.injEq, true_and]
    apply List.map_congr_left
    intro x hx
    cases x with
    | wild | key _ => rfl
    | bound v =>
      have h1 : τ v ∈ a.boundArgs.map τ := List.mem_map_of_mem (hok v hx)
      simp [AggArg.ren, h1]
  | neg r as =>
    simp only [renFItem, FItem.ren, FItem.neg.injEq, true_and]
    apply List.map_congr_left
    intro a _
    cases a <;> rfl

variable {D : DB} {agg : RelId → List Tuple}

theorem stepF_renOn (hR : RenLaw I ops varsB varsG) (hτ : InjOn τ S) (f : FItem E B G P A)
    (hv : ∀ v ∈ varsFItem ops varsB varsG f, S v) (hok : aggOkF f) :
    Sim (RenOn τ S) (RenOn τ S) (StepF I D agg f) (StepF I D agg (renFItem ops true τ f)) := by
  rw [renFItem_eq f hok]
  exact stepF_sim (envSim_renOn hτ) (hR.interpSim hτ) (fun _ h hg => h.1 ▸ hR.gen_on hτ h.2 hg) ⟨rfl, Keys.nil S⟩ f hv

theorem renEnv_id (ρ : Env) : renEnv id ρ = ρ :=
  map_eq_self fun _ _ => rfl

/-- `stepF_sim` with nothing renamed: what the unrenamed copy does is not asked for, only that the relation is kept -/
theorem stepF_keys (f : FItem E B G P A) (hv : ∀ v ∈ varsFItem ops varsB varsG f, S v) {ρ ρ' : Env} (hk : Keys S ρ)
    (h : StepF I D agg f ρ ρ') : Keys S ρ' := by
  have e : ∀ {ρ σ : Env}, RenOn id S ρ σ → σ = ρ := fun h => h.1.trans (renEnv_id _)
  have hI : InterpSim id S (RenOn id S) I I id id ops.varsE varsB := ⟨fun h _ => e h ▸ rfl, fun h _ => e h ▸ rfl, pat_map_id I⟩
  obtain ⟨_, _, _, hk'⟩ := (stepF_sim (rG := id) (envSim_renOn (InjOn.of_injective (fun _ _ e => e) S)) hI
    (fun _ h _ => e h ▸ rfl) ⟨rfl, Keys.nil S⟩ f hv ρ _ ⟨rfl, hk⟩).1 ρ' h
  exact hk'

theorem sat_keys :
    (∀ (i : SItem E B G P A (MInv E)) (ρ ρ' : Env), (∀ v ∈ varsItem ops varsB varsG i, S v) → Keys S ρ →
      SatI I D agg i ρ ρ' → Keys S ρ') ∧
    (∀ (is : SItems E B G P A (MInv E)) (ρ ρ' : Env), (∀ v ∈ varsItems ops varsB varsG is, S v) → Keys S ρ →
      SatS I D agg is ρ ρ' → Keys S ρ') ∧
    ∀ (as : SAlts E B G P A (MInv E)) (ρ ρ' : Env), (∀ v ∈ varsAlts ops varsB varsG as, S v) → Keys S ρ →
      SatA I D agg as ρ ρ' → Keys S ρ' :=
  SItem.induct
    (fun f _ _ hv hk h => stepF_keys f hv hk h)
    (fun _ ih ρ ρ' hv hk h => ih ρ ρ' hv hk h)
    (fun _ _ _ _ _ h => h.elim)
    (fun _ _ _ hk h => h ▸ hk)
    (fun i rest ihi ihs ρ ρ' hv hk h => by
      simp only [varsItems, List.forall_mem_append] at hv
      obtain ⟨ρ₁, h1, h2⟩ := h
      exact ihs ρ₁ ρ' hv.2 (ihi ρ ρ₁ hv.1 hk h1) h2)
    (fun _ _ _ _ h => h.elim)
    (fun a rest ihs iha ρ ρ' hv hk h => by
      simp only [varsAlts, List.forall_mem_append] at hv
      exact h.elim (ihs ρ ρ' hv.1 hk) (iha ρ ρ' hv.2 hk))

theorem satA_keys : ∀ (as : SAlts E B G P A (MInv E)) (ρ ρ' : Env), (∀ v ∈ varsAlts ops varsB varsG as, S v) → Keys S ρ →
    SatA I D agg as ρ ρ' → Keys S ρ' :=
  sat_keys.2.2

theorem sat_renOn (hR : RenLaw I ops varsB varsG) (hτ : InjOn τ S) :
    (∀ i : SItem E B G P A (MInv E), (∀ v ∈ varsItem ops varsB varsG i, S v) → aggOkItem i →
      Sim (RenOn τ S) (RenOn τ S) (SatI I D agg i) (SatI I D agg (renItem ops true τ i))) ∧
    (∀ is : SItems E B G P A (MInv E), (∀ v ∈ varsItems ops varsB varsG is, S v) → aggOkItems is →
      Sim (RenOn τ S) (RenOn τ S) (SatS I D agg is) (SatS I D agg (renItems ops true τ is))) ∧
    ∀ as : SAlts E B G P A (MInv E), (∀ v ∈ varsAlts ops varsB varsG as, S v) → aggOkAlts as →
      Sim (RenOn τ S) (RenOn τ S) (SatA I D agg as) (SatA I D agg (renAlts ops true τ as)) :=
  SItem.induct
    (fun f hv hok => stepF_renOn hR hτ f hv hok)
    (fun _ ih hv hok => ih hv hok)
    (fun _ _ _ _ _ _ => ⟨fun _ h => h.elim, fun _ h => h.elim⟩)
    (fun _ _ ρ σ h => ⟨fun _ e => ⟨σ, rfl, e ▸ h⟩, fun _ e => ⟨ρ, rfl, e ▸ h⟩⟩)
    (fun i rest ihi ihs hv hok => by
      simp only [varsItems, List.forall_mem_append] at hv
      exact (ihi hv.1 hok.1).comp (ihs hv.2 hok.2))
    (fun _ _ _ _ _ => ⟨fun _ h => h.elim, fun _ h => h.elim⟩)
    (fun a rest ihs iha hv hok ρ σ h => by
      simp only [varsAlts, List.forall_mem_append] at hv
      have h1 := ihs hv.1 hok.1 ρ σ h
      have h2 := iha hv.2 hok.2 ρ σ h
      exact ⟨fun ρ₁ hs => hs.elim (fun hs => (h1.1 ρ₁ hs).imp fun _ => And.imp_left .inl)
          fun hs => (h2.1 ρ₁ hs).imp fun _ => And.imp_left .inr,
        fun σ₁ hs => hs.elim (fun hs => (h1.2 σ₁ hs).imp fun _ => And.imp_left .inl)
          fun hs => (h2.2 σ₁ hs).imp fun _ => And.imp_left .inr⟩)

theorem satI_ren (hR : RenLaw I ops varsB varsG) (hτ : InjOn τ S) : ∀ (i : SItem E B G P A (MInv E)) (ρ ρ' : Env),
    (∀ v ∈ varsItem ops varsB varsG i, S v) → aggOkItem i → Keys S ρ →
    SatI I D agg i ρ ρ' → SatI I D agg (renItem ops true τ i) (renEnv τ ρ) (renEnv τ ρ') :=
  fun i ρ ρ' hv hok hk h => by
    obtain ⟨_, h', rfl, _⟩ := ((sat_renOn hR hτ).1 i hv hok ρ _ ⟨rfl, hk⟩).1 ρ' h
    exact h'

theorem satA_ren (hR : RenLaw I ops varsB varsG) (hτ : InjOn τ S) : ∀ (as : SAlts E B G P A (MInv E)) (ρ ρ' : Env),
    (∀ v ∈ varsAlts ops varsB varsG as, S v) → aggOkAlts as → Keys S ρ →
    SatA I D agg as ρ ρ' → SatA I D agg (renAlts ops true τ as) (renEnv τ ρ) (renEnv τ ρ') :=
  fun as ρ ρ' hv hok hk h => by
    obtain ⟨_, h', rfl, _⟩ := ((sat_renOn hR hτ).2.2 as hv hok ρ _ ⟨rfl, hk⟩).1 ρ' h
    exact h'

theorem satI_ren_inv (hR : RenLaw I ops varsB varsG) (hτ : InjOn τ S) : ∀ (i : SItem E B G P A (MInv E)) (ρ σ : Env),
    (∀ v ∈ varsItem ops varsB varsG i, S v) → aggOkItem i → Keys S ρ →
    SatI I D agg (renItem ops true τ i) (renEnv τ ρ) σ → ∃ ρ', σ = renEnv τ ρ' ∧ SatI I D agg i ρ ρ' :=
  fun i ρ σ hv hok hk h => by
    obtain ⟨ρ', h', e, _⟩ := ((sat_renOn hR hτ).1 i hv hok ρ _ ⟨rfl, hk⟩).2 σ h
    exact ⟨ρ', e, h'⟩

theorem satA_ren_inv (hR : RenLaw I ops varsB varsG) (hτ : InjOn τ S) : ∀ (as : SAlts E B G P A (MInv E)) (ρ σ : Env),
    (∀ v ∈ varsAlts ops varsB varsG as, S v) → aggOkAlts as → Keys S ρ →
    SatA I D agg (renAlts ops true τ as) (renEnv τ ρ) σ → ∃ ρ', σ = renEnv τ ρ' ∧ SatA I D agg as ρ ρ' :=
  fun as ρ σ hv hok hk h => by
    obtain ⟨ρ', h', e, _⟩ := ((sat_renOn hR hτ).2.2 as hv hok ρ _ ⟨rfl, hk⟩).2 σ h
    exact ⟨ρ', e, h'⟩

end

/-! ## the substitution lemma of the expression language of the executable ties

`stdOps_renLaw` (Props/C08Sem.lean) and `stdOps_varsSound` (Props/C07.lean) come from it. -/

theorem evalEx_ren (τ : Var → Var) (ρ ρ' : Env) (e : Std.Ex) (h : ∀ v ∈ Std.varsEx e, Env.get? ρ' (τ v) = Env.get? ρ v) :
    Std.evalEx ρ' (Std.subEx (fun x => .var (τ x)) e) = Std.evalEx ρ e := by
  induction e with
  | const v => rfl
  | var x => simp only [Std.subEx, Std.evalEx, h x (by simp [Std.varsEx])]
  | add a b iha ihb | sub a b iha ihb | mul a b iha ihb | min a b iha ihb | max a b iha ihb =>
    simp only [Std.varsEx, List.mem_append] at h
    simp only [Std.subEx, Std.evalEx, iha (fun v hv => h v (.inl hv)), ihb (fun v hv => h v (.inr hv))]
  | some a iha | single a iha => simp only [Std.subEx, Std.evalEx, iha h]

theorem evalBx_ren (τ : Var → Var) (ρ ρ' : Env) (b : Std.Bx) (h : ∀ v ∈ Std.varsBx b, Env.get? ρ' (τ v) = Env.get? ρ v) :
    Std.evalBx ρ' (Std.subBx (fun x => .var (τ x)) b) = Std.evalBx ρ b := by
  induction b with
  | tt => rfl
  | lt a b | le a b | eq a b | ne a b =>
    simp only [Std.varsBx, List.mem_append] at h
    simp only [Std.subBx, Std.evalBx, evalEx_ren τ ρ ρ' a (fun v hv => h v (.inl hv)), evalEx_ren τ ρ ρ' b (fun v hv => h v (.inr hv))]
  | and a b iha ihb | or a b iha ihb =>
    simp only [Std.varsBx, List.mem_append] at h
    simp only [Std.subBx, Std.evalBx, iha (fun v hv => h v (.inl hv)), ihb (fun v hv => h v (.inr hv))]
  | not a iha => simp only [Std.subBx, Std.evalBx, iha h]

theorem evalGx_ren (τ : Var → Var) (ρ ρ' : Env) (g : Std.Gx) (h : ∀ v ∈ Std.varsGx g, Env.get? ρ' (τ v) = Env.get? ρ v) :
    Std.evalGx ρ' (Std.subGx (fun x => .var (τ x)) g) = Std.evalGx ρ g := by
  cases g with
  | range lo hi =>
    simp only [Std.varsGx, List.mem_append] at h
    simp only [Std.subGx, Std.evalGx, evalEx_ren τ ρ ρ' lo (fun v hv => h v (.inl hv)), evalEx_ren τ ρ ρ' hi (fun v hv => h v (.inr hv))]
  | list xs =>
    simp only [Std.varsGx, List.mem_flatMap] at h
    simp only [Std.subGx, Std.evalGx, List.map_map]
    apply List.map_congr_left
    intro e he
    exact evalEx_ren τ ρ ρ' e (fun v hv => h v ⟨e, he, hv⟩)

theorem stdOps_substLaw (kinds : RelId → Std.LatKind) : SubstLaw (Std.interp kinds) Std.stdOps Std.varsBx Std.varsGx where
  expr τ e ρ ρ' h := evalEx_ren τ ρ ρ' e h
  test τ b ρ ρ' h := evalBx_ren τ ρ ρ' b h
  gen τ g ρ ρ' h := evalGx_ren τ ρ ρ' g h

end AscentVerif.Surface.Sem
