import AscentVerif.Proofs.Head
import AscentVerif.Spec.LatticeLfp
/-!
# Elementary facts for the lattice proofs (C03): key and value of a row, `rowAt` under `setNth` and append,
`findKey`, and the order `Dominated` / `DBLe` on databases (a preorder; a fact is dominated through the rows of its own
relation only)
-/
namespace AscentVerif.Engine
open AscentVerif

variable {E B G P A : Type}

theorem keyOf_snoc (k : Tuple) (x : Val) : keyOf (k ++ [x]) = k := by simp [keyOf]
theorem valOf_snoc (k : Tuple) (x : Val) : valOf (k ++ [x]) = x := by simp [valOf]

theorem snoc_key_val {t : Tuple} (h : t ≠ []) : keyOf t ++ [valOf t] = t := by
  unfold keyOf valOf
  rw [List.getLastD_eq_getLast?, List.getLast?_eq_some_getLast h]
  exact List.dropLast_concat_getLast h

theorem rowAt_setNth_self (rows : List Tuple) (i : Nat) (x : Tuple) (h : i < rows.length) :
    rowAt (setNth rows i x) i = x :=
  getD_setNth_self _ rows i x h

theorem rowAt_setNth_ne (rows : List Tuple) (i j : Nat) (x : Tuple) (h : j ≠ i) :
    rowAt (setNth rows i x) j = rowAt rows j :=
  getD_setNth_ne _ rows i j x h

theorem rowAt_of_ge (rows : List Tuple) (i : Nat) (h : rows.length ≤ i) : rowAt rows i = [] :=
  getD_of_ge _ rows i h

theorem rowAt_snoc_ne {rows : List Tuple} {row : Tuple} {i : Nat} (h : rowAt (rows ++ [row]) i ≠ rowAt rows i) :
    i = rows.length := by
  apply Classical.byContradiction
  intro hne
  apply h
  by_cases hi : i < rows.length
  · exact rowAt_append_left _ _ _ hi
  · rw [rowAt_of_ge _ _ (by rw [List.length_append, List.length_singleton]; omega), rowAt_of_ge _ _ (by omega)]

theorem mem_setNth {α : Type} (l : List α) (i : Nat) (x t : α) (h : t ∈ setNth l i x) : t = x ∨ t ∈ l := by
  rw [setNth_eq_set] at h
  rcases List.mem_or_eq_of_mem_set h with h | h
  · exact .inr h
  · exact .inl h

theorem map_keyOf_setNth (rows : List Tuple) (i : Nat) (x : Tuple) (hx : keyOf x = keyOf (rowAt rows i)) :
    (setNth rows i x).map keyOf = rows.map keyOf := by
  by_cases hi : i < rows.length
  · apply List.ext_getElem
    · simp
    · intro j h1 h2
      simp only [List.getElem_map, setNth_eq_set, List.getElem_set]
      split
      · rename_i hij
        subst hij
        rw [hx, rowAt_of_lt rows i hi]
      · rfl
  · rw [setNth_eq_set, List.set_eq_of_length_le (Nat.le_of_not_lt hi)]

theorem idx_of_key {rows : List Tuple} (hk : (rows.map keyOf).Nodup) {i j : Nat} (hi : i < rows.length)
    (hj : j < rows.length) (h : keyOf (rowAt rows i) = keyOf (rowAt rows j)) : i = j := by
  rw [rowAt_of_lt rows i hi, rowAt_of_lt rows j hj] at h
  have hi' : i < (rows.map keyOf).length := by simpa using hi
  have hj' : j < (rows.map keyOf).length := by simpa using hj
  have h' : (rows.map keyOf)[i] = (rows.map keyOf)[j] := by simpa using h
  exact (List.getElem_inj hk).mp h'

theorem row_of_key {rows : List Tuple} (hk : (rows.map keyOf).Nodup) {t t' : Tuple} (ht : t ∈ rows) (ht' : t' ∈ rows)
    (h : keyOf t = keyOf t') : t = t' := by
  obtain ⟨i, hi, rfl⟩ := (mem_iff_rowAt _ _).mp ht
  obtain ⟨j, hj, rfl⟩ := (mem_iff_rowAt _ _).mp ht'
  rw [idx_of_key hk hi hj h]

theorem findKey_some {rows : List Tuple} {bag : List Nat} {key : Tuple} {i : Nat}
    (h : findKey rows bag key = some i) : i ∈ bag ∧ keyOf (rowAt rows i) = key := by
  unfold findKey at h
  have h1 := List.mem_of_find?_eq_some h
  have h2 := List.find?_some h
  exact ⟨List.mem_reverse.mp h1, by simpa [keyOf] using h2⟩

theorem findKey_none {rows : List Tuple} {bag : List Nat} {key : Tuple}
    (h : findKey rows bag key = none) : ∀ i ∈ bag, keyOf (rowAt rows i) ≠ key := by
  unfold findKey at h
  intro i hi
  have := List.find?_eq_none.mp h i (List.mem_reverse.mpr hi)
  simpa [keyOf] using this

section Order
variable (I : Interp E B G P A) (L : LatOrder I) (p : Program E B G P A)

theorem isLat_eq (r : RelId) : isLat p r = (declOf p r).lat := rfl

theorem lat_lt {r : RelId} (h : (declOf p r).lat = true) : r < p.rels.length := by
  apply Classical.byContradiction
  intro hn
  simp [declOf, List.getD_eq_getElem?_getD, List.getElem?_eq_none (Nat.le_of_not_lt hn)] at h

theorem dominated_lat {M : DB} {f : Fact} (h : (declOf p f.rel).lat = true) :
    Dominated I L p M f ↔ ∃ t, M ⟨f.rel, t⟩ ∧ keyOf t = keyOf f.args ∧ L.le f.rel (valOf f.args) (valOf t) := by
  unfold Dominated
  rw [isLat_eq, h]; simp

theorem dominated_rel {M : DB} {f : Fact} (h : (declOf p f.rel).lat = false) :
    Dominated I L p M f ↔ M f := by
  unfold Dominated
  rw [isLat_eq, h]; simp

theorem Dominated.of_mem {M : DB} {f : Fact} (h : M f) : Dominated I L p M f := by
  cases hl : (declOf p f.rel).lat with
  | false => exact (dominated_rel I L p hl).mpr h
  | true => exact (dominated_lat I L p hl).mpr ⟨f.args, h, rfl, L.refl _ _⟩

variable {I L p}

theorem Dominated.of_rel {M M' : DB} {f : Fact} (h : Dominated I L p M f)
    (hrel : ∀ t, M ⟨f.rel, t⟩ → Dominated I L p M' ⟨f.rel, t⟩) : Dominated I L p M' f := by
  cases hl : (declOf p f.rel).lat with
  | false =>
    exact hrel f.args ((dominated_rel I L p hl).mp h)
  | true =>
    obtain ⟨t, ht, hk, hv⟩ := (dominated_lat I L p hl).mp h
    obtain ⟨t', ht', hk', hv'⟩ := (dominated_lat I L p (f := ⟨f.rel, t⟩) hl).mp (hrel t ht)
    exact (dominated_lat I L p hl).mpr ⟨t', ht', hk'.trans hk, L.trans _ _ _ _ hv hv'⟩

theorem Dominated.mono {M M' : DB} {f : Fact} (h : Dominated I L p M f) (hle : DBLe I L p M M') :
    Dominated I L p M' f :=
  Dominated.of_rel h fun _ ht => hle _ ht

theorem Dominated.congr {M M' : DB} {f : Fact} (h : Dominated I L p M f) (hsub : ∀ t, M ⟨f.rel, t⟩ → M' ⟨f.rel, t⟩) :
    Dominated I L p M' f :=
  Dominated.of_rel h fun t ht => Dominated.of_mem I L p (hsub t ht)

theorem DBLe.refl (M : DB) : DBLe I L p M M := fun _ hf => Dominated.of_mem I L p hf

theorem DBLe.trans {M₁ M₂ M₃ : DB} (h₁ : DBLe I L p M₁ M₂) (h₂ : DBLe I L p M₂ M₃) : DBLe I L p M₁ M₃ :=
  fun f hf => Dominated.mono (h₁ f hf) h₂

/-- domination by a single fact is the form in which `MonotoneProg` relates the heads of two rule instances -/
theorem Dominated.single {M : DB} {f f' : Fact} (h : Dominated I L p (fun g => g = f') f) (h' : Dominated I L p M f') :
    Dominated I L p M f :=
  Dominated.mono h fun _ hg => hg ▸ h'

end Order

end AscentVerif.Engine
