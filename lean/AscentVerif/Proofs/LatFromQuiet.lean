import AscentVerif.Proofs.LatFrom
/-!
# A completed run leaves no pending join into a row without value column (for C13 with lattices)

A start value may hold the row `[]` in a lattice relation of arity 1 (key `[]`, value read as `unit`).
A join into that row writes `[x]` when `join_mut` answers `true`, so the row stays `[]` only if every
join into it answered `false`.  `Quiet D f`: *if* the row `[]` is in `f`'s relation and `f` has the
empty key, then joining `f`'s value into `unit` answers `false`.  The head updates track `Quiet` like they track
`Dominated` (`tracksQuiet`: beside `tracksDominated` the only instance of `Tracks`), so at the end of `run()` every rule
instance over the result has quiet heads (`ClosedFor (Quiet I p)`).  It is what makes a second `run()` leave `[]` rows alone.
-/
namespace AscentVerif.Engine
open AscentVerif

variable {E B G P A : Type}

def Quiet (I : Interp E B G P A) (p : Program E B G P A) (D : DB) (f : Fact) : Prop :=
  (declOf p f.rel).lat = true → D ⟨f.rel, []⟩ → keyOf f.args = [] →
    (I.joinMut f.rel .unit (valOf f.args)).2 = false

/-- lattice relations gain no empty row -/
def NELe (p : Program E B G P A) (D D' : DB) : Prop :=
  ∀ r, (declOf p r).lat = true → D' ⟨r, []⟩ → D ⟨r, []⟩

theorem NELe.refl (p : Program E B G P A) (D : DB) : NELe p D D := fun _ _ h => h

theorem NELe.trans {p : Program E B G P A} {D₁ D₂ D₃ : DB} (h₁ : NELe p D₁ D₂) (h₂ : NELe p D₂ D₃) :
    NELe p D₁ D₃ := fun r hl h => h₁ r hl (h₂ r hl h)

theorem Quiet.mono {I : Interp E B G P A} {p : Program E B G P A} {D D' : DB} {f : Fact}
    (h : Quiet I p D f) (hle : NELe p D D') : Quiet I p D' f :=
  fun hl hm hk => h hl (hle f.rel hl hm) hk

theorem NELe_of_rows {p : Program E B G P A} {s s' : SccSt} {r : RelId}
    (hne : ∀ r', r' ≠ r → rowsOf s' r' = rowsOf s r')
    (hself : [] ∈ rowsOf s' r → [] ∈ rowsOf s r) : NELe p (FactsS s) (FactsS s') := by
  intro r' _ h
  by_cases hr : r' = r
  · subst hr; exact hself h
  · show [] ∈ rowsOf s r'
    rw [← hne r' hr]; exact h

section Step
variable {I : Interp E B G P A} {L : LatOrder I} {p : Program E B G P A} {inp : RelId → List Tuple}
  {dynR : List RelId}

theorem empty_at_key {rows : List Tuple} (hk : (rows.map keyOf).Nodup) {i : Nat} (hi : i < rows.length) {key : Tuple}
    (hkey : keyOf (rowAt rows i) = key) (hmem : [] ∈ rows) (h0 : key = []) : rowAt rows i = [] := by
  obtain ⟨j, hj, hrow⟩ := (mem_iff_rowAt _ _).mp hmem
  have hji : j = i := idx_of_key hk hj hi (by rw [hrow, hkey, h0]; rfl)
  rw [← hji, hrow]

theorem headLat_quiet {s : SccSt} (hinv : LInv I L p inp dynR s) (r : RelId) (row : Tuple)
    (hlat : (declOf p r).lat = true) (hdyn : dynR.contains r = true) (hne : row ≠ []) :
    NELe p (FactsS s) (FactsS (headLat I {} s r row)) ∧
      Quiet I p (FactsS (headLat I {} s r row)) ⟨r, row⟩ := by
  have hr' : r < s.rels.length := by rw [hinv.wf.len]; exact hinv.dlt r hdyn
  have hkeys := hinv.keys r hlat
  obtain ⟨d, hd⟩ := hinv.wf.findDyn_some hdyn
  rcases headLat_cases I row hd (hinv.wf.cover r d hd) with ⟨hf, h⟩ | ⟨i, hi, hkey, ⟨-, h⟩ | ⟨hj, h⟩⟩
  · -- a fresh key is not the key of an empty row that was there
    rw [h]
    have hself : [] ∈ rowsOf (pushRow s r d row) r → [] ∈ rowsOf s r := by
      intro h
      rw [pushRow_rows_self hr'] at h
      rcases List.mem_append.mp h with h | h
      · exact h
      · exact absurd (List.mem_singleton.mp h).symm hne
    refine ⟨NELe_of_rows (fun r' h => pushRow_rows_ne h) hself, fun _ hmem hk => ?_⟩
    exact absurd (hk.symm ▸ rfl) (hf [] (hself hmem))
  · -- the joined row has a value column, and no other row has its key
    rw [h]
    generalize (I.joinMut r (valOf (rowAt (rowsOf s r) i)) (valOf row)).1 = x
    have hrows : rowsOf (joinSt s r d i x) r = joinRows (rowsOf s r) i x := joinSt_rows_self hr'
    have hself : [] ∈ rowsOf (joinSt s r d i x) r → [] ∈ rowsOf s r := by
      intro h
      rw [hrows] at h
      rcases mem_setNth _ _ _ _ h with h | h
      · simp at h
      · exact h
    refine ⟨NELe_of_rows (fun r' h => joinSt_rows_ne h) hself, fun _ hmem hk => ?_⟩
    have hmem' : [] ∈ rowsOf (joinSt s r d i x) r := hmem
    rw [hrows] at hmem'
    have h0 := empty_at_key (by rw [joinRows_keys]; exact hkeys) (by rw [joinRows_length]; exact hi)
      (by rw [joinRows_at_self _ hi, keyOf_snoc]; exact hkey) hmem' hk
    rw [joinRows_at_self _ hi] at h0
    simp at h0
  · -- the join into the key's row answered `false`
    rw [h]
    refine ⟨NELe.refl p _, fun _ hmem hk => ?_⟩
    rw [empty_at_key hkeys hi hkey hmem hk] at hj
    exact hj

theorem headRel_quiet {s : SccSt} (r : RelId) (row : Tuple) (hlat : (declOf p r).lat = false) :
    NELe p (FactsS s) (FactsS (headRel s r row)) ∧ Quiet I p (FactsS (headRel s r row)) ⟨r, row⟩ := by
  refine ⟨?_, fun hl => by rw [hlat] at hl; cases hl⟩
  rw [headRel_eq]
  cases hd : findDyn s.dyn r with
  | none => exact NELe.refl p _
  | some d =>
    simp only []
    split
    · exact NELe.refl p _
    · intro r' hl h
      have hne : r' ≠ r := by
        intro h'; subst h'; rw [hlat] at hl; cases hl
      show [] ∈ rowsOf s r'
      rw [← pushRow_rows_ne (s := s) (r := r) (d := d) (row := row) hne]; exact h

theorem headUpdate_quiet {s : SccSt} (hinv : LInv I L p inp dynR s) (h : HeadClause E) (ρ : Env)
    (hdyn : dynR.contains h.rel = true) (hne : (declOf p h.rel).lat = true → h.args ≠ []) :
    NELe p (FactsS s) (FactsS (headUpdate I {} p s h ρ)) ∧
      Quiet I p (FactsS (headUpdate I {} p s h ρ)) (headFact I h ρ) := by
  unfold headUpdate
  cases hlat : (declOf p h.rel).lat with
  | true =>
    refine headLat_quiet hinv h.rel _ hlat hdyn ?_
    intro h0
    exact hne hlat (List.map_eq_nil_iff.mp h0)
  | false => exact headRel_quiet h.rel _ hlat

end Step

section Run
variable {I : Interp E B G P A} {L : LatOrder I} {p : Program E B G P A} {inp : RelId → List Tuple}

variable (I L p inp) in
theorem tracksQuiet : Tracks I L p inp (fun h => (declOf p h.rel).lat = true → h.args ≠ []) (NELe p) (Quiet I p) where
  refl := NELe.refl p
  trans := NELe.trans
  mono := Quiet.mono
  head h ρ hinv hdyn hne _ := headUpdate_quiet hinv h ρ hdyn hne

include L in
theorem run_from_quiet (haf : ∀ r ∈ p.rules, r.aggFree = true)
    (hh : ∀ r ∈ p.rules, ∀ h ∈ r.heads, h.rel < p.rels.length)
    (hne : ∀ r ∈ p.rules, ∀ h ∈ r.heads, (declOf p h.rel).lat = true → h.args ≠ [])
    (o : SccOrder) (ho : validOrder p o = true) (dl : Deadline) (fuel : Nat) (s : St) (ps : ProgSt)
    (hs : WFSt' p s)
    (hk : ∀ r, r < p.rels.length → (declOf p r).lat = true → ((relSt s r).rows.map keyOf).Nodup)
    (hrun : runTimeout I {} p o dl fuel s = .done ps) :
    ClosedFor I (Quiet I p) p.rules (factsOf ps.st) :=
  (runNDL_track (tracksQuiet I L p (rowsFn s)) haf hh hne o ho s ps.st hs.1 (fun _ _ => rfl) hk
    (runTimeout_is_NDL haf o dl fuel s ps hrun)).2.1

end Run

end AscentVerif.Engine
