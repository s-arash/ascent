import AscentVerif.Proofs.TrRelCollapseInv
import AscentVerif.Proofs.TrRelCollapseRel
/-!
# `merge_multiple`, statement by statement

`merge_multiple(from, to, in_between)` is four "fix the (reverse) connections" loops, an absorbing loop and a final
clean-up of the two entries of `from`.  Each fixing loop is a fold of `fixStep` and acts on the stored relation as `Fix`;
the four together leave the relations `C7` / `R6` (`mergeFix4_spec`).  On valid ids the absorbing loop is a fold of
`absorbOne`, and each part of the state (keys removed from both maps, subsumptions recorded, sets poured into `from`)
has its own closed form (`mergeAbsorb_spec`).  `mergeMultiple_spec`: the function never panics under explicit side
conditions (valid dominant ids, disjoint sets, both entries of `from` present), and `MergePost` describes its result
exactly in terms of the relations the two maps held before, whatever they were.
-/
namespace AscentVerif.TrRel
open TrRel (getDominantIdAux getDominantIdMutAux)

def fixStep (upd : NSet → NSet) (m : NMap) (z : Nat) : NMap :=
  alSet (entryOrDefault m z).1 z (upd (entryOrDefault m z).2)

theorem rel_fixStep (upd : NSet → NSet) (m : NMap) (z a w : Nat) :
    rel (fixStep upd m z) a w ↔ if z = a then w ∈ upd ((alGet m z).getD []) else rel m a w := by
  unfold fixStep
  rw [rel_alSet, entryOrDefault_snd]
  by_cases h : z = a
  · simp [h]
  · simp only [if_neg h, rel_entryOrDefault]

theorem rel_foldl_fixStep {upd : NSet → NSet} {K : Nat → Prop} {frm : Nat}
    (hupd : ∀ s w, w ∈ upd s ↔ (w ∈ s ∧ K w) ∨ w = frm) (l : List Nat) (m : NMap) (a w : Nat) :
    rel (l.foldl (fixStep upd) m) a w ↔ (a ∈ l ∧ ((rel m a w ∧ K w) ∨ w = frm)) ∨ (a ∉ l ∧ rel m a w) := by
  induction l generalizing m with
  | nil => simp
  | cons z rest ih =>
    simp only [List.foldl_cons, ih, rel_fixStep, hupd, List.mem_cons, mem_alGet_getD]
    by_cases hz : z = a
    · subst hz
      simp only [if_true, true_or, true_and, not_true_eq_false, false_and, or_false]
      by_cases hr : z ∈ rest
      · simp only [hr, true_and, not_true_eq_false, false_and, or_false]
        constructor
        · rintro (⟨h | h, hk⟩ | h)
          · exact Or.inl h
          · exact Or.inr h
          · exact Or.inr h
        · rintro (⟨h, hk⟩ | h)
          · exact Or.inl ⟨Or.inl ⟨h, hk⟩, hk⟩
          · exact Or.inr h
      · simp [hr]
    · have hz' : ¬ a = z := fun e => hz e.symm
      simp only [if_neg hz, hz', false_or]

theorem rel_fixLoop {upd : NSet → NSet} {frm to : Nat} {ib : NSet}
    (hupd : ∀ s w, w ∈ upd s ↔ (w ∈ s ∧ (w ∉ ib ∧ w ≠ to)) ∨ w = frm) (m m' : NMap) (s z w : Nat) :
    rel ((nsDiff ((alGet m' s).getD []) ib).foldl (fixStep upd) m) z w ↔
      Fix (fun z => rel m' s z ∧ z ∉ ib) (· ∈ ib) frm to (rel m) z w := by
  rw [rel_foldl_fixStep hupd, mem_nsDiff, mem_alGet_getD]
  rfl

theorem mapOk_foldl_fixStep {m : NMap} (h : MapOk m) {upd : NSet → NSet} (hupd : ∀ s, s.Nodup → (upd s).Nodup) (l : List Nat) :
    MapOk (l.foldl (fixStep upd) m) := by
  induction l generalizing m with
  | nil => exact h
  | cons z rest ih => exact ih ((h.orDefault z).1.alSet _ (hupd _ (h.orDefault z).2))

theorem isSome_foldl_fixStep {m : NMap} {k : Nat} (h : (alGet m k).isSome = true) (upd : NSet → NSet) (l : List Nat) :
    (alGet (l.foldl (fixStep upd) m) k).isSome = true := by
  induction l generalizing m with
  | nil => exact h
  | cons z rest ih =>
    refine ih ?_
    unfold fixStep
    rw [alGet_alSet]
    split
    · rfl
    · obtain ⟨s, hk⟩ := Option.isSome_iff_exists.mp h
      rw [alGet_entryOrDefault_of_some z hk]; rfl

/- One entry under a forward / a backward loop.  The order of `insert(from)` and `remove(to)` differs, which shows only if
`from = to`: hence the premise of `mem_updBwd`. -/
def updFwd (frm to : Nat) (ib : NSet) (s : NSet) : NSet := (nsInsert (nsRemove (keepDifference s ib) to) frm).1
def updBwd (frm to : Nat) (ib : NSet) (s : NSet) : NSet := nsRemove (nsInsert (keepDifference s ib) frm).1 to

theorem nodup_updFwd (frm to : Nat) (ib : NSet) (s : NSet) (h : s.Nodup) : (updFwd frm to ib s).Nodup :=
  nodup_nsInsert (nodup_nsRemove (nodup_keepDifference h ib) to) frm

theorem nodup_updBwd (frm to : Nat) (ib : NSet) (s : NSet) (h : s.Nodup) : (updBwd frm to ib s).Nodup :=
  nodup_nsRemove (nodup_nsInsert (nodup_keepDifference h ib) frm) to

theorem mem_updFwd (frm to : Nat) (ib s : NSet) (w : Nat) :
    w ∈ updFwd frm to ib s ↔ (w ∈ s ∧ (w ∉ ib ∧ w ≠ to)) ∨ w = frm := by
  unfold updFwd
  rw [mem_nsInsert, mem_nsRemove, mem_keepDifference, and_assoc]

theorem mem_updBwd {frm to : Nat} (hne : frm ≠ to) (ib s : NSet) (w : Nat) :
    w ∈ updBwd frm to ib s ↔ (w ∈ s ∧ (w ∉ ib ∧ w ≠ to)) ∨ w = frm := by
  unfold updBwd
  rw [mem_nsRemove, mem_nsInsert, mem_keepDifference, or_and_right, and_assoc]
  exact or_congr_right ⟨fun h => h.1, fun h => ⟨h, h ▸ hne⟩⟩

theorem foldl_rconn (f : NMap → Nat → NMap) (l : List Nat) (t : TrRel) :
    l.foldl (fun t z => { t with rconn := f t.rconn z }) t = { t with rconn := l.foldl f t.rconn } := by
  induction l generalizing t with
  | nil => rfl
  | cons z rest ih => exact ih _

theorem foldl_conn (f : NMap → Nat → NMap) (l : List Nat) (t : TrRel) :
    l.foldl (fun t z => { t with conn := f t.conn z }) t = { t with conn := l.foldl f t.conn } := by
  induction l generalizing t with
  | nil => rfl
  | cons z rest ih => exact ih _

theorem mergeFixForward_eq (t : TrRel) (s frm to : Nat) (ib : NSet) :
    t.mergeFixForward s frm to ib =
      { t with rconn := (nsDiff ((alGet t.conn s).getD []) ib).foldl (fixStep (updFwd frm to ib)) t.rconn } := by
  unfold TrRel.mergeFixForward
  cases alGet t.conn s with
  | none => rfl
  | some sConn => exact foldl_rconn (fixStep (updFwd frm to ib)) _ t

theorem mergeFixBackward_eq (t : TrRel) (s frm to : Nat) (ib : NSet) :
    t.mergeFixBackward s frm to ib =
      { t with conn := (nsDiff ((alGet t.rconn s).getD []) ib).foldl (fixStep (updBwd frm to ib)) t.conn } := by
  unfold TrRel.mergeFixBackward
  cases alGet t.rconn s with
  | none => rfl
  | some sRev => exact foldl_conn (fixStep (updBwd frm to ib)) _ t

/-- a forward loop only rewrites `reverse_set_connections`; the two maps stand beside a fixed `t` so that the four loops
chain (`mergeFix4_spec`) -/
theorem mergeFixForward_spec (t : TrRel) (c r : NMap) (s frm to : Nat) (ib : NSet) :
    ∃ r', ({ t with conn := c, rconn := r } : TrRel).mergeFixForward s frm to ib = { t with conn := c, rconn := r' } ∧
      (∀ z w, rel r' z w ↔ Fix (fun z => rel c s z ∧ z ∉ ib) (· ∈ ib) frm to (rel r) z w) ∧ (MapOk r → MapOk r') ∧
      ∀ k, (alGet r k).isSome = true → (alGet r' k).isSome = true :=
  ⟨_, mergeFixForward_eq _ s frm to ib, rel_fixLoop (mem_updFwd frm to ib) r c s,
    fun h => mapOk_foldl_fixStep h (nodup_updFwd frm to ib) _, fun _ h => isSome_foldl_fixStep h _ _⟩

/-- a backward loop only rewrites `set_connections` -/
theorem mergeFixBackward_spec (t : TrRel) (c r : NMap) {frm to : Nat} (hne : frm ≠ to) (s : Nat) (ib : NSet) :
    ∃ c', ({ t with conn := c, rconn := r } : TrRel).mergeFixBackward s frm to ib = { t with conn := c', rconn := r } ∧
      (∀ z w, rel c' z w ↔ Fix (fun z => rel r s z ∧ z ∉ ib) (· ∈ ib) frm to (rel c) z w) ∧ (MapOk c → MapOk c') ∧
      ∀ k, (alGet c k).isSome = true → (alGet c' k).isSome = true :=
  ⟨_, mergeFixBackward_eq _ s frm to ib, rel_fixLoop (mem_updBwd hne ib) c r s,
    fun h => mapOk_foldl_fixStep h (nodup_updBwd frm to ib) _, fun _ h => isSome_foldl_fixStep h _ _⟩

theorem mergeFix4_spec (t : TrRel) {frm to : Nat} (hne : frm ≠ to) (ib : NSet) :
    ∃ c r, (((t.mergeFixForward frm frm to ib).mergeFixBackward frm frm to ib).mergeFixForward to frm to ib).mergeFixBackward
        to frm to ib = { t with conn := c, rconn := r } ∧
      (∀ z w, rel c z w ↔ C7 (rel t.conn) (rel t.rconn) (· ∈ ib) frm to z w) ∧
      (∀ z w, rel r z w ↔ R6 (rel t.conn) (rel t.rconn) (· ∈ ib) frm to z w) ∧
      (KeysOk t → MapOk c ∧ MapOk r) ∧
      ((alGet t.conn frm).isSome = true → (alGet c frm).isSome = true) ∧
      ((alGet t.rconn frm).isSome = true → (alGet r frm).isSome = true) := by
  obtain ⟨r4, e4, h4, k4, s4⟩ := mergeFixForward_spec t t.conn t.rconn frm frm to ib
  obtain ⟨c5, e5, h5, k5, s5⟩ := mergeFixBackward_spec t t.conn r4 hne frm ib
  obtain ⟨r6, e6, h6, k6, s6⟩ := mergeFixForward_spec t c5 r4 to frm to ib
  obtain ⟨c7, e7, h7, k7, s7⟩ := mergeFixBackward_spec t c5 r6 hne to ib
  have g5 : ∀ z w, rel c5 z w ↔ C5 (rel t.conn) (rel t.rconn) (· ∈ ib) frm to z w :=
    fun z w => (h5 z w).trans (Fix_congr (fun z => by rw [h4]; rfl) (fun _ _ => Iff.rfl) z w)
  have g6 : ∀ z w, rel r6 z w ↔ R6 (rel t.conn) (rel t.rconn) (· ∈ ib) frm to z w :=
    fun z w => (h6 z w).trans (Fix_congr (fun z => by rw [g5]) h4 z w)
  refine ⟨c7, r6, ?_, fun z w => (h7 z w).trans (Fix_congr (fun z => by rw [g6]) g5 z w), g6,
    fun h => ⟨k7 (k5 h.1), k6 (k4 h.2)⟩, fun h => s7 _ (s5 _ h), fun h => s6 _ (s4 _ h)⟩
  rw [← e7, ← e6, ← e5, ← e4]

def absorbOne (frm : Nat) (t : TrRel) (s : Nat) : TrRel :=
  { t with conn := alRemove t.conn s, rconn := alRemove t.rconn s,
           sets := setNth (setNth t.sets s []) frm (mergeSets (t.sets[frm]?.getD []) (t.sets[s]?.getD [])),
           subs := alSet t.subs s frm }

theorem length_absorbOne (frm : Nat) (t : TrRel) (s : Nat) : (absorbOne frm t s).sets.length = t.sets.length := by
  simp [absorbOne, setNth]

theorem mergeAbsorb_eq {frm : Nat} (l : List Nat) (t : TrRel) (hl : ∀ s ∈ l, s ≠ frm ∧ s < t.sets.length)
    (hf : frm < t.sets.length) : t.mergeAbsorb frm l = .ok (l.foldl (absorbOne frm) t) := by
  induction l generalizing t with
  | nil => rfl
  | cons s rest ih =>
    obtain ⟨hs, hslt⟩ := hl s (List.mem_cons_self ..)
    have hfS : (setNth t.sets s [])[frm]? = some t.sets[frm] := by
      simp only [setNth, List.getElem?_set, if_neg hs, List.getElem?_eq_getElem hf]
    rw [TrRel.mergeAbsorb]
    simp only [if_neg (Ne.symm hs), List.getElem?_eq_getElem hslt, hfS, unwrap, Res.bind_ok]
    rw [List.foldl_cons, ← ih (absorbOne frm t s)
      (fun s' hs' => by rw [length_absorbOne]; exact hl s' (List.mem_cons_of_mem _ hs')) (by rw [length_absorbOne]; exact hf)]
    congr 1
    simp only [absorbOne, List.getElem?_eq_getElem hf, List.getElem?_eq_getElem hslt, Option.getD_some]

theorem foldl_absorbOne_maps (frm : Nat) (l : List Nat) (t : TrRel) :
    (l.foldl (absorbOne frm) t).conn = l.foldl alRemove t.conn ∧ (l.foldl (absorbOne frm) t).rconn = l.foldl alRemove t.rconn ∧
      (l.foldl (absorbOne frm) t).subs = l.foldl (fun m s => alSet m s frm) t.subs ∧
      (l.foldl (absorbOne frm) t).elemIds = t.elemIds ∧ (l.foldl (absorbOne frm) t).sets.length = t.sets.length := by
  induction l generalizing t with
  | nil => exact ⟨rfl, rfl, rfl, rfl, rfl⟩
  | cons s rest ih =>
    have := ih (absorbOne frm t s)
    rw [length_absorbOne] at this
    exact this

theorem mem_absorbOne {frm s : Nat} {t : TrRel} (hslt : s < t.sets.length) (hf : frm < t.sets.length) (d : Nat) (v : Int) :
    Mem (absorbOne frm t s) d v ↔ if d = frm then Mem t frm v ∨ Mem t s v else d ≠ s ∧ Mem t d v := by
  unfold Mem absorbOne
  simp only [setNth, List.getElem?_set, List.length_set, List.getElem?_eq_getElem hf, List.getElem?_eq_getElem hslt,
    Option.getD_some]
  by_cases hd : frm = d
  · subst hd
    simp only [if_true, hf, Option.some.injEq, exists_eq_left', mem_mergeSets]
  · have hd' : ¬ d = frm := fun e => hd e.symm
    simp only [if_neg hd, if_neg hd']
    by_cases hsd : s = d
    · subst hsd; simp [hslt]
    · have hsd' : ¬ d = s := fun e => hsd e.symm
      simp [hsd, hsd']

theorem mem_foldl_absorbOne {frm : Nat} (l : List Nat) (t : TrRel) (hl : ∀ s ∈ l, s ≠ frm ∧ s < t.sets.length)
    (hf : frm < t.sets.length) (d : Nat) (v : Int) :
    Mem (l.foldl (absorbOne frm) t) d v ↔
      (d = frm ∧ (Mem t frm v ∨ ∃ s ∈ l, Mem t s v)) ∨ (d ≠ frm ∧ d ∉ l ∧ Mem t d v) := by
  induction l generalizing t with
  | nil =>
    by_cases hd : d = frm
    · subst hd; simp
    · simp [hd]
  | cons s rest ih =>
    obtain ⟨hs, hslt⟩ := hl s (List.mem_cons_self ..)
    have hrest : ∀ s' ∈ rest, s' ≠ frm ∧ s' < t.sets.length := fun s' hs' => hl s' (List.mem_cons_of_mem _ hs')
    rw [List.foldl_cons, ih (absorbOne frm t s) (by simpa only [length_absorbOne] using hrest)
      (by rw [length_absorbOne]; exact hf)]
    simp only [mem_absorbOne hslt hf]
    by_cases hd : d = frm
    · subst hd
      simp only [if_true, true_and, ne_eq, not_true_eq_false, false_and, or_false]
      constructor
      · rintro ((h | h) | ⟨s', hs', h⟩)
        · exact Or.inl h
        · exact Or.inr ⟨s, List.mem_cons_self .., h⟩
        · rw [if_neg (hrest s' hs').1] at h
          exact Or.inr ⟨s', List.mem_cons_of_mem _ hs', h.2⟩
      · rintro (h | ⟨s', hs', h⟩)
        · exact Or.inl (Or.inl h)
        · by_cases e : s' = s
          · subst e; exact Or.inl (Or.inr h)
          · have hs'' := (List.mem_cons.mp hs').resolve_left e
            exact Or.inr ⟨s', hs'', by rw [if_neg (hrest s' hs'').1]; exact ⟨e, h⟩⟩
    · simp only [hd, if_false, false_and, false_or, ne_eq, not_false_eq_true, true_and, List.mem_cons, not_or]
      constructor
      · rintro ⟨h1, h2, h3⟩; exact ⟨⟨h2, h1⟩, h3⟩
      · rintro ⟨⟨h2, h1⟩, h3⟩; exact ⟨h1, h2, h3⟩

theorem nodup_foldl_absorbOne (frm : Nat) (l : List Nat) (t : TrRel)
    (hn : ∀ (d : Nat) (s : List Int), t.sets[d]? = some s → s.Nodup) (d : Nat) (s : List Int)
    (h : (l.foldl (absorbOne frm) t).sets[d]? = some s) : s.Nodup := by
  induction l generalizing t with
  | nil => exact hn d s h
  | cons a rest ih =>
    refine ih (absorbOne frm t a) (fun d' s' hs' => ?_) h
    have hget : ∀ i : Nat, (t.sets[i]?.getD []).Nodup := by
      intro i
      cases hi : t.sets[i]? with
      | none => exact List.nodup_nil
      | some x => exact hn i x hi
    rcases List.mem_or_eq_of_mem_set (List.mem_of_getElem? hs') with h1 | rfl
    · rcases List.mem_or_eq_of_mem_set h1 with h2 | rfl
      · obtain ⟨i, hi⟩ := List.mem_iff_getElem?.mp h2
        exact hn i s' hi
      · exact List.nodup_nil
    · exact nodup_mergeSets (hget frm) (hget a)

theorem disjoint_merged {M M' : Nat → Int → Prop} {frm : Nat} {l : List Nat}
    (hmem : ∀ d v, M' d v ↔ (d = frm ∧ (M frm v ∨ ∃ s ∈ l, M s v)) ∨ (d ≠ frm ∧ d ∉ l ∧ M d v))
    (hdisj : ∀ d d' v, M d v → M d' v → d = d') (d d' : Nat) (v : Int) (g : M' d v) (g' : M' d' v) : d = d' := by
  rw [hmem] at g g'
  rcases g with ⟨e1, k1⟩ | ⟨hd1, hd2, k1⟩ <;> rcases g' with ⟨e2, k2⟩ | ⟨hd1', hd2', k2⟩
  · rw [e1, e2]
  · exfalso
    rcases k1 with k1 | ⟨s, hs, k1⟩
    · exact hd1' (hdisj _ _ v k2 k1)
    · exact hd2' ((hdisj _ _ v k2 k1) ▸ hs)
  · exfalso
    rcases k2 with k2 | ⟨s, hs, k2⟩
    · exact hd1 (hdisj _ _ v k1 k2)
    · exact hd2 ((hdisj _ _ v k1 k2) ▸ hs)
  · exact hdisj _ _ v k1 k2

/-- `u` is `t` after the absorbing loop over `l` (`in_between` and `to`) -/
structure AbsorbPost (t u : TrRel) (frm : Nat) (l : List Nat) : Prop where
  len : u.sets.length = t.sets.length
  mem : ∀ d v, Mem u d v ↔ (d = frm ∧ (Mem t frm v ∨ ∃ s ∈ l, Mem t s v)) ∨ (d ≠ frm ∧ d ∉ l ∧ Mem t d v)
  subs_get : ∀ j, alGet u.subs j = if j ∈ l then some frm else alGet t.subs j
  forest : (∀ j, ∃ e, getDominantIdAux t.subs j (t.subs.length + 1) = .ok e) →
    ∀ j, ∃ e, getDominantIdAux u.subs j (u.subs.length + 1) = .ok e
  conn : ∀ a b, rel u.conn a b ↔ a ∉ l ∧ rel t.conn a b
  rconn : ∀ a b, rel u.rconn a b ↔ a ∉ l ∧ rel t.rconn a b
  elemIds : u.elemIds = t.elemIds
  keys : KeysOk t → KeysOk u
  sets_nodup : (∀ (d : Nat) (s : List Int), t.sets[d]? = some s → s.Nodup) → ∀ (d : Nat) (s : List Int), u.sets[d]? = some s → s.Nodup
  conn_key : ∀ k, k ∉ l → alGet u.conn k = alGet t.conn k
  rconn_key : ∀ k, k ∉ l → alGet u.rconn k = alGet t.rconn k

theorem mergeAbsorb_spec {frm : Nat} (l : List Nat) (t : TrRel) (hl : ∀ s ∈ l, s ≠ frm ∧ s < t.sets.length)
    (hf : frm < t.sets.length) (hdom : ∀ s ∈ l, alGet t.subs s = none)
    (hfrm : alGet t.subs frm = none) : ∃ u, t.mergeAbsorb frm l = .ok u ∧ AbsorbPost t u frm l := by
  obtain ⟨hc, hr, hsub, he, hlen⟩ := foldl_absorbOne_maps frm l t
  refine ⟨_, mergeAbsorb_eq l t hl hf, hlen, mem_foldl_absorbOne l t hl hf, ?_, ?_, ?_, ?_, he, ?_,
    nodup_foldl_absorbOne frm l t, ?_, ?_⟩
  · intro j; rw [hsub, alGet_foldl_alSet]
  · intro h j
    rw [hsub]
    exact forest_after hdom hfrm (fun hm => (hl frm hm).1 rfl) h j
  · intro a b; rw [hc]; exact rel_foldl_alRemove l t.conn a b
  · intro a b; rw [hr]; exact rel_foldl_alRemove l t.rconn a b
  · intro h
    refine ⟨?_, ?_⟩
    · rw [hc]; exact h.1.foldl_alRemove l
    · rw [hr]; exact h.2.foldl_alRemove l
  · intro k hk; rw [hc, alGet_foldl_alRemove, if_neg hk]
  · intro k hk; rw [hr, alGet_foldl_alRemove, if_neg hk]

/-- `t9` is `t` after `merge_multiple(frm, to, ib)`; the two maps in terms of the relations they held in `t` -/
structure MergePost (t t9 : TrRel) (frm to : Nat) (ib : NSet) : Prop where
  len : t9.sets.length = t.sets.length
  mem : ∀ d v, Mem t9 d v ↔
    (d = frm ∧ (Mem t frm v ∨ ∃ s ∈ ib ++ [to], Mem t s v)) ∨ (d ≠ frm ∧ d ∉ ib ++ [to] ∧ Mem t d v)
  subs_get : ∀ j, alGet t9.subs j = if j ∈ ib ++ [to] then some frm else alGet t.subs j
  forest : (∀ j, ∃ e, getDominantIdAux t.subs j (t.subs.length + 1) = .ok e) →
    ∀ j, ∃ e, getDominantIdAux t9.subs j (t9.subs.length + 1) = .ok e
  elemIds : t9.elemIds = t.elemIds
  keys : KeysOk t → KeysOk t9
  sets_nodup : (∀ (d : Nat) (s : List Int), t.sets[d]? = some s → s.Nodup) → ∀ (d : Nat) (s : List Int), t9.sets[d]? = some s → s.Nodup
  conn : ∀ a b, rel t9.conn a b ↔ C9 (rel t.conn) (rel t.rconn) (· ∈ ib) frm to a b
  rconn : ∀ a b, rel t9.rconn a b ↔ R9 (rel t.conn) (rel t.rconn) (· ∈ ib) frm to a b

theorem mergeMultiple_spec {t : TrRel} {frm to : Nat} {ib : NSet} (hne : frm ≠ to) (hfib : frm ∉ ib)
    (hlt : ∀ s ∈ ib ++ [to], s < t.sets.length) (hflt : frm < t.sets.length)
    (hdomL : ∀ s ∈ ib ++ [to], alGet t.subs s = none) (hfrm : alGet t.subs frm = none)
    (hck : (alGet t.conn frm).isSome = true) (hrk : (alGet t.rconn frm).isSome = true)
    (hdisj : ∀ d d' v, Mem t d v → Mem t d' v → d = d') :
    ∃ t9, t.mergeMultiple frm to ib = .ok (t9, frm) ∧ MergePost t t9 frm to ib := by
  obtain ⟨c7, r6, e7, hc7, hr6, k7, ck7, rk7⟩ := mergeFix4_spec t hne ib
  have hfl : frm ∉ ib ++ [to] := by
    intro h
    rcases List.mem_append.mp h with h | h
    · exact hfib h
    · exact hne (List.mem_singleton.mp h)
  obtain ⟨u, hu, P⟩ := mergeAbsorb_spec (frm := frm) (ib ++ [to]) { t with conn := c7, rconn := r6 }
    (fun s hs => ⟨fun e => hfl (e ▸ hs), hlt s hs⟩) hflt hdomL hfrm
  obtain ⟨fc, hfc⟩ : ∃ fc, alGet u.conn frm = some fc := by
    rw [P.conn_key frm hfl]; exact Option.isSome_iff_exists.mp (ck7 hck)
  obtain ⟨fr, hfr⟩ : ∃ fr, alGet u.rconn frm = some fr := by
    rw [P.rconn_key frm hfl]; exact Option.isSome_iff_exists.mp (rk7 hrk)
  -- `assert_disjoint_invariant`: the merged set is the union of disjoint sets
  have hd : ({ u with conn := alSet u.conn frm (keepDifference (nsRemove fc to) ib),
                      rconn := alSet u.rconn frm (keepDifference (nsRemove fr to) ib) } : TrRel).disjointInvariant = true :=
    (disjointInvariant_iff _).mpr (disjoint_merged (M' := Mem u) P.mem hdisj)
  refine ⟨{ u with conn := alSet u.conn frm (keepDifference (nsRemove fc to) ib),
                   rconn := alSet u.rconn frm (keepDifference (nsRemove fr to) ib) }, ?_,
    ⟨P.len, P.mem, P.subs_get, P.forest, P.elemIds, ?_, P.sets_nodup, ?_, ?_⟩⟩
  · unfold TrRel.mergeMultiple
    simp only [e7, hu, Res.bind_ok, hfc, hfr, unwrap, hd, Bool.not_true, Bool.false_eq_true, if_false, Res.pure_eq]
  · intro hk
    obtain ⟨h1, h2⟩ := P.keys (k7 hk)
    exact ⟨h1.alSet _ (nodup_keepDifference (nodup_nsRemove (h1.2 _ _ hfc) _) _),
      h2.alSet _ (nodup_keepDifference (nodup_nsRemove (h2.2 _ _ hfr) _) _)⟩
  · intro a b
    refine (rel_alSet_restrict (P := fun b => b ≠ to ∧ b ∉ ib) hfc (fun x => ?_) a b).trans ?_
    · rw [mem_keepDifference, mem_nsRemove, and_assoc]
    · rw [P.conn, hc7, C9, clean_iff_not_mem, and_assoc]
      exact and_congr_right fun _ => and_congr_right fun _ => imp_congr_right fun _ => And.comm
  · intro a b
    refine (rel_alSet_restrict (P := fun b => b ≠ to ∧ b ∉ ib) hfr (fun x => ?_) a b).trans ?_
    · rw [mem_keepDifference, mem_nsRemove, and_assoc]
    · rw [P.rconn, hr6, R9, clean_iff_not_mem, and_assoc]
      exact and_congr_right fun _ => and_congr_right fun _ => imp_congr_right fun _ => And.comm

end AscentVerif.TrRel
