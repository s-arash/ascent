import AscentVerif.Props.C03Phys
import AscentVerif.Props.C02Phys
import AscentVerif.Proofs.PhysParLatBasic
/-!
# Without the flag law of `join_mut`, `runPhysParLat_spec` is FALSE: a counterexample

`headLatPar` stores whatever `join_mut` leaves in the row ALSO when `join_mut` reports "no change" (`joinRow`).  `LatOrder`
only asks `flag_false : (I.joinMut r a b).2 = false → le r b a`; it does not ask that the first component is then the old
value.  With the (degenerate but lawful) lattice in which every two values are equivalent (`le := True`) and
`joinMut _ _ b = (b, false)`, the parallel head update silently overwrites a row that is already in `total`: the row is not
re-queued, `changed` is not set, and the rule instances over the NEW value are never evaluated.

`lat(k, v)` a lattice, `q(k, w)` a relation, `q(k, v + 10) <-- lat(k, v)`, `lat(k, w) <-- q(k, w)`, input `lat(1, 10)`:
iteration 1 derives `q(1, 20)`; iteration 2 derives `lat(1, 20)`, which overwrites row 0 (flag `false`) and the loop stops:
the result `lat = {(1, 20)}`, `q = {(1, 20)}` is not closed (`q(1, 30)` is missing).  The serial models (`Engine.headLat`,
`PhysLat.headLat`) leave the row alone when the flag is `false`, so `runPhysLat_spec` is not affected.
`Props/C02PhysLat.lean` restates this as `runPhysParLat_needs_flag_law`.
-/
namespace AscentVerif.PhysParLat
open AscentVerif AscentVerif.Engine AscentVerif.Index AscentVerif.Phys

/-- `join_mut` that always takes the new value and always reports "unchanged" -/
def badI : Interp Plan.Ex Plan.Bx Plan.Ex Unit Unit :=
  { Plan.exI with joinMut := fun _ _ b => (b, false) }

/-- all values equivalent: every law of `LatOrder` holds -/
def badL : LatOrder badI :=
  { le := fun _ _ _ => True, refl := fun _ _ => trivial, trans := fun _ _ _ _ _ _ => trivial,
    join_left := fun _ _ _ => trivial, join_right := fun _ _ _ => trivial, join_least := fun _ _ _ _ _ _ => trivial,
    flag_false := fun _ _ _ _ => trivial }

theorem badI_ext : Plan.Ext badI := ⟨Plan.exI_ext.expr, Plan.exI_ext.test, Plan.exI_ext.gen⟩
theorem badI_supp : Plan.Supp badI Plan.exV := ⟨Plan.exI_supp.expr, Plan.exI_supp.test⟩

def pBad : Program Plan.Ex Plan.Bx Plan.Ex Unit Unit :=
  { rels := [⟨2, true⟩, ⟨2, false⟩]
    rules := [{ heads := [⟨1, [.var 0, .add (.var 1) (.const 10)]⟩], body := [.clause 0 [.var 0, .var 1] []] },
              { heads := [⟨0, [.var 0, .var 1]⟩], body := [.clause 1 [.var 0, .var 1] []] }] }

def inpBad : RelId → List Tuple := fun r => if r = 0 then [[.int 1, .int 10]] else []

def σId : PhysPar.Sched Plan.Ex Plan.Bx Plan.Ex Unit Unit :=
  { permRows := fun _ l => l, permRows_perm := fun _ l => List.Perm.refl l
    permTasks := fun _ l => l, permTasks_perm := fun _ l => List.Perm.refl l
    tid := fun _ => 0, swap := fun _ => false }

def sBad : PLSt := initSt 1 pBad (ixSetsOf Plan.exV pBad) inpBad

theorem wf_sBad : WFSt pBad sBad := wfSt_initSt (by decide)

theorem inputOK_sBad : InputOK pBad (xrows sBad) := inputOK_initSt ⟨by decide, by decide⟩

theorem bad_hyps :
    LatticeProg pBad ∧ validOrder pBad [[0, 1]] = true ∧ arityOk pBad = true ∧ PhysPar.bodyDeclared pBad = true ∧
    latPlanOk Plan.exV pBad (ixSetsOf Plan.exV pBad) = true ∧
    (∀ r ∈ pBad.rules, Hir.Desugared Plan.exV r = true ∧ Plan.WellScoped Plan.exV r = true) :=
  ⟨⟨by decide, by decide, by decide, by decide⟩, by decide, by decide, by decide, by decide, by decide⟩

/-- the result of the run: `lat = [(1, 20)]`, `q = [(1, 20)]` -/
def outBad : Option ProgSt :=
  match run badI Plan.exV pBad (ixSetsOf Plan.exV pBad) [[0, 1]] σId false 1 10 sBad with
  | .ok r => r
  | .panic => none

theorem run_bad : ∃ out, run badI Plan.exV pBad (ixSetsOf Plan.exV pBad) [[0, 1]] σId false 1 10 sBad = .ok (some out) ∧
    xrows out.st 0 = [[.int 1, .int 20]] ∧ xrows out.st 1 = [[.int 1, .int 20]] := by
  have h : (match run badI Plan.exV pBad (ixSetsOf Plan.exV pBad) [[0, 1]] σId false 1 10 sBad with
      | .ok (some out) => xrows out.st 0 == [[.int 1, .int 20]] && xrows out.st 1 == [[.int 1, .int 20]]
      | _ => false) = true := by decide +kernel
  split at h
  · rename_i out hrun
    simp only [Bool.and_eq_true, beq_iff_eq] at h
    exact ⟨out, hrun, h.1, h.2⟩
  · cases h

/-- the result is NOT closed: `lat(1, 20)` holds, `q(1, 30)` does not -/
theorem not_closed_bad (out : ProgSt) (h0 : xrows out.st 0 = [[.int 1, .int 20]])
    (h1 : xrows out.st 1 = [[.int 1, .int 20]]) :
    ¬ LClosed badI badL pBad (inputDB pBad (xrows sBad)) (factsOf out.st) := by
  rintro ⟨_, hcl⟩
  have hsat : Sat badI (factsOf out.st) (fun _ => []) [.clause 0 [.var 0, .var 1] []] []
      [(1, .int 20), (0, .int 1)] := by
    refine Sat.clause (ρ₁ := [(1, .int 20), (0, .int 1)]) (ρ₂ := [(1, .int 20), (0, .int 1)]) [.int 1, .int 20] ?_ ?_ ?_
      (Sat.nil _)
    · show [Val.int 1, .int 20] ∈ xrows out.st 0
      rw [h0]; exact List.mem_singleton.mpr rfl
    · decide
    · decide
  have := hcl _ (List.mem_cons_self) _ hsat ⟨1, [.var 0, .add (.var 1) (.const 10)]⟩ (List.mem_singleton.mpr rfl)
  have hd : factsOf out.st ⟨1, [.int 1, .int 30]⟩ := by
    have e : headFact badI ⟨1, [.var 0, .add (.var 1) (.const 10)]⟩ [(1, .int 20), (0, .int 1)] =
        ⟨1, [.int 1, .int 30]⟩ := by decide
    rw [e] at this
    exact (dominated_rel badI badL pBad (f := ⟨1, [.int 1, .int 30]⟩) (by decide)).mp this
  have : [Val.int 1, .int 30] ∈ xrows out.st 1 := hd
  rw [h1] at this
  simp at this

/-- every hypothesis of `runPhysParLat_spec` but the flag law is satisfied, the run returns, and the result is not closed under
the rules -/
theorem runPhysParLat_spec_counterexample :
    Plan.Ext badI ∧ Plan.Supp badI Plan.exV ∧ LatticeProg pBad ∧ validOrder pBad [[0, 1]] = true ∧ arityOk pBad = true ∧
    PhysPar.bodyDeclared pBad = true ∧ latPlanOk Plan.exV pBad (ixSetsOf Plan.exV pBad) = true ∧
    (∀ r ∈ pBad.rules, Hir.Desugared Plan.exV r = true ∧ Plan.WellScoped Plan.exV r = true) ∧
    WFSt pBad sBad ∧ InputOK pBad (xrows sBad) ∧
    ∃ out, run badI Plan.exV pBad (ixSetsOf Plan.exV pBad) [[0, 1]] σId false 1 10 sBad = .ok (some out) ∧
      ¬ LClosed badI badL pBad (inputDB pBad (xrows sBad)) (factsOf out.st) := by
  obtain ⟨out, hrun, h0, h1⟩ := run_bad
  exact ⟨badI_ext, badI_supp, bad_hyps.1, bad_hyps.2.1, bad_hyps.2.2.1, bad_hyps.2.2.2.1, bad_hyps.2.2.2.2.1,
    bad_hyps.2.2.2.2.2, wf_sBad, inputOK_sBad, out, hrun, not_closed_bad out h0 h1⟩

#print axioms runPhysParLat_spec_counterexample

end AscentVerif.PhysParLat
