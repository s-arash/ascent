import AscentVerif.Proofs.LatInv
/-!
# One head update keeps the invariants of the lattice proof (C03)

`headUpdate_stepT`: from a state with `LInvT T`, the update for a head fact that is below every target in `T` yields a
state with `LInvT T` that extends the old one (`LExt`) and dominates the head fact; of the targets it is used only that they
are key-unique.  Appending (`push_step`) and joining (`join_step`) are the two instances of `LInvT_upd` / `LExt_upd`.
-/
namespace AscentVerif.Engine
open AscentVerif

variable {E B G P A : Type}

theorem cover_requeue {rows : List Tuple} {d : Dyn} (hcov : ∀ i, i < rows.length ↔ (i ∈ d.total ∨ i ∈ d.delta ∨ i ∈ d.new))
    {i : Nat} (hi : i < rows.length) (x : Val) :
    ∀ j, j < (joinRows rows i x).length ↔
      (j ∈ (requeue d i).total ∨ j ∈ (requeue d i).delta ∨ j ∈ (requeue d i).new) := by
  intro j
  rw [joinRows_length, requeue_total, requeue_delta, mem_requeue_new, ← or_assoc, ← or_assoc, or_assoc (b := j ∈ d.delta),
    ← hcov j]
  exact (or_iff_left_of_imp fun h => h ▸ hi).symm

section Head
variable {n : Nat} {dynR : List RelId} {s : SccSt} {r : RelId}

theorem WF.findDyn_some (hwf : WF n dynR s) (hdyn : dynR.contains r = true) : ∃ d, findDyn s.dyn r = some d :=
  Option.isSome_iff_exists.mp ((hwf.dyn_iff r).trans hdyn)

/-- One head update, lattice or not, by cases.  `headUpdate I {} p s h ρ` is the conditional below for `h.rel` and the head
tuple. -/
theorem head_cases (I : Interp E B G P A) (p : Program E B G P A) (hwf : WF n dynR s) (row : Tuple)
    (hdyn : dynR.contains r = true) {motive : SccSt → Prop}
    (absorbed : ∀ i, (declOf p r).lat = true → i < (rowsOf s r).length → keyOf (rowAt (rowsOf s r) i) = keyOf row →
      (I.joinMut r (valOf (rowAt (rowsOf s r) i)) (valOf row)).2 = false → motive s)
    (present : (declOf p r).lat = false → row ∈ rowsOf s r → motive s)
    (push : ∀ d, findDyn s.dyn r = some d → ((declOf p r).lat = true → ∀ t ∈ rowsOf s r, keyOf t ≠ keyOf row) →
      ((declOf p r).lat = false → row ∉ rowsOf s r) → motive (pushRow s r d row))
    (join : ∀ d i, findDyn s.dyn r = some d → (declOf p r).lat = true → i < (rowsOf s r).length →
      keyOf (rowAt (rowsOf s r) i) = keyOf row →
      motive (joinSt s r d i (I.joinMut r (valOf (rowAt (rowsOf s r) i)) (valOf row)).1)) :
    motive (if (declOf p r).lat then headLat I {} s r row else headRel s r row) := by
  obtain ⟨d, hd⟩ := hwf.findDyn_some hdyn
  by_cases hlat : (declOf p r).lat = true
  · rw [if_pos hlat]
    rcases headLat_cases I row hd (hwf.cover r d hd) with ⟨hf, h⟩ | ⟨i, hi, hkey, ⟨_, h⟩ | ⟨hj, h⟩⟩
    · rw [h]
      exact push d hd (fun _ => hf) fun hl => by rw [hlat] at hl; cases hl
    · rw [h]
      exact join d i hd hlat hi hkey
    · rw [h]
      exact absorbed i hlat hi hkey hj
  · have hlat' := Bool.eq_false_iff.mpr hlat
    have hmem := hwf.mem_rows_iff hd row
    rw [if_neg hlat, headRel_eq, hd]
    simp only []
    split
    · rename_i hc
      exact present hlat' (hmem.mp hc)
    · rename_i hc
      exact push d hd (fun hl => absurd hl hlat) (fun _ hm => hc (hmem.mpr hm))

end Head

section Step
variable {I : Interp E B G P A} {L : LatOrder I} {p : Program E B G P A} {inp : RelId → List Tuple}
  {dynR : List RelId}

section Dom
variable {M : DB} {r : RelId} (hlat : (declOf p r).lat = true)
include hlat

theorem dominated_by_snoc {k t : Tuple} {x : Val} (hm : M ⟨r, k ++ [x]⟩) (hk : k = keyOf t) (hle : L.le r (valOf t) x) :
    Dominated I L p M ⟨r, t⟩ :=
  (dominated_lat I L p (f := ⟨r, t⟩) hlat).mpr ⟨k ++ [x], hm, by rw [keyOf_snoc, hk], by rw [valOf_snoc]; exact hle⟩

theorem dominated_join (hM : KeyUnique p M) {t row : Tuple} (h1 : Dominated I L p M ⟨r, t⟩)
    (h2 : Dominated I L p M ⟨r, row⟩) (hkey : keyOf t = keyOf row) :
    Dominated I L p M ⟨r, keyOf t ++ [(I.joinMut r (valOf t) (valOf row)).1]⟩ := by
  obtain ⟨t1, ht1, hk1, hv1⟩ := (dominated_lat I L p (f := ⟨r, t⟩) hlat).mp h1
  obtain ⟨t2, ht2, hk2, hv2⟩ := (dominated_lat I L p (f := ⟨r, row⟩) hlat).mp h2
  cases hM r t1 t2 hlat ht1 ht2 (by rw [hk1, hk2]; exact hkey)
  refine (dominated_lat I L p (f := ⟨r, _⟩) hlat).mpr ⟨t1, ht1, by rw [hk1]; exact (keyOf_snoc _ _).symm, ?_⟩
  show L.le r (valOf (keyOf t ++ [_])) (valOf t1)
  rw [valOf_snoc]
  exact L.join_least _ _ _ _ hv1 hv2

end Dom

variable {T : DB → Prop} {s : SccSt} (hinv : LInvT I L p inp dynR T s)
include hinv

section Upd
variable {r : RelId} {row : Tuple} {d : Dyn}
  (hd : findDyn s.dyn r = some d) (hr : r < p.rels.length) (hbf : ∀ M, T M → Dominated I L p M ⟨r, row⟩)
include hd hr hbf

theorem push_step (hkeys : (declOf p r).lat = true → ∀ t ∈ rowsOf s r, keyOf t ≠ keyOf row)
    (hset : (declOf p r).lat = false → row ∉ rowsOf s r) :
    LInvT I L p inp dynR T (pushRow s r d row) ∧ LExt I L p s (pushRow s r d row) ∧
      Dominated I L p (FactsS (pushRow s r d row)) ⟨r, row⟩ := by
  have hr' : r < s.rels.length := by rw [hinv.wf.len]; exact hr
  have hrel := findDyn_rel hd
  rw [pushRow_eq_upd]
  refine ⟨LInvT_upd hinv hd hr hrel (cover_push row (hinv.wf.cover r d hd))
      (fun hl => nodup_keys_push (hinv.keys r hl) (hkeys hl))
      (fun hl => (hinv.relset r hr hl).append (hset hl)) ?_,
    LExt_upd hinv.wf hd hr hrel rfl rfl (fun i hi => List.mem_append_left _ hi) (by simp) ?_
      (fun t ht => Dominated.of_mem I L p (List.mem_append_left _ ht)), ?_⟩
  · intro M hM t ht
    rcases List.mem_append.mp ht with ht | ht
    · exact hinv.below M hM ⟨r, t⟩ ht
    · cases List.mem_singleton.mp ht
      exact hbf M hM
  · exact fun i hne => List.mem_append_right _ (List.mem_singleton.mpr (rowAt_snoc_ne hne))
  · apply Dominated.of_mem
    show row ∈ rowsOf (upd s r _ _) r
    rw [upd_rows_self hr']
    exact List.mem_append_right _ (List.mem_singleton_self row)

theorem join_step (hT : ∀ M, T M → KeyUnique p M) (hlat : (declOf p r).lat = true) {i : Nat}
    (hi : i < (rowsOf s r).length) (hkey : keyOf (rowAt (rowsOf s r) i) = keyOf row) {x : Val}
    (hx : (I.joinMut r (valOf (rowAt (rowsOf s r) i)) (valOf row)).1 = x) :
    LInvT I L p inp dynR T (joinSt s r d i x) ∧ LExt I L p s (joinSt s r d i x) ∧
      Dominated I L p (FactsS (joinSt s r d i x)) ⟨r, row⟩ := by
  have hr' : r < s.rels.length := by rw [hinv.wf.len]; exact hr
  have hrel' : (requeue d i).rel = r := by rw [requeue_rel]; exact findDyn_rel hd
  have hnewrow : keyOf (rowAt (rowsOf s r) i) ++ [x] ∈ joinRows (rowsOf s r) i x := by
    rw [← joinRows_at_self x hi]
    exact rowAt_mem _ _ (by rw [joinRows_length]; exact hi)
  rw [joinSt_eq_upd hinv.wf hd]
  refine ⟨LInvT_upd hinv hd hr hrel' (cover_requeue (hinv.wf.cover r d hd) hi x)
      (fun hl => by rw [joinRows_keys]; exact hinv.keys r hl) (fun hl => by rw [hlat] at hl; cases hl) ?_,
    LExt_upd hinv.wf hd hr hrel' (requeue_total d i) (requeue_delta d i)
      (fun j hj => (mem_requeue_new d i j).mpr (.inl hj)) (by rw [joinRows_length]; exact Nat.le_refl _) ?_ ?_, ?_⟩
  · -- below every target: targets are key-unique
    intro M hM t ht
    rcases mem_setNth _ _ _ _ ht with ht | ht
    · rw [ht, ← hx]
      exact dominated_join hlat (hT M hM) (hinv.below M hM ⟨r, _⟩ (rowAt_mem _ _ hi)) (hbf M hM) hkey
    · exact hinv.below M hM ⟨r, t⟩ ht
  · -- a changed row is queued
    intro j hne
    by_cases hji : j = i
    · exact (mem_requeue_new d i j).mpr (.inr hji)
    · exact absurd (joinRows_at_ne x hji) hne
  · -- rows only move up
    intro t ht
    obtain ⟨j, hj, rfl⟩ := (mem_iff_rowAt _ _).mp ht
    by_cases hji : j = i
    · subst hji
      exact dominated_by_snoc hlat hnewrow rfl (hx ▸ L.join_left _ _ _)
    · apply Dominated.of_mem
      show rowAt (rowsOf s r) j ∈ joinRows (rowsOf s r) i x
      rw [← joinRows_at_ne x hji]
      exact rowAt_mem _ _ (by rw [joinRows_length]; exact hj)
  · -- the head is dominated
    refine dominated_by_snoc hlat ?_ hkey (hx ▸ L.join_right _ _ _)
    show _ ∈ rowsOf (upd s r _ _) r
    rw [upd_rows_self hr']; exact hnewrow

end Upd

theorem headUpdate_stepT (hT : ∀ M, T M → KeyUnique p M) (h : HeadClause E) (ρ : Env)
    (hdyn : dynR.contains h.rel = true) (hbf : ∀ M, T M → Dominated I L p M (headFact I h ρ)) :
    LInvT I L p inp dynR T (headUpdate I {} p s h ρ) ∧ LExt I L p s (headUpdate I {} p s h ρ) ∧
      Dominated I L p (FactsS (headUpdate I {} p s h ρ)) (headFact I h ρ) := by
  have hr := hinv.dlt _ hdyn
  refine head_cases I p hinv.wf _ hdyn (motive := fun s' => LInvT I L p inp dynR T s' ∧ LExt I L p s s' ∧
    Dominated I L p (FactsS s') (headFact I h ρ)) ?_ ?_ ?_ ?_
  · intro i hlat hi hkey hj
    exact ⟨hinv, LExt.refl I L p s, (dominated_lat I L p (f := headFact I h ρ) hlat).mpr
      ⟨_, rowAt_mem _ _ hi, hkey, L.flag_false _ _ _ hj⟩⟩
  · exact fun _ hm => ⟨hinv, LExt.refl I L p s, Dominated.of_mem I L p hm⟩
  · exact fun d hd hk hs => push_step hinv hd hr hbf hk hs
  · exact fun d i hd hlat hi hkey => join_step hinv hd hr hbf hT hlat hi hkey rfl

omit hinv in
theorem headUpdate_step {s : SccSt} (hinv : LInv I L p inp dynR s) (h : HeadClause E) (ρ : Env)
    (hdyn : dynR.contains h.rel = true) (hbf : BelowF I L p inp (headFact I h ρ)) :
    LInv I L p inp dynR (headUpdate I {} p s h ρ) ∧ LExt I L p s (headUpdate I {} p s h ρ) ∧
      Dominated I L p (FactsS (headUpdate I {} p s h ρ)) (headFact I h ρ) :=
  have h' := headUpdate_stepT (LInvT_tgt.mpr hinv) (fun _ hM => hM.2.1) h ρ hdyn hbf
  ⟨LInvT_tgt.mp h'.1, h'.2⟩

end Step

/-! ## what a head update keeps of the index bags, without any invariant

`PExt s s'` holds of every head update from ANY state (no well-formedness, no key uniqueness), hence of the folds of
`evalRules` (for `evalRules_is_pass`, `Proofs/NDLattice.lean`). -/
section PExt

theorem PExt_pushRow {s : SccSt} {r : RelId} {d : Dyn} (hd : findDyn s.dyn r = some d) (row : Tuple) :
    PExt s (pushRow s r d row) := by
  rw [pushRow_eq_upd]
  exact PExt_upd hd (findDyn_rel hd : d.rel = r) rfl rfl (fun i hi => List.mem_append_left _ hi)
    fun i hne => List.mem_append_right _ (List.mem_singleton.mpr (rowAt_snoc_ne hne))

theorem PExt_joinSt {s : SccSt} {r : RelId} {d : Dyn} (hd : findDyn s.dyn r = some d) (i : Nat) (x : Val) :
    PExt s (joinSt s r d i x) := by
  have hrel : d.rel = r := findDyn_rel hd
  have hchg : ∀ d' : Dyn, i ∈ d'.new →
      ∀ j, rowAt (setNth (rowsOf s r) i (keyOf (rowAt (rowsOf s r) i) ++ [x])) j ≠ rowAt (rowsOf s r) j → j ∈ d'.new := by
    intro d' hi j hne
    by_cases hji : j = i
    · subst hji; exact hi
    · exact absurd (rowAt_setNth_ne _ _ _ _ hji) hne
  unfold joinSt
  by_cases hc : d.new.contains i = true
  · -- `i` is queued already and `dyn` stays as it is: an `upd` only where `setDyn` finds one entry per relation
    simp only [hc, Bool.not_true, Bool.false_eq_true, if_false]
    exact PExt_gen hd hd (fun _ _ => rfl) rfl rfl (fun _ hi => hi) (hchg d (List.contains_iff_mem.mp hc))
  · have hc' : d.new.contains i = false := by simpa using hc
    simp only [hc', Bool.not_false, if_true]
    exact PExt_upd (d' := { d with new := d.new ++ [i] }) hd hrel rfl rfl
      (fun j hj => List.mem_append_left _ hj) (hchg _ (List.mem_append_right _ (by simp)))

theorem PExt_headLat (I : Interp E B G P A) (s : SccSt) (r : RelId) (row : Tuple) : PExt s (headLat I {} s r row) := by
  rw [headLat_eq]
  cases hd : findDyn s.dyn r with
  | none => exact PExt.refl s
  | some d =>
    simp only []
    cases keyRow (rowsOf s r) d (keyOf row) with
    | none => exact PExt_pushRow hd row
    | some i =>
      simp only []
      split
      · exact PExt_joinSt hd i _
      · exact PExt.refl s

theorem PExt_headRel (s : SccSt) (r : RelId) (row : Tuple) : PExt s (headRel s r row) := by
  rw [headRel_eq]
  cases hd : findDyn s.dyn r with
  | none => exact PExt.refl s
  | some d =>
    simp only []
    split
    · exact PExt.refl s
    · exact PExt_pushRow hd row

theorem PExt_headUpdate (I : Interp E B G P A) (p : Program E B G P A) (s : SccSt) (h : HeadClause E) (ρ : Env) :
    PExt s (headUpdate I {} p s h ρ) := by
  unfold headUpdate
  split
  · exact PExt_headLat I s h.rel _
  · exact PExt_headRel s h.rel _

theorem PExt_heads (I : Interp E B G P A) (p : Program E B G P A) (ρ : Env) (heads : List (HeadClause E)) :
    ∀ s : SccSt, PExt s (heads.foldl (fun s h => headUpdate I {} p s h ρ) s) := by
  induction heads with
  | nil => intro s; exact PExt.refl s
  | cons h rest ih =>
    intro s
    exact (PExt_headUpdate I p s h ρ).trans (ih _)

end PExt

/-! ## index bags without repetition

A relation head appends a row number that no bag holds yet, a lattice head may queue a row number a second time: the bags
of the NON-lattice relations stay duplicate-free.  Tracked under a switch `K`, beside the invariants above, because the
stored indices are then duplicate-free between SCCs and an aggregation item over a non-lattice relation reads every row
once.  `K := True` where tuples are counted (`Props/C04.lean`, `C04LatSem.lean`, `C13Agg.lean`); `K := False` where no rule
has an aggregation item (`LPInv`, the C03 instance; `Proofs/AggFree.lean`) and where program values with arbitrary stored
indices are admitted between SCCs (`AggLat.KPInv.lp`). -/
section Nd
variable (p : Program E B G P A) (K : Prop)

def NdB (s : SccSt) : Prop :=
  K → ∀ r d, findDyn s.dyn r = some d → (declOf p r).lat = false → (d.total ++ d.delta ++ d.new).Nodup

variable {p K}

theorem NdB_upd {s : SccSt} {r : RelId} {d d' : Dyn} {rows' : List Tuple} (h : NdB p K s)
    (hd : findDyn s.dyn r = some d) (hrel : d'.rel = r)
    (hnd' : K → (declOf p r).lat = false → (d'.total ++ d'.delta ++ d'.new).Nodup) : NdB p K (upd s r d' rows') := by
  intro hk r' d'' hd'' hl
  by_cases hne : r' = r
  · subst hne
    rw [upd_dyn_self hd hrel] at hd''
    cases hd''; exact hnd' hk hl
  · rw [upd_dyn_ne hrel hne] at hd''
    exact h hk r' d'' hd'' hl

theorem NdB_headUpdate (I : Interp E B G P A) {n : Nat} {dynR : List RelId} {s : SccSt} (hwf : WF n dynR s)
    (h : NdB p K s) (hc : HeadClause E) (ρ : Env) (hdyn : dynR.contains hc.rel = true) :
    NdB p K (headUpdate I {} p s hc ρ) := by
  refine head_cases I p hwf _ hdyn (motive := NdB p K) (fun _ _ _ _ _ => h) (fun _ _ => h) ?_ ?_
  · intro d hd _ _
    have hcov := hwf.cover _ d hd
    rw [pushRow_eq_upd]
    refine NdB_upd h hd (findDyn_rel hd : d.rel = _) ?_
    -- the new row number is not in the bags: they hold numbers below the length only
    intro hk hl
    show (d.total ++ d.delta ++ (d.new ++ [(rowsOf s hc.rel).length])).Nodup
    rw [← List.append_assoc, List.nodup_append]
    refine ⟨h hk _ d hd hl, by simp, ?_⟩
    intro a ha b hb e
    rw [List.mem_singleton.mp hb] at e
    rw [e, List.append_assoc, List.mem_append, List.mem_append] at ha
    exact Nat.lt_irrefl _ ((hcov _).mpr ha)
  · intro d i hd hlat _ _
    rw [joinSt_eq_upd hwf hd]
    exact NdB_upd h hd (by rw [requeue_rel]; exact findDyn_rel hd) (fun _ hl => by rw [hlat] at hl; cases hl)

end Nd

end AscentVerif.Engine
