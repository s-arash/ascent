import AscentVerif.Model.TrRelUF
/-!
# The relations `merge_multiple` computes, as pure logic

The states of the collapse branch of `add` carry numbers in all `TrRelCollapse*` modules: 2 after the two `add_node_new`
(`ta`: the same after the four de-mirroring statements), 3 after `add_set_connection`, 4 to 7 after the four fixing
loops of `merge_multiple(X, Y, M)`, which rewrite `reverse_set_connections` and `set_connections` alternately, 8 after
its absorbing loop, 9 at its end.  A fixing loop acts on a stored relation as `Fix`; from `c3`, `r3`, the relations of
state 3, the loops make `R4`, `C5`, `R6`, `C7`, absorption and the final clean-up `C9` / `R9`.  No data structure here:
what `C9` / `R9` keep, what they no longer mention (`C9_clean`, `R9_clean`), their upper bound (`C7_R6_le`).
-/
namespace AscentVerif.TrRel

/-- the relation stored after one fixing loop, `r` being the one before: the entry of every `z` selected by `cond` loses
`in_between` (`M`) and `to` (`Y`) and gains `from` (`X`); other entries are untouched -/
def Fix (cond M : Nat → Prop) (X Y : Nat) (r : Nat → Nat → Prop) (z w : Nat) : Prop :=
  (cond z ∧ ((r z w ∧ ¬ M w ∧ w ≠ Y) ∨ w = X)) ∨ (¬ cond z ∧ r z w)

theorem Fix_congr {cond cond' M : Nat → Prop} {X Y : Nat} {r r' : Nat → Nat → Prop} (hc : ∀ z, cond z ↔ cond' z)
    (hr : ∀ z w, r z w ↔ r' z w) (z w : Nat) : Fix cond M X Y r z w ↔ Fix cond' M X Y r' z w := by
  unfold Fix; rw [hc, hr]

def R4 (c3 r3 : Nat → Nat → Prop) (M : Nat → Prop) (X Y : Nat) : Nat → Nat → Prop :=
  Fix (fun z => c3 X z ∧ ¬ M z) M X Y r3
def C5 (c3 r3 : Nat → Nat → Prop) (M : Nat → Prop) (X Y : Nat) : Nat → Nat → Prop :=
  Fix (fun z => R4 c3 r3 M X Y X z ∧ ¬ M z) M X Y c3
def R6 (c3 r3 : Nat → Nat → Prop) (M : Nat → Prop) (X Y : Nat) : Nat → Nat → Prop :=
  Fix (fun z => C5 c3 r3 M X Y Y z ∧ ¬ M z) M X Y (R4 c3 r3 M X Y)
def C7 (c3 r3 : Nat → Nat → Prop) (M : Nat → Prop) (X Y : Nat) : Nat → Nat → Prop :=
  Fix (fun z => R6 c3 r3 M X Y Y z ∧ ¬ M z) M X Y (C5 c3 r3 M X Y)
/-- not absorbed -/
def Clean (M : Nat → Prop) (Y : Nat) (z : Nat) : Prop := ¬ M z ∧ z ≠ Y
/-- `set_connections` after `merge_multiple(X, Y, M)`, in terms of the two maps before -/
def C9 (c3 r3 : Nat → Nat → Prop) (M : Nat → Prop) (X Y : Nat) (z w : Nat) : Prop :=
  Clean M Y z ∧ C7 c3 r3 M X Y z w ∧ (z = X → Clean M Y w)
/-- `reverse_set_connections` after `merge_multiple(X, Y, M)` -/
def R9 (c3 r3 : Nat → Nat → Prop) (M : Nat → Prop) (X Y : Nat) (z w : Nat) : Prop :=
  Clean M Y z ∧ R6 c3 r3 M X Y z w ∧ (z = X → Clean M Y w)

theorem clean_iff_not_mem (ib : NSet) (to z : Nat) : Clean (· ∈ ib) to z ↔ z ∉ ib ++ [to] := by
  simp [Clean]

section
variable {c3 r3 : Nat → Nat → Prop} {M : Nat → Prop} {X Y : Nat}

theorem Fix_keep {cond : Nat → Prop} {r : Nat → Nat → Prop} {z w : Nat} (h : r z w) (hw : Clean M Y w) :
    Fix cond M X Y r z w := by
  unfold Fix
  by_cases hc : cond z
  · exact Or.inl ⟨hc, Or.inl ⟨h, hw.1, hw.2⟩⟩
  · exact Or.inr ⟨hc, h⟩

theorem Fix_new {cond : Nat → Prop} {r : Nat → Nat → Prop} {z : Nat} (h : cond z) : Fix cond M X Y r z X :=
  Or.inl ⟨h, Or.inr rfl⟩

theorem Fix_elim {cond : Nat → Prop} {r : Nat → Nat → Prop} {z w : Nat} (h : Fix cond M X Y r z w) :
    r z w ∨ (cond z ∧ w = X) := by
  rcases h with ⟨hc, ⟨h, _⟩ | h⟩ | ⟨_, h⟩
  · exact Or.inl h
  · exact Or.inr ⟨hc, h⟩
  · exact Or.inl h

theorem Fix_dirty {cond : Nat → Prop} {r : Nat → Nat → Prop} {z w : Nat} (h : Fix cond M X Y r z w)
    (hw : ¬ Clean M Y w) (hwX : w ≠ X) : ¬ cond z ∧ r z w := by
  rcases h with ⟨_, ⟨_, h1, h2⟩ | h⟩ | h
  · exact absurd ⟨h1, h2⟩ hw
  · exact absurd h hwX
  · exact h

theorem C9_keep {a b : Nat} (h : c3 a b) (ha : Clean M Y a) (hb : Clean M Y b) : C9 c3 r3 M X Y a b :=
  ⟨ha, Fix_keep (Fix_keep h hb) hb, fun _ => hb⟩

theorem R9_keep {a b : Nat} (h : r3 a b) (ha : Clean M Y a) (hb : Clean M Y b) : R9 c3 r3 M X Y a b :=
  ⟨ha, Fix_keep (Fix_keep h hb) hb, fun _ => hb⟩

theorem R9_new {b : Nat} (hX : Clean M Y X) (h : c3 Y b) (hb : Clean M Y b) : R9 c3 r3 M X Y b X :=
  ⟨hb, Fix_new ⟨Fix_keep h hb, hb.1⟩, fun _ => hX⟩

/-- `set_connections` mentions no absorbed id afterwards, provided every other non-absorbed source of an absorbed id is in
`reverse_set_connections[X]`: those are the entries the second fixing loop cleans -/
theorem C9_clean (hX : Clean M Y X) (hpred : ∀ a b, c3 a b → ¬ Clean M Y b → Clean M Y a → a ≠ X → r3 X a) {a b : Nat}
    (h : C9 c3 r3 M X Y a b) : Clean M Y a ∧ Clean M Y b := by
  obtain ⟨ha, h7, hx⟩ := h
  refine ⟨ha, Classical.byContradiction fun hb => ?_⟩
  have haX : a ≠ X := fun e => hb (hx e)
  have hbX : b ≠ X := fun e => hb (e ▸ hX)
  obtain ⟨_, h5⟩ := Fix_dirty h7 hb hbX
  obtain ⟨hn5, h3⟩ := Fix_dirty h5 hb hbX
  exact hn5 ⟨Fix_keep (hpred a b h3 hb ha haX) ha, ha.1⟩

/-- `reverse_set_connections` mentions no absorbed id afterwards, provided every other non-absorbed id with an absorbed
reverse connection is in `set_connections[Y]`: those are the entries the third fixing loop cleans -/
theorem R9_clean (hX : Clean M Y X) (hsucc : ∀ a b, r3 a b → ¬ Clean M Y b → Clean M Y a → a ≠ X → c3 Y a) {a b : Nat}
    (h : R9 c3 r3 M X Y a b) : Clean M Y a ∧ Clean M Y b := by
  obtain ⟨ha, h6, hx⟩ := h
  refine ⟨ha, Classical.byContradiction fun hb => ?_⟩
  have haX : a ≠ X := fun e => hb (hx e)
  have hbX : b ≠ X := fun e => hb (e ▸ hX)
  obtain ⟨hn6, h4⟩ := Fix_dirty h6 hb hbX
  obtain ⟨_, h3⟩ := Fix_dirty h4 hb hbX
  exact hn6 ⟨Fix_keep (hsucc a b h3 hb ha haX) ha, ha.1⟩

/-- upper bound: the fixing loops only add pairs justified by a transitive relation containing both maps and the cycle -/
theorem C7_R6_le {T : Nat → Nat → Prop} (htrans : ∀ a b c, T a b → T b c → T a c) (hc : ∀ a b, c3 a b → T a b)
    (hr : ∀ a b, r3 a b → T b a) (hXY : T X Y) (hYX : T Y X) :
    (∀ z w, C7 c3 r3 M X Y z w → T z w) ∧ (∀ z w, R6 c3 r3 M X Y z w → T w z) := by
  have h4 : ∀ z w, R4 c3 r3 M X Y z w → T w z := by
    intro z w h
    rcases Fix_elim h with h | ⟨⟨h, _⟩, rfl⟩
    · exact hr z w h
    · exact hc _ _ h
  have h5 : ∀ z w, C5 c3 r3 M X Y z w → T z w := by
    intro z w h
    rcases Fix_elim h with h | ⟨⟨h, _⟩, rfl⟩
    · exact hc z w h
    · exact h4 _ _ h
  have h6 : ∀ z w, R6 c3 r3 M X Y z w → T w z := by
    intro z w h
    rcases Fix_elim h with h | ⟨⟨h, _⟩, rfl⟩
    · exact h4 z w h
    · exact htrans _ _ _ hXY (h5 _ _ h)
  refine ⟨?_, h6⟩
  intro z w h
  rcases Fix_elim h with h | ⟨⟨h, _⟩, rfl⟩
  · exact h5 z w h
  · exact htrans _ _ _ (h6 _ _ h) hYX

end

end AscentVerif.TrRel
