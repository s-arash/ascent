import AscentVerif.Proofs.PhysParRun
import AscentVerif.Proofs.PhysAggTimeout
/-!
# `run_timeout` of the parallel physical engine: the value an interrupted call leaves

`runTimeout_sim` of `Proofs/PhysParRun.lean` says how a call can end.  Here, for a call that returned `false`: it is a PREFIX
of an execution of the nondeterministic engine (`Agg.RunPreND`), and `abandonScc` keeps the rows of the SCC state so reached and
leaves only unfrozen indices of the current pool's shape in the struct (`runTimeout_pre`); for an aggregation-free program every
row vector of the value left is `GoodRows`, since every prefix of an execution keeps the least-model invariants
(`runTimeout_ok`, by `Phys.runPreND_good`).
-/
namespace AscentVerif.PhysPar
open AscentVerif AscentVerif.Engine AscentVerif.Index AscentVerif.Phys

variable {E B G P A : Type}

theorem abandonPar_length (threads : Nat) (p : Program E B G P A) (scc : List Nat) (s : PCScc) :
    (abandonScc threads p scc s).length = s.rels.length := by
  simp [abandonScc]

theorem abandonPar_rows (threads : Nat) (p : Program E B G P A) (scc : List Nat) (s : PCScc) (r : RelId) :
    (pcrel (abandonScc threads p scc s) r).rows = (pcrel s.rels r).rows :=
  getD_rangeMap_rows _ s.rels PCRel.rows (fun r => by split <;> rfl) r

/-- the struct holds the `Default` indices `mem::take` left for the relations of the SCC, the untouched ones elsewhere -/
theorem abandonPar_flags (threads : Nat) (p : Program E B G P A) (scc : List Nat) {s : PCScc}
    (hfl : Flags (max threads 1) (bodyOnly p scc) false s) :
    StFlags (max threads 1) (abandonScc threads p scc s) := by
  intro pr hpr
  simp only [abandonScc, List.mem_map, List.mem_range] at hpr
  obtain ⟨r, hr, rfl⟩ := hpr
  split
  · refine ⟨rfl, ?_⟩
    intro ci hci
    obtain ⟨c, _, rfl⟩ := List.mem_map.mp hci
    exact ⟨Shape_new threads c.1, isFrozen_new threads c.1⟩
  · rename_i ht
    have hb : (bodyOnly p scc).contains r = false := by
      cases hb : (bodyOnly p scc).contains r with
      | false => rfl
      | true =>
        have hm := (List.mem_filter.mp (List.contains_iff_mem.mp hb)).1
        exact absurd (List.contains_iff_mem.mpr (List.mem_append_right _ hm)) ht
    have := hfl.rels r hr
    rw [hb] at this
    exact this

/-- **`run_timeout` of a parallel program never panics**, whatever the schedule, the pool, the deadline oracle and the fuel; a
call that returned `false` is a prefix of an execution of the nondeterministic engine, the value left has the rows of the SCC
state in which that prefix ends, is typed, and every stored index is unfrozen -/
theorem runTimeout_pre (I : Interp E B G P A) (hI : Plan.Ext I) (cfg : Config) (V : Hir.VarsOf E B) (hS : Plan.Supp I V)
    (p : Program E B G P A) (ix : IxSets) (hp : ProgOk I V p ix) (σ : Sched E B G P A) (threads : Nat) (order : SccOrder)
    (hst : Stratified p order) (dl : Deadline) (fuel : Nat) (s : PCSt)
    (hlen : s.length = p.rels.length) (hty : ∀ r, ∀ t ∈ (pcrel s r).rows, t.length = arityOf p r) :
    ∃ out, runTimeout I V p ix order σ threads dl fuel s = .ok out ∧ ∀ o, out = .timedOut o →
      ∃ a', Agg.RunPreND I cfg p order (absSt (s.map PCRel.erase)) a' ∧ a'.rels.length = o.st.length ∧
        (∀ r, (relSt a'.rels r).rows = (pcrel o.st r).rows) ∧ (∀ r, ∀ t ∈ (pcrel o.st r).rows, t.length = arityOf p r) ∧
        StFlags (max threads 1) o.st := by
  obtain ⟨out, hout, hspec⟩ := runTimeout_sim I hI cfg V hS p ix hp σ threads order hst dl fuel s hlen hty
  refine ⟨out, hout, ?_⟩
  rintro o rfl
  obtain ⟨done, scc, rest, stMid, hord, hdone, a', ph, hpre, hsim, hfl, hab⟩ := hspec
  have hrows : ∀ r, (relSt a'.rels r).rows = (pcrel o.st r).rows := fun r => by
    rw [hab, abandonPar_rows, hsim.rows r]
    exact erase_rows ph.rels r
  refine ⟨a', ⟨done, scc, rest, stMid, hord, hdone, hpre⟩, ?_, hrows, fun r t ht => hsim.typed r t (by rw [hrows r]; exact ht), ?_⟩
  · rw [hab, abandonPar_length, hsim.len]
    exact List.length_map _
  · rw [hab]; exact abandonPar_flags threads p scc hfl

/-- **`run_timeout` of an aggregation-free parallel program never panics**, whatever the schedule, the pool, the deadline oracle
and the fuel; if it returned `false` the value left is one `run()` may be called on (typed rows, every stored index unfrozen), holds
only derivable rows and keeps the start rows as a prefix of every row vector (`GoodRows`) -/
theorem runTimeout_ok (I : Interp E B G P A) (hI : Plan.Ext I) (V : Hir.VarsOf E B) (hS : Plan.Supp I V)
    (p : Program E B G P A) (ix : IxSets) (order : SccOrder) (σ : Sched E B G P A) (threads : Nat) (dl : Deadline)
    (fuel : Nat) (s : PCSt) (hp : Relational p) (hb : BodyDeclared p) (hplan : planOk V p ix = true)
    (hd : ∀ r ∈ p.rules, Hir.Desugared V r = true ∧ Plan.WellScoped V r = true)
    (hlen : s.length = p.rels.length) (hty : ∀ r, ∀ t ∈ (pcrel s r).rows, t.length = arityOf p r) :
    ∃ out, runTimeout I V p ix order σ threads dl fuel s = .ok out ∧ ∀ o, out = .timedOut o →
      WFPCSt p o.st ∧ ∀ r, r < p.rels.length → GoodRows I p (fun r => (pcrel s r).rows) r (pcrel o.st r).rows := by
  obtain ⟨hok, hst⟩ := ProgOk.of_relational (I := I) hp hb (ruleFit_of_planOk V p ix hp hplan hd) order
  obtain ⟨out, hout, hspec⟩ := runTimeout_pre I hI {} V hS p ix hok σ threads order hst dl fuel s hlen hty
  refine ⟨out, hout, fun o ho => ?_⟩
  obtain ⟨a', hpre, hlen', hrows, hty', hfl⟩ := hspec o ho
  obtain ⟨hl, hgood⟩ := Phys.runPreND_good I {} p hp _ order _ (wfSt'_absSt p _ (wfPSt_erase p hlen hty))
    (fun r _ => relSt_absSt_erase s r) hpre
  exact ⟨⟨by rw [← hlen', hl], hty', hfl.unfrozen⟩, fun r hr => hrows r ▸ hgood r hr⟩

end AscentVerif.PhysPar
