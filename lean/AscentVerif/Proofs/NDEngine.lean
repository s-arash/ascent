import AscentVerif.Model.EngineSched
import AscentVerif.Props.C01
/-!
# The nondeterministic engine: any enumeration of an iteration's head rows

Executions of the generated code differ from the filter semantics in order and multiplicity only (hash-map order, the index
chosen by the plan, the swapped copy of a simple join, a row found once per stored duplicate, the schedule of the workers;
`EngineSched` has the last alone).  So the engine is a relation here: one pass applies `headRel` to ANY list with exactly the
members of `iterRows`, the head rows of every variant instance over the state at pass start.  Such a pass is an `LPassOK`
(`Agg.passND_lok`) and `SccND` / `SccsND` are instances of `Agg.SccG` / `Agg.SccsG`, so the loop, SCC and strata theorems are
the generic ones: `Agg.runND_spec`, read as `runND_eq_leastModel` here and with aggregation in `Proofs/NDAgg.lean`.
`Agg.RunPreND`: what an interrupted call has made (a prefix of an execution, except that the flags of its passes are not
recorded).  `runPar_is_ND`: every schedule of the parallel engine is an execution (`Props/C02.lean`); so are the runs over the
physical indices (`Props/C01Phys.lean`).
-/
namespace AscentVerif.Engine
open AscentVerif

variable {E B G P A : Type}

def headRows (I : Interp E B G P A) (heads : List (HeadClause E)) (ρ : Env) : List (RelId × Tuple) :=
  heads.map fun h => (h.rel, h.args.map fun e => I.expr e ρ)

def iterRows (I : Interp E B G P A) (cfg : Config) (p : Program E B G P A) (dyn : List RelId)
    (rules : List (Rule E B G P A)) (s : SccSt) : List (RelId × Tuple) :=
  (iterTasks I cfg p dyn rules s).flatMap fun t => headRows I t.1.heads t.2

def applyRows (s : SccSt) (l : List (RelId × Tuple)) : SccSt := l.foldl (fun s x => headRel s x.1 x.2) s

def PassND (I : Interp E B G P A) (cfg : Config) (p : Program E B G P A) (dyn : List RelId)
    (rules : List (Rule E B G P A)) (s s1 : SccSt) : Prop :=
  ∃ l : List (RelId × Tuple), (∀ x, x ∈ l ↔ x ∈ iterRows I cfg p dyn rules { s with changed := false }) ∧
    s1 = applyRows { s with changed := false } l

/-- the `Nat` counts the iterations (`scc_iters`) -/
inductive LoopND (I : Interp E B G P A) (cfg : Config) (p : Program E B G P A) (dyn : List RelId)
    (rules : List (Rule E B G P A)) : SccSt → SccSt → Nat → Prop where
  | exit {s s1 : SccSt} : PassND I cfg p dyn rules s s1 → s1.changed = false → LoopND I cfg p dyn rules s (shift s1) 1
  | more {s s1 s' : SccSt} {n : Nat} : PassND I cfg p dyn rules s s1 → s1.changed = true →
      LoopND I cfg p dyn rules (shift s1) s' n → LoopND I cfg p dyn rules s s' (n + 1)

def SccND (I : Interp E B G P A) (cfg : Config) (p : Program E B G P A) (scc : List Nat) (st st' : St) : Prop :=
  if isLooping p scc then
    ∃ s' n, LoopND I cfg p (dynRels p scc) (sccRules p scc) (enterScc st (dynRels p scc)) s' n ∧ st' = leaveScc s'
  else
    ∃ s1, PassND I cfg p (dynRels p scc) (sccRules p scc) (enterScc st (dynRels p scc)) s1 ∧ st' = leaveScc (shift (shift s1))

inductive SccsND (I : Interp E B G P A) (cfg : Config) (p : Program E B G P A) : SccOrder → St → St → Prop where
  | nil {st : St} : SccsND I cfg p [] st st
  | cons {scc : List Nat} {rest : SccOrder} {st st1 st2 : St} : SccND I cfg p scc st st1 → SccsND I cfg p rest st1 st2 →
      SccsND I cfg p (scc :: rest) st st2

/-- `run()`: `update_indices`, then the SCCs in order, every pass enumerated in any way -/
def RunND (I : Interp E B G P A) (cfg : Config) (p : Program E B G P A) (order : SccOrder) (s s' : St) : Prop :=
  SccsND I cfg p order (updateIndices s) s'

/-! Prefixes of executions: the abstract counterpart of a `run_timeout` that took the early return (some completed SCCs, then,
inside one SCC, some completed passes each followed by `shift`; unlike `LoopND`, `LoopPreND` does not ask that a pass which is
followed by another set the flag). -/

namespace Agg

inductive LoopPreND (I : Interp E B G P A) (cfg : Config) (p : Program E B G P A) (dyn : List RelId)
    (rules : List (Rule E B G P A)) : SccSt → SccSt → Prop where
  | last {s s1 : SccSt} : PassND I cfg p dyn rules s s1 → LoopPreND I cfg p dyn rules s (shift s1)
  | more {s s1 s' : SccSt} : PassND I cfg p dyn rules s s1 → LoopPreND I cfg p dyn rules (shift s1) s' →
      LoopPreND I cfg p dyn rules s s'

/-- the SCC state in which an SCC is abandoned: after some iterations of a looping SCC, after the pass and the two merges of a
non-looping one -/
def SccPreND (I : Interp E B G P A) (cfg : Config) (p : Program E B G P A) (scc : List Nat) (st : St) (a' : SccSt) : Prop :=
  if isLooping p scc then
    LoopPreND I cfg p (dynRels p scc) (sccRules p scc) (enterScc st (dynRels p scc)) a'
  else
    ∃ s1, PassND I cfg p (dynRels p scc) (sccRules p scc) (enterScc st (dynRels p scc)) s1 ∧ a' = shift (shift s1)

def RunPreND (I : Interp E B G P A) (cfg : Config) (p : Program E B G P A) (order : SccOrder) (s : St) (a' : SccSt) : Prop :=
  ∃ (done : SccOrder) (scc : List Nat) (rest : SccOrder) (stMid : St),
    order = done ++ scc :: rest ∧ SccsND I cfg p done (updateIndices s) stMid ∧ SccPreND I cfg p scc stMid a'

end Agg

theorem mem_iterTasks (I : Interp E B G P A) (cfg : Config) (p : Program E B G P A) (dynR : List RelId)
    (rules : List (Rule E B G P A)) (s : SccSt) (t : Rule E B G P A × Env) :
    t ∈ iterTasks I cfg p dynR rules s ↔
      t.1 ∈ rules ∧ ∃ vs ∈ variants dynR t.1, t.2 ∈ evalBody I cfg p s t.1.body vs [] := by
  simp only [iterTasks, List.mem_flatMap, List.mem_map]
  constructor
  · rintro ⟨r, hr, vs, hvs, ρ, hρ, rfl⟩
    exact ⟨hr, vs, hvs, hρ⟩
  · rintro ⟨hr, vs, hvs, hρ⟩
    exact ⟨t.1, hr, vs, hvs, t.2, hρ, rfl⟩

theorem mem_headRows (I : Interp E B G P A) (heads : List (HeadClause E)) (ρ : Env) (x : RelId × Tuple) :
    x ∈ headRows I heads ρ ↔ ∃ h ∈ heads, x = (h.rel, h.args.map fun e => I.expr e ρ) := by
  simp only [headRows, List.mem_map]
  constructor
  · rintro ⟨h, hh, rfl⟩; exact ⟨h, hh, rfl⟩
  · rintro ⟨h, hh, rfl⟩; exact ⟨h, hh, rfl⟩

theorem mem_iterRows (I : Interp E B G P A) (cfg : Config) (p : Program E B G P A) (dynR : List RelId)
    (rules : List (Rule E B G P A)) (s : SccSt) (x : RelId × Tuple) :
    x ∈ iterRows I cfg p dynR rules s ↔
      ∃ t ∈ iterTasks I cfg p dynR rules s, ∃ h ∈ t.1.heads, x = (h.rel, h.args.map fun e => I.expr e t.2) := by
  simp only [iterRows, List.mem_flatMap, mem_headRows]

namespace Agg

section Inst
variable (I : Interp E B G P A) (cfg : Config) (p : Program E B G P A)

/-- `cfg` only steers the lattice head update, which a pass of `PassND` does not use -/
theorem passND_cfg : PassND I cfg p = PassND I {} p := by
  funext dyn rules s s1
  simp only [PassND, iterRows, iterTasks, evalBody_cfg I cfg p]

/-- **one pass, any enumeration**, of a program without lattice relations: the head rows are those of the instances over
the state at pass start, so every head fact is below every target; each row is one head update -/
theorem passND_lok {L : LatOrder I} {inp : RelId → List Tuple} {aggv : AggClause E A → List Tuple} {K : Prop}
    (hl : ∀ d ∈ p.rels, d.lat = false) {dynR : List RelId} {rules : List (Rule E B G P A)} (st : St)
    (hrules : ∀ rule ∈ rules, rule ∈ p.rules)
    (hag : ∀ rule ∈ rules, ∀ a, Item.agg a ∈ rule.body → dynR.contains a.rel = false ∧ aggOf {} p st a = aggv a)
    (hdyn : ∀ rule ∈ rules, ∀ h ∈ rule.heads, dynR.contains h.rel = true) :
    LPassOK I L p inp K (ALS.Tgt I L p aggv inp) aggv (DBLe I L p) (Dominated I L p) (PassND I {} p) st dynR rules := by
  rintro s _ hinv hb hnd ⟨l, hmem, rfl⟩
  have hinv0 : ALS.LInv I L p aggv inp dynR st { s with changed := false } :=
    ⟨WF_reset _ _ hinv.wf, hinv.dlt, hinv.keys, hinv.relset, hinv.below, hb⟩
  have hstep : ∀ s' (x : RelId × Tuple), x ∈ l → ALS.LInv I L p aggv inp dynR st s' ∧ NdB p K s' →
      (ALS.LInv I L p aggv inp dynR st (headRel s' x.1 x.2) ∧ NdB p K (headRel s' x.1 x.2)) ∧
        LExt I L p s' (headRel s' x.1 x.2) ∧ Dominated I L p (FactsS (headRel s' x.1 x.2)) ⟨x.1, x.2⟩ := by
    intro s' x hx hs'
    obtain ⟨t, ht, h, hh, rfl⟩ := (mem_iterRows I {} p dynR rules _ x).mp ((hmem x).mp hx)
    obtain ⟨hr, vs, _, hρ⟩ := (mem_iterTasks I {} p dynR rules _ t).mp ht
    have hu := ALS.headUpdate_step hs'.1 h t.2 (hdyn t.1 hr h hh)
      (ALS.belowF_of_evalBody rules hrules hag hinv0 hr hρ h hh)
    have hn := NdB_headUpdate I hs'.1.wf hs'.2 h t.2 (hdyn t.1 hr h hh)
    rw [headUpdate_eq_headRel I {} p hl] at hu hn
    exact ⟨⟨hu.1, hn⟩, hu.2⟩
  obtain ⟨h1, h2, h3⟩ := foldl_track (fun s (x : RelId × Tuple) => headRel s x.1 x.2)
    (fun s => ALS.LInv I L p aggv inp dynR st s ∧ NdB p K s) (LExt I L p)
    (fun x s => Dominated I L p (FactsS s) ⟨x.1, x.2⟩)
    (LExt.refl I L p) (fun _ _ _ => LExt.trans) (fun _ _ _ hd hle => Dominated.mono hd hle.dble) l hstep
    { s with changed := false } ⟨hinv0, hnd⟩
  refine ⟨h1.1.toT, ⟨h2, h2.dble⟩, ?_, h1.2⟩
  intro rule hr vs hvs ρ hρ h hh
  exact h3 (h.rel, h.args.map fun e => I.expr e ρ) ((hmem _).mpr ((mem_iterRows I {} p dynR rules _ _).mpr
    ⟨(rule, ρ), (mem_iterTasks I {} p dynR rules _ (rule, ρ)).mpr
      ⟨hr, vs, hvs, ALS.evalBody_of_PView rules hag hinv0 h2 hr hρ⟩, h, hh, rfl⟩))

theorem passND_ok {inp : RelId → List Tuple} {aggv : AggClause E A → List Tuple} {K : Prop}
    (hl : ∀ d ∈ p.rels, d.lat = false) (scc : List Nat) :
    PassOK I cfg p inp aggv K (PassND I cfg p) scc := by
  rw [passND_cfg]
  exact fun st hag => passND_lok I p hl st (sccRules_sub p scc) hag (dynRels_heads p scc)

theorem passND_frame : FramePass (PassND I cfg p) := by
  rintro dyn rules s _ ⟨l, _, rfl⟩
  exact foldl_inv (P := Keeps s) (fun s' (x : RelId × Tuple) _ hs => hs.trans (PExt_headRel s' x.1 x.2).nondyn) (Keeps.refl s)

theorem loopND_iters {dyn : List RelId} {rules : List (Rule E B G P A)} {s s' : SccSt} {k : Nat}
    (h : LoopND I cfg p dyn rules s s' k) :
    ∃ s₀ s1, Iters (PassND I cfg p dyn rules) s s₀ ∧ PassND I cfg p dyn rules s₀ s1 ∧ s1.changed = false ∧
      s' = shift s1 := by
  induction h with
  | exit hpass hch => exact ⟨_, _, .refl _, hpass, hch, rfl⟩
  | more hpass _ _ ih =>
    obtain ⟨s₀, s1, hit, hp, hch, rfl⟩ := ih
    exact ⟨s₀, s1, .step hpass hit, hp, hch, rfl⟩

theorem sccND_sccG {scc : List Nat} {st st' : St} (h : SccND I cfg p scc st st') : SccG (PassND I cfg p) p scc st st' := by
  unfold SccND at h
  split at h
  · rename_i hlp
    obtain ⟨s', k, hloop, rfl⟩ := h
    obtain ⟨s₀, s1, hit, hp, hch, rfl⟩ := loopND_iters I cfg p hloop
    exact ⟨s1, _, .inl ⟨hlp, s₀, hit, hp, rfl⟩, fun _ => hch, rfl⟩
  · rename_i hlp
    obtain ⟨s1, hpass, rfl⟩ := h
    exact ⟨s1, _, .inr ⟨by simpa using hlp, hpass, rfl⟩, fun h => absurd h hlp, rfl⟩

theorem sccsND_sccsG {o : SccOrder} {st st' : St} (h : SccsND I cfg p o st st') : SccsG (PassND I cfg p) p o st st' := by
  induction h with
  | nil => exact .nil _
  | cons hscc _ ih => exact .cons (sccND_sccG I cfg p hscc) ih

end Inst

end Agg

/-- every execution on a stratified program without lattice relations: the invariant, and all rules closed, for the view
the aggregation items read from the FINAL program value -/
theorem Agg.runND_spec (I : Interp E B G P A) (cfg : Config) (p : Program E B G P A) (inp : RelId → List Tuple) (K : Prop)
    (hl : ∀ d ∈ p.rels, d.lat = false) (hh : ∀ r ∈ p.rules, ∀ h ∈ r.heads, h.rel < p.rels.length)
    (o : SccOrder) (ho : validOrder p o = true) (hs : ∀ s ∈ o, aggOverDynamic p s = false)
    (s s' : St) (hst : WFSt' p s) (hinp : ∀ r, r < p.rels.length → (relSt s r).rows = inp r)
    (hrun : RunND I cfg p o s s') :
    Agg.PInv I p inp (Agg.aggOf cfg p s') K p.rels.length s' ∧
      Agg.ClosedRules I (Agg.aggOf cfg p s') p.rules (factsOf s') :=
  Agg.runG_spec hl hh ho hs (Agg.passND_frame I cfg p) (fun _ => Agg.passND_ok I cfg p hl) hst hinp
    (Agg.sccsND_sccsG I cfg p hrun)

/-! One SCC in the vocabulary of aggregation-free programs: `PInv` (rows `GoodRows`, stored index = all row numbers) and
`ClosedRules` are `Agg.PInv` and `Agg.ClosedRules` read in `Derivable` / `Sat … nAgg`. -/

structure PInv (I : Interp E B G P A) (p : Program E B G P A) (inp : RelId → List Tuple) (n : Nat) (st : St) : Prop where
  len : st.length = n
  good : ∀ r, r < n → GoodRows I p inp r (relSt st r).rows
  idxAll : ∀ r i, i < (relSt st r).rows.length ↔ i ∈ (relSt st r).idx

def ClosedRules (I : Interp E B G P A) (rules : List (Rule E B G P A)) (D : DB) : Prop :=
  ∀ rule ∈ rules, ∀ ρ, Sat I D nAgg rule.body [] ρ → ∀ h ∈ rule.heads, D (headFact I h ρ)

section NDScc
variable (I : Interp E B G P A) (cfg : Config) (p : Program E B G P A) (inp : RelId → List Tuple)
  (hl : ∀ d ∈ p.rels, d.lat = false) (haf : ∀ r ∈ p.rules, r.aggFree = true)
  (hh : ∀ r ∈ p.rules, ∀ h ∈ r.heads, h.rel < p.rels.length)

include hl haf hh in
theorem sccND_spec (scc : List Nat) (st st' : St)
    (hp : PInv I p inp p.rels.length st) (h : SccND I cfg p scc st st') :
    PInv I p inp p.rels.length st' ∧
      (∀ r, (dynRels p scc).contains r = false → relSt st' r = relSt st r) ∧
      (∀ r t, t ∈ (relSt st r).rows → t ∈ (relSt st' r).rows) ∧
      ClosedRules I (sccRules p scc) (factsOf st') :=
  let ⟨h1, h2, h3, h4⟩ := Agg.sccG_spec (aggv := fun a => nAgg a.rel) (K := False) hl hh
    ⟨hp.len, fun r hr => (goodRows_iff haf r _).mpr (hp.good r hr), hp.idxAll, False.elim⟩ (no_agg_items haf scc)
    (Agg.passND_ok I cfg p hl scc) (Agg.sccND_sccG I cfg p h)
  ⟨⟨h1.len, fun r hr => (goodRows_iff haf r _).mp (h1.good r hr), h1.idxAll⟩, h2, h3,
    fun rule hr ρ hsat => h4 rule hr ρ (Agg.sat_iff_satA.mp hsat)⟩

end NDScc

/-- **every execution of the nondeterministic engine computes the least model** (from any well-formed program value):
the result is well-formed, holds exactly the derivable facts, keeps the old rows as a prefix and appends every new tuple once -/
theorem runND_eq_leastModel (I : Interp E B G P A) (cfg : Config) (p : Program E B G P A) (order : SccOrder)
    (s s' : St) (hp : Relational p) (ho : validOrder p order = true) (hs : WFSt p s)
    (hrun : RunND I cfg p order s s') :
    WFSt p s' ∧
    (∀ f, factsOf s' f ↔ Derivable I p.rules noAgg (fun g => g.rel < p.rels.length ∧ factsOf s g) f) ∧
    (∀ r, r < p.rels.length → ∃ derived, (relSt s' r).rows = (relSt s r).rows ++ derived ∧
      derived.Nodup ∧ ∀ t ∈ derived, t ∉ (relSt s r).rows) :=
  let ⟨hpinv, hclosed⟩ := Agg.runND_spec I cfg p (fun r => (relSt s r).rows) False hp.2.1 hp.2.2 order ho
    (fun scc _ => aggOverDynamic_of_aggFree hp.1 scc) s s' hs (fun _ _ => rfl) hrun
  hpinv.leastModel hp.1 hclosed

theorem applyRows_append (s : SccSt) (l₁ l₂ : List (RelId × Tuple)) :
    applyRows s (l₁ ++ l₂) = applyRows (applyRows s l₁) l₂ := by
  simp only [applyRows, List.foldl_append]

theorem heads_fold_eq (I : Interp E B G P A) (cfg : Config) (p : Program E B G P A)
    (hl : ∀ d ∈ p.rels, d.lat = false) (ρ : Env) : ∀ (heads : List (HeadClause E)) (s : SccSt),
    heads.foldl (fun s h => headUpdate I cfg p s h ρ) s = applyRows s (headRows I heads ρ) := by
  intro heads
  induction heads with
  | nil => intro s; rfl
  | cons h heads ih =>
    intro s
    rw [List.foldl_cons, ih, headUpdate_eq_headRel I cfg p hl]
    rfl

theorem tasks_fold_eq (I : Interp E B G P A) (cfg : Config) (p : Program E B G P A)
    (hl : ∀ d ∈ p.rels, d.lat = false) : ∀ (l : List (Rule E B G P A × Env)) (s : SccSt),
    l.foldl (fun s t => t.1.heads.foldl (fun s h => headUpdate I cfg p s h t.2) s) s =
      applyRows s (l.flatMap fun t => headRows I t.1.heads t.2) := by
  intro l
  induction l with
  | nil => intro s; rfl
  | cons t l ih =>
    intro s
    rw [List.foldl_cons, ih, List.flatMap_cons, applyRows_append, heads_fold_eq I cfg p hl]

theorem passND_of_par (I : Interp E B G P A) (cfg : Config) (p : Program E B G P A)
    (hl : ∀ d ∈ p.rels, d.lat = false) (dyn : List RelId) (rules : List (Rule E B G P A))
    (σ : Sched E B G P A) (k : Nat) (s : SccSt) :
    PassND I cfg p dyn rules s (evalRulesPar I cfg p dyn rules σ k { s with changed := false }) := by
  refine ⟨(σ.perm k (iterTasks I cfg p dyn rules { s with changed := false })).flatMap
    fun t => headRows I t.1.heads t.2, ?_, ?_⟩
  · intro x
    have hperm := σ.isPerm k (iterTasks I cfg p dyn rules { s with changed := false })
    simp only [iterRows, List.mem_flatMap]
    exact exists_congr fun t => and_congr_left' hperm.mem_iff
  · exact tasks_fold_eq I cfg p hl _ _

theorem loopND_of_par (I : Interp E B G P A) (cfg : Config) (p : Program E B G P A)
    (hl : ∀ d ∈ p.rels, d.lat = false) (dyn : List RelId) (rules : List (Rule E B G P A))
    (σ : Sched E B G P A) : ∀ (fuel : Nat) (rs rs' : ParSt),
    sccLoopPar I cfg p dyn rules σ fuel rs = some rs' → ∃ n, LoopND I cfg p dyn rules rs.st rs'.st n := by
  intro fuel
  induction fuel with
  | zero => intro rs rs' h; cases h
  | succ fuel ih =>
    intro rs rs' h
    have hpass := passND_of_par I cfg p hl dyn rules σ rs.clock rs.st
    rw [sccLoopPar] at h
    cases hch : (evalRulesPar I cfg p dyn rules σ rs.clock { rs.st with changed := false }).changed with
    | false =>
      rw [hch] at h
      cases h
      exact ⟨1, LoopND.exit hpass hch⟩
    | true =>
      rw [hch] at h
      obtain ⟨n, hn⟩ := ih _ rs' h
      exact ⟨n + 1, LoopND.more hpass hch hn⟩

theorem sccND_of_par (I : Interp E B G P A) (cfg : Config) (p : Program E B G P A)
    (hl : ∀ d ∈ p.rels, d.lat = false) (σ : Sched E B G P A) (fuel : Nat) (scc : List Nat) (ps ps' : ParProgSt)
    (h : runSccPar I cfg p σ fuel scc ps = some ps') : SccND I cfg p scc ps.st ps'.st := by
  rw [runSccPar] at h
  rw [SccND]
  split at h
  · next hlp =>
    rw [if_pos hlp]
    obtain ⟨rs, hloop, rfl⟩ := Option.map_eq_some_iff.mp h
    obtain ⟨n, hn⟩ := loopND_of_par I cfg p hl (dynRels p scc) (sccRules p scc) σ fuel _ rs hloop
    exact ⟨rs.st, n, hn, rfl⟩
  · next hlp =>
    rw [if_neg hlp]
    cases h
    exact ⟨_, passND_of_par I cfg p hl (dynRels p scc) (sccRules p scc) σ ps.clock (enterScc ps.st (dynRels p scc)), rfl⟩

theorem sccsND_of_par (I : Interp E B G P A) (cfg : Config) (p : Program E B G P A)
    (hl : ∀ d ∈ p.rels, d.lat = false) (σ : Sched E B G P A) (fuel : Nat) : ∀ (o : SccOrder) (ps ps' : ParProgSt),
    runSccsPar I cfg p σ fuel o ps = some ps' → SccsND I cfg p o ps.st ps'.st := by
  intro o
  induction o with
  | nil =>
    intro ps ps' h
    cases h
    exact SccsND.nil
  | cons scc rest ih =>
    intro ps ps' h
    obtain ⟨ps1, hscc, h⟩ := Option.bind_eq_some_iff.mp h
    exact SccsND.cons (sccND_of_par I cfg p hl σ fuel scc ps ps1 hscc) (ih ps1 ps' h)

theorem runPar_is_ND (I : Interp E B G P A) (cfg : Config) (p : Program E B G P A) (order : SccOrder)
    (σ : Sched E B G P A) (s : St) (fuel : Nat) (ps : ParProgSt) (hp : Relational p)
    (hrun : runPar I cfg p order σ fuel s = some ps) : RunND I cfg p order s ps.st :=
  sccsND_of_par I cfg p hp.2.1 σ fuel order _ ps hrun

#print axioms AscentVerif.Engine.runND_eq_leastModel
#print axioms AscentVerif.Engine.runPar_is_ND

end AscentVerif.Engine
