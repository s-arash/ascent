import AscentVerif.Proofs.AggRestartSpec
/-!
# Stratified restart: what two program values hand to an aggregation item

Two program values that extend the same value `s` (rows appended once each), whose stored indices
enumerate every row number once, and that hold the same SET of tuples in relation `a.rel`, hand
aggregation item `a` lists that are permutations of each other; a permutation-invariant aggregator
cannot tell them apart (`aggEq_states`).
-/
namespace AscentVerif.Engine.Agg
open AscentVerif AscentVerif.Engine

variable {E B G P A : Type}

/-- `AggPermInvariant` of `Props/C13Agg.lean` -/
def PermInv (I : Interp E B G P A) : Prop :=
  ∀ (fn : A) (l l' : List Tuple), l.Perm l' → I.agg fn l = I.agg fn l'

/-- `Extends` of `Props/C13Agg.lean` -/
def ExtSt (p : Program E B G P A) (s t : St) : Prop :=
  ∀ r, r < p.rels.length → ∃ extra : List Tuple,
    (relSt t r).rows = (relSt s r).rows ++ extra ∧ extra.Nodup ∧ ∀ x ∈ extra, x ∉ (relSt s r).rows

theorem ExtSt.refl (p : Program E B G P A) (s : St) : ExtSt p s s :=
  fun _ _ => ⟨[], by simp, List.nodup_nil, fun x hx => by simp at hx⟩

theorem ExtSt.facts {p : Program E B G P A} {s t : St} (h : ExtSt p s t) (hlen : s.length = p.rels.length) :
    ∀ f, factsOf s f → factsOf t f := by
  intro f hf
  obtain ⟨extra, he, _, _⟩ := h f.rel (facts_lt_of_len hlen hf)
  show f.args ∈ (relSt t f.rel).rows
  rw [he]; exact List.mem_append_left _ hf

theorem ExtSt.append {p : Program E B G P A} {s t u : St} (h : ExtSt p s t)
    (hu : ∀ r, r < p.rels.length → ∃ derived : List Tuple,
      (relSt u r).rows = (relSt t r).rows ++ derived ∧ derived.Nodup ∧ ∀ x ∈ derived, x ∉ (relSt t r).rows) :
    ExtSt p s u := by
  intro r hr
  obtain ⟨extra, he, hen, hed⟩ := h r hr
  obtain ⟨derived, hd, hdn, hdd⟩ := hu r hr
  have hfresh : ∀ x ∈ derived, x ∉ (relSt s r).rows ∧ x ∉ extra := by
    intro x hx
    have := hdd x hx
    rw [he, List.mem_append, not_or] at this
    exact this
  refine ⟨extra ++ derived, by rw [hd, he, List.append_assoc], List.nodup_append.mpr ⟨hen, hdn, ?_⟩, ?_⟩
  · rintro a ha b hb rfl
    exact (hfresh a hb).2 ha
  · intro x hx
    rcases List.mem_append.mp hx with hx | hx
    · exact hed x hx
    · exact (hfresh x hx).1

theorem PInv.extSt {I : Interp E B G P A} {p : Program E B G P A} {aggv : AggClause E A → List Tuple} {K : Prop}
    {t u : St} (hp : PInv I p (fun r => (relSt t r).rows) aggv K p.rels.length u) : ExtSt p t u :=
  fun r hr => (hp.good r hr).2

theorem PInv.wf_extends {I : Interp E B G P A} {p : Program E B G P A} {aggv : AggClause E A → List Tuple} {K : Prop}
    {s u : St} (hp : PInv I p (fun r => (relSt s r).rows) aggv K p.rels.length u) (hlen : s.length = p.rels.length) :
    WFSt' p u ∧ ExtSt p s u ∧ (∀ f, factsOf s f → factsOf u f) :=
  ⟨hp.wfSt, hp.extSt, hp.extSt.facts hlen⟩

theorem eraseDups_perm {α : Type} [BEq α] [LawfulBEq α] {l l' : List α} (h : l.Perm l') :
    l.eraseDups.Perm l'.eraseDups := by
  rw [List.perm_ext_iff_of_nodup (nodup_eraseDups l) (nodup_eraseDups l')]
  intro a
  rw [List.mem_eraseDups, List.mem_eraseDups]
  exact h.mem_iff

theorem rows_perm {base X₁ X₂ : List Tuple} (hn₁ : X₁.Nodup) (hn₂ : X₂.Nodup)
    (hd₁ : ∀ x ∈ X₁, x ∉ base) (hd₂ : ∀ x ∈ X₂, x ∉ base)
    (hmem : ∀ t, t ∈ base ++ X₁ ↔ t ∈ base ++ X₂) : (base ++ X₁).Perm (base ++ X₂) := by
  have sub : ∀ {X Y : List Tuple}, (∀ x ∈ X, x ∉ base) → (∀ t, t ∈ base ++ X → t ∈ base ++ Y) → ∀ x ∈ X, x ∈ Y :=
    fun hd h x hx => (List.mem_append.mp (h x (List.mem_append_right _ hx))).resolve_left (hd x hx)
  exact .append_left _ ((List.perm_ext_iff_of_nodup hn₁ hn₂).mpr fun x =>
    ⟨sub hd₁ (fun t => (hmem t).mp) x, sub hd₂ (fun t => (hmem t).mpr) x⟩)

theorem aggEnvs_perm {I : Interp E B G P A} (hperm : PermInv I) (a : AggClause E A) (ρ : Env) {l l' : List Tuple}
    (h : l.Perm l') : aggEnvs I a ρ l = aggEnvs I a ρ l' := by
  unfold aggEnvs aggBag
  rw [hperm a.fn _ _ (h.filterMap _)]

section Link
variable {I : Interp E B G P A} {cfg : Config} {p : Program E B G P A} (hl : ∀ d ∈ p.rels, d.lat = false)
  (hperm : PermInv I)

include hl hperm in
/-- `st₁` is reached from `s`, `st₂` from a value `t` extending `s`.  The rows of `a.rel` are permutations of each other, so
are the two enumerations through the (complete, duplicate-free) indices. -/
theorem aggEq_states {aggvA aggvB : AggClause E A → List Tuple} {s t st₁ st₂ : St}
    (hp₁ : PInv I p (fun r => (relSt s r).rows) aggvA True p.rels.length st₁) (hext : ExtSt p s t)
    (hp₂ : PInv I p (fun r => (relSt t r).rows) aggvB True p.rels.length st₂) (a : AggClause E A)
    (hsame : ∀ x, factsOf st₁ ⟨a.rel, x⟩ ↔ factsOf st₂ ⟨a.rel, x⟩) :
    AggEq I (aggOf cfg p st₁) (aggOf cfg p st₂) a := by
  by_cases hr : a.rel < p.rels.length
  · obtain ⟨X₁, he₁, hn₁, hd₁⟩ := hp₁.extSt a.rel hr
    obtain ⟨X₂, he₂, hn₂, hd₂⟩ := hext.append hp₂.extSt a.rel hr
    have hrows : (relSt st₁ a.rel).rows.Perm (relSt st₂ a.rel).rows := by
      rw [he₁, he₂]
      refine rows_perm hn₁ hn₂ hd₁ hd₂ fun x => ?_
      rw [← he₁, ← he₂]
      exact hsame x
    have hv := ((view_perm _ _ (hp₁.idxNd trivial a.rel) (hp₁.idxAll a.rel)).trans hrows).trans
      (view_perm _ _ (hp₂.idxNd trivial a.rel) (hp₂.idxAll a.rel)).symm
    intro ρ
    rw [aggOf_eq cfg p hl st₁ a, aggOf_eq cfg p hl st₂ a]
    split
    · exact aggEnvs_perm hperm a ρ (eraseDups_perm hv)
    · exact aggEnvs_perm hperm a ρ hv
  · have h1 : relSt st₁ a.rel = ⟨[], []⟩ := relSt_of_ge _ _ (by rw [hp₁.len]; exact Nat.le_of_not_lt hr)
    have h2 : relSt st₂ a.rel = ⟨[], []⟩ := relSt_of_ge _ _ (by rw [hp₂.len]; exact Nat.le_of_not_lt hr)
    exact AggEq.of_eq (aggOf_congr cfg p a (h1.trans h2.symm))

end Link

end AscentVerif.Engine.Agg
