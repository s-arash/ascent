import AscentVerif.Props.C01
/-!
# What a run guarantees, in terms of the row vectors alone

The least-model theorem of every engine model (abstract, serial and parallel over the hash indices) ends with the same facts
about the row vectors `old` of the start value and `new` of the result: the rows of `new` are the least model of the rows of
`old`, and every vector of `new` is the one of `old` followed by pairwise distinct new rows (`Ran`).  A value that an
interrupted call leaves lies between the rows it started from and their least model (`Between`), and the least model over such
a value is the least model of the original rows (`Between.model`).  That a second run adds nothing (`Ran.rerun`), that a run
after a push computes the least model of the union (`Ran.push`, `Props/C13.lean`), and that a run after any history of
interruptions completes to the least model of the original rows (`Ran.resume`, `Between.trans`) follow from these two notions,
whatever the engine.
-/
namespace AscentVerif.Engine
open AscentVerif

variable {E B G P A : Type}

theorem derivable_mono_input {I : Interp E B G P A} {rules : List (Rule E B G P A)} {agg : RelId → List Tuple}
    {inp inp' : DB} (h : ∀ f, inp f → inp' f) : ∀ f, Derivable I rules agg inp f → Derivable I rules agg inp' f :=
  fun _ hf D hD => hf D ⟨fun g hg => hD.1 g (h g hg), hD.2⟩

theorem derivable_congr_input {I : Interp E B G P A} {rules : List (Rule E B G P A)} {agg : RelId → List Tuple}
    {inp inp' : DB} (h : ∀ f, inp f ↔ inp' f) : ∀ f, Derivable I rules agg inp f ↔ Derivable I rules agg inp' f :=
  fun f => ⟨derivable_mono_input (fun g => (h g).mp) f, derivable_mono_input (fun g => (h g).mpr) f⟩

end AscentVerif.Engine

namespace AscentVerif.Rows
open AscentVerif AscentVerif.Engine

variable {E B G P A : Type}

/-- `D` holds the facts of `inp` and only facts of their least model -/
structure Between (I : Interp E B G P A) (rules : List (Rule E B G P A)) (agg : RelId → List Tuple) (inp D : DB) : Prop where
  sound : ∀ f, D f → Derivable I rules agg inp f
  keep : ∀ f, inp f → D f

section
variable {I : Interp E B G P A} {rules : List (Rule E B G P A)} {agg : RelId → List Tuple} {D₀ D₁ D₂ : DB}

theorem Between.refl : Between I rules agg D₀ D₀ := ⟨fun _ => derivable_input, fun _ => id⟩

/-- the least model over a database in between is the least model of the original one: it is a model containing `D₁`, and
`D₁` contains `D₀` -/
theorem Between.model (h : Between I rules agg D₀ D₁) : ∀ f, Derivable I rules agg D₁ f ↔ Derivable I rules agg D₀ f :=
  fun f => ⟨fun hf => hf _ ⟨h.sound, (derivable_closed I rules agg D₀).2⟩, derivable_mono_input h.keep f⟩

theorem Between.trans (h : Between I rules agg D₀ D₁) (h' : Between I rules agg D₁ D₂) : Between I rules agg D₀ D₂ :=
  ⟨fun f hf => (h.model f).mp (h'.sound f hf), fun f hf => h'.keep f (h.keep f hf)⟩

end

/-- the row vector of every relation -/
abbrev Vec := RelId → List Tuple

/-- the facts of the first `n` relations that row vectors hold -/
def db (n : Nat) (v : Vec) : DB := fun g => g.rel < n ∧ g.args ∈ v g.rel

theorem eq_of_ext_of_subset {old new : List Tuple}
    (h : ∃ derived, new = old ++ derived ∧ derived.Nodup ∧ ∀ t ∈ derived, t ∉ old) (hsub : ∀ t ∈ new, t ∈ old) :
    new = old := by
  obtain ⟨derived, hd, _, hnot⟩ := h
  have hnil : derived = [] := List.eq_nil_iff_forall_not_mem.mpr fun t ht =>
    hnot t ht (hsub t (by rw [hd]; exact List.mem_append_right _ ht))
  rw [hd, hnil, List.append_nil]

/-- a returned run of a relational program with `n` relations took the row vectors `old` to `new` -/
structure Ran (I : Interp E B G P A) (rules : List (Rule E B G P A)) (n : Nat) (old new : Vec) : Prop where
  lt : ∀ g : Fact, g.args ∈ new g.rel → g.rel < n
  facts : ∀ f : Fact, f.args ∈ new f.rel ↔ Derivable I rules noAgg (db n old) f
  ext : ∀ r, r < n → ∃ derived, new r = old r ++ derived ∧ derived.Nodup ∧ ∀ t ∈ derived, t ∉ old r

variable {I : Interp E B G P A} {rules : List (Rule E B G P A)} {n : Nat} {v₀ v₁ v₂ : Vec}

/-- from the form in which the engines' `timeout_sound` theorems state it -/
theorem Between.of_rows (hs : ∀ f : Fact, f.args ∈ v₁ f.rel → Derivable I rules noAgg (db n v₀) f)
    (hk : ∀ r, r < n → ∃ derived, v₁ r = v₀ r ++ derived) : Between I rules noAgg (db n v₀) (db n v₁) := by
  refine ⟨fun f hf => hs f hf.2, fun f hf => ⟨hf.1, ?_⟩⟩
  obtain ⟨d, hd⟩ := hk f.rel hf.1
  rw [hd]
  exact List.mem_append_left _ hf.2

theorem Ran.between (h : Ran I rules n v₀ v₁) : Between I rules noAgg (db n v₀) (db n v₁) :=
  ⟨fun f hf => (h.facts f).mp hf.2, fun f hf => ⟨hf.1, (h.facts f).mpr (derivable_input hf)⟩⟩

/-- **resumption**: a run from a value in between ends with the least model of the original rows -/
theorem Ran.resume {D₀ : DB} (hr : Ran I rules n v₁ v₂) (h : Between I rules noAgg D₀ (db n v₁)) :
    ∀ f : Fact, f.args ∈ v₂ f.rel ↔ Derivable I rules noAgg D₀ f :=
  fun f => (hr.facts f).trans (h.model f)

/-- **idempotence**: a second run adds no row, since a row it added would be a new fact of a least model already reached -/
theorem Ran.rerun (h₁ : Ran I rules n v₀ v₁) (h₂ : Ran I rules n v₁ v₂) :
    (∀ r, r < n → v₂ r = v₁ r) ∧ ∀ f : Fact, f.args ∈ v₂ f.rel ↔ f.args ∈ v₁ f.rel := by
  have hiff : ∀ f : Fact, f.args ∈ v₂ f.rel ↔ f.args ∈ v₁ f.rel :=
    fun f => (h₂.resume h₁.between f).trans (h₁.facts f).symm
  exact ⟨fun r hr => eq_of_ext_of_subset (h₂.ext r hr) fun t ht => (hiff ⟨r, t⟩).mp ht, hiff⟩

end AscentVerif.Rows
