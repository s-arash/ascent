import AscentVerif.Proofs.Scc
/-!
# Strata: what a valid SCC order gives, and the start state

`validOrder` is used through `validOrder_forward` (no SCC reads a relation that a later one writes, so closedness of an
earlier SCC's rules survives the later ones) and `forall_rules_of_valid` (every rule is in some SCC).  `Agg.agg_rel_not_later`:
in a valid stratified order nothing from an aggregation item's SCC onwards writes the relation the item ranges over.  The
induction over the order itself is `sccsG_track` (`Proofs/LatScc.lean`).  `WFSt'` is the program values `run()` may be
started from: `initSt`, and what the early return of `run_timeout` leaves (`Agg.abandon_wfSt`).
-/
namespace AscentVerif.Engine
open AscentVerif

variable {E B G P A : Type}

theorem validOrder_cover (p : Program E B G P A) (o : SccOrder) (h : validOrder p o = true) :
    ∀ i, i < p.rules.length → ∃ scc ∈ o, i ∈ scc := by
  intro i hi
  simp only [validOrder, Bool.and_eq_true, List.all_eq_true, List.mem_range] at h
  have := h.1.2 i hi
  rw [List.contains_iff_mem, List.mem_flatten] at this
  exact this

theorem validOrder_feeds (p : Program E B G P A) (o : SccOrder) (h : validOrder p o = true) :
    ∀ a b, a < o.length → b < o.length → ∀ i ∈ o.getD a [], ∀ j ∈ o.getD b [], feeds p i j = true → a ≤ b := by
  intro a b ha hb i hi j hj hf
  simp only [validOrder, Bool.and_eq_true, List.all_eq_true, List.mem_range] at h
  have := (h.2 a ha b hb i hi j hj).2
  rw [hf] at this
  simpa using this

theorem mem_sccRules (p : Program E B G P A) (scc : List Nat) (rule : Rule E B G P A) :
    rule ∈ sccRules p scc ↔ ∃ i ∈ scc, p.rules[i]? = some rule := by
  simp [sccRules, List.mem_filterMap]

theorem validOrder_forward (p : Program E B G P A) (o : SccOrder) (h : validOrder p o = true)
    (done : SccOrder) (scc : List Nat) (rest : SccOrder) (ho : done ++ scc :: rest = o) :
    ∀ scc' ∈ done, ∀ rule ∈ sccRules p scc', ∀ b ∈ rule.bodyRels, (dynRels p scc).contains b = false := by
  intro scc' hscc' rule hrule b hb
  cases hc : (dynRels p scc).contains b with
  | false => rfl
  | true =>
    exfalso
    obtain ⟨rule', hrule', hd, hhd, hrel⟩ := (dynRels_mem p scc b).mp hc
    obtain ⟨i, hi, hpi⟩ := (mem_sccRules p scc' rule).mp hrule
    obtain ⟨i', hi', hpi'⟩ := (mem_sccRules p scc rule').mp hrule'
    obtain ⟨a, ha, hda⟩ := List.mem_iff_getElem.mp hscc'
    subst ho
    -- `scc'` sits at a position `a` before that of `scc`, yet rule `i'` of `scc` feeds rule `i` of `scc'`
    have hoa : (done ++ scc :: rest).getD a [] = scc' := by
      rw [List.getD_eq_getElem?_getD, List.getElem?_append_left ha, List.getElem?_eq_getElem ha, hda]
      rfl
    have hob : (done ++ scc :: rest).getD done.length [] = scc := by
      rw [List.getD_eq_getElem?_getD, List.getElem?_append_right (Nat.le_refl _), Nat.sub_self]
      rfl
    have hfeeds : feeds p i' i = true := by
      rw [feeds, hpi, hpi']
      exact List.any_eq_true.mpr ⟨b, List.mem_map.mpr ⟨hd, hhd, hrel⟩, List.contains_iff_mem.mpr hb⟩
    have hlen : done.length < (done ++ scc :: rest).length := by
      rw [List.length_append, List.length_cons]
      exact Nat.lt_add_of_pos_right (Nat.succ_pos _)
    exact Nat.not_lt.mpr (validOrder_feeds p _ h done.length a hlen (Nat.lt_trans ha hlen) i' (hob.symm ▸ hi') i
      (hoa.symm ▸ hi) hfeeds) ha

theorem mem_sccRules_of_valid (p : Program E B G P A) (o : SccOrder) (ho : validOrder p o = true)
    {rule : Rule E B G P A} (hrule : rule ∈ p.rules) : ∃ scc ∈ o, rule ∈ sccRules p scc := by
  obtain ⟨i, hi, hri⟩ := List.mem_iff_getElem.mp hrule
  obtain ⟨scc, hscc, hiscc⟩ := validOrder_cover p o ho i hi
  exact ⟨scc, hscc, (mem_sccRules p scc rule).mpr ⟨i, hiscc, hri ▸ List.getElem?_eq_getElem hi⟩⟩

/-- closedness under the rules of a program is assembled from its SCCs through this -/
theorem forall_rules_of_valid (p : Program E B G P A) (o : SccOrder) (ho : validOrder p o = true)
    {Q : Rule E B G P A → Prop} (h : ∀ scc ∈ o, ∀ rule ∈ sccRules p scc, Q rule) : ∀ rule ∈ p.rules, Q rule :=
  fun rule hrule => let ⟨scc, hscc, hr⟩ := mem_sccRules_of_valid p o ho hrule; h scc hscc rule hr

/-- a program value the engine may be started from (same as `WFSt` of `Props/C01`): every stored
index entry is a valid row number -/
def WFSt' (p : Program E B G P A) (s : St) : Prop :=
  s.length = p.rels.length ∧ ∀ rs ∈ s, ∀ i ∈ rs.idx, i < rs.rows.length

theorem relSt_updateIndices (s : St) (r : RelId) :
    relSt (updateIndices s) r =
      { rows := (relSt s r).rows, idx := List.range (relSt s r).rows.length } :=
  -- beyond the end both sides are the empty relation
  getD_map (⟨[], []⟩ : RelSt) s r fun rs => (⟨rs.rows, List.range rs.rows.length⟩ : RelSt)

theorem WFSt_initSt (p : Program E B G P A) (inp : RelId → List Tuple) : WFSt' p (initSt p inp) := by
  refine ⟨by simp [initSt], ?_⟩
  intro rs hrs i hi
  simp only [initSt, List.mem_map] at hrs
  obtain ⟨r, _, rfl⟩ := hrs
  simp at hi

theorem rows_initSt (p : Program E B G P A) (inp : RelId → List Tuple) (r : RelId) (hr : r < p.rels.length) :
    (relSt (initSt p inp) r).rows = inp r := by
  rw [initSt, relSt_map_range _ _ r hr]

theorem wfSt'_of_idx (p : Program E B G P A) {st : St} (hlen : st.length = p.rels.length)
    (hidx : ∀ r i, i ∈ (relSt st r).idx → i < (relSt st r).rows.length) : WFSt' p st :=
  ⟨hlen, (forall_mem_iff_relSt st fun rs => ∀ i ∈ rs.idx, i < rs.rows.length).mpr fun r _ => hidx r⟩

namespace Agg

theorem aggOverDynamic_false (p : Program E B G P A) (scc : List Nat) (h : aggOverDynamic p scc = false)
    (rule : Rule E B G P A) (hrule : rule ∈ sccRules p scc) (a : AggClause E A) (ha : Item.agg a ∈ rule.body) :
    (dynRels p scc).contains a.rel = false := by
  simp only [aggOverDynamic, List.any_eq_false] at h
  have h1 := h rule hrule
  simp only [List.any_eq_true, not_exists, not_and] at h1
  have h2 := h1 (Item.agg a) ha
  simpa using h2

theorem agg_rel_not_later (p : Program E B G P A) (pre post : SccOrder) (scc : List Nat)
    (ho : validOrder p (pre ++ scc :: post) = true)
    (hs : ∀ s ∈ pre ++ scc :: post, aggOverDynamic p s = false)
    (rule : Rule E B G P A) (hrule : rule ∈ sccRules p scc) (a : AggClause E A) (ha : Item.agg a ∈ rule.body) :
    ∀ scc' ∈ scc :: post, (dynRels p scc').contains a.rel = false := by
  intro scc' hscc'
  rcases List.mem_cons.mp hscc' with rfl | hscc'
  · exact aggOverDynamic_false p scc' (hs scc' (by simp)) rule hrule a ha
  · obtain ⟨post1, post2, rfl⟩ := List.append_of_mem hscc'
    have hb : a.rel ∈ rule.bodyRels := by
      simp only [Rule.bodyRels, List.mem_filterMap]
      exact ⟨Item.agg a, ha, rfl⟩
    exact validOrder_forward p _ ho (pre ++ scc :: post1) scc' post2 (by simp) scc (by simp) rule hrule a.rel hb

theorem abandon_wfSt {p : Program E B G P A} {scc : List Nat} {s : SccSt} (hwf : WF p.rels.length (dynRels p scc) s) :
    WFSt' p (abandonScc p scc s) := by
  refine wfSt'_of_idx p (by rw [abandonScc, List.length_map, List.length_range, hwf.len]) ?_
  intro r i hi
  rw [abandon_rows]
  rw [relSt_abandon] at hi
  split at hi
  · split at hi
    · cases hi
    · next hc =>
      have hnd : (dynRels p scc).contains r = false := by
        rw [Bool.eq_false_iff]
        exact fun h => hc (List.contains_iff_mem.mpr (List.mem_append_left _ (List.contains_iff_mem.mp h)))
      exact (hwf.cover_nd r (hwf.findDyn_none hnd) i).mpr hi
  · cases hi

end Agg

end AscentVerif.Engine
