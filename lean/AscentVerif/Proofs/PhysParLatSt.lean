import AscentVerif.Proofs.PhysParLatScc
/-!
# The parallel engine with lattices: SCC exit and `update_indices`

SCC exit stores the `total` version of every dynamic relation back by a fold of `setNth`; the dynamic entries name pairwise
distinct relations, so the result is read by look-up (`leaveL_find`, `leavePC_find`), and `leave_inv` gets the invariant between
SCCs (`PStInv`) back from the invariant inside the SCC.  `updateIndices_inv`: on a well-formed value with one row per lattice key
`update_indices` never panics, in whatever order the pool inserts the rows, and establishes `PStInv` for the first SCC.
-/
namespace AscentVerif.PhysParLat
open AscentVerif AscentVerif.Engine AscentVerif.Index AscentVerif.Phys AscentVerif.PhysLat AscentVerif.PhysPar

variable {E B G P A : Type}

def leaveStepL (ls : List LCRel) (d : LCDyn) : List LCRel :=
  setNth ls d.rel { lrel ls d.rel with idxs := d.idxs.map fun ci => (ci.1, ci.2.total) }

theorem leaveScc_lat (p : Program E B G P A) (scc : List Nat) (s : PLScc) :
    (leaveScc p scc s).lat = (List.range (s.ldyn.foldl leaveStepL s.lrels).length).map fun r =>
      if isLatRel p r && (bodyOnly p scc).contains r then
        { lrel (s.ldyn.foldl leaveStepL s.lrels) r with
          idxs := (lrel (s.ldyn.foldl leaveStepL s.lrels) r).idxs.map fun ci => (ci.1, ci.2.unfreeze) }
      else lrel (s.ldyn.foldl leaveStepL s.lrels) r := rfl

theorem leaveL_length (L : List LCDyn) (ls : List LCRel) : (L.foldl leaveStepL ls).length = ls.length :=
  foldl_setNth_length (⟨[], []⟩ : LCRel) (fun d : LCDyn => d.rel)
    (fun x d => { x with idxs := d.idxs.map fun ci => (ci.1, ci.2.total) }) L ls

theorem leaveL_find (L : List LCDyn) (ls : List LCRel) (hnd : (L.map (·.rel)).Nodup) (hlt : ∀ d ∈ L, d.rel < ls.length)
    (r : RelId) :
    lrel (L.foldl leaveStepL ls) r =
      (findLDyn L r).elim (lrel ls r) fun ld => { lrel ls r with idxs := ld.idxs.map fun ci => (ci.1, ci.2.total) } :=
  foldl_setNth_find (⟨[], []⟩ : LCRel) (fun d : LCDyn => d.rel)
    (fun x d => { x with idxs := d.idxs.map fun ci => (ci.1, ci.2.total) }) L ls hnd hlt r

theorem leave_pcrel (p : Program E B G P A) (scc : List Nat) (s : PLScc) (r : RelId) (hr : r < s.pc.rels.length) :
    pcrel (leaveScc p scc s).pc r =
      if (bodyOnly p scc).contains r then
        { pcrel (s.pc.dyn.foldl leaveStepPC s.pc.rels) r with
          full := (pcrel (s.pc.dyn.foldl leaveStepPC s.pc.rels) r).full.unfreeze
          idxs := (pcrel (s.pc.dyn.foldl leaveStepPC s.pc.rels) r).idxs.map fun ci => (ci.1, ci.2.unfreeze) }
      else pcrel (s.pc.dyn.foldl leaveStepPC s.pc.rels) r := by
  show pcrel (PhysPar.leaveScc p scc s.pc) r = _
  rw [PhysPar.leaveScc_eq, pcrel_rangeMap _ _ _ (by rw [leavePC_length]; exact hr)]

theorem leave_erase_lat (p : Program E B G P A) (scc : List Nat) (s : PLScc) (r : RelId) (hl : isLatRel p r = true)
    (hr : r < s.lrels.length) :
    eraseRel p (leaveScc p scc s).pc (leaveScc p scc s).lat r =
      ⟨(lrel (s.ldyn.foldl leaveStepL s.lrels) r).rows, [],
        (lrel (s.ldyn.foldl leaveStepL s.lrels) r).idxs.map fun ci => (ci.1, ci.2.erase)⟩ := by
  rw [eraseRel_lat p _ _ r hl, leaveScc_lat, lrel_rangeMap _ _ _ (by rw [leaveL_length]; exact hr)]
  split
  · simp [List.map_map, Function.comp_def]
  · rfl

theorem leave_erase_plain (p : Program E B G P A) (scc : List Nat) (s : PLScc) (r : RelId) (hl : isLatRel p r = false)
    (hr : r < s.pc.rels.length) :
    eraseRel p (leaveScc p scc s).pc (leaveScc p scc s).lat r =
      ⟨(pcrel (s.pc.dyn.foldl leaveStepPC s.pc.rels) r).rows, (pcrel (s.pc.dyn.foldl leaveStepPC s.pc.rels) r).full.m,
        (pcrel (s.pc.dyn.foldl leaveStepPC s.pc.rels) r).idxs.map fun ci => (ci.1, XIx.vals ci.2.erase)⟩ := by
  rw [eraseRel_plain p _ _ r hl]
  rw [leave_pcrel p scc s r hr]
  split
  · simp [List.map_map, Function.comp_def, PCFull.unfreeze]
  · rfl

theorem leave_eraseRel (p : Program E B G P A) (scc : List Nat) {s : PLScc} (hpl : PLWf p s)
    (hltP : ∀ d ∈ s.pc.dyn, d.rel < s.pc.rels.length) (r : RelId) (hr : r < p.rels.length) :
    eraseRel p (leaveScc p scc s).pc (leaveScc p scc s).lat r =
      match findXDyn (s.erase p).dyn r with
      | some pd => { eraseRel p s.pc.rels s.lrels r with full := pd.full.total, idxs := pd.idxs.map fun ci => (ci.1, ci.2.total) }
      | none => eraseRel p s.pc.rels s.lrels r := by
  cases hl : isLatRel p r with
  | true =>
    rw [leave_erase_lat p scc s r hl (by rw [hpl.llen]; exact hr), findXDyn_erase_lat p s hpl.pdyn r hl, eraseRel_lat p _ _ r hl,
      leaveL_find s.ldyn s.lrels hpl.lnd (fun d hd => by rw [hpl.llen]; exact lat_lt p (hpl.ldyn d hd)) r]
    cases findLDyn s.ldyn r with
    | none => rfl
    | some ld =>
      simp only [Option.map_some, Option.elim_some, eraseLDyn, List.map_map]
      rfl
  | false =>
    rw [leave_erase_plain p scc s r hl (by rw [hpl.len]; exact hr), findXDyn_erase_plain p s hpl.ldyn r hl, eraseRel_plain p _ _ r hl,
      leavePC_find s.pc.dyn s.pc.rels hpl.pnd hltP r]
    cases findPCDyn s.pc.dyn r with
    | none => rfl
    | some cd =>
      simp only [Option.map_some, Option.elim_some, erasePDyn, List.map_map]
      rfl

theorem leave_inv (p : Program E B G P A) (scc : List Nat) {ix : IxSets} {N : Nat} {dynR : List RelId} {a : SccSt} {s : PLScc}
    (h : PIS p ix N (bodyOnly p scc) false a s) (hwf : WF p.rels.length dynR a)
    (hlt : ∀ r, dynR.contains r = true → r < p.rels.length) :
    PStInv p ix N (Engine.leaveScc a) (leaveScc p scc s) := by
  obtain ⟨hsim, hpl, hfl, hlfl⟩ := h
  have hpclen : (leaveScc p scc s).pc.length = p.rels.length := by
    show (PhysPar.leaveScc p scc s.pc).length = _
    rw [(Flags_leaveScc p scc s.pc hfl).2, hpl.len]
  have hlatlen : (leaveScc p scc s).lat.length = p.rels.length := by
    rw [leaveScc_lat, List.length_map, List.length_range, leaveL_length, hpl.llen]
  have hltL : ∀ d ∈ s.ldyn, d.rel < s.lrels.length := by
    intro d hd
    rw [hpl.llen]; exact lat_lt p (hpl.ldyn d hd)
  -- plain dynamic entries are in range: they are found from the abstract side
  have hltP : ∀ d ∈ s.pc.dyn, d.rel < s.pc.rels.length := by
    intro d hd
    have hl := hpl.pdyn d hd
    have hf : findPCDyn s.pc.dyn d.rel = some d := find?_of_nodup (fun d : PCDyn => d.rel) _ hpl.pnd d hd
    rcases hsim.findP hpl hl with ⟨_, h2⟩ | ⟨ad, _, ha, _, _⟩
    · rw [hf] at h2; cases h2
    · rw [hpl.len, ← hwf.len]; exact dyn_lt hwf hlt ha
  have hLf := fun r => leaveL_find s.ldyn s.lrels hpl.lnd hltL r
  have hxs : ∀ r, xrel ((leaveScc p scc s).erase p) r = eraseRel p (leaveScc p scc s).pc (leaveScc p scc s).lat r :=
    xrel_eraseSt p _ hpclen
  have hxr : ∀ r, xrel (s.erase p).rels r = eraseRel p s.pc.rels s.lrels r := xrel_erase p s hpl.len
  have hE := leave_eraseRel p scc hpl hltP
  have hrows : ∀ r, (eraseRel p (leaveScc p scc s).pc (leaveScc p scc s).lat r).rows = (eraseRel p s.pc.rels s.lrels r).rows := by
    intro r
    by_cases hr : r < p.rels.length
    · rw [hE r hr]
      cases findXDyn (s.erase p).dyn r <;> rfl
    · have hr' : p.rels.length ≤ r := Nat.le_of_not_lt hr
      rw [eraseRel_ge p _ _ r hr' (by rw [hpclen]; exact hr'), eraseRel_ge p _ _ r hr' (by rw [hpl.len]; exact hr')]
  -- `PStInv`: the four fields of `SimStL`, then the lattice flags and the split of the rows
  refine ⟨⟨?_, ?_, ?_, ?_⟩, hpclen, hlatlen, (Flags_leaveScc p scc s.pc hfl).1, ?_, ?_, ?_⟩
  · rw [Agg.leaveScc_length, hwf.len, eraseSt_length, hpclen]
  · intro r
    rw [Agg.leaveScc_rows hwf hlt, hxs, hrows, ← hxr]
    exact hsim.rows r
  · intro r hr
    rw [Agg.leaveScc_length, hwf.len] at hr
    rw [Agg.leaveScc_rows hwf hlt, hxs, hE r hr]
    rcases hsim.find r with ⟨h1, h2⟩ | ⟨d, pd, h1, h2, _, tri⟩
    · rw [Agg.leaveScc_nondyn h1, h2, ← hxr]
      exact hsim.nd r (by rw [hwf.len]; exact hr) h1
    · rw [Agg.leaveScc_idx hwf hlt h1, h2]
      exact tri.verT
  · intro r t ht
    rw [Agg.leaveScc_rows hwf hlt] at ht
    exact hsim.typed r t ht
  · intro r hr hl
    have hr' : r < s.lrels.length := by rw [hpl.llen, ← hlatlen]; exact hr
    rw [leaveScc_lat, lrel_rangeMap _ _ _ (by rw [leaveL_length]; exact hr')]
    -- what is stored back is frozen only if the relation is body-only
    have hbase : ∀ ci ∈ (lrel (s.ldyn.foldl leaveStepL s.lrels) r).idxs,
        ci.2.Ok (keyCols p r) ci.1 ((bodyOnly p scc).contains r) := by
      rw [hLf r]
      cases hf : findLDyn s.ldyn r with
      | none => exact hlfl.rels r hr' hl
      | some ld =>
        intro ci hci
        obtain ⟨c, hc, rfl⟩ := List.mem_map.mp hci
        obtain ⟨hdf, hb⟩ := hlfl.dyn ld (findLDyn_mem hf)
        obtain rfl := findLDyn_rel hf
        rw [hb]
        exact (hdf c hc).total
    split
    · intro ci hci
      obtain ⟨c, hc, rfl⟩ := List.mem_map.mp hci
      exact (hbase c hc).unfreeze
    · rename_i hcond
      have hb : (bodyOnly p scc).contains r = false := by
        rw [hl] at hcond
        simpa using hcond
      rw [hb] at hbase
      exact hbase
  · intro r hl
    have hr : r < s.pc.rels.length := by rw [hpl.len]; exact lat_lt p hl
    have hrows0 : (pcrel (s.pc.dyn.foldl leaveStepPC s.pc.rels) r).rows = [] := by
      rw [leavePC_find s.pc.dyn s.pc.rels hpl.pnd hltP r, findPCDyn_lat hpl.pdyn hl]; exact hpl.prow r hl
    rw [leave_pcrel p scc s r hr]
    split
    · exact hrows0
    · exact hrows0
  · intro r hl
    by_cases hr : r < s.lrels.length
    · rw [leaveScc_lat, lrel_rangeMap _ _ _ (by rw [leaveL_length]; exact hr)]
      simp only [hl, Bool.false_and, Bool.false_eq_true, if_false]
      rw [hLf r, findLDyn_plain hpl.ldyn hl]
      exact hpl.lrow r hl
    · rw [lrel_of_ge _ _ (by rw [hlatlen, ← hpl.llen]; exact Nat.le_of_not_lt hr)]

theorem tagRows_untag (rows : List Tuple) :
    (tagRows rows).map untag = (List.range rows.length).map fun i => (i, rowAt rows i) := by
  unfold tagRows
  rw [zip_range_rows, List.map_map, List.map_map]
  apply List.map_congr_left
  intro i _
  simp [untag]

/-- the loop body of `updateLat`: row `ir.1` is inserted into every index -/
def insRowL (acc : List (List Nat × LCx)) (ir : Nat × Tuple) : Res (List (List Nat × LCx)) :=
  foldRes (fun (done : List (List Nat × LCx)) (ci : List Nat × LCx) =>
    ci.2.insert (Plan.proj ci.1 ir.2) ir.1 >>= fun x => pure (done ++ [(ci.1, x)])) acc []

theorem updateLat_eq (σ : PhysPar.Sched E B G P A) (k : Nat) (p : Program E B G P A) (r : RelId) (colss : List (List Nat))
    (rows : List Tuple) :
    updateLat σ k p r colss rows =
      (foldRes insRowL ((σ.permRows k (tagRows rows)).map untag)
        (colss.map fun c => (c, LCx.new (c == keyCols p r)))).map fun idxs => ⟨rows, idxs⟩ := rfl

theorem updateLat_ok (σ : PhysPar.Sched E B G P A) (k : Nat) (p : Program E B G P A) (r : RelId) (hl : isLatRel p r = true)
    (colss : List (List Nat)) (rows : List Tuple) (hty : ∀ t ∈ rows, t.length = arityOf p r)
    (hkeys : (rows.map keyOf).Nodup) :
    ∃ l, updateLat σ k p r colss rows = .ok l ∧ l.rows = rows ∧ l.idxs.map (·.1) = colss ∧ LRelFlags p r false l ∧
      ∀ ci ∈ l.idxs, XOk p r rows (List.range rows.length) ci.1 ci.2.erase := by
  have hperm : ((σ.permRows k (tagRows rows)).map untag).Perm ((List.range rows.length).map fun i => (i, rowAt rows i)) := by
    rw [← tagRows_untag]
    exact (σ.permRows_perm k (tagRows rows)).map untag
  have hmem : ∀ ir ∈ (σ.permRows k (tagRows rows)).map untag, ir.1 < rows.length ∧ ir.2 = rowAt rows ir.1 := by
    intro ir hir
    obtain ⟨i, hi, rfl⟩ := List.mem_map.mp (hperm.mem_iff.mp hir)
    exact ⟨List.mem_range.mp hi, rfl⟩
  -- over the rows in the order `σ` takes them: every index is unfrozen and indexes exactly the rows inserted so far
  obtain ⟨acc, hfold, hcols, hbd, hall⟩ := foldRes_inv insRowL
    (fun (done : List (Nat × Tuple)) (acc : List (List Nat × LCx)) => acc.map (·.1) = colss ∧
      (∀ x ∈ done, x.1 < rows.length) ∧
      ∀ ci ∈ acc, ci.2.Ok (keyCols p r) ci.1 false ∧
        ((∀ c ∈ ci.1, c < arityOf p r - 1) → LOk (keyCols p r) rows (done.map (·.1)) ci.1 ci.2.erase))
    ((σ.permRows k (tagRows rows)).map untag) (by
      intro done acc ir hir hinv
      obtain ⟨hcols, hbd, hall⟩ := hinv
      obtain ⟨hi, hrow⟩ := hmem ir hir
      obtain ⟨acc', hf, hrel2⟩ := foldRes_collect
        (fun (ci : List Nat × LCx) => ci.2.insert (Plan.proj ci.1 ir.2) ir.1) (fun ci x => (ci.1, x))
        (fun ci ci' => ci'.1 = ci.1 ∧ ci'.2.Ok (keyCols p r) ci.1 false ∧ ci'.2.erase = ci.2.erase.insert ci.1 ir.2 ir.1)
        acc (by
          intro ci hci
          obtain ⟨x', h1, h2⟩ := (hall ci hci).1.insert (Plan.proj ci.1 ir.2) ir.1
          exact ⟨x', h1, rfl, h2, LCx_insert_erase _ _ _ _ _ h1⟩)
      refine ⟨acc', hf, ?_, ?_, ?_⟩
      · rw [← hcols]
        exact (Rel2.map_eq _ _ (fun c c' hq => hq.1.symm) hrel2).symm
      · intro x hx
        rcases List.mem_append.mp hx with hx | hx
        · exact hbd x hx
        · simp only [List.mem_singleton] at hx; rw [hx]; exact hi
      · intro c' hc'
        obtain ⟨c, hc, hq⟩ := hrel2.forall_right c' hc'
        obtain ⟨g1, g3⟩ := hall c hc
        refine ⟨by rw [hq.1]; exact hq.2.1, ?_⟩
        intro hkc
        rw [hq.2.2, hq.1]
        apply LOk_insert ir.2 ir.1 (g3 (by rw [← hq.1]; exact hkc)) (by rw [hrow])
        · intro j; simp
        · -- the key index stays a function: the rows inserted before have other keys (`hkeys`)
          intro hck j hj hp
          obtain ⟨x, hx, rfl⟩ := List.mem_map.mp hj
          rw [hrow, hck] at hp
          exact idx_of_proj_keyCols hty hkeys (hbd x hx) hi hp)
    (colss.map fun c => (c, LCx.new (c == keyCols p r)))
    ⟨by rw [List.map_map]; exact List.map_id _, fun x hx => (by cases hx), (by
      intro ci hci
      obtain ⟨c, _, rfl⟩ := List.mem_map.mp hci
      refine ⟨LCx.Ok.new _ _, fun _ => ?_⟩
      show LOk _ _ [] c (LCx.new (c == keyCols p r)).erase
      rw [LCx.erase_new]
      exact LOk_empty _ _ _)⟩
  refine ⟨⟨rows, acc⟩, by rw [updateLat_eq, hfold]; rfl, rfl, hcols, fun ci hci => (hall ci hci).1, ?_⟩
  intro ci hci
  refine ⟨fun _ hkc => ?_, fun hf => by rw [hl] at hf; cases hf⟩
  refine LOk_congr ((hall ci hci).2 hkc) ?_ (fun _ _ => rfl)
  intro i
  rw [List.mem_range]
  constructor
  · intro hi
    have : (i, rowAt rows i) ∈ (σ.permRows k (tagRows rows)).map untag :=
      hperm.mem_iff.mpr (List.mem_map.mpr ⟨i, List.mem_range.mpr hi, rfl⟩)
    exact List.mem_map.mpr ⟨_, this, rfl⟩
  · intro hi
    obtain ⟨x, hx, rfl⟩ := List.mem_map.mp hi
    exact hbd x hx

theorem updateIndices_eq (threads : Nat) (σ : PhysPar.Sched E B G P A) (p : Program E B G P A) (ix : IxSets) (s : PLSt) :
    updateIndices threads σ p ix s =
      (PhysPar.updateIndices threads σ (plainIx p ix) s.pc >>= fun pc =>
       foldRes (fun (done : List LCRel) (r : Nat) =>
          if isLatRel p r then
            updateLat σ r p r (latIxOf p ix r) (lrel s.lat r).rows >>= fun l => pure (done ++ [l])
          else pure (done ++ [{ rows := (lrel s.lat r).rows, idxs := [] }])) (List.range s.pc.length) [] >>= fun lat =>
       pure ⟨pc, lat⟩) := rfl

theorem xrows_lat (p : Program E B G P A) {s : PLSt} (hs : WFSt p s) (r : RelId) (hl : isLatRel p r = true) :
    xrows s r = (lrel s.lat r).rows := by
  unfold xrows
  rw [hs.2.2.1 r hl]; rfl

theorem xrows_plain (p : Program E B G P A) {s : PLSt} (hs : WFSt p s) (r : RelId) (hl : isLatRel p r = false) :
    xrows s r = (pcrel s.pc r).rows := by
  unfold xrows
  rw [hs.2.2.2.1 r hl, List.append_nil]

theorem updateIndices_inv (threads : Nat) (σ : PhysPar.Sched E B G P A) (p : Program E B G P A) (ix : IxSets) (s : PLSt)
    (hs : WFSt p s) (hi : InputOK p (xrows s)) (har : ∀ r, isLatRel p r = true → 0 < arityOf p r) :
    ∃ s0, updateIndices threads σ p ix s = .ok s0 ∧
      PStInv p ix (max threads 1) (Engine.updateIndices (Engine.initSt p (xrows s))) s0 := by
  have hs' := hs
  obtain ⟨⟨hplen, _, _⟩, hllen, hprow, hlrow, hlty, _⟩ := hs
  obtain ⟨pc, hpc, hpclen, hpfl, hpok⟩ := updateIndices_ok threads σ (plainIx p ix) s.pc
  -- the lattice part, slot by slot: `updateLat` for a lattice, an entry without indices for a plain relation
  obtain ⟨lat, hlat, hrel2⟩ := foldRes_inv
    (fun (done : List LCRel) (r : Nat) =>
      if isLatRel p r then
        updateLat σ r p r (latIxOf p ix r) (lrel s.lat r).rows >>= fun l => pure (done ++ [l])
      else (pure (done ++ [{ rows := (lrel s.lat r).rows, idxs := [] }]) : Res (List LCRel)))
    (fun done out => Rel2 (fun (r : Nat) (l : LCRel) => l.rows = (lrel s.lat r).rows ∧
      (isLatRel p r = true → l.idxs.map (·.1) = latIxOf p ix r ∧ LRelFlags p r false l ∧
        ∀ ci ∈ l.idxs, XOk p r (lrel s.lat r).rows (List.range (lrel s.lat r).rows.length) ci.1 ci.2.erase) ∧
      (isLatRel p r = false → l.idxs = [])) done out)
    (List.range s.pc.length) (by
      intro done out r hr hinv
      have hrl : r < p.rels.length := by rw [← hplen]; exact List.mem_range.mp hr
      cases hl : isLatRel p r with
      | true =>
        have hk : ((lrel s.lat r).rows.map keyOf).Nodup := by
          have := hi.2 r hrl hl
          rw [xrows_lat p hs' r hl] at this; exact this
        obtain ⟨l, h1, h2, h3, h4, h5⟩ := updateLat_ok σ r p r hl (latIxOf p ix r) (lrel s.lat r).rows (hlty r) hk
        refine ⟨out ++ [l], by simp only [if_true, h1, bind_ok, pure_eq_ok], hinv.snoc ⟨h2, fun _ => ⟨h3, h4, h5⟩, fun hf => ?_⟩⟩
        rw [hl] at hf; cases hf
      | false =>
        refine ⟨out ++ [{ rows := (lrel s.lat r).rows, idxs := [] }], by simp only [Bool.false_eq_true, if_false, pure_eq_ok],
          hinv.snoc ⟨rfl, fun hf => ?_, fun _ => rfl⟩⟩
        rw [hl] at hf; cases hf) [] .nil
  have hlatlen : lat.length = s.pc.length := by rw [← hrel2.length_eq, List.length_range]
  have hget : ∀ r, r < s.pc.length → (lrel lat r).rows = (lrel s.lat r).rows ∧
      (isLatRel p r = true → (lrel lat r).idxs.map (·.1) = latIxOf p ix r ∧ LRelFlags p r false (lrel lat r) ∧
        ∀ ci ∈ (lrel lat r).idxs, XOk p r (lrel s.lat r).rows (List.range (lrel s.lat r).rows.length) ci.1 ci.2.erase) ∧
      (isLatRel p r = false → (lrel lat r).idxs = []) := by
    intro r hr
    exact hrel2.get r r (lrel lat r) (List.getElem?_range hr) (by
      rw [List.getElem?_eq_getElem (show r < lat.length by rw [hlatlen]; exact hr)]
      exact congrArg some (getD_of_lt _ lat r _).symm)
  have hxlat : ∀ r, (lrel lat r).rows = (lrel s.lat r).rows := by
    intro r
    by_cases hr : r < s.pc.length
    · exact (hget r hr).1
    · have hr' : s.pc.length ≤ r := Nat.le_of_not_lt hr
      rw [lrel_of_ge _ _ (by rw [hlatlen]; exact hr'), lrel_of_ge _ _ (by rw [hllen, ← hplen]; exact hr')]
  have hxpc : ∀ r, (pcrel pc r).rows = (pcrel s.pc r).rows := by
    intro r
    by_cases hr : r < s.pc.length
    · exact (hpok r hr).1
    · have hr' : s.pc.length ≤ r := Nat.le_of_not_lt hr
      rw [pcrel_of_ge _ _ (by rw [hpclen]; exact hr'), pcrel_of_ge _ _ hr']
  have hlen0 : (⟨pc, lat⟩ : PLSt).pc.length = p.rels.length := by rw [← hplen]; exact hpclen
  refine ⟨⟨pc, lat⟩, by rw [updateIndices_eq, hpc, bind_ok, hlat]; rfl, ?_⟩
  have hinitlen : (Engine.updateIndices (Engine.initSt p (xrows s))).length = p.rels.length :=
    (List.length_map _).trans (WFSt_initSt p _).1
  have hinitge : ∀ r, p.rels.length ≤ r → (Engine.initSt p (xrows s)).length ≤ r :=
    fun r hr => by rw [(WFSt_initSt p _).1]; exact hr
  have hinit : ∀ r, (relSt (Engine.initSt p (xrows s)) r).rows = (eraseRel p pc lat r).rows := by
    intro r
    by_cases hr : r < p.rels.length
    · rw [rows_initSt p _ r hr]
      cases hl : isLatRel p r with
      | true => rw [xrows_lat p hs' r hl, eraseRel_lat p _ _ r hl]; exact (hxlat r).symm
      | false => rw [xrows_plain p hs' r hl, eraseRel_plain p _ _ r hl]; exact (hxpc r).symm
    · have hr' : p.rels.length ≤ r := Nat.le_of_not_lt hr
      rw [relSt_of_ge _ _ (hinitge r hr'), eraseRel_ge p _ _ r hr' (by rw [hpclen, hplen]; exact hr')]
  have hxs : ∀ r, xrel ((⟨pc, lat⟩ : PLSt).erase p) r = eraseRel p pc lat r := xrel_eraseSt p ⟨pc, lat⟩ hlen0
  -- `PStInv`: the four fields of `SimStL`, then the lattice flags and the split of the rows
  refine ⟨⟨?_, ?_, ?_, ?_⟩, hlen0, by rw [hlatlen]; exact hplen, hpfl, ?_, fun r hl => (hxpc r).trans (hprow r hl), ?_⟩
  · rw [eraseSt_length, hlen0]
    exact hinitlen
  · intro r
    rw [relSt_updateIndices, hxs]; exact hinit r
  · intro r hr
    have hrl : r < p.rels.length := by rw [hinitlen] at hr; exact hr
    have hrs : r < s.pc.length := by rw [hplen]; exact hrl
    rw [relSt_updateIndices, hxs, hinit]
    cases hl : isLatRel p r with
    | true =>
      obtain ⟨g1, g2, g3⟩ := (hget r hrs).2.1 hl
      rw [eraseRel_lat p _ _ r hl]
      refine ⟨fun hf => (by rw [hl] at hf; cases hf), ?_, ?_⟩
      · rw [List.map_map, ixOf_ixP_lat p ix r hl (har r hl), ← g1]; rfl
      · intro ci hci
        obtain ⟨c, hc, rfl⟩ := List.mem_map.mp hci
        have := g3 c hc
        rw [← hxlat r] at this
        exact this
    | false =>
      obtain ⟨hv1, hv2, hv3⟩ := (hpok r hrs).2.ok
      rw [eraseRel_plain p _ _ r hl]
      show XVerOk p (ixP p ix) r (pcrel pc r).rows (List.range (pcrel pc r).rows.length) _ _
      rw [hxpc r]
      refine ⟨fun _ => hv1, ?_, ?_⟩
      · rw [List.map_map, ixOf_ixP_plain p ix r hl]
        have : plainIx p ix r = ix r := by simp [plainIx, hl]
        rw [← this, ← hv2]
        show _ = ((pcrel pc r).idxs.map fun ci => (ci.1, ci.2.erase)).map (·.1)
        rw [List.map_map]; rfl
      · intro ci hci
        obtain ⟨c, hc, rfl⟩ := List.mem_map.mp hci
        exact XOk_plain hl (hv3 _ (List.mem_map.mpr ⟨c, hc, rfl⟩))
  · intro r t ht
    rw [relSt_updateIndices] at ht
    by_cases hr : r < p.rels.length
    · rw [rows_initSt p _ r hr] at ht
      exact hi.1 r hr t ht
    · rw [relSt_of_ge _ _ (hinitge r (Nat.le_of_not_lt hr))] at ht
      cases ht
  · intro r hr hl
    exact ((hget r (by rw [← hlatlen]; exact hr)).2.1 hl).2.1
  · intro r hl
    by_cases hr : r < s.pc.length
    · obtain ⟨g1, _, g3⟩ := hget r hr
      have h1 : (lrel lat r).rows = [] := by rw [g1]; exact hlrow r hl
      have h2 := g3 hl
      show lrel lat r = ⟨[], []⟩
      cases hh : lrel lat r with
      | mk rows idxs =>
        rw [hh] at h1 h2
        simp only at h1 h2
        rw [h1, h2]
    · exact lrel_of_ge _ _ (by rw [hlatlen]; exact Nat.le_of_not_lt hr)

end AscentVerif.PhysParLat
