import AscentVerif.Proofs.DesugarRepArgs
/-!
# Pass 6 of the desugaring (repeated variables / arguments mentioning a column of the same clause) and the final
conversion to core items

On a core-shaped body whose expression arguments are scoped and which mentions no name `x_N`, the conversion succeeds
(`rep_toCore_isSome`) and the core items are satisfied by the same environments as the body, up to the names `x_N`
(`rep_correct`): clauses by `repArgs_correct`, every other item is a frame whose binders are entered into the grounded map.
-/
namespace AscentVerif.Surface
open AscentVerif AscentVerif.Engine

variable {E B G P A : Type}

theorem coreShaped_tail {f : FItem E B G P A} {fs : List (FItem E B G P A)} (h : CoreShaped (f :: fs)) : CoreShaped fs :=
  fun f' hf' => h f' (List.mem_cons_of_mem _ hf')

theorem coreShaped_clause {r : RelId} {as : List (SArg E P)} {cs : List (Cond E B P)} {fs : List (FItem E B G P A)}
    (h : CoreShaped (FItem.clause r as cs :: fs)) : ∀ a ∈ as, IsVE a :=
  (h _ (by simp)).1 r as cs rfl

theorem toCore_clause (ops : Ops E B G A) (r : RelId) (i : Nat) (as : List (SArg E P)) (g : Grounded) (c : Nat)
    (conds : List (Cond E B P)) (has : ∀ a ∈ as, IsVE a) :
    FItem.toCore (FItem.clause r (repArgs ops i as g c).args ((repArgs ops i as g c).conds ++ conds) : FItem E B G P A) =
      some (Item.clause r ((repArgs ops i as g c).args.map SArg.toArg) ((repArgs ops i as g c).conds ++ conds)) := by
  simp only [FItem.toCore, mapM_toCore_of_VE _ (repArgs_args_VE ops i as g c has), Option.map_some]

def FItem.grounds : FItem E B G P A → List Var
  | .cond c => Cond.binds c
  | .gen v _ => [v]
  | .agg a => a.outs
  | _ => []

theorem repItems_cons_other (ops : Ops E B G A) {f : FItem E B G P A} (hf : ∀ r as cs, f ≠ FItem.clause r as cs)
    (rest : List (FItem E B G P A)) (i : Nat) (g : Grounded) (c : Nat) :
    repItems ops (f :: rest) i g c =
      (f :: (repItems ops rest (i + 1) (orInsertAll g f.grounds i) c).1, (repItems ops rest (i + 1) (orInsertAll g f.grounds i) c).2) := by
  cases f with
  | clause r as cs => exact absurd rfl (hf r as cs)
  | cond cd => cases cd <;> rfl
  | _ => rfl

theorem toCore_other {I : Interp E B G P A} {D : DB} {agg : RelId → List Tuple} {varsE : E → List Var} {varsB : B → List Var}
    {varsG : G → List Var} {f : FItem E B G P A} {it : Item E B G P A} (hf : ∀ r as cs, f ≠ FItem.clause r as cs)
    (h : f.toCore = some it) :
    (∀ ρ ρ', Step I D agg it ρ ρ' ↔ StepF I D agg f ρ ρ') ∧ Item.binds [] it = f.grounds ∧
      ∀ v ∈ Item.mentions varsE varsB varsG it, v ∈ FItem.mentions varsE varsB varsG f := by
  cases f with
  | clause r as cs => exact absurd rfl (hf r as cs)
  | cond cd => cases h; exact ⟨fun _ _ => Iff.rfl, rfl, fun _ hv => hv⟩
  | gen v gn => cases h; exact ⟨fun _ _ => Iff.rfl, rfl, fun _ hv => hv⟩
  | agg a => cases h; exact ⟨fun _ _ => Iff.rfl, rfl, agg_mentions_sub varsE varsB varsG a⟩
  | neg r as => cases h

theorem rep_toCore_isSome_gen (ops : Ops E B G A) (fs : List (FItem E B G P A)) (hshape : CoreShaped fs) :
    ∀ (i : Nat) (g : Grounded) (c : Nat), ∃ items, (repItems ops fs i g c).1.mapM FItem.toCore = some items := by
  induction fs with
  | nil => intro i g c; exact ⟨[], rfl⟩
  | cons f fs ih =>
    intro i g c
    have ih' := ih (coreShaped_tail hshape)
    by_cases hf : ∃ r as cs, f = FItem.clause r as cs
    · obtain ⟨r, as, conds, rfl⟩ := hf
      obtain ⟨its, hits⟩ := ih' (i + 1) (repArgs ops i as g c).g (repArgs ops i as g c).c
      exact ⟨_, mapM_cons_eq_some.mpr ⟨_, its, toCore_clause ops r i as g c conds (coreShaped_clause hshape), hits, rfl⟩⟩
    · rw [repItems_cons_other ops fun r as cs h => hf ⟨r, as, cs, h⟩]
      obtain ⟨its, hits⟩ := ih' (i + 1) (orInsertAll g f.grounds i) c
      have hit : ∃ it, f.toCore = some it := by
        cases f with
        | clause r as cs => exact absurd ⟨r, as, cs, rfl⟩ hf
        | neg r as => exact absurd rfl ((hshape _ List.mem_cons_self).2 r as)
        | _ => exact ⟨_, rfl⟩
      obtain ⟨it, hit⟩ := hit
      exact ⟨_, mapM_cons_eq_some.mpr ⟨it, its, hit, hits, rfl⟩⟩

theorem rep_toCore_isSome (ops : Ops E B G A) (fs : List (FItem E B G P A)) (c : Nat) (hshape : CoreShaped fs) :
    ((repItems ops fs 0 [] c).1.mapM FItem.toCore).isSome = true := by
  obtain ⟨items, h⟩ := rep_toCore_isSome_gen ops fs hshape 0 [] c
  rw [h]; rfl

theorem rep_step_sim {I : Interp E B G P A} {varsE : E → List Var} {varsB : B → List Var} {varsG : G → List Var}
    (hV : VarsSound I varsE varsB varsG) (D : DB) (agg : RelId → List Tuple) (it : Item E B G P A)
    (hment : ∀ v ∈ Item.mentions varsE varsB varsG it, ¬ GenOf gsRep v) (g : Grounded) (i c : Nat) :
    Sim (RepInv g c) (RepInv (orInsertAll g (Item.binds [] it) i) c) (Step I D agg it) (Step I D agg it) := by
  intro ρ σ h
  have hs := (frame_step hV D agg it).sim (RepInv.frameRel hment g c) ρ σ h
  have hb : ∀ σ₁, Step I D agg it σ σ₁ → ∀ v ∈ Item.binds [] it, Env.get? σ₁ v ≠ none := fun σ₁ hst =>
    (step_frame hV [] it (by simp) hst).elim fun _ hn => hn.2.2.1
  exact ⟨fun ρ₁ h₁ => (hs.1 ρ₁ h₁).imp fun σ₁ hq => ⟨hq.1, hq.2.insert i (hb σ₁ hq.1)⟩,
    fun σ₁ h₁ => (hs.2 σ₁ h₁).imp fun ρ₁ hq => ⟨hq.1, hq.2.insert i (hb σ₁ h₁)⟩⟩

theorem rep_sim {I : Interp E B G P A} {ops : Ops E B G A} {varsB : B → List Var} {varsG : G → List Var}
    (hS : SugarSound I ops) (hV : VarsSound I ops.varsE varsB varsG) (D : DB) (agg : RelId → List Tuple)
    (fs : List (FItem E B G P A)) :
    ∀ (i : Nat) (g : Grounded) (c : Nat) (items : List (Item E B G P A)), CoreShaped fs →
      (∀ f ∈ fs, ∀ v ∈ FItem.mentions ops.varsE varsB varsG f, ¬ GenOf gsRep v) →
      (∀ rel args conds, FItem.clause rel args conds ∈ fs → ScopedFrom ops.varsE (fun _ => False) args) →
      (repItems ops fs i g c).1.mapM FItem.toCore = some items →
      Sim (RepInv g c) (AgreeOff (GenOf gsRep)) (Sat I D agg items) (SatF I D agg fs) := by
  induction fs with
  | nil =>
    intro i g c items _ _ _ hd
    cases hd
    exact fun ρ σ h => ⟨fun ρ' hs => ⟨σ, rfl, sat_nil_iff.1 hs ▸ h.rel.1⟩, fun σ' hs => ⟨ρ, .nil _, hs ▸ h.rel.1⟩⟩
  | cons f fs ih =>
    intro i g c items hshape hres hws hd
    have ih' := fun i g c its => ih i g c its (coreShaped_tail hshape) (fun f' hf' => hres f' (List.mem_cons_of_mem _ hf'))
      fun r as cs hm => hws r as cs (List.mem_cons_of_mem _ hm)
    have hf := hres f List.mem_cons_self
    by_cases hcl : ∃ r as cs, f = FItem.clause r as cs
    · obtain ⟨r, as, conds, rfl⟩ := hcl
      have hVE : ∀ a ∈ as, IsVE a := coreShaped_clause hshape
      obtain ⟨it, its, hit, hits, rfl⟩ := mapM_cons_eq_some.mp
        (show (FItem.clause r (repArgs ops i as g c).args ((repArgs ops i as g c).conds ++ conds) :: _).mapM FItem.toCore = _ from hd)
      cases (toCore_clause ops r i as g c conds hVE).symm.trans hit
      refine (((sim_tuples _ fun t ρ σ h => ?_).congr (step_clause_iff I D agg r _ _) (stepF_clause_iff I D agg r as conds)).comp
        (ih' _ _ _ its hits)).congr (fun _ _ => sat_cons_iff) fun _ _ => Iff.rfl
      -- the arguments with the generated tests, then the clause's own conditions, which mention no generated name
      rw [bind_satConds_append]
      refine (repArgs_correct hS hV i ρ as t g c ρ σ hVE (fun v hv => hf v (List.mem_append_left _ hv))
        ⟨h, fun v hv _ => h.rel.1 v hv, (hws r as conds List.mem_cons_self).mono fun _ => False.elim⟩).bind
          fun ρ₁ σ₁ h₁ => ?_
      exact (frame_satConds hV conds).optRel (RepInv.frameRel (fun v hv => hf v (List.mem_append_right _ hv)) _ _) h₁
    · have hcl' := fun r as cs h => hcl ⟨r, as, cs, h⟩
      rw [repItems_cons_other ops hcl'] at hd
      obtain ⟨it, its, hit, hits, rfl⟩ := mapM_cons_eq_some.mp hd
      obtain ⟨hstep, hbinds, hsub⟩ := toCore_other (I := I) (D := D) (agg := agg) (varsE := ops.varsE) (varsB := varsB)
        (varsG := varsG) hcl' hit
      exact (((rep_step_sim hV D agg it (fun v hv => hf v (hsub v hv)) g i c).congr (fun _ _ => Iff.rfl) fun σ σ₁ => (hstep σ σ₁).symm).comp
        (ih' _ _ _ its (hbinds ▸ hits))).congr (fun _ _ => sat_cons_iff) fun _ _ => Iff.rfl

theorem rep_correct (I : Interp E B G P A) (ops : Ops E B G A) {varsB : B → List Var} {varsG : G → List Var}
    (hS : SugarSound I ops) (hV : VarsSound I ops.varsE varsB varsG) (D : DB) (agg : RelId → List Tuple)
    (fs : List (FItem E B G P A)) (c : Nat) (items : List (Item E B G P A))
    (hshape : CoreShaped fs)
    (hres : ∀ f ∈ fs, ∀ v ∈ FItem.mentions ops.varsE varsB varsG f, ¬ GenOf gsRep v)
    (hws : ∀ rel args conds, FItem.clause rel args conds ∈ fs → ScopedFrom ops.varsE (fun _ => False) args)
    (hd : (repItems ops fs 0 [] c).1.mapM FItem.toCore = some items) :
    Sim (fun ρ σ => ρ = [] ∧ σ = []) (AgreeOff (GenOf gsRep)) (Sat I D agg items) (SatF I D agg fs) :=
  (rep_sim hS hV D agg fs 0 [] c items hshape hres hws hd).mono (fun _ _ h => h.1 ▸ h.2 ▸ RepInv.nil c) fun _ _ h => h

end AscentVerif.Surface

section
open AscentVerif.Surface
#print axioms rep_correct
#print axioms rep_toCore_isSome
end
