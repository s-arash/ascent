import AscentVerif.Model.Index
import AscentVerif.Proofs.ListBasics
/-!
The model's hash maps are association lists (`HMap`): look-up and upsert, the key list, and `drainInto`, the
fold of upserts that `move_index_contents` of every map-backed Rust index type is an instance of (`get?_drainInto` is
its one law).  Then the list facts the sharded indices need (`modifyNth`, `getD`, `shardOf`).
-/
namespace AscentVerif.Index

variable {K V W : Type} [DecidableEq K]

theorem HMap.get?_nil (k : K) : HMap.get? ([] : HMap K V) k = none := rfl

theorem HMap.get?_cons (a : K) (b : V) (m : HMap K V) (k : K) :
    HMap.get? ((a, b) :: m) k = if a = k then some b else HMap.get? m k := rfl

theorem HMap.upsert_nil (k : K) (f : Option V → V) : HMap.upsert ([] : HMap K V) k f = [(k, f none)] := rfl

theorem HMap.upsert_cons (a : K) (b : V) (m : HMap K V) (k : K) (f : Option V → V) :
    HMap.upsert ((a, b) :: m) k f = if a = k then (a, f (some b)) :: m else (a, b) :: HMap.upsert m k f := rfl

theorem HMap.get?_upsert (m : HMap K V) (k k' : K) (f : Option V → V) :
    HMap.get? (HMap.upsert m k f) k' = if k' = k then some (f (HMap.get? m k)) else HMap.get? m k' := by
  induction m with
  | nil =>
    simp only [HMap.upsert_nil, HMap.get?_cons, HMap.get?_nil]
    by_cases h : k = k' <;> simp [h, eq_comm]
  | cons hd tl ih =>
    obtain ⟨a, b⟩ := hd
    rw [HMap.upsert_cons]
    by_cases h : a = k
    · subst h
      simp only [if_true, HMap.get?_cons]
      by_cases h2 : a = k' <;> simp [h2, eq_comm]
      intro h3; exact absurd h3.symm h2
    · simp only [h, if_false, HMap.get?_cons, ih]
      by_cases h2 : a = k'
      · subst h2; simp [h]
      · simp [h2]

theorem HMap.get?_eq_none_iff (m : HMap K V) (k : K) : HMap.get? m k = none ↔ k ∉ HMap.keys m := by
  induction m with
  | nil => simp [HMap.get?_nil, HMap.keys]
  | cons hd tl ih =>
    obtain ⟨a, b⟩ := hd
    rw [HMap.get?_cons]
    by_cases h : a = k
    · simp [h, HMap.keys]
    · simp only [h, if_false, ih, HMap.keys, List.map_cons, List.mem_cons, not_or]
      constructor
      · intro h2; exact ⟨fun h3 => h h3.symm, h2⟩
      · intro h2; exact h2.2

theorem HMap.get?_isSome_iff (m : HMap K V) (k : K) : (HMap.get? m k).isSome = true ↔ k ∈ HMap.keys m := by
  rw [Option.isSome_iff_ne_none, Ne, HMap.get?_eq_none_iff, Decidable.not_not]

theorem mem_of_get?_eq_some (m : HMap K V) (k : K) (v : V) (h : HMap.get? m k = some v) : (k, v) ∈ m := by
  induction m with
  | nil => cases h
  | cons hd tl ih =>
    obtain ⟨a, b⟩ := hd
    rw [HMap.get?_cons] at h
    by_cases hak : a = k
    · subst hak
      simp only [if_true, Option.some.injEq] at h
      subst h
      exact List.mem_cons_self
    · simp only [hak, if_false] at h
      exact List.mem_cons_of_mem _ (ih h)

theorem get?_eq_some_of_mem (m : HMap K V) (k : K) (v : V) (hn : (HMap.keys m).Nodup) (h : (k, v) ∈ m) : HMap.get? m k = some v := by
  induction m with
  | nil => cases h
  | cons hd tl ih =>
    obtain ⟨a, b⟩ := hd
    obtain ⟨hnot, hnd⟩ := List.nodup_cons.mp hn
    rw [HMap.get?_cons]
    rcases List.mem_cons.mp h with h | h
    · cases h
      exact if_pos rfl
    · rw [if_neg, ih hnd h]
      intro e
      subst e
      exact hnot (List.mem_map.mpr ⟨(a, v), h, rfl⟩)

omit [DecidableEq K] in
theorem mem_entries {V : Type} (m : Idx K V) (k : K) (x : V) : (k, x) ∈ Idx.entries m ↔ ∃ vs, (k, vs) ∈ m ∧ x ∈ vs := by
  unfold Idx.entries
  rw [List.mem_flatMap]
  constructor
  · rintro ⟨⟨a, vs⟩, hm, hx⟩
    rw [List.mem_map] at hx
    obtain ⟨v, hv, he⟩ := hx
    injection he with h1 h2
    subst h1; subst h2
    exact ⟨vs, hm, hv⟩
  · rintro ⟨vs, hm, hx⟩
    exact ⟨(k, vs), hm, List.mem_map.mpr ⟨x, hx, rfl⟩⟩

theorem insert_nonempty {V : Type} (m : Idx K V) (k : K) (v : V) (h : ∀ kv ∈ m, kv.2 ≠ []) :
    ∀ kv ∈ Idx.insert m k v, kv.2 ≠ [] := by
  unfold Idx.insert
  induction m with
  | nil =>
    intro kv hkv
    cases List.mem_singleton.mp hkv
    exact List.cons_ne_nil _ _
  | cons hd tl ih =>
    obtain ⟨a, b⟩ := hd
    rw [HMap.upsert_cons]
    have htl : ∀ kv ∈ tl, kv.2 ≠ [] := fun kv hkv => h kv (List.mem_cons_of_mem _ hkv)
    intro kv hkv
    by_cases hak : a = k
    · rw [if_pos hak] at hkv
      rcases List.mem_cons.mp hkv with e | e
      · subst e
        exact List.append_ne_nil_of_right_ne_nil _ (List.cons_ne_nil _ _)
      · exact htl kv e
    · rw [if_neg hak] at hkv
      rcases List.mem_cons.mp hkv with e | e
      · subst e
        exact h _ List.mem_cons_self
      · exact ih htl kv e

theorem HMap.upsert_of_get?_none (m : HMap K V) (k : K) (f : Option V → V) (h : HMap.get? m k = none) :
    HMap.upsert m k f = m ++ [(k, f none)] := by
  induction m with
  | nil => rfl
  | cons hd tl ih =>
    obtain ⟨a, b⟩ := hd
    rw [HMap.get?_cons] at h
    by_cases h2 : a = k
    · simp [h2] at h
    · simp only [h2, if_false] at h
      rw [HMap.upsert_cons]; simp [h2, ih h]

theorem HMap.keys_upsert (m : HMap K V) (k : K) (f : Option V → V) :
    HMap.keys (HMap.upsert m k f) = if k ∈ HMap.keys m then HMap.keys m else HMap.keys m ++ [k] := by
  induction m with
  | nil => simp [HMap.upsert_nil, HMap.keys]
  | cons hd tl ih =>
    obtain ⟨a, b⟩ := hd
    rw [HMap.upsert_cons]
    by_cases h : a = k
    · simp [h, HMap.keys]
    · have h' : ¬ k = a := fun h3 => h h3.symm
      simp only [HMap.keys] at ih
      simp only [h, if_false, HMap.keys, List.map_cons, List.mem_cons, h', false_or, ih]
      split <;> simp [*]

theorem HMap.mem_keys_upsert (m : HMap K V) (k k' : K) (f : Option V → V) :
    k' ∈ HMap.keys (HMap.upsert m k f) ↔ k' = k ∨ k' ∈ HMap.keys m := by
  rw [HMap.keys_upsert]
  split
  · constructor
    · intro h; exact Or.inr h
    · rintro (h | h)
      · subst h; assumption
      · exact h
  · simp [or_comm]

theorem HMap.nodup_keys_upsert (m : HMap K V) (k : K) (f : Option V → V) (h : (HMap.keys m).Nodup) :
    (HMap.keys (HMap.upsert m k f)).Nodup := by
  rw [HMap.keys_upsert]
  split
  · exact h
  next hk => exact nodup_concat h hk

/-- the drain loop of `move_index_contents`: every entry of `frm` is upserted into `to` with combiner `g` -/
def drainInto (g : W → Option V → V) (frm : HMap K W) (to : HMap K V) : HMap K V :=
  frm.foldl (fun acc kv => HMap.upsert acc kv.1 (g kv.2)) to

theorem drainInto_nil (g : W → Option V → V) (to : HMap K V) : drainInto g ([] : HMap K W) to = to := rfl

theorem drainInto_cons (g : W → Option V → V) (a : K) (w : W) (frm : HMap K W) (to : HMap K V) :
    drainInto g ((a, w) :: frm) to = drainInto g frm (HMap.upsert to a (g w)) := rfl

theorem nodup_keys_drainInto (g : W → Option V → V) (frm : HMap K W) (to : HMap K V) (h : (HMap.keys to).Nodup) :
    (HMap.keys (drainInto g frm to)).Nodup := by
  induction frm generalizing to with
  | nil => exact h
  | cons hd tl ih =>
    obtain ⟨a, w⟩ := hd
    rw [drainInto_cons]
    exact ih _ (HMap.nodup_keys_upsert _ _ _ h)

/-- `move_index_contents` drains the smaller map into the larger: either way the keys stay distinct -/
theorem nodup_keys_ite_drainInto (g : V → Option V → V) (c : Prop) [Decidable c] (frm to : HMap K V)
    (hf : (HMap.keys frm).Nodup) (ht : (HMap.keys to).Nodup) :
    (HMap.keys (if c then drainInto g to frm else drainInto g frm to)).Nodup := by
  split
  · exact nodup_keys_drainInto _ _ _ hf
  · exact nodup_keys_drainInto _ _ _ ht

theorem get?_drainInto (g : W → Option V → V) (frm : HMap K W) (to : HMap K V) (h : (HMap.keys frm).Nodup) (k : K) :
    HMap.get? (drainInto g frm to) k =
      match HMap.get? frm k with
      | none => HMap.get? to k
      | some w => some (g w (HMap.get? to k)) := by
  induction frm generalizing to with
  | nil => rfl
  | cons hd tl ih =>
    obtain ⟨a, w⟩ := hd
    have hnd : a ∉ HMap.keys tl ∧ (HMap.keys tl).Nodup := by
      simpa [HMap.keys] using h
    rw [drainInto_cons, ih _ hnd.2, HMap.get?_cons]
    by_cases hak : a = k
    · subst hak
      have : HMap.get? tl a = none := (HMap.get?_eq_none_iff tl a).2 hnd.1
      simp [this, HMap.get?_upsert]
    · have hka : ¬ k = a := fun h3 => hak h3.symm
      simp [hak, HMap.get?_upsert, hka]

theorem mem_keys_drainInto (g : W → Option V → V) (frm : HMap K W) (to : HMap K V) (k : K) :
    k ∈ HMap.keys (drainInto g frm to) ↔ k ∈ HMap.keys to ∨ k ∈ HMap.keys frm := by
  induction frm generalizing to with
  | nil => simp [drainInto_nil, HMap.keys]
  | cons hd tl ih =>
    obtain ⟨a, w⟩ := hd
    rw [drainInto_cons, ih, HMap.mem_keys_upsert]
    simp only [HMap.keys, List.map_cons, List.mem_cons]
    rw [or_assoc, or_left_comm]

theorem modifyNth_eq_modify {α : Type} (l : List α) (i : Nat) (f : α → α) : modifyNth l i f = l.modify i f := by
  induction l generalizing i with
  | nil => simp [modifyNth]
  | cons x xs ih => cases i <;> simp [modifyNth, ih]

theorem length_modifyNth {α : Type} (l : List α) (i : Nat) (f : α → α) : (modifyNth l i f).length = l.length := by
  rw [modifyNth_eq_modify, List.length_modify]

theorem getD_modifyNth {α : Type} (l : List α) (i j : Nat) (f : α → α) (d : α) :
    (modifyNth l i f).getD j d = if j = i ∧ i < l.length then f (l.getD i d) else l.getD j d := by
  simp only [modifyNth_eq_modify, List.getD_eq_getElem?_getD, List.getElem?_modify]
  by_cases h : i = j
  · subst h
    by_cases hlt : i < l.length <;> simp [hlt]
  · simp [h, Ne.symm h]

theorem shardOf_lt (k : Int) (n : Nat) (h : 0 < n) : shardOf k n < n := by
  unfold shardOf
  have : n ≠ 0 := by omega
  simp only [this, if_false]
  exact Nat.mod_lt _ h

theorem getD_replicate_nil {α : Type} (n i : Nat) : (List.replicate n ([] : List α)).getD i [] = [] := by
  rw [List.getD_eq_getElem?_getD, List.getElem?_replicate]
  split <;> rfl

theorem getD_of_forall {α : Type} (P : α → Prop) (l : List α) (i : Nat) (d : α) (h : ∀ x ∈ l, P x) (hd : P d) :
    P (l.getD i d) := by
  rw [List.getD_eq_getElem?_getD]
  cases hh : l[i]? with
  | none => exact hd
  | some x => exact h x (List.mem_of_getElem? hh)

theorem getD_map_zip {α β γ : Type} (G : α × β → γ) (fs : List α) (ts : List β) (i : Nat) (dA : α) (dB : β) (dC : γ)
    (hlen : fs.length = ts.length) (hd : G (dA, dB) = dC) :
    ((fs.zip ts).map G).getD i dC = G (fs.getD i dA, ts.getD i dB) := by
  simp only [List.getD_eq_getElem?_getD, List.zip, List.map_zipWith, List.getElem?_zipWith]
  by_cases h : i < fs.length
  · simp [h, hlen ▸ h]
  · simp [h, hlen ▸ h, hd]

end AscentVerif.Index
