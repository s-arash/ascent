import AscentVerif.Proofs.Scc
/-!
# The shape of every engine that iterates passes

The serial engine (`runScc`) and the nondeterministic ones (`SccND`, `Proofs/NDEngine.lean`; `SccNDL`,
`Proofs/NDLattice.lean`) process an SCC in the same way — enter, iterate "pass, then `shift`" (once, followed by a second
`shift`, if the SCC does not loop), leave — and differ only in what a pass is.  `Iters`, `SccPreG` (an SCC abandoned after
whole iterations), `SccG` (an SCC completed) and `SccsG` (a sequence of SCCs) are this shape over an arbitrary pass
relation; everything from the loop upwards is proved once for them (`Proofs/LatScc.lean`, `AggLatSem`, `AggStrata`,
`AggRestart*`).  The serial engine is the instance `detPass`: its functions are characterised case by case (`sccLoop_inv`, the
one induction over the fuel; `runScc_cases`) and then read in that vocabulary (`runSccs_sccsG`, `runSccs_timedOut_split`).
Also here: what an aggregation item reads from a program value (`aggOf`), what `leaveScc` stores, and `Agg.ClosedRules` /
`Agg.PInv`, in which the results for programs without lattice relations are stated.
-/
namespace AscentVerif.Engine
open AscentVerif

variable {E B G P A : Type}

section Serial
variable {I : Interp E B G P A} {cfg : Config} {p : Program E B G P A}

/-- a loop that returned, finished or interrupted, made whole iterations: what every iteration that set the flag keeps
holds of the state before the last pass, and a finished loop ends with a pass that did not set the flag -/
theorem sccLoop_inv {dyn : List RelId} {rules : List (Rule E B G P A)} (Q : SccSt → Prop) (dl : Deadline)
    (step : ∀ s, Q s → (evalRules I cfg p dyn rules { s with changed := false }).changed = true →
      Q (shift (evalRules I cfg p dyn rules { s with changed := false }))) :
    ∀ (fuel : Nat) (rs rs' : RunSt), Q rs.st →
      (sccLoop I cfg p dyn rules dl fuel rs = .done rs' → ∃ s, Q s ∧
        (evalRules I cfg p dyn rules { s with changed := false }).changed = false ∧
        rs'.st = shift (evalRules I cfg p dyn rules { s with changed := false })) ∧
      (sccLoop I cfg p dyn rules dl fuel rs = .timedOut rs' → ∃ s, Q s ∧
        rs'.st = shift (evalRules I cfg p dyn rules { s with changed := false })) := by
  intro fuel
  induction fuel with
  | zero => intro rs rs' _; exact ⟨nofun, nofun⟩
  | succ fuel ih =>
    intro rs rs' hQ
    simp only [sccLoop]
    split
    · rename_i hch
      refine ⟨fun h => ?_, nofun⟩
      cases h
      exact ⟨rs.st, hQ, (Bool.not_eq_true' _).mp hch, rfl⟩
    · rename_i hch
      split
      · refine ⟨nofun, fun h => ?_⟩
        cases h
        exact ⟨rs.st, hQ, rfl⟩
      · exact ih _ rs' (step rs.st hQ (by simpa using hch))

/-- `runScc` is the loop, or one pass and two `shift`s; a finished SCC stores the indices back, an interrupted one drops
them -/
theorem runScc_cases (Qd Qt : SccSt → Prop) (dl : Deadline) (fuel : Nat) (scc : List Nat) (ps ps' : ProgSt)
    (hloop : isLooping p scc = true → ∀ rs rs', rs.st = enterScc ps.st (dynRels p scc) →
      (sccLoop I cfg p (dynRels p scc) (sccRules p scc) dl fuel rs = .done rs' → Qd rs'.st) ∧
      (sccLoop I cfg p (dynRels p scc) (sccRules p scc) dl fuel rs = .timedOut rs' → Qt rs'.st))
    (hnl : isLooping p scc = false → ∀ s,
      s = shift (shift (evalRules I cfg p (dynRels p scc) (sccRules p scc) (enterScc ps.st (dynRels p scc)))) →
      Qd s ∧ Qt s) :
    (runScc I cfg p dl fuel scc ps = .done ps' → ∃ s, Qd s ∧ ps'.st = leaveScc s) ∧
    (runScc I cfg p dl fuel scc ps = .timedOut ps' → ∃ s, Qt s ∧ ps'.st = abandonScc p scc s) := by
  simp only [runScc]
  split
  · rename_i hl
    split
    · rename_i rs hrs
      refine ⟨fun h => ?_, nofun⟩
      cases h
      exact ⟨rs.st, (hloop hl _ rs rfl).1 hrs, rfl⟩
    · rename_i rs hrs
      refine ⟨nofun, fun h => ?_⟩
      cases h
      exact ⟨rs.st, (hloop hl _ rs rfl).2 hrs, rfl⟩
    · exact ⟨nofun, nofun⟩
  · rename_i hl
    obtain ⟨hd, ht⟩ := hnl (by simpa using hl) _ rfl
    split
    · refine ⟨nofun, fun h => ?_⟩
      cases h
      exact ⟨_, ht, rfl⟩
    · refine ⟨fun h => ?_, nofun⟩
      cases h
      exact ⟨_, hd, rfl⟩

theorem runSccs_cons_done {dl : Deadline} {fuel : Nat} {scc : List Nat} {rest : SccOrder} {ps ps' : ProgSt} :
    runSccs I cfg p dl fuel (scc :: rest) ps = .done ps' ↔
      ∃ ps1, runScc I cfg p dl fuel scc ps = .done ps1 ∧ runSccs I cfg p dl fuel rest ps1 = .done ps' := by
  simp only [runSccs]
  cases runScc I cfg p dl fuel scc ps with
  | done x => simp
  | timedOut x => simp
  | outOfFuel => simp

theorem runSccs_cons_timedOut {dl : Deadline} {fuel : Nat} {scc : List Nat} {rest : SccOrder} {ps ps' : ProgSt} :
    runSccs I cfg p dl fuel (scc :: rest) ps = .timedOut ps' ↔
      runScc I cfg p dl fuel scc ps = .timedOut ps' ∨
      ∃ ps1, runScc I cfg p dl fuel scc ps = .done ps1 ∧ runSccs I cfg p dl fuel rest ps1 = .timedOut ps' := by
  simp only [runSccs]
  cases runScc I cfg p dl fuel scc ps with
  | done x => simp
  | timedOut x => simp
  | outOfFuel => simp

end Serial

end AscentVerif.Engine

namespace AscentVerif.Engine.Agg
open AscentVerif AscentVerif.Engine

variable {E B G P A : Type}

/-- what an aggregation item reads from a program value between SCCs -/
def aggOf (cfg : Config) (p : Program E B G P A) (st : St) (a : AggClause E A) : List Tuple :=
  aggTuples cfg p ⟨st, [], false⟩ a

theorem aggOf_congr (cfg : Config) (p : Program E B G P A) {st st' : St} (a : AggClause E A)
    (h : relSt st a.rel = relSt st' a.rel) : aggOf cfg p st a = aggOf cfg p st' a :=
  aggTuples_congr cfg p a h

theorem view_perm (rows : List Tuple) (idx : List Nat) (hnd : idx.Nodup)
    (hall : ∀ i, i < rows.length ↔ i ∈ idx) : (idx.map (rowAt rows)).Perm rows := by
  have h1 : idx.Perm (List.range rows.length) := by
    rw [List.perm_ext_iff_of_nodup hnd List.nodup_range]
    intro i
    rw [List.mem_range]
    exact (hall i).symm
  exact (h1.map (rowAt rows)).trans (.of_eq (bagTuples_range rows))

theorem aggOf_eq (cfg : Config) (p : Program E B G P A) (hl : ∀ d ∈ p.rels, d.lat = false) (st : St)
    (a : AggClause E A) :
    aggOf cfg p st a =
      if aggIsFull a then dedupTuples (((relSt st a.rel).idx).map (rowAt (relSt st a.rel).rows))
      else ((relSt st a.rel).idx).map (rowAt (relSt st a.rel).rows) := by
  simp [aggOf, aggTuples, readBag_id cfg p hl, declOf_lat p hl]

section Leave
variable {n : Nat} {dynR : List RelId} {s : SccSt}

theorem leaveScc_length (s : SccSt) : (leaveScc s).length = s.rels.length := by
  rw [leaveScc_eq, leave_length]

theorem leaveScc_nondyn {r : RelId} (hd : findDyn s.dyn r = none) : relSt (leaveScc s) r = relSt s.rels r := by
  rw [leaveScc_eq]
  apply leave_untouched
  intro d hdm hrel
  have := List.find?_eq_none.mp hd d hdm
  simp [hrel] at this

variable (hwf : WF n dynR s) (hlt : ∀ r, dynR.contains r = true → r < n)

include hwf hlt in
theorem dyn_lt_of_WF : ∀ d ∈ s.dyn, d.rel < s.rels.length := by
  intro d hd
  rw [hwf.len]
  apply hlt
  rw [← hwf.dyn_iff, hwf.uniq d hd]; rfl

include hwf hlt in
theorem leaveScc_rows (r : RelId) : (relSt (leaveScc s) r).rows = rowsOf s r := by
  rw [leaveScc_eq]; exact leave_rows r s.dyn s.rels (dyn_lt_of_WF hwf hlt)

include hwf hlt in
theorem leaveScc_idx {r : RelId} {d : Dyn} (hd : findDyn s.dyn r = some d) : (relSt (leaveScc s) r).idx = d.total := by
  rw [leaveScc_eq]
  apply leave_touched r d.total s.dyn s.rels (dyn_lt_of_WF hwf hlt)
  · intro d' hd' hrel
    have := hwf.uniq d' hd'
    rw [hrel, hd] at this
    cases this; rfl
  · exact .inl ⟨d, findDyn_mem hd, findDyn_rel hd⟩

include hwf hlt in
theorem leaveScc_idxAll (hs : Settled s) (r : RelId) (i : Nat) :
    i < (relSt (leaveScc s) r).rows.length ↔ i ∈ (relSt (leaveScc s) r).idx := by
  cases hd : findDyn s.dyn r with
  | none => rw [leaveScc_nondyn hd]; exact hwf.cover_nd r hd i
  | some d =>
    rw [leaveScc_rows hwf hlt, leaveScc_idx hwf hlt hd, hwf.cover r d hd i]
    obtain ⟨h1, h2⟩ := hs r d hd
    rw [h1, h2]; simp

end Leave

section Sched
variable (Pass : List RelId → List (Rule E B G P A) → SccSt → SccSt → Prop)

inductive Iters (Pass : SccSt → SccSt → Prop) : SccSt → SccSt → Prop where
  | refl (s : SccSt) : Iters Pass s s
  | step {s s1 s' : SccSt} : Pass s s1 → Iters Pass (shift s1) s' → Iters Pass s s'

theorem Iters.inv {Pass : SccSt → SccSt → Prop} {Inv : SccSt → Prop}
    (step : ∀ s s1, Inv s → Pass s s1 → Inv (shift s1)) {s s' : SccSt} (h : Iters Pass s s') : Inv s → Inv s' := by
  induction h with
  | refl => exact id
  | step hp _ ih => exact fun hs => ih (step _ _ hs hp)

theorem Iters.snoc {Pass : SccSt → SccSt → Prop} {s s₀ s1 : SccSt} (h : Iters Pass s s₀) (hp : Pass s₀ s1) :
    Iters Pass s (shift s1) := by
  induction h with
  | refl => exact .step hp (.refl _)
  | step hp' _ ih => exact .step hp' (ih hp)

/-- `a'` is the SCC state after some whole iterations on `scc` from the program value `st`, the last pass being
`_ → s1`: in a looping SCC any number (at least one) of "pass, then `shift`", in a non-looping one the pass and the two
`shift`s.  Every state in which a `run_timeout` takes the early return is one; whether a pass set the flag is not recorded, so
there are others. -/
def SccPreG (p : Program E B G P A) (scc : List Nat) (st : St) (s1 a' : SccSt) : Prop :=
  (isLooping p scc = true ∧ ∃ s₀, Iters (Pass (dynRels p scc) (sccRules p scc)) (enterScc st (dynRels p scc)) s₀ ∧
    Pass (dynRels p scc) (sccRules p scc) s₀ s1 ∧ a' = shift s1) ∨
  (isLooping p scc = false ∧ Pass (dynRels p scc) (sccRules p scc) (enterScc st (dynRels p scc)) s1 ∧
    a' = shift (shift s1))

def SccG (p : Program E B G P A) (scc : List Nat) (st st' : St) : Prop :=
  ∃ s1 s', SccPreG Pass p scc st s1 s' ∧ (isLooping p scc = true → s1.changed = false) ∧ st' = leaveScc s'

inductive SccsG (p : Program E B G P A) : SccOrder → St → St → Prop where
  | nil (st : St) : SccsG p [] st st
  | cons {scc : List Nat} {rest : SccOrder} {st st1 st2 : St} : SccG Pass p scc st st1 → SccsG p rest st1 st2 →
      SccsG p (scc :: rest) st st2

variable {Pass}

theorem SccPreG.last {p : Program E B G P A} {scc : List Nat} {st : St} {s1 a' : SccSt} {Inv : SccSt → Prop}
    (h : SccPreG Pass p scc st s1 a') (h0 : Inv (enterScc st (dynRels p scc)))
    (step : ∀ s s1, Inv s → Pass (dynRels p scc) (sccRules p scc) s s1 → Inv (shift s1)) :
    ∃ s₀, Inv s₀ ∧ Pass (dynRels p scc) (sccRules p scc) s₀ s1 ∧
      ((isLooping p scc = true ∧ a' = shift s1) ∨ (isLooping p scc = false ∧ a' = shift (shift s1))) := by
  rcases h with ⟨hl, s₀, hit, hp, rfl⟩ | ⟨hnl, hp, rfl⟩
  · exact ⟨s₀, hit.inv step h0, hp, .inl ⟨hl, rfl⟩⟩
  · exact ⟨_, h0, hp, .inr ⟨hnl, rfl⟩⟩

end Sched

section Det
variable (I : Interp E B G P A) (cfg : Config) (p : Program E B G P A)

def detPass (dyn : List RelId) (rules : List (Rule E B G P A)) (s s1 : SccSt) : Prop :=
  s1 = evalRules I cfg p dyn rules { s with changed := false }

theorem detPass_cfg (hl : ∀ d ∈ p.rels, d.lat = false) : detPass I cfg p = detPass I {} p := by
  funext dyn rules s s1
  simp only [detPass, evalRules_cfg I cfg p hl]

/-- the serial SCC, finished or interrupted, in the vocabulary of the skeleton -/
theorem runScc_pre {dl : Deadline} {fuel : Nat} {scc : List Nat} {ps ps' : ProgSt} :
    (runScc I cfg p dl fuel scc ps = .done ps' → SccG (detPass I cfg p) p scc ps.st ps'.st) ∧
    (runScc I cfg p dl fuel scc ps = .timedOut ps' →
      ∃ s1 a', SccPreG (detPass I cfg p) p scc ps.st s1 a' ∧ ps'.st = abandonScc p scc a') := by
  have h := runScc_cases (I := I) (cfg := cfg)
    (fun a => ∃ s1, SccPreG (detPass I cfg p) p scc ps.st s1 a ∧ (isLooping p scc = true → s1.changed = false))
    (fun a => ∃ s1, SccPreG (detPass I cfg p) p scc ps.st s1 a) dl fuel scc ps ps'
    (fun hl rs rs' h0 => by
      -- the states at the top of an iteration are reached by whole iterations
      have hl' := sccLoop_inv (I := I) (cfg := cfg) (p := p)
        (fun s => Iters (detPass I cfg p (dynRels p scc) (sccRules p scc)) (enterScc ps.st (dynRels p scc)) s) dl
        (fun s hs _ => hs.snoc rfl) fuel rs rs' (h0 ▸ .refl _)
      refine ⟨fun h => ?_, fun h => ?_⟩
      · obtain ⟨s, hs, hch, hst⟩ := hl'.1 h
        exact ⟨_, .inl ⟨hl, s, hs, rfl, hst⟩, fun _ => hch⟩
      · obtain ⟨s, hs, hst⟩ := hl'.2 h
        exact ⟨_, .inl ⟨hl, s, hs, rfl, hst⟩⟩)
    (fun hl s hs => ⟨⟨_, .inr ⟨hl, rfl, hs⟩, fun h => absurd h (by simp [hl])⟩, _, .inr ⟨hl, rfl, hs⟩⟩)
  refine ⟨fun hd => ?_, fun ht => ?_⟩
  · obtain ⟨a, ⟨s1, hpre, hq⟩, hst⟩ := h.1 hd
    exact ⟨s1, a, hpre, hq, hst⟩
  · obtain ⟨a, ⟨s1, hpre⟩, hst⟩ := h.2 ht
    exact ⟨s1, a, hpre, hst⟩

theorem runScc_sccG {dl : Deadline} {fuel : Nat} {scc : List Nat} {ps ps' : ProgSt}
    (h : runScc I cfg p dl fuel scc ps = .done ps') : SccG (detPass I cfg p) p scc ps.st ps'.st :=
  (runScc_pre I cfg p).1 h

theorem runScc_sccPreG {dl : Deadline} {fuel : Nat} {scc : List Nat} {ps ps' : ProgSt}
    (h : runScc I cfg p dl fuel scc ps = .timedOut ps') :
    ∃ s1 a', SccPreG (detPass I cfg p) p scc ps.st s1 a' ∧ ps'.st = abandonScc p scc a' :=
  (runScc_pre I cfg p).2 h

theorem runSccs_sccsG {dl : Deadline} {fuel : Nat} : ∀ {o : SccOrder} {ps ps' : ProgSt},
    runSccs I cfg p dl fuel o ps = .done ps' → SccsG (detPass I cfg p) p o ps.st ps'.st := by
  intro o
  induction o with
  | nil =>
    intro ps ps' h
    cases h
    exact .nil _
  | cons scc rest ih =>
    intro ps ps' h
    obtain ⟨ps1, h1, h2⟩ := runSccs_cons_done.mp h
    exact .cons (runScc_sccG I cfg p h1) (ih h2)

theorem runSccs_timedOut_split {dl : Deadline} {fuel : Nat} : ∀ {o : SccOrder} {ps ps' : ProgSt},
    runSccs I cfg p dl fuel o ps = .timedOut ps' →
      ∃ (done : SccOrder) (scc : List Nat) (rest : SccOrder) (psMid : ProgSt),
        o = done ++ scc :: rest ∧ runSccs I cfg p dl fuel done ps = .done psMid ∧
        runScc I cfg p dl fuel scc psMid = .timedOut ps' := by
  intro o
  induction o with
  | nil => intro ps ps' h; cases h
  | cons scc rest ih =>
    intro ps ps' h
    rcases runSccs_cons_timedOut.mp h with h1 | ⟨ps1, h1, h2⟩
    · exact ⟨[], scc, rest, ps, rfl, rfl, h1⟩
    · obtain ⟨done, scc', rest', psMid, ho, hdone, hto⟩ := ih h2
      exact ⟨scc :: done, scc', rest', psMid, by rw [ho]; rfl, runSccs_cons_done.mpr ⟨ps1, h1, hdone⟩, hto⟩

end Det

def ClosedRules (I : Interp E B G P A) (aggv : AggClause E A → List Tuple) (rules : List (Rule E B G P A))
    (D : DB) : Prop :=
  ∀ rule ∈ rules, ∀ ρ, SatA I D aggv rule.body [] ρ → ∀ h ∈ rule.heads, D (headFact I h ρ)

section Scc
variable (I : Interp E B G P A) (p : Program E B G P A) (inp : RelId → List Tuple)
  (aggv : AggClause E A → List Tuple) (K : Prop) (n : Nat)

/-- a program value between SCCs: good rows, and every stored index lists exactly the row numbers of its relation — under the
switch `K` each once, so that an aggregation item reads every row once (`K := True`: `Props/C04`, `Proofs/AggRestart.lean`;
programs without aggregation items take `K := False`: `Proofs/AggFree.lean`, `sccND_spec`).  Inside an SCC the switch
governs `NdB` (`Proofs/LatStep.lean`), and it is the one of `LPInvT` (`Proofs/LatScc.lean`). -/
structure PInv (st : St) : Prop where
  len : st.length = n
  good : ∀ r, r < n → GoodRows I p inp aggv r (relSt st r).rows
  idxAll : ∀ r i, i < (relSt st r).rows.length ↔ i ∈ (relSt st r).idx
  idxNd : K → ∀ r, (relSt st r).idx.Nodup

end Scc

end AscentVerif.Engine.Agg
