import AscentVerif.Model.UnionFind
/-!
The union-find forest of `uf.rs`: `RootOf es i r` (following the parent links from `i` ends at the root `r`), the part
`Forest` of the invariant that speaks of parents and ranks, and `find` (path halving), `union_by_rank`, `push`, each with
a postcondition structure (`FindPost`, `UnionPost`, `PushPost`) through which `UFNext` and `UFRun` use it.
-/
namespace AscentVerif.UF

def parentOf (es : Elems) (i : Nat) : Nat := match es[i]? with | some e => e.parent | none => i
def rankOf (es : Elems) (i : Nat) : Nat := match es[i]? with | some e => e.rank | none => 0
def nextOf (es : Elems) (i : Nat) : Nat := match es[i]? with | some e => e.next | none => i
def valueOf (es : Elems) (i : Nat) : Int := match es[i]? with | some e => e.value | none => 0

inductive RootOf (es : Elems) : Nat → Nat → Prop
  | root {i : Nat} : i < es.length → parentOf es i = i → RootOf es i i
  | step {i r : Nat} : i < es.length → parentOf es i ≠ i → RootOf es (parentOf es i) r → RootOf es i r

def weight (k : Nat) (e : Elem) : Nat := if e.parent = k then e.rank + 1 else 0

/-- potential of the elements `es`, the first of which has index `k` -/
def sumFrom : Nat → Elems → Nat
  | _, [] => 0
  | k, e :: t => weight k e + sumFrom (k + 1) t

/-- Rank strictly increases along parent links, so the parent graph is acyclic; every rank is below the number of
elements, so the fuel of `find` is enough.  `weight_le` bounds the potential `Σ_{roots r} (rank r + 1)` by the number of
elements: this is what keeps `rank_lt` true although `Elem::union` increments the winner's rank on EVERY union, not only
on ties. -/
structure Forest (es : Elems) : Prop where
  parent_lt : ∀ i, i < es.length → parentOf es i < es.length
  rank_lt_parent : ∀ i, i < es.length → parentOf es i ≠ i → rankOf es i < rankOf es (parentOf es i)
  rank_lt : ∀ i, i < es.length → rankOf es i < es.length
  weight_le : sumFrom 0 es ≤ es.length

/-- a field read through `[j]?` with a default, after `set`; the projections are instances -/
theorem proj_set {α : Type} (f : Elem → α) (d : Nat → α) {es : Elems} {i : Nat} (j : Nat) (e' : Elem) (h : i < es.length) :
    (match (es.set i e')[j]? with | some e => f e | none => d j) =
      if i = j then f e' else match es[j]? with | some e => f e | none => d j := by
  by_cases hij : i = j
  · subst hij; simp [h]
  · simp [hij]

theorem parentOf_set {es : Elems} {i : Nat} (j : Nat) (e' : Elem) (h : i < es.length) :
    parentOf (es.set i e') j = if i = j then e'.parent else parentOf es j := proj_set (·.parent) id j e' h

theorem rankOf_set {es : Elems} {i : Nat} (j : Nat) (e' : Elem) (h : i < es.length) :
    rankOf (es.set i e') j = if i = j then e'.rank else rankOf es j := proj_set (·.rank) (fun _ => 0) j e' h

theorem nextOf_set {es : Elems} {i : Nat} (j : Nat) (e' : Elem) (h : i < es.length) :
    nextOf (es.set i e') j = if i = j then e'.next else nextOf es j := proj_set (·.next) id j e' h

theorem proj_set_keep {α : Type} (f : Elem → α) (d : Nat → α) {es : Elems} {i : Nat} {e e' : Elem}
    (he : es[i]? = some e) (h : f e' = f e) (j : Nat) :
    (match (es.set i e')[j]? with | some e => f e | none => d j) = match es[j]? with | some e => f e | none => d j := by
  rw [proj_set f d j e' (List.getElem?_eq_some_iff.mp he).1]; split
  · next hij => rw [← hij, he, h]
  · rfl

theorem parentOf_keep {es : Elems} {i : Nat} {e e' : Elem} (he : es[i]? = some e) (h : e'.parent = e.parent) (j : Nat) :
    parentOf (es.set i e') j = parentOf es j := proj_set_keep (·.parent) id he h j

theorem rankOf_keep {es : Elems} {i : Nat} {e e' : Elem} (he : es[i]? = some e) (h : e'.rank = e.rank) (j : Nat) :
    rankOf (es.set i e') j = rankOf es j := proj_set_keep (·.rank) (fun _ => 0) he h j

theorem nextOf_keep {es : Elems} {i : Nat} {e e' : Elem} (he : es[i]? = some e) (h : e'.next = e.next) (j : Nat) :
    nextOf (es.set i e') j = nextOf es j := proj_set_keep (·.next) id he h j

theorem valueOf_keep {es : Elems} {i : Nat} {e e' : Elem} (he : es[i]? = some e) (h : e'.value = e.value) (j : Nat) :
    valueOf (es.set i e') j = valueOf es j := proj_set_keep (·.value) (fun _ => 0) he h j

theorem parentOf_of_get {es : Elems} {i : Nat} {e : Elem} (h : es[i]? = some e) : parentOf es i = e.parent := by
  simp [parentOf, h]
theorem rankOf_of_get {es : Elems} {i : Nat} {e : Elem} (h : es[i]? = some e) : rankOf es i = e.rank := by
  simp [rankOf, h]
theorem nextOf_of_get {es : Elems} {i : Nat} {e : Elem} (h : es[i]? = some e) : nextOf es i = e.next := by
  simp [nextOf, h]
theorem valueOf_of_get {es : Elems} {i : Nat} {e : Elem} (h : es[i]? = some e) : valueOf es i = e.value := by
  simp [valueOf, h]

theorem lt_of_get {es : Elems} {i : Nat} {e : Elem} (h : es[i]? = some e) : i < es.length :=
  (List.getElem?_eq_some_iff.mp h).1

theorem get_of_lt {es : Elems} {i : Nat} (h : i < es.length) : ∃ e, es[i]? = some e :=
  ⟨es[i], List.getElem?_eq_getElem h⟩

theorem sumFrom_set {es : Elems} {i : Nat} {e : Elem} (k : Nat) (e' : Elem) (h : es[i]? = some e) :
    sumFrom k (es.set i e') + weight (k + i) e = sumFrom k es + weight (k + i) e' := by
  induction es generalizing i k with
  | nil => simp at h
  | cons a t ih =>
    cases i with
    | zero =>
      simp only [List.getElem?_cons_zero, Option.some.injEq] at h; subst h
      simp only [List.set_cons_zero, sumFrom, Nat.add_zero]; omega
    | succ i =>
      simp only [List.getElem?_cons_succ] at h
      have := ih (k + 1) h
      rw [Nat.add_assoc, Nat.add_comm 1 i] at this
      simp only [List.set_cons_succ, sumFrom]; omega

theorem weight_le_sumFrom {es : Elems} {i : Nat} {e : Elem} (k : Nat) (h : es[i]? = some e) :
    weight (k + i) e ≤ sumFrom k es := by
  induction es generalizing i k with
  | nil => simp at h
  | cons a t ih =>
    cases i with
    | zero =>
      simp only [List.getElem?_cons_zero, Option.some.injEq] at h; subst h
      exact Nat.le_add_right _ _
    | succ i =>
      simp only [List.getElem?_cons_succ] at h
      have := ih (k + 1) h
      rw [Nat.add_assoc, Nat.add_comm 1 i] at this
      exact Nat.le_trans this (Nat.le_add_left _ _)

theorem sumFrom_append (k : Nat) (a b : Elems) : sumFrom k (a ++ b) = sumFrom k a + sumFrom (k + a.length) b := by
  induction a generalizing k with
  | nil => simp [sumFrom]
  | cons x t ih =>
    simp only [List.cons_append, sumFrom, List.length_cons, ih]
    have : k + 1 + t.length = k + (t.length + 1) := by omega
    rw [this]; omega

theorem RootOf.lt {es : Elems} {i r : Nat} (h : RootOf es i r) : i < es.length := by
  cases h <;> assumption

theorem RootOf.root_lt {es : Elems} {i r : Nat} (h : RootOf es i r) : r < es.length := by
  induction h with
  | root h _ => exact h
  | step _ _ _ ih => exact ih

theorem RootOf.is_root {es : Elems} {i r : Nat} (h : RootOf es i r) : parentOf es r = r := by
  induction h with
  | root _ h => exact h
  | step _ _ _ ih => exact ih

theorem RootOf.self {es : Elems} {i r : Nat} (h : RootOf es i r) : RootOf es r r :=
  .root h.root_lt h.is_root

theorem RootOf.unique {es : Elems} {i r r' : Nat} (h : RootOf es i r) (h' : RootOf es i r') : r = r' := by
  induction h with
  | root _ hp =>
    cases h' with
    | root => rfl
    | step _ hn _ => exact absurd hp hn
  | step _ hn _ ih =>
    cases h' with
    | root _ hp => exact absurd hp hn
    | step _ _ h2 => exact ih h2

theorem RootOf.of_root {es : Elems} {i r : Nat} (h : RootOf es i r) (hp : parentOf es i = i) : r = i := by
  cases h with
  | root => rfl
  | step _ hn _ => exact absurd hp hn

theorem Forest.exists_root {es : Elems} (F : Forest es) {i : Nat} (hi : i < es.length) : ∃ r, RootOf es i r := by
  generalize hm : es.length - rankOf es i = m
  induction m using Nat.strongRecOn generalizing i with
  | _ m ih =>
    by_cases hp : parentOf es i = i
    · exact ⟨i, .root hi hp⟩
    · have h1 := F.rank_lt_parent i hi hp
      have h2 := F.parent_lt i hi
      have h3 := F.rank_lt _ h2
      obtain ⟨r, hr⟩ := ih (es.length - rankOf es (parentOf es i)) (by omega) h2 rfl
      exact ⟨r, .step hi hp hr⟩

theorem Forest.rank_le_root {es : Elems} (F : Forest es) {i r : Nat} (h : RootOf es i r) :
    rankOf es i ≤ rankOf es r ∧ (rankOf es i = rankOf es r → i = r) := by
  induction h with
  | root => exact ⟨Nat.le_refl _, fun _ => rfl⟩
  | step hi hn _ ih =>
    have := F.rank_lt_parent _ hi hn
    exact ⟨by omega, fun h => by omega⟩

def Same (es : Elems) (i j : Nat) : Prop := ∃ r, RootOf es i r ∧ RootOf es j r

theorem Same.symm {es : Elems} {i j : Nat} (h : Same es i j) : Same es j i := by
  obtain ⟨r, h1, h2⟩ := h; exact ⟨r, h2, h1⟩

theorem Same.trans {es : Elems} {i j k : Nat} (h : Same es i j) (h' : Same es j k) : Same es i k := by
  obtain ⟨r, h1, h2⟩ := h
  obtain ⟨r', h3, h4⟩ := h'
  have := h2.unique h3; subst this
  exact ⟨r, h1, h4⟩

theorem Forest.same_refl {es : Elems} (F : Forest es) {i : Nat} (hi : i < es.length) : Same es i i := by
  obtain ⟨r, hr⟩ := F.exists_root hi; exact ⟨r, hr, hr⟩

theorem Same.lt_left {es : Elems} {i j : Nat} (h : Same es i j) : i < es.length := by
  obtain ⟨_, h1, _⟩ := h; exact h1.lt

theorem Same.lt_right {es : Elems} {i j : Nat} (h : Same es i j) : j < es.length := h.symm.lt_left

theorem RootOf.same {es : Elems} {i r : Nat} (h : RootOf es i r) : Same es i r := ⟨r, h, h.self⟩

theorem same_of_roots_iff {es es' : Elems} (h : ∀ j r, RootOf es' j r ↔ RootOf es j r) (i j : Nat) :
    Same es' i j ↔ Same es i j := by
  unfold Same; simp only [h]

theorem rootOf_transfer {es es' : Elems} (F : Forest es) (hlen : es'.length = es.length) (f : Nat → Nat)
    (hf : ∀ j r, RootOf es j r → RootOf es' j (f r)) (j r : Nat) :
    RootOf es' j r ↔ ∃ r0, RootOf es j r0 ∧ r = f r0 := by
  constructor
  · intro h
    obtain ⟨r0, hr0⟩ := F.exists_root (hlen ▸ h.lt)
    exact ⟨r0, hr0, h.unique (hf _ _ hr0)⟩
  · rintro ⟨r0, hr0, rfl⟩
    exact hf _ _ hr0

/-- `es'` is `es` with some parent links shortened: same roots, ranks, `next` pointers and values -/
structure FindPost (es es' : Elems) : Prop where
  length_eq : es'.length = es.length
  forest : Forest es'
  roots : ∀ j r, RootOf es' j r ↔ RootOf es j r
  rank_eq : ∀ j, rankOf es' j = rankOf es j
  next_eq : ∀ j, nextOf es' j = nextOf es j
  value_eq : ∀ j, valueOf es' j = valueOf es j

theorem FindPost.refl {es : Elems} (F : Forest es) : FindPost es es :=
  ⟨rfl, F, fun _ _ => Iff.rfl, fun _ => rfl, fun _ => rfl, fun _ => rfl⟩

theorem FindPost.trans {es es' es'' : Elems} (P : FindPost es es') (P' : FindPost es' es'') : FindPost es es'' :=
  ⟨P'.length_eq.trans P.length_eq, P'.forest, fun j r => (P'.roots j r).trans (P.roots j r),
   fun j => (P'.rank_eq j).trans (P.rank_eq j), fun j => (P'.next_eq j).trans (P.next_eq j),
   fun j => (P'.value_eq j).trans (P.value_eq j)⟩

/-- one halving step `elem.parent.set(grandparent_id)`; the grandparent has greater rank than `id` -/
theorem halve_spec {es : Elems} (F : Forest es) {id : Nat} {e p : Elem} (he : es[id]? = some e)
    (hne : id ≠ e.parent) (hp : es[e.parent]? = some p) (hpg : p.parent ≠ e.parent) :
    FindPost es (es.set id { e with parent := p.parent }) ∧ rankOf es id < rankOf es p.parent := by
  have hid := lt_of_get he
  have hpl := lt_of_get hp
  have hpe : parentOf es id = e.parent := parentOf_of_get he
  have hpp : parentOf es e.parent = p.parent := parentOf_of_get hp
  have hr1 : rankOf es id < rankOf es e.parent := by
    have := F.rank_lt_parent id hid (by rw [hpe]; exact fun h => hne h.symm); rwa [hpe] at this
  have hr2 : rankOf es e.parent < rankOf es p.parent := by
    have := F.rank_lt_parent e.parent hpl (by rw [hpp]; exact hpg); rwa [hpp] at this
  have hgid : p.parent ≠ id := by intro h; rw [h] at hr2; exact Nat.lt_asymm hr1 hr2
  have hgl : p.parent < es.length := by have := F.parent_lt e.parent hpl; rwa [hpp] at this
  have hrank : ∀ j, rankOf (es.set id { e with parent := p.parent }) j = rankOf es j := rankOf_keep he rfl
  have hpar : ∀ j, parentOf (es.set id { e with parent := p.parent }) j = if id = j then p.parent else parentOf es j :=
    fun j => parentOf_set j _ hid
  have F1 : Forest (es.set id { e with parent := p.parent }) := by
    refine ⟨?_, ?_, ?_, ?_⟩
    · intro j hj; simp only [List.length_set] at hj ⊢; rw [hpar]; split
      · exact hgl
      · exact F.parent_lt j hj
    · intro j hj; simp only [List.length_set] at hj; rw [hpar, hrank, hrank]; split
      · next h => subst h; intro _; exact Nat.lt_trans hr1 hr2
      · exact F.rank_lt_parent j hj
    · intro j hj; simp only [List.length_set] at hj ⊢; rw [hrank]; exact F.rank_lt j hj
    · have := sumFrom_set 0 { e with parent := p.parent } he
      simp only [weight, Nat.zero_add] at this
      rw [if_neg (fun h => hne h.symm), if_neg hgid] at this
      simp only [List.length_set]; have := F.weight_le; omega
  have hf : ∀ j r, RootOf es j r → RootOf (es.set id { e with parent := p.parent }) j r := by
    intro j r h
    induction h with
    | @root j hj hpj =>
      have : id ≠ j := by intro h; subst h; rw [hpe] at hpj; exact hne hpj.symm
      exact .root (by simpa using hj) (by rw [hpar, if_neg this]; exact hpj)
    | @step j r hj hn _ ih =>
      by_cases hji : id = j
      · subst hji
        rw [hpe] at ih
        cases ih with
        | root _ h2 => rw [hpar, if_neg hne, hpp] at h2; exact absurd h2 hpg
        | step _ _ h3 =>
          rw [hpar, if_neg hne, hpp] at h3
          exact .step (by simpa using hj) (by rw [hpar, if_pos rfl]; exact hgid) (by rw [hpar, if_pos rfl]; exact h3)
      · exact .step (by simpa using hj) (by rw [hpar, if_neg hji]; exact hn) (by rw [hpar, if_neg hji]; exact ih)
  refine ⟨⟨by simp, F1, fun j r => ?_, hrank, nextOf_keep he rfl, valueOf_keep he rfl⟩, Nat.lt_trans hr1 hr2⟩
  rw [rootOf_transfer F (by simp) (fun x => x) hf j r]
  exact ⟨fun ⟨_, h, e⟩ => e ▸ h, fun h => ⟨r, h, rfl⟩⟩

/-- `find` with path halving.  The fuel bound: each recursive call is on a node of greater rank
(the grandparent), and ranks stay below `es.length` -/
theorem find_spec {es : Elems} (F : Forest es) {id fuel : Nat} (hid : id < es.length)
    (hfuel : es.length ≤ fuel + rankOf es id) :
    ∃ es' r, Elems.find es id fuel = .ok (es', r) ∧ FindPost es es' ∧ RootOf es id r := by
  induction fuel generalizing es id with
  | zero => rw [Nat.zero_add] at hfuel; exact absurd (F.rank_lt id hid) (Nat.not_lt.mpr hfuel)
  | succ fuel ih =>
    obtain ⟨e, he⟩ := get_of_lt hid
    have hpe : parentOf es id = e.parent := parentOf_of_get he
    unfold Elems.find
    simp only [he]
    by_cases h1 : id = e.parent
    · rw [if_pos h1]
      exact ⟨es, id, rfl, .refl F, .root hid (hpe.trans h1.symm)⟩
    · rw [if_neg h1]
      have hpl : e.parent < es.length := hpe ▸ F.parent_lt id hid
      obtain ⟨p, hp⟩ := get_of_lt hpl
      have hpp : parentOf es e.parent = p.parent := parentOf_of_get hp
      simp only [hp]
      have up : ∀ {q}, RootOf es e.parent q → RootOf es id q := fun h =>
        .step hid (by rw [hpe]; exact fun h => h1 h.symm) (hpe.symm ▸ h)
      by_cases h2 : p.parent = e.parent
      · rw [if_pos h2]
        exact ⟨es, e.parent, rfl, .refl F, up (.root hpl (hpp.trans h2))⟩
      · rw [if_neg h2]
        obtain ⟨P, hlt⟩ := halve_spec F he h1 hp h2
        have hgl : p.parent < es.length := hpp ▸ F.parent_lt e.parent hpl
        obtain ⟨es', r, hfind, P', hr⟩ := ih P.forest (id := p.parent) (by rw [P.length_eq]; exact hgl)
          (by rw [P.rank_eq, P.length_eq]; omega)
        exact ⟨es', r, hfind, P.trans P',
          up (.step hpl (by rw [hpp]; exact h2) (hpp.symm ▸ (P.roots _ _).mp hr))⟩

theorem findTop_spec {es : Elems} (F : Forest es) {id : Nat} (hid : id < es.length) :
    ∃ es' r, Elems.findTop es id = .ok (es', r) ∧ FindPost es es' ∧ RootOf es id r :=
  find_spec F hid (Nat.le_add_right _ _)

/-- what `union_by_rank` on two distinct roots guarantees: both classes end up under the winner `w` -/
structure UnionPost (es es' : Elems) (a b w : Nat) : Prop where
  length_eq : es'.length = es.length
  forest : Forest es'
  winner : w = a ∨ w = b
  roots : ∀ j q, RootOf es' j q ↔ ∃ q0, RootOf es j q0 ∧ q = (if q0 = a ∨ q0 = b then w else q0)
  value_eq : ∀ j, valueOf es' j = valueOf es j
  next_eq : ∀ j, nextOf es' j = if j = a then nextOf es b else if j = b then nextOf es a else nextOf es j

theorem UnionPost.swap {es es' : Elems} {a b w : Nat} (hab : a ≠ b) (P : UnionPost es es' a b w) : UnionPost es es' b a w := by
  refine ⟨P.length_eq, P.forest, P.winner.symm, fun j q => ?_, P.value_eq, fun j => ?_⟩
  · rw [P.roots]; simp only [Or.comm]
  · rw [P.next_eq]
    by_cases h1 : j = a
    · subst h1; simp [hab]
    · by_cases h2 : j = b
      · subst h2; simp [h1]
      · simp [h1, h2]

/-- `Elem::union` on two distinct roots, the first of rank at least the second's -/
theorem unionElem_spec {es : Elems} (F : Forest es) {r o : Nat} (hr : r < es.length) (ho : o < es.length)
    (hpr : parentOf es r = r) (hpo : parentOf es o = o) (hro : r ≠ o) (hrank : rankOf es o ≤ rankOf es r) :
    ∃ es', Elems.unionElem es r o = .ok es' ∧ UnionPost es es' r o r := by
  obtain ⟨s, hs⟩ := get_of_lt hr
  obtain ⟨t, ht⟩ := get_of_lt ho
  have hsp : s.parent = r := by rw [← parentOf_of_get hs]; exact hpr
  have htp : t.parent = o := by rw [← parentOf_of_get ht]; exact hpo
  have hsr : rankOf es r = s.rank := rankOf_of_get hs
  have htr : rankOf es o = t.rank := rankOf_of_get ht
  have hne : s.parent ≠ t.parent := by rw [hsp, htp]; exact hro
  have hnlt : ¬ s.rank < t.rank := by rw [← hsr, ← htr]; exact Nat.not_lt.mpr hrank
  refine ⟨(es.set r { s with next := t.next, rank := s.rank + 1 }).set o { t with next := s.next, parent := s.parent },
    by simp only [Elems.unionElem, hs, ht, if_neg hne, if_neg hnlt], ?_⟩
  generalize hs' : ({ s with next := t.next, rank := s.rank + 1 } : Elem) = s'
  generalize ht' : ({ t with next := s.next, parent := s.parent } : Elem) = t'
  have hs'p : s'.parent = s.parent := by subst hs'; rfl
  have hs'r : s'.rank = s.rank + 1 := by subst hs'; rfl
  have ht'p : t'.parent = r := by subst ht'; exact hsp
  have ht'r : t'.rank = t.rank := by subst ht'; rfl
  have ht1 : (es.set r s')[o]? = some t := by rw [List.getElem?_set_ne hro]; exact ht
  have ho1 : o < (es.set r s').length := lt_of_get ht1
  -- the first `set` keeps the parents, the second one the ranks; both keep the values
  have hpar : ∀ j, parentOf ((es.set r s').set o t') j = if o = j then r else parentOf es j := fun j => by
    rw [parentOf_set j _ ho1, parentOf_keep hs hs'p, ht'p]
  have hrk : ∀ j, rankOf ((es.set r s').set o t') j = if r = j then rankOf es r + 1 else rankOf es j := fun j => by
    rw [rankOf_keep ht1 ht'r, rankOf_set j _ hr, hs'r, hsr]
  have hW : sumFrom 0 ((es.set r s').set o t') + t.rank = sumFrom 0 es := by
    have h1 := sumFrom_set 0 s' hs
    have h2 := sumFrom_set 0 t' ht1
    simp only [weight, Nat.zero_add, hsp, htp, hs'p, ht'p, hs'r, if_true, if_neg hro] at h1 h2
    omega
  have hlen : ((es.set r s').set o t').length = es.length := by simp
  have F' : Forest ((es.set r s').set o t') := by
    refine ⟨?_, ?_, ?_, ?_⟩
    · intro j hj; rw [hlen] at hj ⊢; rw [hpar]; split
      · exact hr
      · exact F.parent_lt j hj
    · intro j hj; rw [hlen] at hj; rw [hpar]; split
      · next h => subst h; intro _; rw [hrk, hrk, if_neg hro, if_pos rfl]; exact Nat.lt_succ_of_le hrank
      · intro hn
        have hjr : r ≠ j := by intro h'; subst h'; exact hn hpr
        have := F.rank_lt_parent j hj hn
        rw [hrk, hrk, if_neg hjr]; split
        · next h' => rw [← h'] at this; exact Nat.lt_succ_of_lt this
        · exact this
    · intro j hj; rw [hlen] at hj ⊢; rw [hrk]; split
      · have hget : ((es.set r s').set o t')[r]? = some s' := by
          rw [List.getElem?_set_ne (Ne.symm hro)]; exact List.getElem?_set_self hr
        have := weight_le_sumFrom 0 hget
        simp only [weight, Nat.zero_add, hs'p, hsp, if_true, hs'r] at this
        calc rankOf es r + 1 < s.rank + 1 + 1 := by rw [hsr]; exact Nat.lt_succ_self _
          _ ≤ sumFrom 0 ((es.set r s').set o t') + t.rank := Nat.le_trans this (Nat.le_add_right _ _)
          _ ≤ es.length := by rw [hW]; exact F.weight_le
      · exact F.rank_lt j hj
    · rw [hlen]; exact Nat.le_trans (Nat.le_add_right _ t.rank) (by rw [hW]; exact F.weight_le)
  have hf : ∀ j q, RootOf es j q → RootOf ((es.set r s').set o t') j (if q = r ∨ q = o then r else q) := by
    intro j q h
    induction h with
    | @root j hj hpj =>
      by_cases hjo : o = j
      · subst hjo
        rw [if_pos (Or.inr rfl)]
        exact .step (by rw [hlen]; exact hj) (by rw [hpar, if_pos rfl]; exact hro)
          (by rw [hpar, if_pos rfl]; exact .root (by rw [hlen]; exact hr) (by rw [hpar, if_neg (Ne.symm hro)]; exact hpr))
      · have : (if j = r ∨ j = o then r else j) = j := by
          by_cases hjr : j = r
          · simp [hjr]
          · simp [hjr, Ne.symm hjo]
        rw [this]
        exact .root (by rw [hlen]; exact hj) (by rw [hpar, if_neg hjo]; exact hpj)
    | @step j q hj hn _ ih =>
      have hjo : o ≠ j := by intro h; subst h; exact hn hpo
      exact .step (by rw [hlen]; exact hj) (by rw [hpar, if_neg hjo]; exact hn) (by rw [hpar, if_neg hjo]; exact ih)
  refine ⟨hlen, F', Or.inl rfl, fun j q => rootOf_transfer F hlen _ hf j q, ?_, ?_⟩
  · intro j; rw [valueOf_keep ht1 (by subst ht'; rfl), valueOf_keep hs (by subst hs'; rfl)]
  · intro j; rw [nextOf_set j _ ho1, nextOf_set j _ hr]
    by_cases h1 : o = j
    · subst h1; subst ht'; simp [nextOf_of_get hs, Ne.symm hro]
    · by_cases h2 : r = j
      · subst h2; subst hs'; simp [h1, nextOf_of_get ht]
      · simp [h1, h2, Ne.symm h1, Ne.symm h2]

theorem unionByRank_spec {es : Elems} (F : Forest es) {a b : Nat} (ha : a < es.length) (hb : b < es.length)
    (hpa : parentOf es a = a) (hpb : parentOf es b = b) (hab : a ≠ b) :
    ∃ es' w, Elems.unionByRank es a b = .ok (es', w) ∧ UnionPost es es' a b w := by
  obtain ⟨s, hs⟩ := get_of_lt ha
  obtain ⟨t, ht⟩ := get_of_lt hb
  have hsp : s.parent = a := by rw [← parentOf_of_get hs]; exact hpa
  have htp : t.parent = b := by rw [← parentOf_of_get ht]; exact hpb
  have hne : s.parent ≠ t.parent := by rw [hsp, htp]; exact hab
  by_cases hge : s.rank ≥ t.rank
  · obtain ⟨es', hu, P⟩ := unionElem_spec F ha hb hpa hpb hab (by rw [rankOf_of_get hs, rankOf_of_get ht]; exact hge)
    exact ⟨es', a, by simp only [Elems.unionByRank, hs, ht, if_neg hne, if_pos hge, hu]; rw [hsp], P⟩
  · obtain ⟨es', hu, P⟩ := unionElem_spec F hb ha hpb hpa (Ne.symm hab) (by rw [rankOf_of_get hs, rankOf_of_get ht]; omega)
    exact ⟨es', b, by simp only [Elems.unionByRank, hs, ht, if_neg hne, if_neg hge, hu]; rw [htp], P.swap (Ne.symm hab)⟩

theorem get_push_lt {es : Elems} (e : Elem) {j : Nat} (h : j < es.length) : (es ++ [e])[j]? = es[j]? :=
  List.getElem?_append_left h

theorem get_push_eq (es : Elems) (e : Elem) : (es ++ [e])[es.length]? = some e := by
  rw [List.getElem?_append_right (Nat.le_refl _)]; simp

/-- `es'` is `es` with a fresh singleton class of value `v` appended -/
structure PushPost (es es' : Elems) (v : Int) : Prop where
  length_eq : es'.length = es.length + 1
  forest : Forest es'
  roots : ∀ j r, RootOf es' j r ↔ (RootOf es j r ∨ (j = es.length ∧ r = es.length))
  value_lt : ∀ j, j < es.length → valueOf es' j = valueOf es j
  value_new : valueOf es' es.length = v
  next_lt : ∀ j, j < es.length → nextOf es' j = nextOf es j
  next_new : nextOf es' es.length = es.length

theorem push_spec {es : Elems} (F : Forest es) (v : Int) : PushPost es (Elems.push es v).1 v := by
  simp only [Elems.push]
  generalize he : ({ next := es.length, parent := es.length, rank := 0, value := v } : Elem) = e
  have hep : e.parent = es.length := by subst he; rfl
  have her : e.rank = 0 := by subst he; rfl
  have hev : e.value = v := by subst he; rfl
  have hen : e.next = es.length := by subst he; rfl
  have hlen : (es ++ [e]).length = es.length + 1 := List.length_append
  have hpar_lt : ∀ j, j < es.length → parentOf (es ++ [e]) j = parentOf es j := by
    intro j hj; unfold parentOf; rw [get_push_lt e hj]
  have hpar_eq : parentOf (es ++ [e]) es.length = es.length := by rw [parentOf_of_get (get_push_eq es e), hep]
  have hrk_lt : ∀ j, j < es.length → rankOf (es ++ [e]) j = rankOf es j := by
    intro j hj; unfold rankOf; rw [get_push_lt e hj]
  have hrk_eq : rankOf (es ++ [e]) es.length = 0 := by rw [rankOf_of_get (get_push_eq es e), her]
  have F' : Forest (es ++ [e]) := by
    refine ⟨?_, ?_, ?_, ?_⟩
    · intro j hj; rw [hlen] at hj ⊢
      rcases Nat.lt_succ_iff_lt_or_eq.mp hj with h | rfl
      · rw [hpar_lt j h]; exact Nat.lt_succ_of_lt (F.parent_lt j h)
      · rw [hpar_eq]; exact Nat.lt_succ_self _
    · intro j hj; rw [hlen] at hj
      rcases Nat.lt_succ_iff_lt_or_eq.mp hj with h | rfl
      · rw [hpar_lt j h]; intro hn
        rw [hrk_lt j h, hrk_lt _ (F.parent_lt j h)]; exact F.rank_lt_parent j h hn
      · rw [hpar_eq]; intro hn; exact absurd rfl hn
    · intro j hj; rw [hlen] at hj ⊢
      rcases Nat.lt_succ_iff_lt_or_eq.mp hj with h | rfl
      · rw [hrk_lt j h]; exact Nat.lt_succ_of_lt (F.rank_lt j h)
      · rw [hrk_eq]; exact Nat.succ_pos _
    · rw [sumFrom_append, hlen]
      simp only [sumFrom, weight, Nat.zero_add, hep, if_true, her]
      exact Nat.succ_le_succ F.weight_le
  refine ⟨hlen, F', ?_, ?_, ?_, ?_, ?_⟩
  · intro j r
    constructor
    · intro h
      induction h with
      | @root j hj hp =>
        rw [hlen] at hj
        rcases Nat.lt_succ_iff_lt_or_eq.mp hj with h | rfl
        · left; exact .root h (by rw [← hpar_lt j h]; exact hp)
        · right; exact ⟨rfl, rfl⟩
      | @step j r hj hn _ ih =>
        rw [hlen] at hj
        rcases Nat.lt_succ_iff_lt_or_eq.mp hj with h | rfl
        · rw [hpar_lt j h] at hn ih
          left
          rcases ih with ih | ⟨ih, _⟩
          · exact .step h hn ih
          · exact absurd (F.parent_lt j h) (by rw [ih]; exact Nat.lt_irrefl _)
        · exact absurd hpar_eq hn
    · rintro (h | ⟨rfl, rfl⟩)
      · induction h with
        | @root j hj hp => exact .root (by rw [hlen]; exact Nat.lt_succ_of_lt hj) (by rw [hpar_lt j hj]; exact hp)
        | @step j r hj hn _ ih =>
          exact .step (by rw [hlen]; exact Nat.lt_succ_of_lt hj) (by rw [hpar_lt j hj]; exact hn) (by rw [hpar_lt j hj]; exact ih)
      · exact .root (by rw [hlen]; exact Nat.lt_succ_self _) hpar_eq
  · intro j hj; unfold valueOf; rw [get_push_lt e hj]
  · rw [valueOf_of_get (get_push_eq es e), hev]
  · intro j hj; unfold nextOf; rw [get_push_lt e hj]
  · rw [nextOf_of_get (get_push_eq es e), hen]

theorem PushPost.same_iff {es es' : Elems} {v : Int} (P : PushPost es es' v) (i j : Nat) :
    Same es' i j ↔ (Same es i j ∨ (i = es.length ∧ j = es.length)) := by
  constructor
  · rintro ⟨r, h1, h2⟩
    rcases (P.roots _ _).mp h1 with h1 | ⟨h1, h1'⟩ <;> rcases (P.roots _ _).mp h2 with h2 | ⟨h2, h2'⟩
    · exact Or.inl ⟨r, h1, h2⟩
    · exact absurd h1.root_lt (h2' ▸ Nat.lt_irrefl _)
    · exact absurd h2.root_lt (h1' ▸ Nat.lt_irrefl _)
    · exact Or.inr ⟨h1, h2⟩
  · rintro (⟨r, h1, h2⟩ | ⟨rfl, rfl⟩)
    · exact ⟨r, (P.roots _ _).mpr (Or.inl h1), (P.roots _ _).mpr (Or.inl h2)⟩
    · exact ⟨_, (P.roots _ _).mpr (Or.inr ⟨rfl, rfl⟩), (P.roots _ _).mpr (Or.inr ⟨rfl, rfl⟩)⟩

end AscentVerif.UF
