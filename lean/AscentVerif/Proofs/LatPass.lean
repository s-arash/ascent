import AscentVerif.Proofs.LatStep
/-!
# One pass over the rules of an SCC, with lattice relations (C03)

`PView s` is the *stable* part of a state: the rows a clause of a given version may have used such that "this instance has
been processed" survives later updates — rows of dynamic relations not queued in `new` (for version `total`: in `total`
and not in `delta`).  A later state of the same pass has a smaller stable part with the same row values (`PView_anti`).

`Along Le Φ` is all the SCC theory (`Proofs/LatScc.lean`) asks of a property `Φ` of head facts carried beside `LInv`;
`Tracks` adds that each head update establishes it for its own head.  `Tracks` has two instances, `Dominated` along `DBLe`
(closedness of the result) and `Quiet` along `NELe` (`Proofs/LatFromQuiet.lean`); `Along` a third, in which nothing is
tracked (`alongNone`, `Proofs/AggLatInv.lean`).
-/
namespace AscentVerif.Engine
open AscentVerif

variable {E B G P A : Type}

def verMem (d : Dyn) (v : Option Ver) (i : Nat) : Prop :=
  match v with
  | some .delta => i ∈ d.delta
  | some .totalDelta => i ∈ d.total ∨ i ∈ d.delta
  | _ => i ∈ d.total ∧ i ∉ d.delta

def PMem (s : SccSt) (r : RelId) (v : Option Ver) (i : Nat) : Prop :=
  match findDyn s.dyn r with
  | none => i ∈ (relSt s.rels r).idx
  | some d => i ∉ d.new ∧ verMem d v i

def PView (s : SccSt) (r : RelId) (v : Option Ver) (t : Tuple) : Prop :=
  ∃ i, rowAt (rowsOf s r) i = t ∧ PMem s r v i

variable {n : Nat} {dynR : List RelId} {s s' : SccSt} {r : RelId} {d : Dyn} {v : Option Ver} {i : Nat} {t : Tuple}

theorem PMem_none (h : findDyn s.dyn r = none) :
    PMem s r v i ↔ i ∈ (relSt s.rels r).idx := by
  unfold PMem; rw [h]

theorem PMem_some (h : findDyn s.dyn r = some d) :
    PMem s r v i ↔ i ∉ d.new ∧ verMem d v i := by
  unfold PMem; rw [h]

theorem verMem_congr {d d' : Dyn} (ht : d'.total = d.total) (hdl : d'.delta = d.delta) (v : Option Ver) (i : Nat) :
    verMem d' v i ↔ verMem d v i := by
  unfold verMem
  rw [ht, hdl]

theorem verMem_td {d : Dyn} {v : Option Ver} {i : Nat} (h : verMem d v i) : i ∈ d.total ∨ i ∈ d.delta := by
  unfold verMem at h
  rcases v with _ | _ | _ | _
  · exact .inl h.1
  · exact .inl h.1
  · exact .inr h
  · exact h

theorem mem_readBag (cfg : Config) (d : RelDecl) (bag : List Nat) (i : Nat) : i ∈ readBag cfg d bag ↔ i ∈ bag := by
  unfold readBag
  split
  · exact List.mem_eraseDups
  · rfl

/-! `clauseRows_none` / `clauseRows_some` of `Pass.lean` without the assumption that no relation is a lattice: `readBag`
may de-duplicate, so only membership in the bags is described. -/
section Views
variable (cfg : Config) (p : Program E B G P A)

theorem mem_clauseRows_none' (v : Option Ver) (h : findDyn s.dyn r = none) (i : Nat) :
    i ∈ clauseRows cfg p s r v ↔ i ∈ (relSt s.rels r).idx := by
  simp only [clauseRows, h, mem_readBag]

theorem mem_clauseRows_some' (v : Option Ver) (h : findDyn s.dyn r = some d) (i : Nat) :
    i ∈ clauseRows cfg p s r v ↔
      match v with
      | some .delta => i ∈ d.delta
      | some .totalDelta => i ∈ d.total ∨ i ∈ d.delta
      | _ => i ∈ d.total := by
  simp only [clauseRows, h]
  cases v with
  | none => simp only [mem_readBag]
  | some v => cases v <;> simp only [mem_readBag, List.mem_append]

theorem PView_sub_view (h : PView s r v t) :
    viewOf cfg p s r v t := by
  obtain ⟨i, hrow, hm⟩ := h
  refine ⟨i, ?_, hrow⟩
  cases hd : findDyn s.dyn r with
  | none => exact (mem_clauseRows_none' cfg p v hd i).mpr ((PMem_none hd).mp hm)
  | some d =>
    have hv := ((PMem_some hd).mp hm).2
    rw [mem_clauseRows_some' cfg p v hd i]
    unfold verMem at hv
    rcases v with _ | _ | _ | _
    · exact hv.1
    · exact hv.1
    · exact hv
    · exact hv

theorem view_sub_rows (hwf : WF n dynR s) (h : viewOf cfg p s r v t) : t ∈ rowsOf s r := by
  obtain ⟨i, hi, rfl⟩ := h
  apply rowAt_mem
  cases hd : findDyn s.dyn r with
  | none =>
    exact (hwf.cover_nd r hd i).mpr ((mem_clauseRows_none' cfg p v hd i).mp hi)
  | some d =>
    have := (mem_clauseRows_some' cfg p v hd i).mp hi
    apply (hwf.cover r d hd i).mpr
    rcases v with _ | _ | _ | _
    · exact .inl this
    · exact .inl this
    · exact .inr (.inl this)
    · exact this.imp_right .inl

end Views

theorem PView_anti' (hext : PExt s s') (h : PView s' r v t) : PView s r v t := by
  obtain ⟨i, hrow, hm⟩ := h
  cases hd : findDyn s.dyn r with
  | none =>
    obtain ⟨h1, h2⟩ := hext.nondyn r hd
    refine ⟨i, ?_, (PMem_none hd).mpr ?_⟩
    · rw [← hrow]; simp only [rowsOf, h2]
    · rw [← h2]; exact (PMem_none h1).mp hm
  | some d =>
    obtain ⟨d', hd', ht, hdl, hn, hc⟩ := hext.td r d hd
    obtain ⟨hnn, hv⟩ := (PMem_some hd').mp hm
    refine ⟨i, ?_, (PMem_some hd).mpr ⟨fun hi => hnn (hn i hi), (verMem_congr ht hdl v i).mp hv⟩⟩
    rw [← hrow]
    apply Classical.byContradiction
    intro hne
    exact hnn (hc i (fun h => hne h.symm))

theorem PView_anti {I : Interp E B G P A} {L : LatOrder I} {p : Program E B G P A}
    (hext : LExt I L p s s') (h : PView s' r v t) : PView s r v t :=
  PView_anti' hext.pext h

/-! ## the conditions of `seminaive_cover` for the stable part -/

theorem PView_nd (hwf : WF n dynR s)
    (hr : dynR.contains r = false) (v v' : Option Ver) (t : Tuple) (h : PView s r v t) : PView s r v' t := by
  have hd := hwf.findDyn_none hr
  obtain ⟨i, hrow, hm⟩ := h
  exact ⟨i, hrow, (PMem_none hd).mpr ((PMem_none hd).mp hm)⟩

theorem PView_split (r : RelId) (t : Tuple) (h : PView s r (some .totalDelta) t) :
    PView s r (some .total) t ∨ PView s r (some .delta) t := by
  obtain ⟨i, hrow, hm⟩ := h
  cases hd : findDyn s.dyn r with
  | none => exact .inl ⟨i, hrow, (PMem_none hd).mpr ((PMem_none hd).mp hm)⟩
  | some d =>
    obtain ⟨hnn, hv⟩ := (PMem_some hd).mp hm
    by_cases hdl : i ∈ d.delta
    · exact .inr ⟨i, hrow, (PMem_some hd).mpr ⟨hnn, hdl⟩⟩
    · refine .inl ⟨i, hrow, (PMem_some hd).mpr ⟨hnn, ?_, hdl⟩⟩
      rcases hv with h | h
      · exact h
      · exact absurd h hdl

section Track
variable (I : Interp E B G P A) (L : LatOrder I) (p : Program E B G P A) (inp : RelId → List Tuple)

structure Along (Le : DB → DB → Prop) (Φ : DB → Fact → Prop) : Prop where
  refl : ∀ D, Le D D
  trans : ∀ {D₁ D₂ D₃}, Le D₁ D₂ → Le D₂ D₃ → Le D₁ D₃
  mono : ∀ {D D' f}, Φ D f → Le D D' → Φ D' f

theorem alongDominated : Along (DBLe I L p) (Dominated I L p) := ⟨DBLe.refl, DBLe.trans, Dominated.mono⟩

/-- `C`: the head clauses whose update establishes `Φ` (all of them for `Dominated`; `Quiet` needs a value column) -/
structure Tracks (C : HeadClause E → Prop) (Le : DB → DB → Prop) (Φ : DB → Fact → Prop) : Prop extends Along Le Φ where
  head : ∀ {dynR s} (h : HeadClause E) (ρ : Env), LInv I L p inp dynR s → dynR.contains h.rel = true → C h →
    BelowF I L p inp (headFact I h ρ) →
    Le (FactsS s) (FactsS (headUpdate I {} p s h ρ)) ∧ Φ (FactsS (headUpdate I {} p s h ρ)) (headFact I h ρ)

theorem tracksDominated : Tracks I L p inp (fun _ => True) (DBLe I L p) (Dominated I L p) where
  toAlong := alongDominated I L p
  head h ρ hinv hdyn _ hbf :=
    have hs := headUpdate_step hinv h ρ hdyn hbf
    ⟨hs.2.1.dble, hs.2.2⟩

def TExt (Le : DB → DB → Prop) (s s' : SccSt) : Prop := LExt I L p s s' ∧ Le (FactsS s) (FactsS s')

variable {I L p inp} {C : HeadClause E → Prop} {Le : DB → DB → Prop} {Φ : DB → Fact → Prop}

theorem TExt.refl (T : Along Le Φ) (s : SccSt) : TExt I L p Le s s := ⟨LExt.refl I L p s, T.refl _⟩

theorem TExt.trans (T : Along Le Φ) {a b c : SccSt} (h₁ : TExt I L p Le a b) (h₂ : TExt I L p Le b c) :
    TExt I L p Le a c :=
  ⟨LExt.trans h₁.1 h₂.1, T.trans h₁.2 h₂.2⟩

theorem heads_track {dynR : List RelId} (T : Tracks I L p inp C Le Φ) (heads : List (HeadClause E)) (ρ : Env)
    (hbf : ∀ h ∈ heads, BelowF I L p inp (headFact I h ρ))
    (hdyn : ∀ h ∈ heads, dynR.contains h.rel = true) (hC : ∀ h ∈ heads, C h)
    (s : SccSt) (hinv : LInv I L p inp dynR s) :
    LInv I L p inp dynR (heads.foldl (fun s h => headUpdate I {} p s h ρ) s) ∧
      TExt I L p Le s (heads.foldl (fun s h => headUpdate I {} p s h ρ) s) ∧
      ∀ h ∈ heads, Φ (FactsS (heads.foldl (fun s h => headUpdate I {} p s h ρ) s)) (headFact I h ρ) := by
  refine foldl_track (fun s h => headUpdate I {} p s h ρ) (LInv I L p inp dynR) (TExt I L p Le)
    (fun h s => Φ (FactsS s) (headFact I h ρ)) (TExt.refl T.toAlong) (fun _ _ _ => TExt.trans T.toAlong)
    (fun h s s' hd hle => T.mono hd hle.2) heads ?_ s hinv
  intro s h hh hs
  obtain ⟨h1, h2, _⟩ := headUpdate_step hs h ρ (hdyn h hh) (hbf h hh)
  obtain ⟨g1, g2⟩ := T.head h ρ hs (hdyn h hh) (hC h hh) (hbf h hh)
  exact ⟨h1, ⟨h2, g1⟩, g2⟩

/-- by `MonotoneProg` an instance over the view of a state with `LInv` has a counterpart over any target, whose heads the
target, being closed, dominates -/
theorem belowF_of_view {dynR : List RelId} (rule : Rule E B G P A) (hrule : rule ∈ p.rules) (vs : List (Option Ver))
    (sr : SccSt) (hinv : LInv I L p inp dynR sr) (ρ : Env) (hsv : SatV I (viewOf {} p sr) rule.body vs [] ρ) :
    ∀ h ∈ rule.heads, BelowF I L p inp (headFact I h ρ) := by
  intro h hh M hM
  have hsat : Sat I (FactsS sr) (fun _ => []) rule.body [] ρ :=
    SatV.toSat (fun r v t hv => view_sub_rows {} p hinv.wf hv) hsv
  obtain ⟨ρ', hsat', hdom⟩ := hM.1 (FactsS sr) M hinv.keyUnique hM.2.1 (hinv.below M hM) rule hrule ρ hsat
  exact Dominated.single (hdom h hh) (hM.2.2.2 rule hrule ρ' hsat' h hh)

variable (I) in
def DoneV (Φ : DB → Fact → Prop) (rule : Rule E B G P A) (vs : List (Option Ver)) (s : SccSt) : Prop :=
  ∀ ρ, SatV I (PView s) rule.body vs [] ρ → ∀ h ∈ rule.heads, Φ (FactsS s) (headFact I h ρ)

end Track

end AscentVerif.Engine
