import AscentVerif.Proofs.EqRelForest
import AscentVerif.Spec.EqClosure
/-!
# `EqRel` (union_find.rs): the invariant and what each operation does to the denoted relation

`Root e x d`: element `x` is known and the dominant id of its set is `d`; `rel e x y`: same dominant id — the equivalence
the structure denotes.  `WF e`: the subsumption forest is ranked, dominant and subsumed ids are set indices, and `sets[d]`
holds exactly the elements whose dominant id is `d` (so a subsumed set is empty).  On well-formed values no operation
panics, `add` and `combine` denote the equivalence closure of what they are given (`add_spec`, `combine_spec`) and the
queries read exactly `rel`.
-/
namespace AscentVerif.EqRelM
open AscentVerif.TrRel (Res unwrap alGet alSet mergeSets setNth alGet_alSet Compress mem_mergeSets)

variable {e : EqRel}

def Root (e : EqRel) (x : Int) (d : Nat) : Prop := ∃ i, alGet e.elemIds x = some i ∧ Dom e.subs i d

def rel (e : EqRel) (x y : Int) : Prop := ∃ d, Root e x d ∧ Root e y d

structure WF (e : EqRel) : Prop where
  ranked : ∃ r, Ranked e.subs r
  root_lt : ∀ x d, Root e x d → d < e.sets.length
  key_lt : ∀ i j, alGet e.subs i = some j → i < e.sets.length
  mem_iff : ∀ d s y, e.sets[d]? = some s → (y ∈ s ↔ Root e y d)

theorem Root.functional {x : Int} {d d' : Nat} (h : Root e x d) (h' : Root e x d') : d = d' := by
  obtain ⟨i, hi, hd⟩ := h
  obtain ⟨i', hi', hd'⟩ := h'
  rw [hi] at hi'; cases hi'
  exact hd.functional hd'

theorem Root.is_root {x : Int} {d : Nat} (h : Root e x d) : alGet e.subs d = none := by
  obtain ⟨_, _, hd⟩ := h
  exact hd.is_root

theorem rel_isPER (e : EqRel) : EqClosure.IsPER (rel e) := by
  constructor
  · rintro x y ⟨d, h1, h2⟩; exact ⟨d, h2, h1⟩
  · rintro x y z ⟨d, h1, h2⟩ ⟨d', h3, h4⟩
    have := h2.functional h3
    subst this
    exact ⟨d, h1, h4⟩

theorem wf_empty : WF {} := by
  refine ⟨⟨_, ranked_nil⟩, ?_, ?_, ?_⟩
  · rintro x d ⟨i, hi, _⟩; simp [alGet] at hi
  · intro i j h; simp [alGet] at h
  · intro d s y h; simp at h

theorem rel_empty (x y : Int) : ¬ rel {} x y := by
  rintro ⟨d, ⟨i, hi, _⟩, _⟩; simp [alGet] at hi

theorem root_congr {e' : EqRel} (hi : e'.elemIds = e.elemIds) (hd : Compress e.subs e'.subs) (x : Int) (d : Nat) :
    Root e' x d ↔ Root e x d := by
  constructor
  · rintro ⟨i, h1, h2⟩; exact ⟨i, hi ▸ h1, (dom_compress hd _ _).1 h2⟩
  · rintro ⟨i, h1, h2⟩; exact ⟨i, hi ▸ h1, (dom_compress hd _ _).2 h2⟩

/-- an invariant phrased through `Dom` only survives any change of `set_subsumptions` that keeps dominant ids -/
theorem WF.congr {e' : EqRel} (h : WF e) (hs : e'.sets = e.sets) (hi : e'.elemIds = e.elemIds)
    (hd : Compress e.subs e'.subs) : WF e' := by
  refine ⟨h.ranked.imp fun _ => ranked_compress hd, fun x d hx => ?_, fun i j hij => ?_, fun d s y hds => ?_⟩
  · rw [hs]; exact h.root_lt x d ((root_congr hi hd x d).1 hx)
  · rw [hs]
    cases hq : alGet e.subs i with
    | none => rw [(hd.none_iff i).2 hq] at hij; cases hij
    | some j' => exact h.key_lt i j' hq
  · rw [hs] at hds
    rw [root_congr hi hd]
    exact h.mem_iff d s y hds

theorem root_insert {e' : EqRel} {z : Int} {t : Nat} (hi : e'.elemIds = alSet e.elemIds z t) (hs : e'.subs = e.subs)
    (a : Int) (d : Nat) : Root e' a d ↔ if z = a then Dom e.subs t d else Root e a d := by
  unfold Root
  rw [hi, hs]
  simp only [alGet_alSet]
  split
  · exact ⟨fun ⟨i, hi, hd⟩ => Option.some.inj hi ▸ hd, fun hd => ⟨t, rfl, hd⟩⟩
  · exact Iff.rfl

theorem not_root_of_unknown {x : Int} (h : alGet e.elemIds x = none) (d : Nat) : ¬ Root e x d := by
  rintro ⟨i, hi, _⟩; rw [h] at hi; cases hi

theorem elemSet_none {x : Int} (h : alGet e.elemIds x = none) : e.elemSet x = .ok none := by
  unfold EqRel.elemSet; rw [h]

theorem elemSet_some (hw : WF e) {x : Int} {d : Nat} (h : Root e x d) : e.elemSet x = .ok (some d) := by
  obtain ⟨i, hi, hd⟩ := h
  obtain ⟨r, hr⟩ := hw.ranked
  unfold EqRel.elemSet
  rw [hi]
  simp only
  rw [getDominantId_eq hr hd]

theorem root_total (hw : WF e) {x : Int} {i : Nat} (h : alGet e.elemIds x = some i) : ∃ d, Root e x d := by
  obtain ⟨r, hr⟩ := hw.ranked
  obtain ⟨d, hd⟩ := dom_total hr i
  exact ⟨d, i, h, hd⟩

/-- `elem_set_update` compresses paths only -/
theorem elemSetUpdate_spec (hw : WF e) (x : Int) :
    ∃ e' od, e.elemSetUpdate x = .ok (e', od) ∧ WF e' ∧ Root e' = Root e ∧ ∀ d, od = some d ↔ Root e x d := by
  unfold EqRel.elemSetUpdate
  cases hx : alGet e.elemIds x with
  | none => exact ⟨e, none, rfl, hw, rfl, fun d => iff_of_false nofun (not_root_of_unknown hx d)⟩
  | some i =>
    obtain ⟨r, hr⟩ := hw.ranked
    obtain ⟨subs', d, he, hd, hs⟩ := getDomMutAux_spec hr (e.subs.length + 1) i (by omega)
    simp only [EqRel.getDominantIdUpdate, he]
    have hxd : Root e x d := ⟨i, hx, hd⟩
    refine ⟨{ e with subs := subs' }, some d, rfl, hw.congr rfl rfl hs, ?_, fun d' => ?_⟩
    · funext a d'
      exact propext (root_congr (e := e) (e' := { e with subs := subs' }) rfl hs a d')
    · exact ⟨fun h => Option.some.inj h ▸ hxd, fun h => congrArg some (hxd.functional h)⟩

theorem mem_hsInsert (s : List Int) (x y : Int) : y ∈ hsInsert s x ↔ y ∈ s ∨ y = x :=
  TrRel.mem_pushNew s x y

theorem root_set (hw : WF e) {a : Int} {d : Nat} (h : Root e a d) : ∃ s, e.sets[d]? = some s ∧ a ∈ s := by
  have hs := List.getElem?_eq_getElem (hw.root_lt a d h)
  exact ⟨_, hs, (hw.mem_iff d _ a hs).2 h⟩

theorem not_rel_of_unknown {x : Int} (h : ∀ d, ¬ Root e x d) (a : Int) : ¬ rel e x a := by
  rintro ⟨d, hx, _⟩; exact h d hx

theorem rel_iff_root {w : Int} {t : Nat} (hw : Root e w t) (a : Int) : rel e w a ↔ Root e a t := by
  constructor
  · rintro ⟨d, h1, h2⟩
    rw [hw.functional h1]; exact h2
  · intro h; exact ⟨t, hw, h⟩

theorem root_dom_self {e : EqRel} {w : Int} {t : Nat} (hw : Root e w t) {d : Nat} (h : Dom e.subs t d) : d = t :=
  Dom.of_root hw.is_root h

/-! ## `add` as a re-rooting of a block of elements

Whether both, one or none of `x`, `y` are known, `add x y` changes `Root` in one way: the elements of a block `J` get the root
`t`, all others keep theirs (`Moved`); `rel_of_moved` reads that as "the old relation plus all pairs over `J`". -/

def Moved (R R' : Int → Nat → Prop) (J : Int → Prop) (t : Nat) : Prop :=
  ∀ a d, R' a d ↔ (R a d ∧ ¬ J a) ∨ (J a ∧ d = t)

/-- `hJ`: `J` is a union of classes (and possibly unknown elements); `ht`: nobody outside `J` had root `t` -/
theorem rel_of_moved {R R' : Int → Nat → Prop} {J : Int → Prop} {t : Nat}
    (hm : Moved R R' J t)
    (hJ : ∀ a c d, J a → R a d → R c d → J c) (ht : ∀ a, R a t → J a) (a c : Int) :
    (∃ d, R' a d ∧ R' c d) ↔ (∃ d, R a d ∧ R c d) ∨ (J a ∧ J c) := by
  constructor
  · rintro ⟨d, ha, hc⟩
    rcases (hm a d).1 ha with ⟨ha, hna⟩ | ⟨hja, rfl⟩
    · rcases (hm c d).1 hc with ⟨hc, _⟩ | ⟨hjc, rfl⟩
      · exact .inl ⟨d, ha, hc⟩
      · exact absurd (ht a ha) hna
    · rcases (hm c d).1 hc with ⟨hc, hnc⟩ | ⟨hjc, _⟩
      · exact absurd (ht c hc) hnc
      · exact .inr ⟨hja, hjc⟩
  · rintro (⟨d, ha, hc⟩ | ⟨hja, hjc⟩)
    · by_cases hja : J a
      · have hjc := hJ a c d hja ha hc
        exact ⟨t, (hm a t).2 (.inr ⟨hja, rfl⟩), (hm c t).2 (.inr ⟨hjc, rfl⟩)⟩
      · have hjc : ¬ J c := fun h => hja (hJ c a d h hc ha)
        exact ⟨d, (hm a d).2 (.inl ⟨ha, hja⟩), (hm c d).2 (.inl ⟨hc, hjc⟩)⟩
    · exact ⟨t, (hm a t).2 (.inr ⟨hja, rfl⟩), (hm c t).2 (.inr ⟨hjc, rfl⟩)⟩

/-- the block that `add x y` merges: `x`, `y` and their classes -/
def Block (e : EqRel) (x y a : Int) : Prop := EqClosure.Cls (rel e) x a ∨ EqClosure.Cls (rel e) y a

theorem cls_unknown {x : Int} (h : ∀ d, ¬ Root e x d) (a : Int) : EqClosure.Cls (rel e) x a ↔ a = x :=
  or_iff_left (not_rel_of_unknown h a)

theorem cls_known {x : Int} {t : Nat} (h : Root e x t) (a : Int) : EqClosure.Cls (rel e) x a ↔ Root e a t := by
  rw [EqClosure.Cls, rel_iff_root h]
  exact or_iff_right_of_imp fun ha => ha ▸ h

theorem block_closed {x y a c : Int} {d : Nat} (h : Block e x y a) (ha : Root e a d) (hc : Root e c d) :
    Block e x y c := by
  have hac : rel e a c := ⟨d, ha, hc⟩
  rcases h with (rfl | h) | (rfl | h)
  · exact .inl (.inr hac)
  · exact .inl (.inr ((rel_isPER e).trans h hac))
  · exact .inr (.inr hac)
  · exact .inr (.inr ((rel_isPER e).trans h hac))

/-- what `add` must achieve, in terms of roots -/
structure AddOk (e e' : EqRel) (x y : Int) : Prop where
  wf : WF e'
  moved : ∃ t, Moved (Root e) (Root e') (Block e x y) t ∧ ∀ a, Root e a t → Block e x y a

theorem AddOk.rel_iff {e' : EqRel} {x y : Int} (h : AddOk e e' x y) (a c : Int) :
    rel e' a c ↔ rel e a c ∨ (Block e x y a ∧ Block e x y c) := by
  obtain ⟨t, hm, ht⟩ := h.moved
  exact rel_of_moved hm (fun _ _ _ hj h1 h2 => block_closed hj h1 h2) ht a c

theorem AddOk.rel_closure {e' : EqRel} {x y : Int} (h : AddOk e e' x y) (a c : Int) :
    rel e' a c ↔ EqClosure (fun p q => rel e p q ∨ (p = x ∧ q = y)) a c :=
  (h.rel_iff a c).trans (EqClosure.add_pair (rel_isPER e) x y).symm

theorem AddOk.congr {e0 e' : EqRel} {x y : Int} (h : Root e = Root e0) (hk : AddOk e e' x y) : AddOk e0 e' x y := by
  obtain ⟨hw, hm⟩ := hk
  refine ⟨hw, ?_⟩
  unfold Block rel at hm ⊢
  rwa [h] at hm

theorem AddOk.of_joined {e' : EqRel} {x y : Int} {J₀ : Int → Prop} {t : Nat} (hw : WF e')
    (hJ : ∀ a, J₀ a → ∀ d, ¬ Root e a d) (hB : ∀ a, Block e x y a ↔ J₀ a ∨ Root e a t)
    (hroot : ∀ a d, Root e' a d ↔ Root e a d ∨ (J₀ a ∧ d = t)) : AddOk e e' x y := by
  refine ⟨hw, t, fun a d => ?_, fun a h => (hB a).2 (.inr h)⟩
  rw [hroot, hB]
  constructor
  · rintro (h | ⟨h, rfl⟩)
    · by_cases hat : Root e a t
      · exact .inr ⟨.inr hat, h.functional hat⟩
      · exact .inl ⟨h, fun h' => h'.elim (fun hj => hJ a hj d h) hat⟩
    · exact .inr ⟨.inl h, rfl⟩
  · rintro (⟨h, _⟩ | ⟨h | h, rfl⟩)
    · exact .inl h
    · exact .inr ⟨h, rfl⟩
    · exact .inl h

/-- the class with root `s` joins the class with root `t`; `s = t` is `add` of a pair already related -/
theorem AddOk.of_linked {e' : EqRel} {x y : Int} {s t : Nat} (hw : WF e')
    (hB : ∀ a, Block e x y a ↔ Root e a t ∨ Root e a s)
    (hroot : ∀ a d, Root e' a d ↔ (Root e a d ∧ (d = s → s = t)) ∨ (Root e a s ∧ d = t)) : AddOk e e' x y := by
  refine ⟨hw, t, fun a d => ?_, fun a h => (hB a).2 (.inl h)⟩
  rw [hroot, hB]
  constructor
  · rintro (⟨h, hd⟩ | ⟨h, rfl⟩)
    · by_cases hat : Root e a t
      · exact .inr ⟨.inl hat, h.functional hat⟩
      · by_cases has : Root e a s
        · exact .inr ⟨.inr has, (h.functional has).trans (hd (h.functional has))⟩
        · exact .inl ⟨h, fun h' => h'.elim hat has⟩
    · exact .inr ⟨.inr h, rfl⟩
  · rintro (⟨h, hn⟩ | ⟨h | h, rfl⟩)
    · exact .inl ⟨h, fun hd => absurd (.inr (hd ▸ h)) hn⟩
    · exact .inl ⟨h, Eq.symm⟩
    · exact .inr ⟨h, rfl⟩

theorem wf_push (hw : WF e) : WF { e with sets := e.sets ++ [[]] } := by
  refine ⟨hw.ranked, fun a d h => ?_, fun i j h => ?_, fun d s a hds => ?_⟩
  · exact Nat.lt_of_lt_of_le (hw.root_lt a d h) (List.length_append ▸ Nat.le_add_right _ _)
  · exact Nat.lt_of_lt_of_le (hw.key_lt i j h) (List.length_append ▸ Nat.le_add_right _ _)
  · have hds : (e.sets ++ [[]])[d]? = some s := hds
    by_cases hd : d < e.sets.length
    · rw [List.getElem?_append_left hd] at hds
      exact hw.mem_iff d s a hds
    · rw [List.getElem?_append_right (Nat.le_of_not_lt hd)] at hds
      cases List.mem_singleton.1 (List.mem_of_getElem? hds)
      exact ⟨nofun, fun h => absurd (hw.root_lt a d h) hd⟩

theorem insert_spec {e' : EqRel} (hw : WF e) {z : Int} {t : Nat} {s : List Int} (hs : e.sets[t]? = some s)
    (ht : alGet e.subs t = none) (hz : ∀ d, Root e z d → d = t) (hsets : e'.sets = setNth e.sets t (hsInsert s z))
    (hids : e'.elemIds = alSet e.elemIds z t) (hsubs : e'.subs = e.subs) :
    WF e' ∧ ∀ a d, Root e' a d ↔ Root e a d ∨ (a = z ∧ d = t) := by
  have htl : t < e.sets.length := (List.getElem?_eq_some_iff.1 hs).1
  have hlen : e'.sets.length = e.sets.length := by rw [hsets, setNth, List.length_set]
  have hroot : ∀ a d, Root e' a d ↔ Root e a d ∨ (a = z ∧ d = t) := by
    intro a d
    rw [root_insert hids hsubs]
    split
    · rename_i hza
      subst hza
      constructor
      · intro hd; exact .inr ⟨rfl, Dom.of_root ht hd⟩
      · rintro (h | ⟨_, rfl⟩)
        · rw [hz d h]; exact .root ht
        · exact .root ht
    · rename_i hza
      exact ⟨.inl, fun h => h.elim id fun h' => absurd h'.1.symm hza⟩
  refine ⟨⟨hsubs ▸ hw.ranked, fun a d h => ?_, fun i j h => ?_, fun d s' a hds => ?_⟩, hroot⟩
  · rw [hlen]
    rcases (hroot a d).1 h with h | ⟨_, rfl⟩
    · exact hw.root_lt a d h
    · exact htl
  · rw [hlen]
    exact hw.key_lt i j (hsubs ▸ h)
  · rw [hsets, setNth] at hds
    rw [hroot]
    by_cases htd : t = d
    · subst htd
      rw [List.getElem?_set_self htl] at hds
      cases hds
      rw [mem_hsInsert, hw.mem_iff t s a hs]
      exact or_congr_right ⟨fun h => ⟨h, rfl⟩, fun h => h.1⟩
    · rw [List.getElem?_set_ne htd] at hds
      rw [hw.mem_iff d s' a hds]
      exact ⟨.inl, fun h => h.elim id fun h' => absurd h'.2.symm htd⟩

theorem link_spec {e' : EqRel} (hw : WF e) {xs ys : Nat} {sx sy : List Int} (hsx : e.sets[xs]? = some sx)
    (hsy : e.sets[ys]? = some sy) (hxr : alGet e.subs xs = none) (hyr : alGet e.subs ys = none) (hne : xs ≠ ys)
    (hsets : e'.sets = setNth (setNth e.sets ys []) xs (mergeSets sx sy)) (hids : e'.elemIds = e.elemIds)
    (hsubs : e'.subs = alSet e.subs ys xs) :
    WF e' ∧ ∀ a d, Root e' a d ↔ (Root e a d ∧ d ≠ ys) ∨ (Root e a ys ∧ d = xs) := by
  have hxl : xs < e.sets.length := (List.getElem?_eq_some_iff.1 hsx).1
  have hyl : ys < e.sets.length := (List.getElem?_eq_some_iff.1 hsy).1
  have hlen : e'.sets.length = e.sets.length := by rw [hsets, setNth, setNth, List.length_set, List.length_set]
  obtain ⟨r, hr⟩ := hw.ranked
  have hroot : ∀ a d, Root e' a d ↔ (Root e a d ∧ d ≠ ys) ∨ (Root e a ys ∧ d = xs) := by
    intro a d
    unfold Root
    rw [hids, hsubs]
    constructor
    · rintro ⟨i, hi, hd⟩
      rcases (dom_link hr hxr hyr hne i d).1 hd with ⟨h1, h2⟩ | ⟨h1, h2⟩
      · exact .inl ⟨⟨i, hi, h1⟩, h2⟩
      · exact .inr ⟨⟨i, hi, h1⟩, h2⟩
    · rintro (⟨⟨i, hi, hd⟩, h2⟩ | ⟨⟨i, hi, hd⟩, h2⟩)
      · exact ⟨i, hi, (dom_link hr hxr hyr hne i d).2 (.inl ⟨hd, h2⟩)⟩
      · exact ⟨i, hi, (dom_link hr hxr hyr hne i d).2 (.inr ⟨hd, h2⟩)⟩
  refine ⟨⟨⟨_, hsubs ▸ ranked_link hr hxr hyr hne⟩, fun a d h => ?_, fun i j h => ?_, fun d s a hds => ?_⟩, hroot⟩
  · rw [hlen]
    rcases (hroot a d).1 h with ⟨h, _⟩ | ⟨_, rfl⟩
    · exact hw.root_lt a d h
    · exact hxl
  · rw [hlen]
    rw [hsubs, alGet_alSet] at h
    split at h
    · rename_i hyi; exact hyi ▸ hyl
    · exact hw.key_lt i j h
  · rw [hsets, setNth, setNth] at hds
    rw [hroot]
    by_cases hxd : xs = d
    · subst hxd
      rw [List.getElem?_set_self (by rw [List.length_set]; exact hxl)] at hds
      cases hds
      rw [mem_mergeSets, hw.mem_iff xs sx a hsx, hw.mem_iff ys sy a hsy]
      exact or_congr ⟨fun h => ⟨h, hne⟩, fun h => h.1⟩ ⟨fun h => ⟨h, rfl⟩, fun h => h.1⟩
    · rw [List.getElem?_set_ne hxd] at hds
      by_cases hyd : ys = d
      · subst hyd
        rw [List.getElem?_set_self hyl] at hds
        cases hds
        exact ⟨nofun, fun h => h.elim (fun h => absurd rfl h.2) fun h => absurd h.2.symm hne⟩
      · rw [List.getElem?_set_ne hyd] at hds
        rw [hw.mem_iff d s a hds]
        exact ⟨fun h => .inl ⟨h, Ne.symm hyd⟩, fun h => h.elim (fun h => h.1) fun h => absurd h.2.symm hxd⟩

/-- both elements unknown: a new set is pushed, then `x` and `y` join it -/
theorem addCore_nn (hw : WF e) {x y : Int} (hx : ∀ d, ¬ Root e x d) (hy : ∀ d, ¬ Root e y d) :
    ∃ e' b, e.addCore x y none none = .ok (e', b) ∧ AddOk e e' x y ∧ (b = false ↔ rel e x y) := by
  have hn : alGet e.subs e.sets.length = none := by
    cases hq : alGet e.subs e.sets.length with
    | none => rfl
    | some j => exact absurd (hw.key_lt _ j hq) (Nat.lt_irrefl _)
  have set_last : ∀ a b : List Int, e.sets ++ [b] = setNth (e.sets ++ [a]) e.sets.length b := fun a b => by
    rw [setNth, List.set_append, if_neg (Nat.lt_irrefl _), Nat.sub_self, List.set_cons_zero]
  obtain ⟨hw1, hr1⟩ := insert_spec (e' := { e with sets := e.sets ++ [[x]], elemIds := alSet e.elemIds x e.sets.length })
    (wf_push hw) List.getElem?_concat_length hn (fun d h => absurd h (hx d)) (set_last [] [x]) rfl rfl
  obtain ⟨hw2, hr2⟩ := insert_spec
    (e' := { e with sets := e.sets ++ [hsInsert [x] y], elemIds := alSet (alSet e.elemIds x e.sets.length) y e.sets.length })
    hw1 List.getElem?_concat_length hn (fun d h => ((hr1 y d).1 h).elim (fun h => absurd h (hy d)) fun h => h.2)
    (set_last [x] _) rfl rfl
  refine ⟨_, true, rfl, .of_joined (J₀ := fun a => a = x ∨ a = y) (t := e.sets.length) hw2 ?_ (fun a => ?_) fun a d => ?_,
    iff_of_false nofun (not_rel_of_unknown hx y)⟩
  · rintro a (rfl | rfl)
    · exact hx
    · exact hy
  · rw [Block, cls_unknown hx, cls_unknown hy]
    exact (or_iff_left fun h => absurd (hw.root_lt a _ h) (Nat.lt_irrefl _)).symm
  · rw [hr2, hr1, or_assoc, ← or_and_right]
    rfl

/-- the unknown `z` joins the class of `w` (the two mixed cases of `add`, up to the order of `x` and `y`) -/
theorem join_known (hw : WF e) {x y z w : Int} {t : Nat} (hz : ∀ d, ¬ Root e z d) (hwt : Root e w t)
    (hB : ∀ a, Block e x y a ↔ a = z ∨ Root e a t) :
    ∃ s, e.sets[t]? = some s ∧
      AddOk e { e with sets := setNth e.sets t (hsInsert s z), elemIds := alSet e.elemIds z t } x y := by
  obtain ⟨s, hs, _⟩ := root_set hw hwt
  obtain ⟨hw', hroot⟩ := insert_spec (e' := { e with sets := setNth e.sets t (hsInsert s z), elemIds := alSet e.elemIds z t })
    hw hs hwt.is_root (fun d h => absurd h (hz d)) rfl rfl rfl
  exact ⟨s, hs, .of_joined (J₀ := fun a => a = z) hw' (fun a ha => ha ▸ hz) hB hroot⟩

theorem addCore_ns (hw : WF e) {x y : Int} {ys : Nat} (hx : ∀ d, ¬ Root e x d) (hy : Root e y ys) :
    ∃ e' b, e.addCore x y none (some ys) = .ok (e', b) ∧ AddOk e e' x y ∧ (b = false ↔ rel e x y) := by
  obtain ⟨s, hs, hk⟩ := join_known (x := x) (y := y) hw hx hy fun a => by rw [Block, cls_unknown hx, cls_known hy]
  exact ⟨_, true, by simp only [EqRel.addCore, hs], hk, iff_of_false nofun (not_rel_of_unknown hx y)⟩

theorem addCore_sn (hw : WF e) {x y : Int} {xs : Nat} (hx : Root e x xs) (hy : ∀ d, ¬ Root e y d) :
    ∃ e' b, e.addCore x y (some xs) none = .ok (e', b) ∧ AddOk e e' x y ∧ (b = false ↔ rel e x y) := by
  obtain ⟨s, hs, hk⟩ := join_known (x := x) (y := y) hw hy hx fun a => by rw [Block, cls_known hx, cls_unknown hy, Or.comm]
  exact ⟨_, true, by simp only [EqRel.addCore, hs], hk,
    iff_of_false nofun fun h => not_rel_of_unknown hy x ((rel_isPER e).symm h)⟩

theorem addCore_ss (hw : WF e) {x y : Int} {xs ys : Nat} (hx : Root e x xs) (hy : Root e y ys) :
    ∃ e' b, e.addCore x y (some xs) (some ys) = .ok (e', b) ∧ AddOk e e' x y ∧ (b = false ↔ rel e x y) := by
  have hB : ∀ a, Block e x y a ↔ Root e a xs ∨ Root e a ys := fun a => by rw [Block, cls_known hx, cls_known hy]
  by_cases hne : xs = ys
  · subst hne
    refine ⟨e, false, by simp [EqRel.addCore], .of_linked hw hB fun a d => ?_, iff_of_true rfl ⟨xs, hx, hy⟩⟩
    exact ⟨fun h => .inl ⟨h, fun _ => rfl⟩, fun h => h.elim (fun h => h.1) fun h => h.2 ▸ h.1⟩
  · obtain ⟨sx, hsx, _⟩ := root_set hw hx
    obtain ⟨sy, hsy, _⟩ := root_set hw hy
    obtain ⟨hw', hroot⟩ := link_spec
      (e' := { e with sets := setNth (setNth e.sets ys []) xs (mergeSets sx sy), subs := alSet e.subs ys xs })
      hw hsx hsy hx.is_root hy.is_root hne rfl rfl rfl
    have hsx' : (setNth e.sets ys [])[xs]? = some sx := by
      rw [setNth, List.getElem?_set_ne (Ne.symm hne)]; exact hsx
    refine ⟨_, true, by simp only [EqRel.addCore, if_pos hne, hsy, hsx'], .of_linked hw' hB fun a d => ?_,
      iff_of_false nofun ?_⟩
    · rw [hroot]
      exact or_congr_left (and_congr_right fun _ => ⟨fun h1 h2 => absurd h2 h1, fun h1 h2 => hne (h1 h2).symm⟩)
    · rintro ⟨d, h1, h2⟩
      exact hne ((hx.functional h1).trans (hy.functional h2).symm)

/-- `add` never panics on a well-formed relation; `AddOk.rel_closure` reads the result as the closure of the old relation
plus the pair; the flag is `false` iff the pair was already related -/
theorem add_spec (hw : WF e) (x y : Int) :
    ∃ e' b, e.add x y = .ok (e', b) ∧ AddOk e e' x y ∧ (b = false ↔ rel e x y) := by
  obtain ⟨e1, ox, h1, hw1, hR1, hx⟩ := elemSetUpdate_spec hw x
  obtain ⟨e2, oy, h2, hw2, hR2, hy⟩ := elemSetUpdate_spec hw1 y
  have hadd : e.add x y = e2.addCore x y ox oy := by
    unfold EqRel.add; rw [h1]; simp only; rw [h2]
  -- the two look-ups only compressed paths: continue from `e2`, which has the roots of `e`
  have hR : Root e2 = Root e := hR2.trans hR1
  rw [← hR2] at hy
  rw [← hR] at hx
  suffices h : ∃ e' b, e2.addCore x y ox oy = .ok (e', b) ∧ AddOk e2 e' x y ∧ (b = false ↔ rel e2 x y) by
    obtain ⟨e', b, he, hk, hb⟩ := h
    refine ⟨e', b, hadd.trans he, hk.congr hR, ?_⟩
    unfold rel at hb ⊢
    rwa [hR] at hb
  cases ox with
  | none =>
    have hx' : ∀ d, ¬ Root e2 x d := fun d h => nomatch (hx d).2 h
    cases oy with
    | none => exact addCore_nn hw2 hx' fun d h => nomatch (hy d).2 h
    | some ys => exact addCore_ns hw2 hx' ((hy ys).1 rfl)
  | some xs =>
    cases oy with
    | none => exact addCore_sn hw2 ((hx xs).1 rfl) fun d h => nomatch (hy d).2 h
    | some ys => exact addCore_ss hw2 ((hx xs).1 rfl) ((hy ys).1 rfl)

/-! ## `EqClosure`: what is needed here and in Props/C10.lean beyond the lemmas of Spec/EqClosure.lean -/

theorem EqClosure.congr {α : Type} {R S : α → α → Prop} (h : ∀ a b, R a b ↔ S a b) {x y : α} :
    EqClosure R x y ↔ EqClosure S x y :=
  ⟨EqClosure.mono fun a b => (h a b).1, EqClosure.mono fun a b => (h a b).2⟩

theorem EqClosure.empty {α : Type} {a b : α} : ¬ EqClosure (fun _ _ : α => False) a b := by
  intro h
  obtain ⟨y, h | h⟩ := EqClosure.mentioned_left h <;> exact h

theorem EqClosure.union_closed_right {α : Type} {R T : α → α → Prop} {x y : α} :
    EqClosure (fun a b => T a b ∨ EqClosure R a b) x y ↔ EqClosure (fun a b => T a b ∨ R a b) x y := by
  rw [EqClosure.congr (S := fun a b => EqClosure R a b ∨ T a b) (fun a b => Or.comm), EqClosure.union_closed_left]
  exact EqClosure.congr fun a b => Or.comm

theorem closure_two_steps {α : Type} {R R₁ T₁ T₂ : α → α → Prop}
    (h : ∀ p q, R₁ p q ↔ EqClosure (fun p q => R p q ∨ T₁ p q) p q) {a c : α} :
    EqClosure (fun p q => R₁ p q ∨ T₂ p q) a c ↔ EqClosure (fun p q => R p q ∨ (T₁ p q ∨ T₂ p q)) a c :=
  (EqClosure.congr fun p q => or_congr_left (h p q)).trans
    (EqClosure.union_closed_left.trans (EqClosure.congr fun _ _ => or_assoc))

/-! ## queries and `combine` -/

theorem rel_iff_sets (hw : WF e) (a c : Int) : rel e a c ↔ ∃ s ∈ e.sets, a ∈ s ∧ c ∈ s := by
  constructor
  · rintro ⟨d, ha, hc⟩
    obtain ⟨s, hs, has⟩ := root_set hw ha
    exact ⟨s, List.mem_of_getElem? hs, has, (hw.mem_iff d s c hs).2 hc⟩
  · rintro ⟨s, hs, has, hcs⟩
    obtain ⟨d, hd⟩ := List.mem_iff_getElem?.1 hs
    exact ⟨d, (hw.mem_iff d s a hd).1 has, (hw.mem_iff d s c hd).1 hcs⟩

theorem contains_spec (hw : WF e) (x y : Int) : ∃ b, e.contains x y = .ok b ∧ (b = true ↔ rel e x y) := by
  unfold EqRel.contains
  cases hx : alGet e.elemIds x with
  | none =>
    rw [elemSet_none hx]
    exact ⟨false, rfl, by simp [not_rel_of_unknown (not_root_of_unknown hx) y]⟩
  | some i =>
    obtain ⟨d, hd⟩ := root_total hw hx
    obtain ⟨s, hs, _⟩ := root_set hw hd
    rw [elemSet_some hw hd]
    simp only [hs]
    refine ⟨s.contains y, rfl, ?_⟩
    rw [List.contains_iff_mem, hw.mem_iff d s y hs, rel_iff_root hd]

theorem setOf_none {x : Int} (hx : alGet e.elemIds x = none) : e.setOf x = .ok none := by
  unfold EqRel.setOf; rw [elemSet_none hx]

theorem setOf_some (hw : WF e) {x : Int} {d : Nat} (hd : Root e x d) :
    ∃ s, e.setOf x = .ok (some s) ∧ ∀ y, y ∈ s ↔ rel e x y := by
  obtain ⟨s, hs, _⟩ := root_set hw hd
  refine ⟨s, ?_, fun y => ?_⟩
  · unfold EqRel.setOf; rw [elemSet_some hw hd]; simp only [hs]
  · rw [hw.mem_iff d s y hs, rel_iff_root hd]

theorem iterAll_spec (hw : WF e) (a c : Int) : (a, c) ∈ e.iterAll ↔ rel e a c := by
  rw [rel_iff_sets hw]
  unfold EqRel.iterAll
  simp only [List.mem_flatMap, List.mem_map, Prod.mk.injEq]
  constructor
  · rintro ⟨s, hs, x, hx, y, hy, rfl, rfl⟩
    exact ⟨s, hs, hy, hx⟩
  · rintro ⟨s, hs, ha, hc⟩
    exact ⟨s, hs, c, hc, a, ha, rfl, rfl⟩

theorem closure_rel_only {T : Int → Int → Prop} (hT : ∀ p q, ¬ T p q) {a c : Int} :
    EqClosure (fun p q => rel e p q ∨ T p q) a c ↔ rel e a c :=
  (EqClosure.congr fun p q => or_iff_left (hT p q)).trans (EqClosure.of_isPER (rel_isPER e))

theorem addAll_spec (r : Int) : ∀ (xs : List Int) {e : EqRel}, WF e →
    ∃ e', e.addAll r xs = .ok e' ∧ WF e' ∧
      ∀ a c, rel e' a c ↔ EqClosure (fun p q => rel e p q ∨ (p = r ∧ q ∈ xs)) a c := by
  intro xs
  induction xs with
  | nil => exact fun hw => ⟨_, rfl, hw, fun a c => (closure_rel_only fun p q h => nomatch h.2).symm⟩
  | cons x rest ih =>
    intro e hw
    obtain ⟨e1, b, he1, hk, _⟩ := add_spec hw r x
    obtain ⟨e', he', hw', hrel⟩ := ih hk.wf
    refine ⟨e', by simp only [EqRel.addAll, he1]; exact he', hw', fun a c => ?_⟩
    rw [hrel, closure_two_steps hk.rel_closure]
    exact EqClosure.congr fun p q => or_congr_right (by rw [List.mem_cons, and_or_left])

theorem star_closure {R : Int → Int → Prop} (r : Int) (rest : List Int) (hne : rest ≠ []) {a c : Int} :
    EqClosure (fun p q => R p q ∨ (p = r ∧ q ∈ rest)) a c ↔
      EqClosure (fun p q => R p q ∨ (p ∈ r :: rest ∧ q ∈ r :: rest)) a c := by
  constructor
  · apply EqClosure.mono
    rintro p q (h | ⟨rfl, h⟩)
    · exact .inl h
    · exact .inr ⟨List.mem_cons_self, List.mem_cons_of_mem _ h⟩
  · apply EqClosure.least (EqClosure.isPER _)
    rintro p q (h | ⟨hp, hq⟩)
    · exact .base (.inl h)
    · have hr : EqClosure (fun p q => R p q ∨ (p = r ∧ q ∈ rest)) r r := by
        cases rest with
        | nil => exact absurd rfl hne
        | cons q0 _ => exact .refl_l (.inr ⟨rfl, List.mem_cons_self⟩)
      have toR : ∀ z, z ∈ r :: rest → EqClosure (fun p q => R p q ∨ (p = r ∧ q ∈ rest)) r z := by
        intro z hz
        rcases List.mem_cons.1 hz with rfl | hz
        · exact hr
        · exact .base (.inr ⟨rfl, hz⟩)
      exact (toR p hp).symm.trans (toR q hq)

theorem combineSet_spec (s : List Int) (hw : WF e) :
    ∃ e', e.combineSet s = .ok e' ∧ WF e' ∧
      ∀ a c, rel e' a c ↔ EqClosure (fun p q => rel e p q ∨ (p ∈ s ∧ q ∈ s)) a c := by
  match s with
  | [] => exact ⟨e, rfl, hw, fun a c => (closure_rel_only fun p q h => nomatch h.1).symm⟩
  | [r] =>
    obtain ⟨e', he, hw', hrel⟩ := addAll_spec r [r] hw
    refine ⟨e', he, hw', fun a c => (hrel a c).trans (EqClosure.congr fun p q => ?_)⟩
    rw [List.mem_singleton, List.mem_singleton]
  | r :: r2 :: rest =>
    obtain ⟨e', he, hw', hrel⟩ := addAll_spec r (r2 :: rest) hw
    exact ⟨e', he, hw', fun a c => (hrel a c).trans (star_closure r (r2 :: rest) nofun)⟩

theorem combineSets_spec : ∀ (ss : List (List Int)) {e : EqRel}, WF e →
    ∃ e', e.combineSets ss = .ok e' ∧ WF e' ∧
      ∀ a c, rel e' a c ↔ EqClosure (fun p q => rel e p q ∨ (∃ s ∈ ss, p ∈ s ∧ q ∈ s)) a c := by
  intro ss
  induction ss with
  | nil => exact fun hw => ⟨_, rfl, hw, fun a c => (closure_rel_only fun p q ⟨_, h, _⟩ => nomatch h).symm⟩
  | cons s rest ih =>
    intro e hw
    obtain ⟨e1, he1, hw1, hrel1⟩ := combineSet_spec s hw
    obtain ⟨e', he', hw', hrel⟩ := ih hw1
    refine ⟨e', by simp only [EqRel.combineSets, he1]; exact he', hw', fun a c => ?_⟩
    rw [hrel, closure_two_steps hrel1]
    exact EqClosure.congr fun p q => or_congr_right (by simp only [List.mem_cons, exists_eq_or_imp])

theorem combine_spec {o : EqRel} (hw : WF e) (ho : WF o) :
    ∃ e', e.combine o = .ok e' ∧ WF e' ∧ ∀ a c, rel e' a c ↔ EqClosure (fun p q => rel e p q ∨ rel o p q) a c := by
  obtain ⟨e', he, hw', hrel⟩ := combineSets_spec o.sets hw
  refine ⟨e', he, hw', fun a c => ?_⟩
  rw [hrel]
  apply EqClosure.congr
  intro p q
  rw [rel_iff_sets ho]

end AscentVerif.EqRelM
