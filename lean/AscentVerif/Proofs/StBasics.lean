import AscentVerif.Model.Engine
import AscentVerif.Proofs.ListBasics
/-!
# The state accessors of the engine model

`relSt` and `rowAt` are total (`List.getD`): the lemmas here say what they return in and out of range and after `setNth`, so
that no proof unfolds them.  They are stated once for `List.getD` over `setNth`; the accessors of the physical models (`prel`,
`pcrel`, `xrel`, `lrel`) instantiate them too.  SCC exit, a fold of `setNth` over the per-SCC entries, is characterised on the
same level.  `findDyn` / `setDyn` are the look-up and the update of the per-SCC entry of a dynamic relation.
-/
namespace AscentVerif.Engine
open AscentVerif

variable {E B G P A : Type}

theorem setNth_eq_set {α : Type} (l : List α) (i : Nat) (x : α) : setNth l i x = l.set i x := by
  induction l generalizing i with
  | nil => rfl
  | cons y ys ih =>
    cases i with
    | zero => rfl
    | succ i => rw [setNth, ih, List.set_cons_succ]

@[simp] theorem length_setNth {α : Type} (l : List α) (i : Nat) (x : α) : (setNth l i x).length = l.length := by
  rw [setNth_eq_set, List.length_set]

section GetD
variable {α : Type} (d : α) (l : List α) (i : Nat)

theorem getD_of_lt (h : i < l.length) : l.getD i d = l[i] := by
  rw [List.getD_eq_getElem?_getD, List.getElem?_eq_getElem h, Option.getD_some]

theorem getD_of_ge (h : l.length ≤ i) : l.getD i d = d := by
  rw [List.getD_eq_getElem?_getD, List.getElem?_eq_none h, Option.getD_none]

theorem getD_mem (h : i < l.length) : l.getD i d ∈ l := by
  rw [getD_of_lt d l i h]
  exact List.getElem_mem h

theorem getD_setNth_self (x : α) (h : i < l.length) : (setNth l i x).getD i d = x := by
  rw [List.getD_eq_getElem?_getD, setNth_eq_set, List.getElem?_set_self h, Option.getD_some]

theorem getD_setNth_ne (j : Nat) (x : α) (h : j ≠ i) : (setNth l i x).getD j d = l.getD j d := by
  rw [List.getD_eq_getElem?_getD, List.getD_eq_getElem?_getD, setNth_eq_set, List.getElem?_set_ne h.symm]

theorem getD_rangeMap (f : Nat → α) (m : Nat) (h : i < m) : ((List.range m).map f).getD i d = f i := by
  rw [List.getD_eq_getElem?_getD, List.getElem?_map, List.getElem?_range h, Option.map_some, Option.getD_some]

/-- a list rebuilt slot by slot (`update_indices`, an SCC abandoned at the deadline), each slot keeping what `rows` reads of it -/
theorem getD_rangeMap_rows {ρ : Type} (rows : α → ρ) {f : Nat → α} (h : ∀ r, rows (f r) = rows (l.getD r d)) (r : Nat) :
    rows (((List.range l.length).map f).getD r d) = rows (l.getD r d) := by
  by_cases hr : r < l.length
  · rw [getD_rangeMap d r f _ hr, h]
  · rw [getD_of_ge d _ r (by simpa using Nat.le_of_not_lt hr), getD_of_ge d l r (Nat.le_of_not_lt hr)]

theorem setNth_getD_self (h : i < l.length) : setNth l i (l.getD i d) = l := by
  rw [setNth_eq_set, getD_of_lt d l i h, List.set_getElem_self]

theorem getD_map {β : Type} (f : α → β) : (l.map f).getD i (f d) = f (l.getD i d) := by
  rw [List.getD_eq_getElem?_getD, List.getD_eq_getElem?_getD, List.getElem?_map]
  cases l[i]? <;> rfl

end GetD

/-! SCC exit on a list of slots read by number: entry by entry, the slot of an entry `d` takes what `d` holds (`upd`).  The
lemmas of `section Fold` are about the same fold, with `leaveStepG` written out. -/

section LeaveG
variable {α δ : Type} (dflt : α) (key : δ → Nat) (upd : α → δ → α)

def leaveStepG (st : List α) (d : δ) : List α := setNth st (key d) (upd (st.getD (key d) dflt) d)

theorem leaveG_rows {ρ : Type} (rows : α → ρ) (hupd : ∀ x d, rows (upd x d) = rows x) : ∀ (L' : List δ) (pst : List α),
    (∀ pd ∈ L', key pd < pst.length) →
    (L'.foldl (leaveStepG dflt key upd) pst).length = pst.length ∧
      ∀ r, rows ((L'.foldl (leaveStepG dflt key upd) pst).getD r dflt) = rows (pst.getD r dflt) := by
  intro L'
  induction L' with
  | nil => exact fun _ _ => ⟨rfl, fun _ => rfl⟩
  | cons pd L' ih =>
    intro pst h
    have hlen : (leaveStepG dflt key upd pst pd).length = pst.length := length_setNth _ _ _
    obtain ⟨g1, g2⟩ := ih (leaveStepG dflt key upd pst pd) fun pd' hpd' => by
      rw [hlen]; exact h pd' (List.mem_cons_of_mem _ hpd')
    refine ⟨g1.trans hlen, fun r => (g2 r).trans ?_⟩
    by_cases hr : r = key pd
    · rw [hr, leaveStepG, getD_setNth_self _ _ _ _ (h pd List.mem_cons_self), hupd]
    · rw [leaveStepG, getD_setNth_ne _ _ _ _ _ hr]

end LeaveG

section Fold
variable {α δ : Type} (dflt : α) (key : δ → Nat) (f : α → δ → α)

theorem foldl_setNth_length : ∀ (L : List δ) (l : List α),
    (L.foldl (fun l d => setNth l (key d) (f (l.getD (key d) dflt) d)) l).length = l.length := by
  intro L
  induction L with
  | nil => exact fun _ => rfl
  | cons d L ih => intro l; rw [List.foldl_cons, ih]; simp

theorem foldl_setNth_untouched (r : Nat) : ∀ (L : List δ) (l : List α), (∀ d ∈ L, key d ≠ r) →
    (L.foldl (fun l d => setNth l (key d) (f (l.getD (key d) dflt) d)) l).getD r dflt = l.getD r dflt := by
  intro L
  induction L with
  | nil => exact fun _ _ => rfl
  | cons d L ih =>
    intro l h
    rw [List.foldl_cons, ih _ (fun d' hd' => h d' (List.mem_cons_of_mem _ hd'))]
    have hne : r ≠ key d := Ne.symm (h d (by simp))
    exact getD_setNth_ne _ _ _ _ _ hne

/-- distinct keys: each slot is written at most once, by the entry that look-up by its number finds -/
theorem foldl_setNth_find : ∀ (L : List δ) (l : List α), (L.map key).Nodup → (∀ d ∈ L, key d < l.length) → ∀ r,
    (L.foldl (fun l d => setNth l (key d) (f (l.getD (key d) dflt) d)) l).getD r dflt =
      (L.find? fun d => key d == r).elim (l.getD r dflt) (f (l.getD r dflt)) := by
  intro L
  induction L with
  | nil => exact fun _ _ _ _ => rfl
  | cons d L ih =>
    intro l hnd hlt r
    rw [List.map_cons, List.nodup_cons] at hnd
    rw [List.foldl_cons, ih _ hnd.2 (fun d' hd' => by rw [length_setNth]; exact hlt d' (List.mem_cons_of_mem _ hd')) r,
      List.find?_cons]
    by_cases hk : key d = r
    · -- the slot of `r` is written by this entry, and by no later one
      have hno : L.find? (fun d => key d == r) = none :=
        List.find?_eq_none.mpr fun d' hd' he => hnd.1 (hk ▸ (beq_iff_eq.mp he) ▸ List.mem_map.mpr ⟨d', hd', rfl⟩)
      rw [hno, beq_iff_eq.mpr hk, ← hk, getD_setNth_self _ _ _ _ (hlt d List.mem_cons_self)]
      rfl
    · rw [show (key d == r) = false from beq_false_of_ne hk, getD_setNth_ne _ _ _ _ _ (Ne.symm hk)]

end Fold

theorem relSt_of_lt (s : St) (r : RelId) (h : r < s.length) : relSt s r = s[r] := getD_of_lt _ s r h

theorem relSt_of_ge (s : St) (r : RelId) (h : s.length ≤ r) : relSt s r = ⟨[], []⟩ := getD_of_ge _ s r h

theorem relSt_setNth_self (s : St) (r : RelId) (x : RelSt) (h : r < s.length) : relSt (setNth s r x) r = x :=
  getD_setNth_self _ s r x h

theorem relSt_setNth_ne (s : St) (r r' : RelId) (x : RelSt) (h : r' ≠ r) : relSt (setNth s r x) r' = relSt s r' :=
  getD_setNth_ne _ s r r' x h

theorem relSt_map_range (f : Nat → RelSt) (m : Nat) (r : RelId) (hr : r < m) : relSt ((List.range m).map f) r = f r :=
  getD_rangeMap _ r f m hr

theorem relSt_mem (s : St) (r : RelId) (h : r < s.length) : relSt s r ∈ s := getD_mem _ s r h

theorem forall_mem_iff_relSt (s : St) (Q : RelSt → Prop) : (∀ rs ∈ s, Q rs) ↔ ∀ r, r < s.length → Q (relSt s r) := by
  constructor
  · intro h r hr
    exact h _ (relSt_mem s r hr)
  · intro h rs hrs
    obtain ⟨r, hr, rfl⟩ := List.mem_iff_getElem.mp hrs
    rw [← relSt_of_lt s r hr]
    exact h r hr

theorem lt_of_mem_rows (s : St) (r : RelId) (t : Tuple) (h : t ∈ (relSt s r).rows) : r < s.length :=
  Nat.lt_of_not_le fun hn => by
    rw [relSt_of_ge s r hn] at h
    cases h

theorem rowAt_eq (rows : List Tuple) (i : Nat) : rowAt rows i = rows[i]?.getD [] := List.getD_eq_getElem?_getD

theorem rowAt_of_lt (rows : List Tuple) (i : Nat) (h : i < rows.length) : rowAt rows i = rows[i] :=
  getD_of_lt _ rows i h

theorem rowAt_append_left (rows ex : List Tuple) (i : Nat) (h : i < rows.length) :
    rowAt (rows ++ ex) i = rowAt rows i := by
  rw [rowAt_eq, rowAt_eq, List.getElem?_append_left h]

theorem rowAt_length_append (rows : List Tuple) (t : Tuple) : rowAt (rows ++ [t]) rows.length = t := by
  rw [rowAt_eq, List.getElem?_append_right (Nat.le_refl _), Nat.sub_self]
  rfl

theorem rowAt_mem (rows : List Tuple) (i : Nat) (h : i < rows.length) : rowAt rows i ∈ rows := getD_mem _ rows i h

theorem mem_iff_rowAt (rows : List Tuple) (t : Tuple) : t ∈ rows ↔ ∃ i, i < rows.length ∧ rowAt rows i = t := by
  constructor
  · intro h
    obtain ⟨i, hi, rfl⟩ := List.mem_iff_getElem.mp h
    exact ⟨i, hi, rowAt_of_lt rows i hi⟩
  · rintro ⟨i, hi, rfl⟩
    exact rowAt_mem rows i hi

theorem mem_bagTuples (rows : List Tuple) (bag : List Nat) (t : Tuple) :
    (bagTuples rows bag).contains t = true ↔ ∃ i ∈ bag, rowAt rows i = t := by
  rw [List.contains_iff_mem, bagTuples, List.mem_map]

theorem bagTuples_range (rows : List Tuple) : bagTuples rows (List.range rows.length) = rows := by
  unfold bagTuples
  apply List.ext_getElem
  · simp
  · intro i h1 h2
    simp [rowAt_of_lt _ _ h2]

theorem findDyn_rel {dyn : List Dyn} {r : RelId} {d : Dyn} (h : findDyn dyn r = some d) : d.rel = r :=
  eq_of_beq (List.find?_some (p := fun x : Dyn => x.rel == r) h)

theorem findDyn_mem {dyn : List Dyn} {r : RelId} {d : Dyn} (h : findDyn dyn r = some d) : d ∈ dyn :=
  List.mem_of_find?_eq_some h

theorem findDyn_map (dyn : List Dyn) (f : Dyn → Dyn) (hf : ∀ x, (f x).rel = x.rel) (r : RelId) :
    findDyn (dyn.map f) r = (findDyn dyn r).map f :=
  find?_map_key Dyn.rel Dyn.rel f hf dyn r

theorem setDyn_eq_map (dyn : List Dyn) (d : Dyn) : setDyn dyn d = dyn.map fun x => if x.rel == d.rel then d else x := rfl

theorem findDyn_setDyn (dyn : List Dyn) (d : Dyn) (r : RelId) :
    findDyn (setDyn dyn d) r = (findDyn dyn r).map fun x => if x.rel == d.rel then d else x :=
  findDyn_map dyn _ (key_upd Dyn.rel d) r

theorem findDyn_setDyn_self (dyn : List Dyn) (d d₀ : Dyn) (h : findDyn dyn d.rel = some d₀) :
    findDyn (setDyn dyn d) d.rel = some d := by
  rw [findDyn_setDyn, h, Option.map_some, findDyn_rel h, beq_self_eq_true, if_pos rfl]

theorem findDyn_setDyn_ne (dyn : List Dyn) (d : Dyn) (r : RelId) (hne : r ≠ d.rel) :
    findDyn (setDyn dyn d) r = findDyn dyn r := by
  rw [findDyn_setDyn]
  cases h : findDyn dyn r with
  | none => rfl
  | some x =>
    have hx : (x.rel == d.rel) = false := by
      rw [findDyn_rel h]
      exact beq_false_of_ne hne
    rw [Option.map_some, hx]
    rfl

theorem declOf_lat (p : Program E B G P A) (hl : ∀ d ∈ p.rels, d.lat = false) (r : RelId) : (declOf p r).lat = false := by
  unfold declOf
  rw [List.getD_eq_getElem?_getD]
  cases h : p.rels[r]? with
  | none => rfl
  | some d => exact hl d (List.mem_of_getElem? h)

theorem readBag_id (cfg : Config) (p : Program E B G P A) (hl : ∀ d ∈ p.rels, d.lat = false) (r : RelId) (bag : List Nat) :
    readBag cfg (declOf p r) bag = bag := by
  rw [readBag, setLike, declOf_lat p hl r]
  rfl

end AscentVerif.Engine
