import AscentVerif.Proofs.TrRelCollapseMerge
import AscentVerif.Proofs.TrRelCollapseStep
/-!
# The back-edge branch of `add`: class collapse through `merge_multiple`

`collapseBranch` (in `TrRelSound`, with `add_eq` and `collapseBranch_run`) is the text of the branch.  `collapse_run`:
taken from a state satisfying `Core` it never panics, and its intermediate states are described by
* `PrepPost` — `ta`, after the four de-mirroring statements (`keep_difference` / `remove` on
  `reverse_set_connections[x_set]` and `set_connections[y_set]`): deliberately NOT mirrored;
* `ConnPost` — `t3`, after `add_set_connection(x_set, y_set)` on that state;
* `MergePost` — `t9`, after `merge_multiple`.
`tm` is `to_be_merged` as first computed (with `y_set`), `ml` what is left of it as the `in_between` of `merge_multiple`.
-/
namespace AscentVerif.TrRel

structure PrepPost (t ta : TrRel) (X Y : Nat) (tm : NSet) : Prop where
  core : SameCore t ta
  conn_iff : ∀ a c, rel ta.conn a c ↔ (rel t.conn a c ∧ (a = Y → c ∉ tm ∧ c ≠ X))
  rconn_iff : ∀ c a, rel ta.rconn c a ↔ (rel t.rconn c a ∧ (c = X → a ∉ tm ∧ a ≠ Y))
  keys : KeysOk t → KeysOk ta

theorem prep_post (t : TrRel) (X Y : Nat) (yc xr : NSet) (hyc : alGet t.conn Y = some yc) (hxr : alGet t.rconn X = some xr) :
    PrepPost t (prepState t X Y yc xr) X Y (tmOf yc xr X Y) := by
  have hyc1 : alGet (alSet t.conn Y (keepDifference yc (tmOf yc xr X Y))) Y = some (keepDifference yc (tmOf yc xr X Y)) := by
    rw [alGet_alSet, if_pos rfl]
  have hxr1 : alGet (alSet t.rconn X (keepDifference xr (tmOf yc xr X Y))) X = some (keepDifference xr (tmOf yc xr X Y)) := by
    rw [alGet_alSet, if_pos rfl]
  refine ⟨⟨rfl, rfl, rfl⟩, fun a c => ?_, fun c a => ?_, fun h =>
    ⟨(h.1.alSet _ (nodup_keepDifference (h.1.2 _ _ hyc) _)).alSet _ (nodup_nsRemove (nodup_keepDifference (h.1.2 _ _ hyc) _) X),
     (h.2.alSet _ (nodup_keepDifference (h.2.2 _ _ hxr) _)).alSet _ (nodup_nsRemove (nodup_keepDifference (h.2.2 _ _ hxr) _) Y)⟩⟩
  · unfold prepState
    rw [rel_alSet_restrict (P := (· ≠ X)) hyc1 (mem_nsRemove _ X),
      rel_alSet_restrict (P := (· ∉ tmOf yc xr X Y)) hyc (mem_keepDifference yc _), and_assoc, ← imp_and]
  · unfold prepState
    rw [rel_alSet_restrict (P := (· ≠ Y)) hxr1 (mem_nsRemove _ Y),
      rel_alSet_restrict (P := (· ∉ tmOf yc xr X Y)) hxr (mem_keepDifference xr _), and_assoc, ← imp_and]

/-- the situation in which `add(x0, y0)` takes the collapse branch -/
structure CollapseCtx (t : TrRel) (ps : List (Int × Int)) (x0 y0 : Int) (X Y : Nat) : Prop where
  C : Core t ps
  hX : Mem t X x0
  hY : Mem t Y y0
  hne : X ≠ Y
  hback : rel t.conn Y X

/-- the sets strictly between `y_set` and `x_set` (`in_between`) -/
def InM (t : TrRel) (X Y m : Nat) : Prop := rel t.conn Y m ∧ rel t.rconn X m ∧ m ≠ X ∧ m ≠ Y
/-- the sets on a cycle through the new edge -/
def InCyc (t : TrRel) (X Y m : Nat) : Prop := m = X ∨ m = Y ∨ InM t X Y m

theorem mem_tmOf {t : TrRel} {X Y : Nat} {yc xr : NSet} (hyc : alGet t.conn Y = some yc) (hxr : alGet t.rconn X = some xr)
    (m : Nat) : m ∈ tmOf yc xr X Y ↔ InM t X Y m ∨ m = Y := by
  unfold tmOf InM
  rw [mem_nsInsert, mem_nsRemove, mem_nsInter, mem_iff_rel hyc, mem_iff_rel hxr]
  by_cases hm : m = Y
  · simp [hm]
  · simp only [hm, or_false, ne_eq, not_false_eq_true, and_true]
    constructor
    · rintro ⟨⟨h1, h2⟩, h3⟩; exact ⟨h1, h2, h3⟩
    · rintro ⟨h1, h2, h3⟩; exact ⟨⟨h1, h2⟩, h3⟩

theorem mem_mlOf {t : TrRel} {X Y : Nat} {yc xr : NSet} (hyc : alGet t.conn Y = some yc) (hxr : alGet t.rconn X = some xr)
    (m : Nat) : m ∈ nsRemove (tmOf yc xr X Y) Y ↔ InM t X Y m := by
  rw [mem_nsRemove, mem_tmOf hyc hxr]
  constructor
  · rintro ⟨h | h, h'⟩
    · exact h
    · exact absurd h h'
  · intro h; exact ⟨Or.inl h, h.2.2.2⟩

section
variable {t : TrRel} {ps : List (Int × Int)} {x0 y0 : Int} {X Y : Nat}

theorem CollapseCtx.reach_yx (K : CollapseCtx t ps x0 y0 X Y) : Reach ps y0 x0 := K.C.reach_of_conn K.hback K.hY K.hX

theorem CollapseCtx.cyc_reach (K : CollapseCtx t ps x0 y0 X Y) {m : Nat} {v : Int} (hm : InCyc t X Y m) (hv : Mem t m v) :
    Reach ps y0 v ∧ Reach ps v x0 := by
  rcases hm with rfl | rfl | ⟨h1, h2, h3, _⟩
  · exact ⟨reach_trans _ _ _ _ K.reach_yx (K.C.same _ x0 v K.hX hv), K.C.same _ v x0 hv K.hX⟩
  · exact ⟨K.C.same _ y0 v K.hY hv, reach_trans _ _ _ _ (K.C.same _ v y0 hv K.hY) K.reach_yx⟩
  · exact ⟨K.C.reach_of_conn h1 K.hY hv, K.C.reach_of_conn ((K.C.offMirror h3).mpr h2) hv K.hX⟩

theorem CollapseCtx.cyc_of_reach (K : CollapseCtx t ps x0 y0 X Y) {m : Nat} {v : Int} (hv : Mem t m v)
    (h1 : Reach ps y0 v) (h2 : Reach ps v x0) : InCyc t X Y m := by
  by_cases hX : m = X
  · exact Or.inl hX
  · by_cases hY : m = Y
    · exact Or.inr (Or.inl hY)
    · exact Or.inr (Or.inr ⟨K.C.conn_of_reach K.hY hv h1 (Ne.symm hY),
        (K.C.offMirror hX).mp (K.C.conn_of_reach hv K.hX h2 hX), hX, hY⟩)

theorem CollapseCtx.not_xy (K : CollapseCtx t ps x0 y0 X Y) : ¬ rel t.conn X Y := by
  intro h
  exact K.hne (K.C.scc X Y x0 y0 K.hX K.hY (K.C.reach_of_conn h K.hX K.hY) K.reach_yx)

theorem collapse_run (K : CollapseCtx t ps x0 y0 X Y) :
    ∃ ta t3 t9 ml tm, (∀ m, m ∈ ml ↔ InM t X Y m) ∧ (∀ m, m ∈ tm ↔ InM t X Y m ∨ m = Y) ∧
      PrepPost t ta X Y tm ∧ ConnPost ta t3 X Y ∧ ConnLe (GSem t (ps ++ [(x0, y0)])) t3 ∧ MergePost t3 t9 X Y ml ∧
      collapseBranch t x0 y0 X Y = .ok ({ t9 with elemIds := alSet (alSet t9.elemIds x0 X) y0 X }, true) := by
  have C := K.C
  obtain ⟨yc, hyc, _⟩ := K.hback
  obtain ⟨xr, hxr, _⟩ := (C.offMirror (Ne.symm K.hne)).mp K.hback
  have prep : PrepPost t (prepState t X Y yc xr) X Y (tmOf yc xr X Y) := prep_post t X Y yc xr hyc hxr
  have hnotyet : ¬ rel (prepState t X Y yc xr).conn X Y := fun h => K.not_xy ((prep.conn_iff X Y).mp h).1
  obtain ⟨t3, b3, he3⟩ := addSetConnection_ok (prepState t X Y yc xr) X Y
  have post := addSetConnection_post K.hne hnotyet he3
  have hmono : ∀ u v, Reach ps u v → Reach (ps ++ [(x0, y0)]) u v := fun _ _ => reach_append_mono x0 y0
  have upa : ConnLe (GSem t (ps ++ [(x0, y0)])) (prepState t X Y yc xr) :=
    ⟨fun a c h => (C.connLe hmono).conn a c ((prep.conn_iff a c).mp h).1,
     fun c a h => (C.connLe hmono).rconn c a ((prep.rconn_iff c a).mp h).1⟩
  have up := (addSetConnection_le (GSem.trans (C.same_append x0 y0)) upa (C.gsem_edge K.hX K.hY) he3).1
  have hsets : t3.sets = t.sets := post.core.1.trans prep.core.1
  have hsubs : t3.subs = t.subs := post.core.2.2.trans prep.core.2.2
  have helem : t3.elemIds = t.elemIds := post.core.2.1.trans prep.core.2.1
  have hml := mem_mlOf (X := X) (Y := Y) hyc hxr
  have hdomM : ∀ s ∈ nsRemove (tmOf yc xr X Y) Y ++ [Y], IsDom t s := by
    intro s hs
    rcases List.mem_append.mp hs with hs | hs
    · exact (C.conn_dom Y s ((hml s).mp hs).1).2
    · simp at hs; subst hs; exact C.mem_dom K.hY
  obtain ⟨t9, he9, merge⟩ := mergeMultiple_spec (t := t3) (frm := X) (to := Y) (ib := nsRemove (tmOf yc xr X Y) Y) K.hne
    (fun h => ((hml X).mp h).2.2.1 rfl)
    (fun s hs => by rw [hsets]; exact (hdomM s hs).1) (by rw [hsets]; exact K.hX.lt)
    (fun s hs => by rw [hsubs]; exact (hdomM s hs).2) (by rw [hsubs]; exact (C.mem_dom K.hX).2)
    post.conn_key post.rconn_key
    (by intro d d' v h h'; unfold Mem at h h'; rw [hsets] at h h'; exact C.disjoint d d' v h h')
  refine ⟨_, t3, t9, _, _, hml, mem_tmOf hyc hxr, prep, post, up, merge, ?_⟩
  rw [collapseBranch_run]
  simp only [hyc, hxr, he3, he9, Res.bind_ok]
  have he : t9.elemIds = t.elemIds := merge.elemIds.trans helem
  have hx0 : (alGet t9.elemIds x0).isNone = false := by
    rw [Option.isNone_eq_false_iff, he]; exact C.elem_of_mem X x0 K.hX
  have hy0 : (alGet (alSet t9.elemIds x0 X) y0).isNone = false := by
    rw [Option.isNone_eq_false_iff, isSome_alSet, he]; exact Or.inl (C.elem_of_mem Y y0 K.hY)
  simp only [hx0, hy0, Bool.false_eq_true, if_false, Res.pure_eq]

end

end AscentVerif.TrRel
