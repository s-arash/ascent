import AscentVerif.Proofs.PhysParBasic
/-!
# The steps of the parallel physical engine against the bag engine

`Flags`: the frozen / unfrozen protocol state and the shape of every concurrent index.  Under it the head update, the
merge, SCC entry and exit never panic and re-establish `Flags`.  The head update and the merge are the steps of the SERIAL
physical engine on the erased state, up to the order inside the one bucket of a `CRelNoIndex` (`SccSame`); SCC entry and exit
commute with `erase` outright.  So the parallel engine needs no simulation relation of its own: the serial `SimB` of
`Proofs/PhysSim.lean` moves along `SccSame`, and `Proofs/PhysParRun.lean` carries it on the erased state with `Flags` beside it.
`update_indices` inserts the rows in schedule order and is compared with the bag engine directly.
-/
namespace AscentVerif.PhysPar
open AscentVerif AscentVerif.Engine AscentVerif.Index AscentVerif.Phys

variable {E B G P A : Type}

/-- a dynamic relation inside an SCC: `total` and `delta` frozen iff `fz` (rule evaluation), `new` always unfrozen -/
structure DynFlags (N : Nat) (fz : Bool) (d : PCDyn) : Prop where
  ft : d.full.total.frozen = fz
  fd : d.full.delta.frozen = fz
  fn : d.full.new.frozen = false
  ix : ∀ ci ∈ d.idxs, Shape N ci.1 ci.2.total ∧ Shape N ci.1 ci.2.delta ∧ Shape N ci.1 ci.2.new ∧
    ci.2.total.isFrozen = fz ∧ ci.2.delta.isFrozen = fz ∧ ci.2.new.isFrozen = false

def RelFlags (N : Nat) (fz : Bool) (pr : PCRel) : Prop :=
  pr.full.frozen = fz ∧ ∀ ci ∈ pr.idxs, Shape N ci.1 ci.2 ∧ ci.2.isFrozen = fz

/-- the protocol state inside an SCC whose body-only relations are `bo`, `fz` saying whether the rules of an iteration are
running: the indices a stored relation keeps in the struct are frozen exactly for the body-only relations (`enterScc` froze
them, `leaveScc` unfreezes them) -/
structure Flags (N : Nat) (bo : List RelId) (fz : Bool) (s : PCScc) : Prop where
  dyn : ∀ d ∈ s.dyn, DynFlags N fz d ∧ bo.contains d.rel = false
  rels : ∀ r, r < s.rels.length → RelFlags N (bo.contains r) (pcrel s.rels r)

/-- between SCCs: everything unfrozen -/
def StFlags (N : Nat) (st : PCSt) : Prop := ∀ pr ∈ st, RelFlags N false pr

/-- the third component of `WFPCSt` -/
theorem StFlags.unfrozen {N : Nat} {st : PCSt} (h : StFlags N st) :
    ∀ pr ∈ st, pr.full.frozen = false ∧ ∀ ci ∈ pr.idxs, ci.2.isFrozen = false :=
  fun pr hpr => ⟨(h pr hpr).1, fun ci hci => ((h pr hpr).2 ci hci).2⟩

theorem pcrel_setNth_self (s : PCSt) (r : RelId) (x : PCRel) (h : r < s.length) : pcrel (setNth s r x) r = x :=
  getD_setNth_self _ s r x h

theorem pcrel_setNth_ne (s : PCSt) (r r' : RelId) (x : PCRel) (h : r' ≠ r) : pcrel (setNth s r x) r' = pcrel s r' :=
  getD_setNth_ne _ s r r' x h

theorem pcrel_mem (s : PCSt) (r : RelId) (h : r < s.length) : pcrel s r ∈ s :=
  getD_mem _ s r h

theorem pcrel_of_ge (s : PCSt) (r : RelId) (h : s.length ≤ r) : pcrel s r = ⟨[], PCFull.new, []⟩ :=
  getD_of_ge _ s r h

theorem pcrel_eq_getElem (s : PCSt) (r : RelId) (hr : r < s.length) : pcrel s r = s[r] :=
  getD_of_lt _ s r hr

theorem pcrel_rangeMap (f : Nat → PCRel) (m : Nat) (r : RelId) (hr : r < m) : pcrel ((List.range m).map f) r = f r :=
  getD_rangeMap _ r f m hr

theorem containsKey_frozen (x : PCFull) (row : Tuple) (h : x.frozen = true) :
    x.containsKey row = .ok (FullIdx.containsKey x.m row) := by
  simp [PCFull.containsKey, h]

theorem insertIfNotPresent_unfrozen (x : PCFull) (row : Tuple) (h : x.frozen = false) :
    x.insertIfNotPresent row =
      .ok ({ x with m := (FullIdx.insertIfNotPresent x.m row ()).1 }, (FullIdx.insertIfNotPresent x.m row ()).2) := by
  simp [PCFull.insertIfNotPresent, h]

/-- the state `headRelPar` returns when it pushes `row` (`newFull`, `idxs`: the `new` versions after the inserts) -/
def pushPC (s : PCScc) (r : RelId) (d : PCDyn) (row : Tuple) (newFull : PCFull) (idxs : List (List Nat × Tri PCx)) : PCScc :=
  { rels := setNth s.rels r { pcrel s.rels r with rows := (pcrel s.rels r).rows ++ [row] }
    dyn := setPCDyn s.dyn { d with full := { d.full with new := newFull }, idxs := idxs }
    changed := true }

theorem headRelPar_eq (s : PCScc) (thread : Nat) (r : RelId) (row : Tuple) :
    headRelPar s thread r row =
      match findPCDyn s.dyn r with
      | none => .ok s
      | some d =>
        d.full.total.containsKey row >>= fun inT =>
        d.full.delta.containsKey row >>= fun inD =>
        if inT || inD then pure s
        else
          d.full.new.insertIfNotPresent row >>= fun ins =>
          if !ins.2 then pure s
          else
            foldRes (fun (done : List (List Nat × Tri PCx)) (ci : List Nat × Tri PCx) =>
              ci.2.new.insert thread (Plan.proj ci.1 row) (projC ci.1 row) >>= fun x =>
              pure (done ++ [(ci.1, { ci.2 with new := x })])) d.idxs [] >>= fun idxs =>
            pure (pushPC s r d row ins.1 idxs) := by
  unfold headRelPar
  cases findPCDyn s.dyn r <;> rfl

theorem Flags_push {N : Nat} {bo : List RelId} {s : PCScc} (hfl : Flags N bo true s) {r : RelId} {d : PCDyn}
    (hd : findPCDyn s.dyn r = some d) (row : Tuple) (newFull : PCFull) (idxs : List (List Nat × Tri PCx))
    (hnf : newFull.frozen = false)
    (hix : ∀ ci ∈ idxs, TriFlags N true ci.1 ci.2) : Flags N bo true (pushPC s r d row newFull idxs) := by
  obtain ⟨hdf, hdb⟩ := hfl.dyn d (findPCDyn_mem hd)
  refine ⟨?_, ?_⟩
  · intro x hx
    simp only [pushPC, setPCDyn, List.mem_map] at hx
    obtain ⟨y, hy, rfl⟩ := hx
    split
    · exact ⟨⟨hdf.ft, hdf.fd, hnf, hix⟩, hdb⟩
    · exact hfl.dyn y hy
  · intro r' hr'
    have hr'' : r' < s.rels.length := by simpa [pushPC] using hr'
    by_cases hne : r' = r
    · subst hne
      simp only [pushPC, pcrel_setNth_self _ _ _ hr'']
      exact hfl.rels r' hr''
    · simp only [pushPC, pcrel_setNth_ne _ _ _ _ hne]
      exact hfl.rels r' hr''

theorem erase_push (s : PCScc) (r : RelId) (d : PCDyn) (row : Tuple) (newFull : PCFull) (idxs : List (List Nat × Tri PCx)) :
    (pushPC s r d row newFull idxs).erase =
      { rels := setNth s.erase.rels r { prel s.erase.rels r with rows := (prel s.erase.rels r).rows ++ [row] }
        dyn := setPDyn s.erase.dyn (PCDyn.erase { d with full := { d.full with new := newFull }, idxs := idxs })
        changed := true } := by
  show PScc.mk _ _ _ = _
  congr 1
  · show (setNth s.rels r _).map PCRel.erase = setNth (s.rels.map PCRel.erase) r _
    rw [setNth_map]
    congr 1
    rw [show prel s.erase.rels r = (pcrel s.rels r).erase from prel_erase s.rels r]
    rfl
  · exact setPCDyn_erase _ _

/-! ## `IxSame` lifted to the index list of a relation, a dynamic entry and the SCC state -/

def IdxsSame (l l' : List (List Nat × Tri PIx)) : Prop :=
  l'.map (·.1) = l.map (·.1) ∧ ∀ k y, (k, y) ∈ l' → ∃ x, (k, x) ∈ l ∧ TriSame x y

theorem IdxsSame.refl (l : List (List Nat × Tri PIx)) : IdxsSame l l :=
  ⟨rfl, fun _ y h => ⟨y, h, .refl _, .refl _, .refl _⟩⟩

theorem IdxsSame.triB {l l' : List (List Nat × Tri PIx)} (h : IdxsSame l l') {ixr : List (List Nat)} {rows : List Tuple}
    {d : Dyn} {full : Tri FIx} (tri : TriB ixr rows d full l) : TriB ixr rows d full l' :=
  ⟨tri.ft, tri.fd, tri.fn, h.1.trans tri.cols, fun ci hci => by
    obtain ⟨x, hx, s1, s2, s3⟩ := h.2 ci.1 ci.2 hci
    obtain ⟨b1, b2, b3⟩ := tri.ix _ hx
    exact ⟨s1.ixB b1, s2.ixB b2, s3.ixB b3⟩⟩

theorem IdxsSame.triOk {l l' : List (List Nat × Tri PIx)} (h : IdxsSame l l') {ixr : List (List Nat)} {rows : List Tuple}
    {d : Dyn} {full : Tri FIx} (tri : TriOk ixr rows d full l) : TriOk ixr rows d full l' :=
  ⟨tri.ft, tri.fd, tri.fn, h.1.trans tri.cols,
    fun ci hci => (h.2 ci.1 ci.2 hci).elim fun _ hx => hx.2.1.ixOk (tri.it _ hx.1),
    fun ci hci => (h.2 ci.1 ci.2 hci).elim fun _ hx => hx.2.2.1.ixOk (tri.id _ hx.1),
    fun ci hci => (h.2 ci.1 ci.2 hci).elim fun _ hx => hx.2.2.2.ixOk (tri.inw _ hx.1)⟩

/-- how `pushIdxs_same` and `mergeDyn_same` leave `foldRes_keyed`: every triple `y` the fold returns satisfies `F` and holds
what `g` makes of the erasure of the triple `x` it came from -/
theorem IdxsSame.of_keyed {l idxs : List (List Nat × Tri PCx)} {F : List Nat → Tri PCx → Prop} (g : List Nat → Tri PIx → Tri PIx)
    (hcols : idxs.map (·.1) = l.map (·.1))
    (hq : ∀ k y, (k, y) ∈ idxs → ∃ x, (k, x) ∈ l ∧ F k y ∧ TriSame (g k (eraseTri x)) (eraseTri y)) :
    (∀ ci ∈ idxs, F ci.1 ci.2) ∧
      IdxsSame ((l.map fun ci => (ci.1, eraseTri ci.2)).map fun ci => (ci.1, g ci.1 ci.2))
        (idxs.map fun ci => (ci.1, eraseTri ci.2)) := by
  refine ⟨fun ci hci => (hq ci.1 ci.2 hci).elim fun _ h => h.2.1, ?_, fun k y hy => ?_⟩
  · simp only [List.map_map]
    exact hcols
  · obtain ⟨ci', hci', e⟩ := List.mem_map.mp hy
    cases e
    obtain ⟨t, ht, _, q⟩ := hq ci'.1 ci'.2 hci'
    exact ⟨_, List.mem_map.mpr ⟨_, List.mem_map.mpr ⟨_, ht, rfl⟩, rfl⟩, q⟩

structure DynSame (pd pd' : PDyn) : Prop where
  rel : pd'.rel = pd.rel
  full : pd'.full = pd.full
  idxs : IdxsSame pd.idxs pd'.idxs

theorem DynSame.refl (pd : PDyn) : DynSame pd pd := ⟨rfl, rfl, .refl _⟩

structure SccSame (ph ph' : PScc) : Prop where
  rels : ph'.rels = ph.rels
  changed : ph'.changed = ph.changed
  dyn : Rel2 DynSame ph.dyn ph'.dyn

theorem SccSame.refl (ph : PScc) : SccSame ph ph := ⟨rfl, rfl, Rel2.refl_of _ fun pd _ => .refl pd⟩

theorem SccSame.simB {ph ph' : PScc} (h : SccSame ph ph') {p : Program E B G P A} {ix : IxSets} {a : SccSt}
    (hsim : SimB p ix a ph) : SimB p ix a ph' := by
  obtain ⟨rels', dyn', ch'⟩ := ph'
  obtain ⟨hr, hc, hd⟩ := h
  cases hr
  cases hc
  refine ⟨hsim.len, hsim.rows, hsim.changed, (hsim.dyn.comp hd).imp_mem ?_, hsim.nd, hsim.typed⟩
  rintro d _ pd' ⟨pd, hb, hrel, hfull, hidx⟩
  exact ⟨hrel.trans hb.rel, hfull ▸ hidx.triB hb.tri⟩

theorem setPDyn_same (L : List PDyn) {x x' : PDyn} (h : DynSame x x') : Rel2 DynSame (setPDyn L x) (setPDyn L x') := by
  refine Rel2.of_map _ _ L fun y _ => ?_
  rw [h.rel]
  split
  · exact h
  · exact .refl y

/-- the index inserts of a head update: the row goes into every `new` index (into worker `tid`'s shard of a `CRelNoIndex`) -/
theorem pushIdxs_same {N : Nat} (hN : 0 < N) {d : PCDyn} (hdf : DynFlags N true d) (tid : Nat) (row : Tuple) :
    ∃ idxs, foldRes (fun (done : List (List Nat × Tri PCx)) (ci : List Nat × Tri PCx) =>
          ci.2.new.insert tid (Plan.proj ci.1 row) (projC ci.1 row) >>= fun x =>
          pure (done ++ [(ci.1, { ci.2 with new := x })])) d.idxs [] = .ok idxs ∧
      (∀ ci ∈ idxs, TriFlags N true ci.1 ci.2) ∧
      IdxsSame (d.erase.idxs.map fun ci => (ci.1, { ci.2 with new := Idx.insert ci.2.new (Plan.proj ci.1 row) (projC ci.1 row) }))
        (idxs.map fun ci => (ci.1, eraseTri ci.2)) := by
  obtain ⟨idxs, hfold, hcols, hq⟩ := foldRes_keyed
    (fun (ci : List Nat × Tri PCx) => ci.2.new.insert tid (Plan.proj ci.1 row) (projC ci.1 row))
    (fun ci x => { ci.2 with new := x })
    (fun cols t t' => TriFlags N true cols t' ∧
      TriSame { eraseTri t with new := Idx.insert t.new.erase (Plan.proj cols row) (projC cols row) } (eraseTri t'))
    d.idxs (by
      intro ci hci
      obtain ⟨s1, s2, s3, f1, f2, f3⟩ := hdf.ix ci hci
      obtain ⟨x', hx1, hx2, hx3, hx4⟩ := PCx_insert_same hN s3 f3 tid row
      exact ⟨x', hx1, ⟨s1, s2, hx2, f1, f2, hx3⟩, .refl _, .refl _, hx4⟩)
  exact ⟨idxs, hfold, IdxsSame.of_keyed
    (fun cols x => { x with new := Idx.insert x.new (Plan.proj cols row) (projC cols row) }) hcols hq⟩

/-- the look-ups and `insert_if_not_present` go to the unsharded full indices, so both engines take the same branch -/
theorem headRelPar_erase {N : Nat} {bo : List RelId} {s : PCScc} (hN : 0 < N) (hfl : Flags N bo true s) (tid : Nat)
    (r : RelId) (row : Tuple) :
    ∃ s', headRelPar s tid r row = .ok s' ∧ Flags N bo true s' ∧ SccSame (Phys.headRel s.erase r row) s'.erase := by
  rw [headRelPar_eq, physHeadRel_eq, findPDyn_eraseScc]
  cases hcd : findPCDyn s.dyn r with
  | none => exact ⟨s, rfl, hfl, .refl _⟩
  | some cd =>
    obtain ⟨hdf, _⟩ := hfl.dyn cd (findPCDyn_mem hcd)
    simp only [Option.map_some, containsKey_frozen _ _ hdf.ft, containsKey_frozen _ _ hdf.fd, bind_ok,
      insertIfNotPresent_unfrozen _ _ hdf.fn]
    -- both sides branch on the same two booleans: stated so that `cases` on them rewrites both at once
    show ∃ s', (if FullIdx.containsKey cd.full.total.m row || FullIdx.containsKey cd.full.delta.m row then pure s
        else if !(FullIdx.insertIfNotPresent cd.full.new.m row ()).2 then pure s else _) = Res.ok s' ∧ _ ∧
      SccSame (if FullIdx.containsKey cd.full.total.m row || FullIdx.containsKey cd.full.delta.m row then s.erase
        else if !(FullIdx.insertIfNotPresent cd.full.new.m row ()).2 then s.erase else _) s'.erase
    cases FullIdx.containsKey cd.full.total.m row || FullIdx.containsKey cd.full.delta.m row with
    | true => exact ⟨s, rfl, hfl, .refl _⟩
    | false =>
      cases (FullIdx.insertIfNotPresent cd.full.new.m row ()).2 with
      | false => exact ⟨s, rfl, hfl, .refl _⟩
      | true =>
        obtain ⟨idxs, hfold, hix, hsame⟩ := pushIdxs_same hN hdf tid row
        simp only [Bool.false_eq_true, Bool.not_true, ↓reduceIte, hfold, bind_ok]
        refine ⟨_, rfl, Flags_push hfl hcd row _ idxs hdf.fn hix, ?_⟩
        rw [erase_push]
        exact ⟨rfl, rfl, setPDyn_same _ ⟨rfl, rfl, hsame⟩⟩

theorem headRelPar_sim {p : Program E B G P A} {ix : IxSets} {dynR : List RelId} {n N : Nat} {bo : List RelId}
    {a : SccSt} {s : PCScc} (hN : 0 < N) (hsim : SimB p ix a s.erase) (hwf : WF n dynR a)
    (hlt : ∀ r, dynR.contains r = true → r < n) (hfl : Flags N bo true s) (tid : Nat) (r : RelId) (row : Tuple)
    (hlen : row.length = arityOf p r) :
    ∃ s', headRelPar s tid r row = .ok s' ∧ SimB p ix (Engine.headRel a r row) s'.erase ∧ Flags N bo true s' := by
  obtain ⟨s', h1, h2, h3⟩ := headRelPar_erase hN hfl tid r row
  exact ⟨s', h1, h3.simB (headRel_simB hsim hwf hlt r row hlen), h2⟩

theorem mergeFull_ok (t : Tri PCFull) (h1 : t.total.frozen = false) (h2 : t.delta.frozen = false) :
    ∃ t', mergeFull t = .ok t' ∧ eraseTriF t' = shiftFull (eraseTriF t) ∧ t'.total.frozen = false ∧
      t'.delta.frozen = t.new.frozen ∧ t'.new.frozen = false := by
  unfold mergeFull
  rw [h1, h2]
  exact ⟨_, rfl, rfl, h1, rfl, h2⟩

theorem mergeDyn_eq (d : PCDyn) :
    mergeDyn d = (mergeFull d.full >>= fun full =>
      foldRes (fun (done : List (List Nat × Tri PCx)) (ci : List Nat × Tri PCx) =>
        mergeIx ci.2 >>= fun t => pure (done ++ [(ci.1, t)])) d.idxs [] >>= fun idxs =>
      pure { d with full := full, idxs := idxs }) := rfl

theorem mergeDyn_rel {d d' : PCDyn} (hd' : mergeDyn d = .ok d') : d'.rel = d.rel := by
  rw [mergeDyn_eq] at hd'
  obtain ⟨full', _, h⟩ := bind_eq_ok.mp hd'
  obtain ⟨idxs, _, h⟩ := bind_eq_ok.mp h
  cases h
  rfl

/-- `merge_delta_to_total_new_to_delta` on all the indices of a dynamic relation, as in the serial `Phys.shift` -/
theorem mergeDyn_same {N : Nat} {d : PCDyn} (hf : DynFlags N false d) :
    ∃ d', mergeDyn d = .ok d' ∧ DynFlags N false d' ∧
      DynSame { d.erase with full := shiftFull d.erase.full, idxs := d.erase.idxs.map fun ci => (ci.1, shiftIx ci.2) }
        d'.erase := by
  obtain ⟨full', hfull, hfe, g1, g2, g3⟩ := mergeFull_ok d.full hf.ft hf.fd
  obtain ⟨idxs, hfold, hcols, hq⟩ := foldRes_keyed (fun (ci : List Nat × Tri PCx) => mergeIx ci.2) (fun _ t => t)
    (fun cols t t' => TriFlags N false cols t' ∧ TriSame (shiftIx (eraseTri t)) (eraseTri t'))
    d.idxs (fun ci hci => mergeIx_same (hf.ix ci hci))
  obtain ⟨h1, h2⟩ := IdxsSame.of_keyed (fun _ x => shiftIx x) hcols hq
  exact ⟨{ d with full := full', idxs := idxs }, by rw [mergeDyn_eq, hfull, bind_ok, hfold]; rfl,
    ⟨g1, g2.trans hf.fn, g3, h1⟩, rfl, hfe, h2⟩

theorem shiftPar_eq (s : PCScc) :
    shiftPar s = (foldRes (fun (done : List PCDyn) (d : PCDyn) => mergeDyn d >>= fun d' => pure (done ++ [d'])) s.dyn [] >>=
      fun dyn => pure { s with dyn := dyn }) := rfl

theorem shiftPar_erase {N : Nat} {bo : List RelId} {s : PCScc} (hfl : Flags N bo false s) :
    ∃ s', shiftPar s = .ok s' ∧ Flags N bo false s' ∧ SccSame (Phys.shift s.erase) s'.erase := by
  obtain ⟨dyn', hfold, hrel2⟩ := foldRes_collect mergeDyn (fun _ d' => d')
    (fun d d' => DynFlags N false d' ∧
      DynSame { d.erase with full := shiftFull d.erase.full, idxs := d.erase.idxs.map fun ci => (ci.1, shiftIx ci.2) } d'.erase)
    s.dyn (fun d hd => mergeDyn_same (hfl.dyn d hd).1)
  refine ⟨{ s with dyn := dyn' }, by rw [shiftPar_eq, hfold]; rfl, ⟨fun d' hd' => ?_, hfl.rels⟩, rfl, rfl, ?_⟩
  · obtain ⟨d, hd, hq⟩ := hrel2.forall_right d' hd'
    exact ⟨hq.1, by rw [show d'.rel = d.rel from hq.2.rel]; exact (hfl.dyn d hd).2⟩
  · show Rel2 DynSame ((s.dyn.map PCDyn.erase).map _) (dyn'.map PCDyn.erase)
    rw [List.map_map]
    exact Rel2.map _ _ (fun _ _ hq => hq.2) hrel2

theorem erase_freezeDyn (d : PCDyn) : (freezeDyn d).erase = d.erase := by
  show PDyn.mk _ _ _ = PDyn.mk _ _ _
  congr 1
  exact map_map_congr d.idxs fun ci => by simp [eraseTri]

theorem erase_unfreezeDyn (d : PCDyn) : (unfreezeDyn d).erase = d.erase := by
  show PDyn.mk _ _ _ = PDyn.mk _ _ _
  congr 1
  exact map_map_congr d.idxs fun ci => by simp [eraseTri]

theorem DynFlags_freeze {N : Nat} {d : PCDyn} (h : DynFlags N false d) : DynFlags N true (freezeDyn d) := by
  refine ⟨rfl, rfl, h.fn, ?_⟩
  intro ci hci
  obtain ⟨c, hc, rfl⟩ := List.mem_map.mp hci
  obtain ⟨s1, s2, s3, _, _, f3⟩ := h.ix c hc
  exact ⟨Shape_freeze s1, Shape_freeze s2, s3, isFrozen_freeze _, isFrozen_freeze _, f3⟩

theorem DynFlags_unfreeze {N : Nat} {d : PCDyn} (h : DynFlags N true d) : DynFlags N false (unfreezeDyn d) := by
  refine ⟨rfl, rfl, h.fn, ?_⟩
  intro ci hci
  obtain ⟨c, hc, rfl⟩ := List.mem_map.mp hci
  obtain ⟨s1, s2, s3, _, _, f3⟩ := h.ix c hc
  exact ⟨Shape_unfreeze s1, Shape_unfreeze s2, s3, isFrozen_unfreeze _, isFrozen_unfreeze _, f3⟩

theorem erase_mapDyn (s : PCScc) {f : PCDyn → PCDyn} (hf : ∀ d, (f d).erase = d.erase) (c : Bool) :
    PCScc.erase { s with dyn := s.dyn.map f, changed := c } = { s.erase with changed := c } := by
  show PScc.mk _ _ _ = PScc.mk _ _ _
  congr 1
  exact map_map_congr s.dyn hf

theorem erase_freezeAll (s : PCScc) :
    PCScc.erase { s with dyn := s.dyn.map freezeDyn, changed := false } = { s.erase with changed := false } :=
  erase_mapDyn s erase_freezeDyn false

theorem erase_unfreezeAll (s : PCScc) : PCScc.erase { s with dyn := s.dyn.map unfreezeDyn } = s.erase :=
  erase_mapDyn s erase_unfreezeDyn s.changed

theorem Flags.mapDyn {N : Nat} {bo : List RelId} {fz fz' : Bool} {s : PCScc} (h : Flags N bo fz s) {f : PCDyn → PCDyn}
    (hr : ∀ d, (f d).rel = d.rel) (hf : ∀ d, DynFlags N fz d → DynFlags N fz' (f d)) (c : Bool) :
    Flags N bo fz' { s with dyn := s.dyn.map f, changed := c } := by
  refine ⟨?_, h.rels⟩
  intro d' hd'
  obtain ⟨d, hd, rfl⟩ := List.mem_map.mp hd'
  exact ⟨hf d (h.dyn d hd).1, by rw [hr]; exact (h.dyn d hd).2⟩

theorem Flags_freezeAll {N : Nat} {bo : List RelId} {s : PCScc} (h : Flags N bo false s) :
    Flags N bo true { s with dyn := s.dyn.map freezeDyn, changed := false } :=
  h.mapDyn (f := freezeDyn) (fun _ => rfl) (fun _ => DynFlags_freeze) false

theorem Flags_unfreezeAll {N : Nat} {bo : List RelId} {s : PCScc} (h : Flags N bo true s) :
    Flags N bo false { s with dyn := s.dyn.map unfreezeDyn } :=
  h.mapDyn (f := unfreezeDyn) (fun _ => rfl) (fun _ => DynFlags_unfreeze) s.changed

/-- the relations the SCC only reads (the `bodyOnly` of the model's `enterScc` / `leaveScc`: frozen at entry, unfrozen at
exit) -/
def bodyOnly (p : Program E B G P A) (scc : List Nat) : List RelId :=
  ((sccRules p scc).flatMap Rule.bodyRels).filter fun r => !(dynRels p scc).contains r

theorem bodyOnly_dyn (p : Program E B G P A) (scc : List Nat) (r : RelId) (h : (dynRels p scc).contains r = true) :
    (bodyOnly p scc).contains r = false := by
  rw [bodyOnly, contains_filter, h]
  exact Bool.and_false _

theorem StFlags_pcrel {N : Nat} {s : PCSt} (hs : StFlags N s) (r : RelId) : RelFlags N false (pcrel s r) := by
  by_cases hr : r < s.length
  · exact hs _ (pcrel_mem s r hr)
  · rw [pcrel_of_ge _ _ (Nat.le_of_not_lt hr)]
    exact ⟨rfl, fun ci h => by cases h⟩

theorem enterScc_eq (threads : Nat) (p : Program E B G P A) (scc : List Nat) (s : PCSt) :
    enterScc threads p scc s =
      { rels := (List.range s.length).map fun r =>
          if (dynRels p scc).contains r then
            { pcrel s r with full := PCFull.new, idxs := (pcrel s r).idxs.map fun ci => (ci.1, PCx.new threads ci.1) }
          else if (bodyOnly p scc).contains r then
            { pcrel s r with full := (pcrel s r).full.freeze, idxs := (pcrel s r).idxs.map fun ci => (ci.1, ci.2.freeze) }
          else pcrel s r
        dyn := (dynRels p scc).map fun r =>
          { rel := r, full := { total := PCFull.new, delta := (pcrel s r).full, new := PCFull.new }
            idxs := (pcrel s r).idxs.map fun ci =>
              (ci.1, { total := PCx.new threads ci.1, delta := ci.2, new := PCx.new threads ci.1 }) }
        changed := false } := rfl

theorem erase_enterScc (threads : Nat) (p : Program E B G P A) (scc : List Nat) (s : PCSt) :
    (enterScc threads p scc s).erase = Phys.enterScc (s.map PCRel.erase) (dynRels p scc) := by
  rw [enterScc_eq]
  show PScc.mk _ _ _ = PScc.mk _ _ _
  congr 1
  · rw [List.map_map, List.length_map]
    apply List.map_congr_left
    intro r _
    show PCRel.erase _ = _
    rw [prel_erase]
    dsimp only
    by_cases hd : (dynRels p scc).contains r = true
    · rw [if_pos hd, if_pos hd]
      show PRel.mk _ _ _ = PRel.mk _ _ _
      congr 1
      show ((pcrel s r).idxs.map _).map _ = ((pcrel s r).idxs.map _).map _
      rw [List.map_map, List.map_map]
      apply List.map_congr_left
      intro ci _
      simp [erase_new]
    · rw [if_neg hd, if_neg hd]
      by_cases hb : (bodyOnly p scc).contains r = true
      · rw [if_pos hb]
        show PRel.mk _ _ _ = PRel.mk _ _ _
        congr 1
        exact map_map_congr (pcrel s r).idxs fun ci => by simp
      · rw [if_neg hb]
  · rw [List.map_map]
    apply List.map_congr_left
    intro r _
    show PCDyn.erase _ = _
    rw [prel_erase]
    show PDyn.mk _ _ _ = PDyn.mk _ _ _
    congr 1
    show ((pcrel s r).idxs.map _).map _ = ((pcrel s r).idxs.map _).map _
    rw [List.map_map, List.map_map]
    apply List.map_congr_left
    intro ci _
    simp [eraseTri, erase_new]

theorem Flags_enterScc (threads : Nat) (p : Program E B G P A) (scc : List Nat) (s : PCSt)
    (hs : StFlags (max threads 1) s) :
    Flags (max threads 1) (bodyOnly p scc) false (enterScc threads p scc s) := by
  rw [enterScc_eq]
  refine ⟨?_, ?_⟩
  · intro d hd
    obtain ⟨r, hr, rfl⟩ := List.mem_map.mp hd
    obtain ⟨g1, g2⟩ := StFlags_pcrel hs r
    refine ⟨⟨rfl, g1, rfl, ?_⟩, bodyOnly_dyn p scc r (List.contains_iff_mem.mpr hr)⟩
    intro ci hci
    obtain ⟨c, hc, rfl⟩ := List.mem_map.mp hci
    exact ⟨Shape_new _ _, (g2 c hc).1, Shape_new _ _, isFrozen_new _ _, (g2 c hc).2, isFrozen_new _ _⟩
  · intro r hr
    have hr' : r < s.length := by simpa using hr
    obtain ⟨g1, g2⟩ := StFlags_pcrel hs r
    simp only [pcrel_rangeMap _ _ _ hr']
    by_cases hd : (dynRels p scc).contains r = true
    · rw [if_pos hd, bodyOnly_dyn p scc r hd]
      refine ⟨rfl, ?_⟩
      intro ci hci
      obtain ⟨c, hc, rfl⟩ := List.mem_map.mp hci
      exact ⟨Shape_new _ _, isFrozen_new _ _⟩
    · rw [if_neg hd]
      by_cases hb : (bodyOnly p scc).contains r = true
      · rw [if_pos hb, hb]
        refine ⟨rfl, ?_⟩
        intro ci hci
        obtain ⟨c, hc, rfl⟩ := List.mem_map.mp hci
        exact ⟨Shape_freeze (g2 c hc).1, isFrozen_freeze _⟩
      · rw [if_neg hb]
        rw [Bool.eq_false_iff.mpr hb]
        exact ⟨g1, g2⟩

def leaveStepPC (st : PCSt) (d : PCDyn) : PCSt :=
  setNth st d.rel { pcrel st d.rel with full := d.full.total, idxs := d.idxs.map fun ci => (ci.1, ci.2.total) }

theorem leavePC_length (L : List PCDyn) (st : PCSt) : (L.foldl leaveStepPC st).length = st.length :=
  foldl_setNth_length (⟨[], PCFull.new, []⟩ : PCRel) (fun d : PCDyn => d.rel)
    (fun x d => { x with full := d.full.total, idxs := d.idxs.map fun ci => (ci.1, ci.2.total) }) L st

theorem leavePC_find (L : List PCDyn) (st : PCSt) (hnd : (L.map (·.rel)).Nodup) (hlt : ∀ d ∈ L, d.rel < st.length)
    (r : RelId) :
    pcrel (L.foldl leaveStepPC st) r =
      (findPCDyn L r).elim (pcrel st r)
        fun cd => { pcrel st r with full := cd.full.total, idxs := cd.idxs.map fun ci => (ci.1, ci.2.total) } :=
  foldl_setNth_find (⟨[], PCFull.new, []⟩ : PCRel) (fun d : PCDyn => d.rel)
    (fun x d => { x with full := d.full.total, idxs := d.idxs.map fun ci => (ci.1, ci.2.total) }) L st hnd hlt r

theorem leaveScc_eq (p : Program E B G P A) (scc : List Nat) (s : PCScc) :
    leaveScc p scc s =
      (List.range (s.dyn.foldl leaveStepPC s.rels).length).map fun r =>
        if (bodyOnly p scc).contains r then
          { pcrel (s.dyn.foldl leaveStepPC s.rels) r with
            full := (pcrel (s.dyn.foldl leaveStepPC s.rels) r).full.unfreeze
            idxs := (pcrel (s.dyn.foldl leaveStepPC s.rels) r).idxs.map fun ci => (ci.1, ci.2.unfreeze) }
        else pcrel (s.dyn.foldl leaveStepPC s.rels) r := rfl

theorem leaveStep_erase (st : PCSt) (d : PCDyn) : (leaveStepPC st d).map PCRel.erase = leaveStepP (st.map PCRel.erase) d.erase := by
  unfold leaveStepPC leaveStepP
  rw [setNth_map]
  show setNth _ d.rel _ = setNth _ d.rel _
  congr 1
  show _ = leaveUpdP (prel (st.map PCRel.erase) d.rel) d.erase
  rw [prel_erase]
  show PRel.mk _ _ _ = PRel.mk _ _ _
  congr 1
  show (d.idxs.map _).map _ = (d.idxs.map _).map _
  rw [List.map_map, List.map_map]
  rfl

theorem leaveFold_erase (dyn : List PCDyn) (st : PCSt) :
    (dyn.foldl leaveStepPC st).map PCRel.erase = (dyn.map PCDyn.erase).foldl leaveStepP (st.map PCRel.erase) := by
  rw [List.foldl_map]
  exact (List.foldl_hom _ fun st d => (leaveStep_erase st d).symm).symm

theorem erase_leaveScc (p : Program E B G P A) (scc : List Nat) (s : PCScc) :
    (leaveScc p scc s).map PCRel.erase = Phys.leaveScc s.erase := by
  rw [leaveScc_eq, physLeaveScc_eq]
  show _ = (s.dyn.map PCDyn.erase).foldl leaveStepP (s.rels.map PCRel.erase)
  rw [← leaveFold_erase]
  generalize s.dyn.foldl leaveStepPC s.rels = st
  apply List.ext_getElem
  · simp
  · intro i h1 h2
    have hi : i < st.length := by simpa using h2
    simp only [List.getElem_map, List.getElem_range]
    rw [pcrel_eq_getElem st i hi]
    split
    · show PRel.mk _ _ _ = PRel.mk _ _ _
      congr 1
      exact map_map_congr st[i].idxs fun ci => by simp
    · rfl

theorem leaveFold_flags {N : Nat} {bo : List RelId} (dyn : List PCDyn)
    (hd : ∀ d ∈ dyn, DynFlags N false d ∧ bo.contains d.rel = false) : ∀ (st : PCSt),
    (∀ r, r < st.length → RelFlags N (bo.contains r) (pcrel st r)) →
      ∀ r, r < st.length → RelFlags N (bo.contains r) (pcrel (dyn.foldl leaveStepPC st) r) := by
  induction dyn with
  | nil => exact fun st h => h
  | cons d l ih =>
    intro st h
    have hlen : (leaveStepPC st d).length = st.length := length_setNth _ _ _
    rw [List.foldl_cons, ← hlen]
    refine ih (fun x hx => hd x (List.mem_cons_of_mem _ hx)) (leaveStepPC st d) fun r hr => ?_
    rw [hlen] at hr
    by_cases hne : r = d.rel
    · subst hne
      simp only [leaveStepPC, pcrel_setNth_self _ _ _ hr]
      obtain ⟨hf, hb⟩ := hd d List.mem_cons_self
      rw [hb]
      refine ⟨hf.ft, ?_⟩
      intro ci hci
      obtain ⟨c, hc, rfl⟩ := List.mem_map.mp hci
      obtain ⟨s1, _, _, f1, _, _⟩ := hf.ix c hc
      exact ⟨s1, f1⟩
    · simp only [leaveStepPC, pcrel_setNth_ne _ _ _ _ hne]
      exact h r hr

theorem Flags_leaveScc {N : Nat} (p : Program E B G P A) (scc : List Nat) (s : PCScc)
    (hfl : Flags N (bodyOnly p scc) false s) :
    StFlags N (leaveScc p scc s) ∧ (leaveScc p scc s).length = s.rels.length := by
  have g1 := leavePC_length s.dyn s.rels
  have g2 := leaveFold_flags s.dyn hfl.dyn s.rels hfl.rels
  rw [leaveScc_eq]
  refine ⟨?_, by simp [g1]⟩
  intro pr hpr
  obtain ⟨r, hr, rfl⟩ := List.mem_map.mp hpr
  have hr' : r < s.rels.length := by rw [← g1]; exact List.mem_range.mp hr
  obtain ⟨f1, f2⟩ := g2 r hr'
  split
  · refine ⟨rfl, ?_⟩
    intro ci hci
    obtain ⟨c, hc, rfl⟩ := List.mem_map.mp hci
    exact ⟨Shape_unfreeze (f2 c hc).1, isFrozen_unfreeze _⟩
  · rename_i hb
    rw [Bool.eq_false_iff.mpr hb] at f1 f2
    exact ⟨f1, f2⟩

/-- a full index only knows the SET of rows it was built from -/
theorem FullOk_rows_congr {rows rows' : List Tuple} {m : FIx} (hm : ∀ t, t ∈ rows ↔ t ∈ rows')
    (h : FullOk rows (List.range rows.length) m) : FullOk rows' (List.range rows'.length) m := by
  refine ⟨h.1, fun t => ?_⟩
  rw [h.2 t, bagTuples_range, bagTuples_range, hm t]

/-- the loop body of `update_indices` for one relation (the local `insRow` of `updateRel`) -/
def insRow (σ : Sched E B G P A) (acc : PCFull × List (List Nat × PCx) × Nat) (row : Tuple) :
    Res (PCFull × List (List Nat × PCx) × Nat) :=
  acc.1.insert row >>= fun full =>
  foldRes (fun (done : List (List Nat × PCx)) (ci : List Nat × PCx) =>
    ci.2.insert (σ.tid acc.2.2) (Plan.proj ci.1 row) (projC ci.1 row) >>= fun x => pure (done ++ [(ci.1, x)])) acc.2.1 [] >>=
  fun idxs => pure (full, idxs, acc.2.2 + 1)

theorem updateRel_eq (threads : Nat) (σ : Sched E B G P A) (k : Nat) (ixr : List (List Nat)) (rows : List Tuple) :
    updateRel threads σ k ixr rows =
      (foldRes (insRow σ) (σ.permRows k rows) (PCFull.new, ixr.map fun c => (c, PCx.new threads c), k * 1000003)).map
        fun acc => ⟨rows, acc.1, acc.2.1⟩ := rfl

theorem updateRel_ok (threads : Nat) (σ : Sched E B G P A) (k : Nat) (ixr : List (List Nat)) (rows : List Tuple) :
    ∃ pr, updateRel threads σ k ixr rows = .ok pr ∧ pr.rows = rows ∧ RelFlags (max threads 1) false pr ∧
      VerB ixr rows (List.range rows.length) pr.erase.full pr.erase.idxs := by
  have hN : 0 < max threads 1 := by omega
  obtain ⟨acc, hfold, hf, hfull, hcols, hidx⟩ := foldRes_inv (insRow σ)
    (fun done (acc : PCFull × List (List Nat × PCx) × Nat) => acc.1.frozen = false ∧
      acc.1.m = buildFull done ∧ acc.2.1.map (·.1) = ixr ∧
      ∀ ci ∈ acc.2.1, Shape (max threads 1) ci.1 ci.2 ∧ ci.2.isFrozen = false ∧ IxB done ci.1 ci.2.erase)
    (σ.permRows k rows) (by
      intro done acc row _ hinv
      obtain ⟨hf, hfull, hcols, hidx⟩ := hinv
      obtain ⟨idxs, hfold, hcols', hq⟩ := foldRes_keyed
        (fun (ci : List Nat × PCx) => ci.2.insert (σ.tid acc.2.2) (Plan.proj ci.1 row) (projC ci.1 row)) (fun _ x => x)
        (fun cols _ x' => Shape (max threads 1) cols x' ∧ x'.isFrozen = false ∧ IxB (done ++ [row]) cols x'.erase)
        acc.2.1 (fun ci hci => by
          obtain ⟨s1, f1, i1⟩ := hidx ci hci
          obtain ⟨x', h1, h2, h3, h4⟩ := PCx_insert_same hN s1 f1 (σ.tid acc.2.2) row
          exact ⟨x', h1, h2, h3, h4.ixB (i1.insert row)⟩)
      refine ⟨(⟨false, FullIdx.insert acc.1.m row ()⟩, idxs, acc.2.2 + 1), ?_, rfl, ?_, hcols'.trans hcols, fun c' hc' => ?_⟩
      · have e1 : acc.1.insert row = .ok ⟨false, FullIdx.insert acc.1.m row ()⟩ := by
          unfold PCFull.insert; rw [hf]; rfl
        unfold insRow
        rw [e1, bind_ok, hfold]; rfl
      · show FullIdx.insert acc.1.m row () = List.foldl _ [] (done ++ [row])
        rw [List.foldl_append, hfull]
        rfl
      · obtain ⟨_, _, q⟩ := hq c'.1 c'.2 hc'
        exact q)
    (PCFull.new, ixr.map fun c => (c, PCx.new threads c), k * 1000003)
    ⟨rfl, rfl, by rw [List.map_map]; exact List.map_id _, by
      intro ci hci
      obtain ⟨c, _, rfl⟩ := List.mem_map.mp hci
      refine ⟨Shape_new _ _, isFrozen_new _ _, ?_⟩
      show IxB [] c (PCx.new threads c).erase
      rw [erase_new]; exact .nil c⟩
  -- the full index is the serial one built in schedule order; an index only knows the multiset of its rows
  have hperm := σ.permRows_perm k rows
  refine ⟨⟨rows, acc.1, acc.2.1⟩, by rw [updateRel_eq, hfold]; rfl, rfl, ⟨hf, fun ci hci => ⟨(hidx ci hci).1, (hidx ci hci).2.1⟩⟩,
    FullOk_rows_congr (fun t => hperm.mem_iff) (hfull.symm ▸ FullOk_build _ : FullOk _ _ acc.1.m), ?_, ?_⟩
  · show (acc.2.1.map fun ci => (ci.1, ci.2.erase)).map (·.1) = ixr
    rw [List.map_map, ← hcols]; rfl
  · intro ci hci
    obtain ⟨c, hc, rfl⟩ := List.mem_map.mp hci
    rw [bagTuples_range]
    exact (hidx c hc).2.2.perm hperm

theorem updateIndices_eq (threads : Nat) (σ : Sched E B G P A) (ix : IxSets) (s : PCSt) :
    updateIndices threads σ ix s =
      foldRes (fun (done : PCSt) (r : Nat) => updateRel threads σ r (ix r) (pcrel s r).rows >>= fun pr => pure (done ++ [pr]))
        (List.range s.length) [] := rfl

theorem updateIndices_ok (threads : Nat) (σ : Sched E B G P A) (ix : IxSets) (s : PCSt) :
    ∃ st, updateIndices threads σ ix s = .ok st ∧ st.length = s.length ∧ StFlags (max threads 1) st ∧
      ∀ r, r < s.length → (pcrel st r).rows = (pcrel s r).rows ∧
        VerB (ix r) (pcrel s r).rows (List.range (pcrel s r).rows.length) (pcrel st r).erase.full (pcrel st r).erase.idxs := by
  obtain ⟨st, hfold, hrel2⟩ := foldRes_collect (fun r => updateRel threads σ r (ix r) (pcrel s r).rows) (fun _ pr => pr)
    (fun r pr => pr.rows = (pcrel s r).rows ∧ RelFlags (max threads 1) false pr ∧
      VerB (ix r) (pcrel s r).rows (List.range (pcrel s r).rows.length) pr.erase.full pr.erase.idxs)
    (List.range s.length) (fun r _ => updateRel_ok threads σ r (ix r) (pcrel s r).rows)
  have hlen : st.length = s.length := by rw [← hrel2.length_eq, List.length_range]
  refine ⟨st, by rw [updateIndices_eq, hfold], hlen, ?_, ?_⟩
  · intro pr hpr
    obtain ⟨r, _, hq⟩ := hrel2.forall_right pr hpr
    exact hq.2.1
  · intro r hr
    have hr' : r < st.length := by rw [hlen]; exact hr
    have hq := hrel2.get r r (pcrel st r) (List.getElem?_range hr) (by
      rw [pcrel_eq_getElem st r hr', List.getElem?_eq_getElem hr'])
    exact ⟨hq.1, hq.2.2⟩

theorem updateIndices_simSt (p : Program E B G P A) (threads : Nat) (σ : Sched E B G P A) (ix : IxSets) (s : PCSt)
    (hty : ∀ r, ∀ t ∈ (pcrel s r).rows, t.length = arityOf p r) :
    ∃ st, updateIndices threads σ ix s = .ok st ∧ StFlags (max threads 1) st ∧
      SimStB p ix (Engine.updateIndices (absSt (s.map PCRel.erase))) (st.map PCRel.erase) := by
  obtain ⟨st, h1, h2, h3, h4⟩ := updateIndices_ok threads σ ix s
  refine ⟨st, h1, h3, by simp [Engine.updateIndices, absSt, h2], ?_, ?_, ?_⟩
  · intro r
    rw [relSt_updateIndices, prel_erase, relSt_absSt_erase]
    by_cases hr : r < s.length
    · exact (h4 r hr).1.symm
    · have hr' : s.length ≤ r := Nat.le_of_not_lt hr
      rw [pcrel_of_ge _ _ hr', pcrel_of_ge _ _ (by rw [h2]; exact hr')]
      rfl
  · intro r hr
    have hr' : r < s.length := by simpa [Engine.updateIndices, absSt] using hr
    rw [relSt_updateIndices, prel_erase, relSt_absSt_erase]
    exact (h4 r hr').2
  · intro r t ht
    rw [relSt_updateIndices, relSt_absSt_erase] at ht
    exact hty r t ht

end AscentVerif.PhysPar
