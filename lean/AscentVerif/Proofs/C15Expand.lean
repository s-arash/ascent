import AscentVerif.Proofs.C15Basic
/-!
# C15: macro expansion and desugaring: when they succeed

`Expands ms fuel it` says by recursion on the budget when `expandItem ms fuel σ π it` succeeds; it mentions neither the
environment nor the position.  `expandItem_decides` proves in one traversal (the expansion functions are compositions of
`flatMapLazy`) that it is the success condition, that the errors are errors of expansion and that the value contains no
invocation (`NoMac`); likewise `HExpands` in a head and `RuleExpands` for a rule.  Divergence (`not_expands_of_reachesEmptyDisj`)
and success within the budget (`expands_of_fits`) are statements about `Expands` alone.  An expanded rule contains no invocation,
so the disjunction product and the head conversion cannot meet their `panic!` arms (`desugar_decides`, `desugar_no_leftover`).
-/
namespace AscentVerif.Check
open AscentVerif AscentVerif.Engine

theorem emptyDisj_sound :
    (∀ it : Item, it.hasEmptyDisj = true → HasEmptyDisj it) ∧
    (∀ alts : List (List Item), altsHaveEmptyDisj alts = true → ∃ alt ∈ alts, ∃ it ∈ alt, HasEmptyDisj it) ∧
    ∀ its : List Item, itemsHaveEmptyDisj its = true → ∃ it ∈ its, HasEmptyDisj it := by
  refine Item.hasEmptyDisj.mutual_induct _ _ _ (fun alts ih h => ?_) (fun t ht h => ?_)
    (fun h => absurd h Bool.false_ne_true) (fun alt rest ihalt ih h => ?_)
    (fun h => absurd h Bool.false_ne_true) (fun it rest ihit ih h => ?_)
  · rw [Item.hasEmptyDisj, Bool.or_eq_true] at h
    rcases h with h | h
    · have : alts = [] := by simpa using h
      subst this
      exact HasEmptyDisj.here
    · obtain ⟨alt, halt, it, hit, hh⟩ := ih h
      exact HasEmptyDisj.inDisj halt hit hh
  · cases t with
    | disj alts => exact (ht alts rfl).elim
    | _ => exact absurd h Bool.false_ne_true
  · rw [altsHaveEmptyDisj, Bool.or_eq_true] at h
    rcases h with h | h
    · obtain ⟨x, hx, hh⟩ := ihalt h
      exact ⟨alt, List.mem_cons_self, x, hx, hh⟩
    · obtain ⟨a, ha, x, hx, hh⟩ := ih h
      exact ⟨a, List.mem_cons_of_mem _ ha, x, hx, hh⟩
  · rw [itemsHaveEmptyDisj, Bool.or_eq_true] at h
    rcases h with h | h
    · exact ⟨it, List.mem_cons_self, ihit h⟩
    · obtain ⟨x, hx, hh⟩ := ih h
      exact ⟨x, List.mem_cons_of_mem _ hx, hh⟩

theorem altsHaveEmptyDisj_sound : ∀ (alts : List (List Item)), altsHaveEmptyDisj alts = true →
    ∃ alt ∈ alts, ∃ it ∈ alt, HasEmptyDisj it :=
  emptyDisj_sound.2.1

theorem itemsHaveEmptyDisj_of_mem : ∀ {its : List Item} {it : Item}, it ∈ its → it.hasEmptyDisj = true →
    itemsHaveEmptyDisj its = true := by
  intro its it hm h
  induction its with
  | nil => cases hm
  | cons x rest ih =>
    rw [itemsHaveEmptyDisj, Bool.or_eq_true]
    rcases List.mem_cons.1 hm with rfl | hm
    · exact Or.inl h
    · exact Or.inr (ih hm)

theorem altsHaveEmptyDisj_of_mem : ∀ {alts : List (List Item)} {alt : List Item}, alt ∈ alts →
    itemsHaveEmptyDisj alt = true → altsHaveEmptyDisj alts = true := by
  intro alts alt hm h
  induction alts with
  | nil => cases hm
  | cons x rest ih =>
    rw [altsHaveEmptyDisj, Bool.or_eq_true]
    rcases List.mem_cons.1 hm with rfl | hm
    · exact Or.inl h
    · exact Or.inr (ih hm)

theorem hasEmptyDisj_complete {it : Item} (h : HasEmptyDisj it) : it.hasEmptyDisj = true := by
  induction h with
  | here => rw [Item.hasEmptyDisj]; rfl
  | inDisj halt hit _ ih =>
    rw [Item.hasEmptyDisj, Bool.or_eq_true]
    exact Or.inr (altsHaveEmptyDisj_of_mem halt (itemsHaveEmptyDisj_of_mem hit ih))

theorem hasEmptyDisj_iff (it : Item) : it.hasEmptyDisj = true ↔ HasEmptyDisj it :=
  ⟨emptyDisj_sound.1 it, hasEmptyDisj_complete⟩

theorem itemsHaveEmptyDisj_iff (its : List Item) : itemsHaveEmptyDisj its = true ↔ ∃ it ∈ its, HasEmptyDisj it :=
  ⟨emptyDisj_sound.2.2 its, fun ⟨_, hit, h⟩ => itemsHaveEmptyDisj_of_mem hit (hasEmptyDisj_complete h)⟩

def Err.expandErr : Err → Bool
  | .recMacro | .undefMacro | .macroArgs | .unexpectedToken | .emptyDisj | .unsupported => true
  | _ => false

theorem expandItem_zero (ms : List MacroDef) (σ : Env) (π : List Nat) (it : Item) :
    expandItem ms 0 σ π it = .error .recMacro := by
  rw [expandItem]

/-- alternative `a.1`, the `a.2`-th of a disjunction at position `π`: its items in order -/
def expandAlt (ms : List MacroDef) (fuel : Nat) (σ : Env) (π : List Nat) (a : List Item × Nat) : Except Err (List Item) :=
  flatMapLazy (fun x => expandItem ms fuel σ (π ++ [a.2, x.2]) x.1) a.1.zipIdx

theorem expandItem_disj (ms : List MacroDef) (fuel : Nat) (σ : Env) (π : List Nat) (alts : List (List Item)) :
    expandItem ms (fuel + 1) σ π (.disj alts) =
      match mapLazy (expandAlt ms fuel σ π) alts.zipIdx with
      | .error e => .error e
      | .ok alts' => .ok [.disj alts'] := by
  rw [expandItem, mapLazy_congr (g := expandAlt ms fuel σ π)]
  · generalize mapLazy _ _ = m
    cases m <;> rfl
  · intro a
    unfold expandAlt flatMapLazy
    generalize mapLazy _ _ = m
    cases m <;> rfl

/-- the invocation `name!(args)` in a rule body passes the tests in front of the expansion of the macro's body -/
def Resolves (ms : List MacroDef) (name : Name) (args : List Arg) (d : MacroDef) : Prop :=
  lookupMacro ms name = some d ∧ d.isHead = false ∧ args.length = d.params.length ∧ itemsHaveEmptyDisj d.body = false

theorem Resolves.unique {ms : List MacroDef} {name : Name} {args : List Arg} {d d' : MacroDef}
    (h : Resolves ms name args d) (h' : Resolves ms name args d') : d' = d :=
  Option.some.inj (h'.1.symm.trans h.1)

theorem expandItem_resolved {ms : List MacroDef} {name : Name} {args : List Arg} {d : MacroDef}
    (h : Resolves ms name args d) (fuel : Nat) (σ : Env) (π : List Nat) :
    expandItem ms (fuel + 1) σ π (.mac name args) =
      flatMapLazy (fun x => expandItem ms fuel ⟨d.params.zip (args.map σ.arg), π⟩ (π ++ [x.2]) x.1) d.body.zipIdx := by
  obtain ⟨hl, hh, hlen, hne⟩ := h
  rw [expandItem]
  simp only [hl, hh, hlen, hne, Nat.lt_irrefl, Bool.false_eq_true, if_false]
  unfold flatMapLazy
  generalize mapLazy _ _ = m
  cases m <;> rfl

theorem expandItem_unresolved {ms : List MacroDef} {name : Name} {args : List Arg} (h : ∀ d, ¬ Resolves ms name args d)
    (fuel : Nat) (σ : Env) (π : List Nat) :
    Sat (fun e => e.expandErr = true) (fun _ => False) (expandItem ms (fuel + 1) σ π (.mac name args)) := by
  rw [expandItem]
  cases hl : lookupMacro ms name with
  | none => exact rfl
  | some d =>
    exact .ite rfl fun h1 => .ite rfl fun h2 => .ite rfl fun h3 => .ite rfl fun h4 =>
      absurd ⟨hl, Bool.eq_false_iff.2 h1, by omega, Bool.eq_false_iff.2 h4⟩ (h d)

theorem expandHead_zero (ms : List MacroDef) (h : HItem) : expandHead ms 0 h = .error .recMacro := by
  rw [expandHead]

def HResolves (ms : List MacroDef) (name : Name) (args : List Arg) (d : MacroDef) : Prop :=
  lookupMacro ms name = some d ∧ d.isHead = true ∧ args.length = d.params.length

theorem HResolves.unique {ms : List MacroDef} {name : Name} {args : List Arg} {d d' : MacroDef}
    (h : HResolves ms name args d) (h' : HResolves ms name args d') : d' = d :=
  Option.some.inj (h'.1.symm.trans h.1)

theorem expandHead_resolved {ms : List MacroDef} {name : Name} {args : List Arg} {d : MacroDef}
    (h : HResolves ms name args d) (fuel : Nat) :
    expandHead ms (fuel + 1) (.mac name args) = flatMapLazy (expandHead ms fuel) d.hbody := by
  obtain ⟨hl, hh, hlen⟩ := h
  rw [expandHead]
  simp only [hl, hh, hlen, Nat.lt_irrefl, Bool.not_true, Bool.false_eq_true, if_false]
  unfold flatMapLazy
  generalize mapLazy _ _ = m
  cases m <;> rfl

theorem expandHead_unresolved {ms : List MacroDef} {name : Name} {args : List Arg} (h : ∀ d, ¬ HResolves ms name args d)
    (fuel : Nat) : Sat (fun e => e.expandErr = true) (fun _ => False) (expandHead ms (fuel + 1) (.mac name args)) := by
  rw [expandHead]
  cases hl : lookupMacro ms name with
  | none => exact rfl
  | some d =>
    exact .ite rfl fun h1 => .ite rfl fun h2 => .ite rfl fun h3 =>
      absurd ⟨hl, by simpa using h1, by omega⟩ (h d)

theorem expandRule_eq (ms : List MacroDef) (r : Rule) :
    expandRule ms r =
      match flatMapLazy (fun x => expandItem ms depthBudget Env.top [x.2] x.1) r.body.zipIdx with
      | .error e => .error e
      | .ok body =>
        match flatMapLazy (expandHead ms depthBudget) r.heads with
        | .error e => .error e
        | .ok heads => .ok { heads := heads, htrailing := false, body := body } := by
  unfold expandRule flatMapLazy
  generalize mapLazy _ r.body.zipIdx = m
  cases m with
  | error e => rfl
  | ok inner =>
    generalize mapLazy _ r.heads = m'
    cases m' <;> rfl

inductive NoMac : Item → Prop
  | clause (rel : Name) (args : List Arg) (conds : List Binder) : NoMac (.clause rel args conds)
  | binder (b : Binder) : NoMac (.binder b)
  | agg (rel : Name) (args : List Arg) (pat : Binder) (bound : List Var) : NoMac (.agg rel args pat bound)
  | neg (rel : Name) (k : Nat) : NoMac (.neg rel k)
  | disj {alts : List (List Item)} : (∀ alt ∈ alts, ∀ it ∈ alt, NoMac it) → NoMac (.disj alts)

def Expands (ms : List MacroDef) : Nat → Item → Prop
  | 0, _ => False
  | n + 1, .mac name args => ∃ d, Resolves ms name args d ∧ ∀ it ∈ d.body, Expands ms n it
  | n + 1, .disj alts => ∀ alt ∈ alts, ∀ it ∈ alt, Expands ms n it
  | _ + 1, _ => True

theorem expandItem_decides (ms : List MacroDef) : ∀ (fuel : Nat) (σ : Env) (π : List Nat) (it : Item),
    Decides (Expands ms fuel it) Err.expandErr (fun its => ∀ x ∈ its, NoMac x) (expandItem ms fuel σ π it) := by
  intro fuel
  induction fuel with
  | zero =>
    intro σ π it
    rw [expandItem_zero]
    exact .error (fun h => h) rfl
  | succ fuel ih =>
    intro σ π it
    cases it with
    | mac name args =>
      by_cases hr : ∃ d, Resolves ms name args d
      · obtain ⟨d, hd⟩ := hr
        rw [expandItem_resolved hd]
        refine (flatMapLazy_decides fun x _ => ih _ _ x.1).congr (forall_mem_zipIdx.trans ?_)
        exact ⟨fun h => ⟨d, hd, h⟩, fun ⟨d', hd', h⟩ => hd.unique hd' ▸ h⟩
      · exact (expandItem_unresolved (fun d hd => hr ⟨d, hd⟩) fuel σ π).mono
          (fun _ he => ⟨fun ⟨d, hd, _⟩ => hr ⟨d, hd⟩, he⟩) fun _ h => h.elim
    | disj alts =>
      have hm := (mapLazy_decides (xs := alts.zipIdx) (f := expandAlt ms fuel σ π) fun a _ =>
        (flatMapLazy_decides fun x _ => ih σ (π ++ [a.2, x.2]) x.1).congr forall_mem_zipIdx).congr
          (forall_mem_zipIdx (p := fun alt => ∀ it ∈ alt, Expands ms fuel it))
      rw [expandItem_disj]
      cases hmx : mapLazy (expandAlt ms fuel σ π) alts.zipIdx with
      | error e => exact hm.of_error hmx
      | ok alts' => exact .ok (hm.of_ok hmx).1 (List.forall_mem_singleton.2 (NoMac.disj (hm.of_ok hmx).2))
    | clause rel args conds =>
      rw [expandItem]
      exact .ok trivial (List.forall_mem_singleton.2 (NoMac.clause _ _ _))
    | binder b =>
      rw [expandItem]
      exact .ok trivial (List.forall_mem_singleton.2 (NoMac.binder _))
    | agg rel args pat bound =>
      rw [expandItem]
      exact .ok trivial (List.forall_mem_singleton.2 (NoMac.agg _ _ _ _))
    | neg rel n =>
      rw [expandItem]
      exact .ok trivial (List.forall_mem_singleton.2 (NoMac.neg _ _))

def HExpands (ms : List MacroDef) : Nat → HItem → Prop
  | 0, _ => False
  | n + 1, .mac name args => ∃ d, HResolves ms name args d ∧ ∀ h ∈ d.hbody, HExpands ms n h
  | _ + 1, .clause _ _ => True

theorem expandHead_decides (ms : List MacroDef) : ∀ (fuel : Nat) (h : HItem),
    Decides (HExpands ms fuel h) Err.expandErr (fun hs => ∀ x ∈ hs, ∃ rel n, x = HItem.clause rel n)
      (expandHead ms fuel h) := by
  intro fuel
  induction fuel with
  | zero =>
    intro h
    rw [expandHead_zero]
    exact .error (fun h => h) rfl
  | succ fuel ih =>
    intro h
    cases h with
    | mac name args =>
      by_cases hr : ∃ d, HResolves ms name args d
      · obtain ⟨d, hd⟩ := hr
        rw [expandHead_resolved hd]
        refine (flatMapLazy_decides fun x _ => ih x).congr ?_
        exact ⟨fun h => ⟨d, hd, h⟩, fun ⟨d', hd', h⟩ => hd.unique hd' ▸ h⟩
      · exact (expandHead_unresolved (fun d hd => hr ⟨d, hd⟩) fuel).mono
          (fun _ he => ⟨fun ⟨d, hd, _⟩ => hr ⟨d, hd⟩, he⟩) fun _ h => h.elim
    | clause rel n =>
      rw [expandHead]
      exact .ok trivial (List.forall_mem_singleton.2 ⟨rel, n, rfl⟩)

def RuleExpands (ms : List MacroDef) (r : Rule) : Prop :=
  (∀ it ∈ r.body, Expands ms depthBudget it) ∧ ∀ h ∈ r.heads, HExpands ms depthBudget h

theorem expandRule_decides (ms : List MacroDef) (r : Rule) :
    Decides (RuleExpands ms r) Err.expandErr
      (fun r' => (∀ x ∈ r'.body, NoMac x) ∧ ∀ x ∈ r'.heads, ∃ rel n, x = HItem.clause rel n) (expandRule ms r) := by
  have hb := (flatMapLazy_decides (xs := r.body.zipIdx)
    fun x _ => expandItem_decides ms depthBudget Env.top [x.2] x.1).congr (forall_mem_zipIdx (k := 0))
  have hh := flatMapLazy_decides (xs := r.heads) fun x _ => expandHead_decides ms depthBudget x
  rw [expandRule_eq]
  cases hbx : flatMapLazy (fun x => expandItem ms depthBudget Env.top [x.2] x.1) r.body.zipIdx with
  | error e => exact hb.and_of_error hbx
  | ok body =>
    refine hb.and_of_ok hbx ?_
    cases hhx : flatMapLazy (expandHead ms depthBudget) r.heads with
    | error e => exact hh.of_error hhx
    | ok heads => exact .ok (hh.of_ok hhx).1 ⟨(hb.of_ok hbx).2, (hh.of_ok hhx).2⟩

/-- induction on the budget: at an invocation of a member of `D` either the test for an empty disjunction in the
body fails, or the body contains an invocation of a member again, one unit of budget further down -/
theorem not_expands_of_reachesEmptyDisj (ms : List MacroDef) (D : Name → Prop) (hD : ReachesEmptyDisj ms D) :
    ∀ (fuel : Nat) (it : Item) (m : Name), D m → Invokes it m → ¬ Expands ms fuel it := by
  intro fuel
  induction fuel with
  | zero => exact fun _ _ _ _ h => h
  | succ fuel ih =>
    intro it m hm hinv
    cases hinv with
    | here _ args =>
      rintro ⟨d, hd, hbody⟩
      rcases hD m hm d hd.1 with hed | ⟨it', hit', m', hm', hinv'⟩
      · exact absurd ((itemsHaveEmptyDisj_iff d.body).2 hed) (by rw [hd.2.2.2]; exact Bool.false_ne_true)
      · exact ih it' m' hm' hinv' (hbody it' hit')
    | inDisj halt hit' hinv' => exact fun hall => ih _ m hm hinv' (hall _ halt _ hit')

theorem reachesEmptyDisj_of_diverging {ms : List MacroDef} {D : Name → Prop} (hD : Diverging ms D) :
    ReachesEmptyDisj ms D := fun m hm d hd => Or.inr (hD m hm d hd)

theorem not_hExpands_of_diverging (ms : List MacroDef) (D : Name → Prop) (hD : HDiverging ms D) :
    ∀ (fuel : Nat) (h : HItem) (m : Name), D m → HInvokes h m → ¬ HExpands ms fuel h := by
  intro fuel
  induction fuel with
  | zero => exact fun _ _ _ _ h => h
  | succ fuel ih =>
    intro h m hm hinv
    cases hinv with
    | here _ args =>
      rintro ⟨d, hd, hbody⟩
      obtain ⟨h', hh', m', hm', hinv'⟩ := hD m hm d hd.1
      exact ih h' m' hm' hinv' (hbody h' hh')

theorem not_ruleExpands_of_reachesEmptyDisj {ms : List MacroDef} {D : Name → Prop} (hD : ReachesEmptyDisj ms D)
    {r : Rule} (h : ∃ it ∈ r.body, ∃ m, D m ∧ Invokes it m) : ¬ RuleExpands ms r :=
  let ⟨it, hit, m, hm, hinv⟩ := h
  fun hx => not_expands_of_reachesEmptyDisj ms D hD _ it m hm hinv (hx.1 it hit)

theorem not_ruleExpands_of_hDiverging {ms : List MacroDef} {D : Name → Prop} (hD : HDiverging ms D)
    {r : Rule} (h : ∃ hd ∈ r.heads, ∃ m, D m ∧ HInvokes hd m) : ¬ RuleExpands ms r :=
  let ⟨hd, hhd, m, hm, hinv⟩ := h
  fun hx => not_hExpands_of_diverging ms D hD _ hd m hm hinv (hx.2 hd hhd)

theorem expandItem_diverging (ms : List MacroDef) (D : Name → Prop) (hD : Diverging ms D) :
    ∀ (fuel : Nat) (σ : Env) (π : List Nat) (it : Item) (m : Name), D m → Invokes it m →
      ∃ e, expandItem ms fuel σ π it = .error e :=
  fun fuel σ π it m hm hinv => (expandItem_decides ms fuel σ π it).error_of_not
    (not_expands_of_reachesEmptyDisj ms D (reachesEmptyDisj_of_diverging hD) fuel it m hm hinv)

theorem expandRule_diverging (ms : List MacroDef) (D : Name → Prop) (hD : Diverging ms D) (r : Rule)
    (h : ∃ it ∈ r.body, ∃ m, D m ∧ Invokes it m) : ∃ e, expandRule ms r = .error e :=
  (expandRule_decides ms r).error_of_not (not_ruleExpands_of_reachesEmptyDisj (reachesEmptyDisj_of_diverging hD) h)

theorem expandHead_diverging (ms : List MacroDef) (D : Name → Prop) (hD : HDiverging ms D) :
    ∀ (fuel : Nat) (h : HItem) (m : Name), D m → HInvokes h m → ∃ e, expandHead ms fuel h = .error e :=
  fun fuel h m hm hinv => (expandHead_decides ms fuel h).error_of_not (not_hExpands_of_diverging ms D hD fuel h m hm hinv)

theorem not_fits_of_hasEmptyDisj (ms : List MacroDef) {it : Item} (h : HasEmptyDisj it) : ∀ n, ¬ Fits ms n it := by
  induction h with
  | here =>
    intro n hf
    cases hf with
    | disj hne _ => exact hne rfl
  | inDisj halt hit _ ih =>
    intro n hf
    cases hf with
    | disj _ hall => exact ih _ (hall _ halt _ hit)

theorem itemsHaveEmptyDisj_of_fits {ms : List MacroDef} {n : Nat} {its : List Item} (h : ∀ it ∈ its, Fits ms n it) :
    itemsHaveEmptyDisj its = false := by
  cases hb : itemsHaveEmptyDisj its with
  | false => rfl
  | true =>
    obtain ⟨it, hit, hh⟩ := (itemsHaveEmptyDisj_iff its).1 hb
    exact absurd (h it hit) (not_fits_of_hasEmptyDisj ms hh n)

theorem expands_of_fits (ms : List MacroDef) {n : Nat} {it : Item} (h : Fits ms n it) :
    ∀ {fuel : Nat}, n ≤ fuel → Expands ms fuel it := by
  induction h with
  | clause | binder | agg | neg =>
    intro fuel hn
    obtain ⟨f, rfl⟩ := Nat.exists_eq_add_one_of_ne_zero (Nat.ne_zero_of_lt hn)
    trivial
  | disj _ _ ih =>
    intro fuel hn
    obtain ⟨f, rfl⟩ := Nat.exists_eq_add_one_of_ne_zero (Nat.ne_zero_of_lt hn)
    exact fun alt halt it hit => ih alt halt it hit (Nat.le_of_succ_le_succ hn)
  | @mac n m args d hl hhead hlen hbody ih =>
    intro fuel hn
    obtain ⟨f, rfl⟩ := Nat.exists_eq_add_one_of_ne_zero (Nat.ne_zero_of_lt hn)
    exact ⟨d, ⟨hl, hhead, hlen, itemsHaveEmptyDisj_of_fits hbody⟩, fun it hit => ih it hit (Nat.le_of_succ_le_succ hn)⟩

theorem prodItems_ok : ∀ {its : List Item}, (∀ x ∈ its, ∃ conjs, prodItem x = .ok conjs) →
    ∃ conjs, prodItems its = .ok conjs := by
  intro its h
  induction its with
  | nil => exact ⟨_, rfl⟩
  | cons it rest ih =>
    obtain ⟨a, ha⟩ := h it List.mem_cons_self
    obtain ⟨b, hb⟩ := ih fun x hx => h x (List.mem_cons_of_mem _ hx)
    exact ⟨cross a b, by rw [prodItems, ha, hb]⟩

theorem prodAlts_ok : ∀ {alts : List (List Item)}, (∀ alt ∈ alts, ∀ x ∈ alt, ∃ conjs, prodItem x = .ok conjs) →
    ∃ conjs, prodAlts alts = .ok conjs := by
  intro alts h
  induction alts with
  | nil => exact ⟨_, rfl⟩
  | cons alt rest ih =>
    obtain ⟨a, ha⟩ := prodItems_ok (h alt List.mem_cons_self)
    obtain ⟨b, hb⟩ := ih fun x hx => h x (List.mem_cons_of_mem _ hx)
    exact ⟨a ++ b, by rw [prodAlts, ha, hb]⟩

theorem prodItem_noMac' : ∀ (it : Item), NoMac it → ∃ conjs, prodItem it = .ok conjs := by
  intro it h
  induction h with
  | clause rel args conds => exact ⟨_, rfl⟩
  | binder b => exact ⟨_, rfl⟩
  | agg rel args pat bound => exact ⟨_, rfl⟩
  | neg rel n => exact ⟨_, rfl⟩
  | disj _ ih =>
    rw [prodItem]
    exact prodAlts_ok ih

theorem prodItems_noMac : ∀ (its : List Item), (∀ x ∈ its, NoMac x) → ∃ conjs, prodItems its = .ok conjs :=
  fun _ h => prodItems_ok fun x hx => prodItem_noMac' x (h x hx)

theorem prodAlts_noMac' : ∀ (alts : List (List Item)), (∀ alt ∈ alts, ∀ x ∈ alt, NoMac x) →
    ∃ conjs, prodAlts alts = .ok conjs :=
  fun _ h => prodAlts_ok fun alt halt x hx => prodItem_noMac' x (h alt halt x hx)

theorem coreHeads_ok : ∀ (hs : List HItem), (∀ x ∈ hs, ∃ rel n, x = .clause rel n) → ∃ c, coreHeads hs = .ok c := by
  intro hs h
  induction hs with
  | nil => exact ⟨[], rfl⟩
  | cons x rest ih =>
    obtain ⟨rel, n, rfl⟩ := h x List.mem_cons_self
    obtain ⟨c, hc⟩ := ih fun x hx => h x (List.mem_cons_of_mem _ hx)
    exact ⟨⟨rel, n⟩ :: c, by rw [coreHeads, hc]⟩

theorem desugarRule_ok {r : Rule} (h : (∀ x ∈ r.body, NoMac x) ∧ ∀ x ∈ r.heads, ∃ rel n, x = HItem.clause rel n) :
    ∃ c, desugarRule r = .ok c := by
  obtain ⟨conjs, hconjs⟩ := prodItems_noMac r.body h.1
  obtain ⟨hs, hhs⟩ := coreHeads_ok r.heads h.2
  exact ⟨_, by rw [desugarRule, hconjs, hhs]⟩

theorem desugar_decides (ms : List MacroDef) (rules : List Rule) :
    Decides (∀ r ∈ rules, RuleExpands ms r) Err.expandErr (fun _ => True) (desugar ms rules) := by
  have hm := mapLazy_decides (xs := rules) fun r _ => expandRule_decides ms r
  unfold desugar
  cases hrs : mapLazy (expandRule ms) rules with
  | error e => exact hm.of_error hrs
  | ok rs =>
    obtain ⟨cs, hcs⟩ := mapLazy_ok_of_forall fun r' hr' => desugarRule_ok ((hm.of_ok hrs).2 r' hr')
    dsimp only
    rw [hcs]
    exact .ok (hm.of_ok hrs).1 trivial

/-- the `panic!`s guarding against a macro invocation that survived expansion are unreachable -/
theorem desugar_no_leftover (ms : List MacroDef) (rules : List Rule) : desugar ms rules ≠ .error .panicLeftover :=
  fun h => Bool.noConfusion ((desugar_decides ms rules).errs.of_error h)

end AscentVerif.Check
