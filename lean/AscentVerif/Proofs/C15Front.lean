import AscentVerif.Proofs.C15Basic
/-!
# C15: the stages beside the rules: parsing, signatures, attributes, re-declared relations

One `Decides` / `Sat` lemma per function: `parseItems`, `sigCheck`, the attribute tests (`getDsAttr`, `declsCheck`,
`requirePathOnly`, `configCheck`); and `dedupKeepLast` / `findDecl`, which say which declaration of a re-declared
relation the later stages see.
-/
namespace AscentVerif.Check
open AscentVerif AscentVerif.Engine

def Err.parseErr : Err → Bool
  | .emptyLattice | .attrOnItem | .emptyDisj => true
  | _ => false

def ParsedAs (items : List Top) : Parsed → Prop
  | .whole => (∀ n r, Top.rule n r ∈ items → itemsHaveEmptyDisj r.body = false) ∧ ∀ n, Top.incl n ∉ items
  | .deferred => ∃ n, Top.incl n ∈ items

theorem ParsedAs.cons {t : Top} {rest : List Top} {p : Parsed}
    (ht : ∀ n r, t = .rule n r → itemsHaveEmptyDisj r.body = false) (hi : ∀ n, t ≠ .incl n)
    (h : ParsedAs rest p) : ParsedAs (t :: rest) p := by
  cases p with
  | whole =>
    refine ⟨fun n r hm => ?_, fun n hm => ?_⟩
    · rcases List.mem_cons.1 hm with heq | hm
      · exact ht n r heq.symm
      · exact h.1 n r hm
    · rcases List.mem_cons.1 hm with heq | hm
      · exact hi n heq.symm
      · exact h.2 n hm
  | deferred =>
    obtain ⟨n, hn⟩ := h
    exact ⟨n, List.mem_cons_of_mem _ hn⟩

theorem parseItems_sat : ∀ (items : List Top), Sat (fun e => e.parseErr = true) (ParsedAs items) (parseItems items) := by
  intro items
  induction items with
  | nil => exact ⟨fun _ _ h => (nomatch h), fun _ h => (nomatch h)⟩
  | cons t rest ih =>
    cases t with
    | rel d =>
      rw [parseItems]
      exact .ite rfl fun _ => ih.imp fun p hp => hp.cons (fun _ _ h => nomatch h) (fun _ h => nomatch h)
    | mac k d =>
      rw [parseItems]
      exact .ite rfl fun _ => ih.imp fun p hp => hp.cons (fun _ _ h => nomatch h) (fun _ h => nomatch h)
    | rule k r =>
      rw [parseItems]
      refine .ite rfl fun _ => .ite rfl fun he => ih.imp fun p hp =>
        hp.cons (fun n r' h => ?_) (fun _ h => nomatch h)
      cases h
      exact Bool.eq_false_iff.2 he
    | incl k =>
      rw [parseItems]
      exact .ite rfl fun _ => ⟨k, List.mem_cons_self⟩

def Err.sigErr : Err → Bool
  | .sigName | .sigGenerics => true
  | _ => false

theorem sigCheck_decides : ∀ (sig : Option Sig), Decides
    (¬ ∃ sg i, sig = some sg ∧ sg.implName = some i ∧ (i ≠ sg.structName ∨ sg.genericsMatch = false))
    Err.sigErr (fun _ => True) (sigCheck sig) := by
  intro sig
  cases sig with
  | none => exact .ok (fun ⟨_, _, h, _⟩ => nomatch h) trivial
  | some sg =>
    unfold sigCheck
    dsimp only
    cases hi : sg.implName with
    | none => exact .ok (fun ⟨_, _, hs, himpl, _⟩ => by cases hs; rw [hi] at himpl; cases himpl) trivial
    | some i =>
      have hiff : (∃ sg' i', some sg = some sg' ∧ sg'.implName = some i' ∧
          (i' ≠ sg'.structName ∨ sg'.genericsMatch = false)) ↔ (i ≠ sg.structName ∨ sg.genericsMatch = false) :=
        ⟨fun ⟨_, _, hs, himpl, hbad⟩ => by cases hs; rw [hi] at himpl; cases himpl; exact hbad,
          fun h => ⟨sg, i, rfl, hi, h⟩⟩
      rw [hiff]
      dsimp only
      by_cases h1 : i = sg.structName
      · rw [if_neg (fun h => bne_iff_ne.1 h h1)]
        cases h2 : sg.genericsMatch with
        | true => exact .ok (fun h => h.elim (fun h => h h1) (fun h => nomatch h)) trivial
        | false => exact .error (fun h => h (Or.inr rfl)) rfl
      · rw [if_pos (bne_iff_ne.2 h1)]
        exact .error (fun h => h (Or.inl h1)) rfl

def Err.attrErr : Err → Bool
  | .attrShape | .unknownAttr | .parOnlyAttr | .multiDs | .dsLattice => true
  | _ => false

theorem getDsAttr_decides (as : List AttrS) :
    Decides (dsOk as) Err.attrErr (fun b => b = true ↔ ∃ a ∈ as, a.name = "ds") (getDsAttr as) := by
  have hmem : ∀ a, a ∈ as.filter (fun a => a.name == "ds") ↔ a ∈ as ∧ a.name = "ds" := fun a => by
    rw [List.mem_filter, beq_iff_eq]
  unfold getDsAttr dsOk
  generalize as.filter (fun a => a.name == "ds") = l at hmem
  match l with
  | [] =>
    exact .ok ⟨Nat.zero_le 1, fun a ha hn => nomatch (hmem a).2 ⟨ha, hn⟩⟩
      ⟨fun h => (nomatch h), fun ⟨a, ha, hn⟩ => nomatch (hmem a).2 ⟨ha, hn⟩⟩
  | [a] =>
    have ha := (hmem a).1 (List.mem_singleton.2 rfl)
    dsimp only
    by_cases hs : a.shape = .list
    · rw [if_pos (beq_iff_eq.2 hs)]
      refine .ok ⟨Nat.le_refl 1, fun b hb hn => ?_⟩ ⟨fun _ => ⟨a, ha⟩, fun _ => rfl⟩
      rw [List.mem_singleton.1 ((hmem b).2 ⟨hb, hn⟩)]
      exact hs
    · rw [if_neg (fun h => hs (beq_iff_eq.1 h))]
      exact .error (fun h => hs (h.2 a ha.1 ha.2)) rfl
  | _ :: _ :: _ => exact .error (fun h => Nat.not_succ_le_zero _ (Nat.le_of_succ_le_succ h.1)) rfl

theorem not_hasTwoDs_of_dsOk {as : List AttrS} (h : dsOk as) : ¬ hasTwoDs as :=
  fun h2 => Nat.not_succ_le_self 1 (Nat.le_trans h2 h.1)

theorem declsCheck_decides : ∀ (ds : List Decl),
    Decides (∀ d ∈ ds, dsOk d.attrs ∧ (d.lat = true → ∀ a ∈ d.attrs, a.name ≠ "ds")) Err.attrErr (fun _ => True)
      (declsCheck ds) := by
  intro ds
  induction ds with
  | nil => exact .ok (fun _ h => nomatch h) trivial
  | cons d rest ih =>
    rw [declsCheck]
    refine Decides.congr ?_ List.forall_mem_cons.symm
    cases h : getDsAttr d.attrs with
    | error e =>
      obtain ⟨hn, he⟩ := (getDsAttr_decides d.attrs).of_error h
      exact .error (fun hc => hn hc.1.1) he
    | ok b =>
      obtain ⟨hok, hb⟩ := (getDsAttr_decides d.attrs).of_ok h
      refine Decides.ite rfl (fun hc h1 => ?_) (fun hc => ⟨hok, fun hl a ha hn => hc ?_⟩) ih
      · rw [Bool.and_eq_true] at hc
        obtain ⟨a, ha, hn⟩ := hb.1 hc.1
        exact h1.2 hc.2 a ha hn
      · rw [hb.2 ⟨a, ha, hn⟩, hl]
        rfl

theorem firstNamed_isSome_iff {as : List AttrS} {n : String} :
    (firstNamed as n).isSome = true ↔ ∃ a ∈ as, a.name = n := by
  unfold firstNamed
  rw [List.find?_isSome]
  exact exists_congr fun a => and_congr_right fun _ => beq_iff_eq

theorem firstNamed_some {as : List AttrS} {n : String} {a : AttrS} (h : firstNamed as n = some a) :
    a ∈ as ∧ a.name = n := by
  unfold firstNamed at h
  have hn := List.find?_some h
  exact ⟨List.mem_of_find?_eq_some h, beq_iff_eq.1 hn⟩

/-- of several attributes named `n` the real code (`.find(..)`) inspects the first -/
def PathOnly (as : List AttrS) (n : String) : Prop := ∀ a, firstNamed as n = some a → a.shape = .path

theorem requirePathOnly_decides (as : List AttrS) (n : String) :
    Decides (PathOnly as n) Err.attrErr (fun _ => True) (requirePathOnly as n) := by
  unfold requirePathOnly PathOnly
  cases firstNamed as n with
  | none => exact .ok (fun _ h => nomatch h) trivial
  | some a =>
    dsimp only
    by_cases hs : a.shape = .path
    · rw [if_pos (beq_iff_eq.2 hs)]
      exact .ok (fun _ h => Option.some.inj h ▸ hs) trivial
    · rw [if_neg (fun h => hs (beq_iff_eq.1 h))]
      exact .error (fun h => hs (h a rfl)) rfl

theorem configCheck_decides (as : List AttrS) (par : Bool) : Decides
    (PathOnly as "measure_rule_times" ∧ PathOnly as "generate_run_timeout" ∧ PathOnly as "inter_rule_parallelism" ∧
      (∀ a ∈ as, a.name ∈ recognizedAttrs) ∧ ((∃ a ∈ as, a.name = "inter_rule_parallelism") → par = true) ∧ dsOk as)
    Err.attrErr (fun _ => True) (configCheck as par) := by
  unfold configCheck
  cases h1 : requirePathOnly as "measure_rule_times" with
  | error e => exact (requirePathOnly_decides as _).and_of_error h1
  | ok _ =>
  refine (requirePathOnly_decides as _).and_of_ok h1 ?_
  cases h2 : requirePathOnly as "generate_run_timeout" with
  | error e => exact (requirePathOnly_decides as _).and_of_error h2
  | ok _ =>
  refine (requirePathOnly_decides as _).and_of_ok h2 ?_
  cases h3 : requirePathOnly as "inter_rule_parallelism" with
  | error e => exact (requirePathOnly_decides as _).and_of_error h3
  | ok _ =>
  refine (requirePathOnly_decides as _).and_of_ok h3 ?_
  refine Decides.ite rfl (fun hc h => ?_) (fun hc a ha => ?_) ?_
  · obtain ⟨a, ha, hn⟩ := List.any_eq_true.1 hc
    rw [List.contains_iff_mem.2 (h a ha)] at hn
    cases hn
  · refine Decidable.byContradiction fun hn => hc (List.any_eq_true.2 ⟨a, ha, ?_⟩)
    rw [Bool.not_eq_true']
    exact Bool.eq_false_iff.2 fun hb => hn (List.contains_iff_mem.1 hb)
  refine Decides.ite rfl (fun hc h => ?_) (fun hc hex => ?_) ?_
  · rw [Bool.and_eq_true, firstNamed_isSome_iff] at hc
    rw [h hc.1] at hc
    exact nomatch hc.2
  · cases par with
    | true => rfl
    | false => exact absurd (Bool.and_eq_true _ _ ▸ ⟨firstNamed_isSome_iff.2 hex, rfl⟩) hc
  cases h4 : getDsAttr as with
  | error e => exact .error ((getDsAttr_decides as).of_error h4).1 ((getDsAttr_decides as).of_error h4).2
  | ok b => exact .ok ((getDsAttr_decides as).of_ok h4).1 trivial

theorem mem_dedupKeepLast_iff : ∀ {ds : List Decl} {d : Decl},
    d ∈ dedupKeepLast ds ↔ ∃ pre post, ds = pre ++ d :: post ∧ ∀ e ∈ post, d.sameIdentity e = false := by
  intro ds d
  induction ds with
  | nil => exact ⟨fun h => (nomatch h), fun ⟨pre, _, h, _⟩ => by cases pre <;> cases h⟩
  | cons d0 rest ih =>
    rw [dedupKeepLast]
    by_cases hany : rest.any (fun e => d0.sameIdentity e) = true
    · rw [if_pos hany, ih]
      constructor
      · rintro ⟨pre, post, rfl, hp⟩
        exact ⟨d0 :: pre, post, rfl, hp⟩
      · rintro ⟨pre, post, heq, hp⟩
        cases pre with
        | nil =>
          cases heq
          obtain ⟨e, he, hs⟩ := List.any_eq_true.1 hany
          rw [hp e he] at hs
          cases hs
        | cons x pre =>
          cases heq
          exact ⟨pre, post, rfl, hp⟩
    · rw [if_neg hany, List.mem_cons, ih]
      constructor
      · rintro (rfl | ⟨pre, post, rfl, hp⟩)
        · exact ⟨[], rest, rfl, fun e he => Bool.eq_false_iff.2 fun hs => hany (List.any_eq_true.2 ⟨e, he, hs⟩)⟩
        · exact ⟨d0 :: pre, post, rfl, hp⟩
      · rintro ⟨pre, post, heq, hp⟩
        cases pre with
        | nil =>
          cases heq
          exact Or.inl rfl
        | cons x pre =>
          cases heq
          exact Or.inr ⟨pre, post, rfl, hp⟩

theorem dedupKeepLast_eq_self : ∀ {ds : List Decl}, ds.Pairwise (fun d e => d.sameIdentity e = false) →
    dedupKeepLast ds = ds := by
  intro ds h
  induction ds with
  | nil => rfl
  | cons d rest ih =>
    rw [List.pairwise_cons] at h
    rw [dedupKeepLast, ih h.2, if_neg]
    intro hany
    obtain ⟨e, he, hs⟩ := List.any_eq_true.1 hany
    rw [h.1 e he] at hs
    cases hs

theorem findDecl_cons (d : Decl) (l : List Decl) (n : Name) :
    findDecl (d :: l) n = (findDecl l n).or (if d.name == n then some d else none) := by
  unfold findDecl
  rw [List.reverse_cons, List.find?_append]
  cases hdn : d.name == n <;> simp [List.find?, hdn]

/-- `prog_get_relation` looks a NAME up over all declarations, last first; the deduplicated list gives the same
answer, because the last declaration of a name is never removed -/
theorem findDecl_dedupKeepLast : ∀ (ds : List Decl) (n : Name), findDecl (dedupKeepLast ds) n = findDecl ds n := by
  intro ds n
  induction ds with
  | nil => rfl
  | cons d rest ih =>
    rw [dedupKeepLast]
    by_cases hany : rest.any (fun e => d.sameIdentity e) = true
    · rw [if_pos hany, ih, findDecl_cons]
      cases hdn : d.name == n with
      | false => rw [if_neg Bool.false_ne_true, Option.or_none]
      | true =>
        -- a later declaration of the same identity has the same name: the lookup does not get as far as `d`
        obtain ⟨e, he, hse⟩ := List.any_eq_true.1 hany
        have hen : (e.name == n) = true := by
          simp only [Decl.sameIdentity, Bool.and_eq_true, beq_iff_eq] at hse
          rw [← hse.1.1]
          exact hdn
        have hsome : (findDecl rest n).isSome = true :=
          List.find?_isSome.2 ⟨e, List.mem_reverse.2 he, hen⟩
        cases hf : findDecl rest n with
        | none => rw [hf] at hsome; cases hsome
        | some x => rfl
    · rw [if_neg hany, findDecl_cons, findDecl_cons, ih]

end AscentVerif.Check
