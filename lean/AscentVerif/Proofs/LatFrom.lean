import AscentVerif.Proofs.NDLattice
import AscentVerif.Proofs.AggFree
/-!
# Lattice programs from an arbitrary well-formed start value, with any deadline oracle (C13/C14 for C03)

The invariants of the C03 proof (`LInv`, `LPInv`, …) are parametric in the "input" `inp`; here it is the row vectors of
the start value (`rowsFn s`).  A completed run is an execution of the nondeterministic engine (`runTimeout_is_NDL`), whence
`run_from_spec` and, for the fresh value, `run_spec'`.  A timed-out run keeps the weak part `LSInv` of the invariant
(`runTimeout_lat`): a completed prefix of the order (`sccsG_track`), then an SCC abandoned after whole iterations
(`sccPreG_track`).  An interrupted call is thus described by what it keeps (`LSInv`, `DBLe`), where the relational and
aggregation proofs describe it by what it is, a prefix `RunPreND` of an execution (`Proofs/NDAggRestart.lean`).
-/
namespace AscentVerif.Engine
open AscentVerif

variable {E B G P A : Type}

def rowsFn (s : St) : RelId → List Tuple := fun r => (relSt s r).rows

section From
variable {I : Interp E B G P A} {L : LatOrder I} {p : Program E B G P A} {inp : RelId → List Tuple}

theorem LPInv_from (s : St) (hs : WFSt' p s)
    (hk : ∀ r, r < p.rels.length → (declOf p r).lat = true → ((relSt s r).rows.map keyOf).Nodup) :
    LPInv I L p (rowsFn s) (updateIndices s) ∧
      DBLe I L p (inDB p (rowsFn s)) (factsOf (updateIndices s)) :=
  LPInvT.of_rows (fun _ hM => hM.2.2.1) s hs.1 (fun _ _ => rfl) hk

theorem run_from_spec (haf : ∀ r ∈ p.rules, r.aggFree = true)
    (hh : ∀ r ∈ p.rules, ∀ h ∈ r.heads, h.rel < p.rels.length)
    (o : SccOrder) (ho : validOrder p o = true) (dl : Deadline) (fuel : Nat) (s : St) (ps : ProgSt)
    (hs : WFSt' p s)
    (hk : ∀ r, r < p.rels.length → (declOf p r).lat = true → ((relSt s r).rows.map keyOf).Nodup)
    (hrun : runTimeout I {} p o dl fuel s = .done ps) :
    LPInv I L p (rowsFn s) ps.st ∧ LClosedRules I L p p.rules (factsOf ps.st) ∧
      DBLe I L p (inDB p (rowsFn s)) (factsOf ps.st) :=
  runNDL_spec' haf hh o ho s ps.st hs.1 (fun _ _ => rfl) hk (runTimeout_is_NDL haf o dl fuel s ps hrun)

/-- everything the theorems of C03 need about a completed `run()` on a fresh program value -/
theorem run_spec' (haf : ∀ r ∈ p.rules, r.aggFree = true)
    (hh : ∀ r ∈ p.rules, ∀ h ∈ r.heads, h.rel < p.rels.length)
    (hi1 : ∀ r, r < p.rels.length → (declOf p r).lat = true → ((inp r).map keyOf).Nodup)
    (o : SccOrder) (ho : validOrder p o = true) (fuel : Nat) (ps : ProgSt)
    (hrun : run I {} p o fuel (initSt p inp) = .done ps) :
    LPInv I L p inp ps.st ∧ LClosedRules I L p p.rules (factsOf ps.st) ∧
      DBLe I L p (inDB p inp) (factsOf ps.st) :=
  runNDL_spec' haf hh o ho _ ps.st (WFSt_initSt p inp).1 (rows_initSt p inp) hi1
    (runTimeout_is_NDL haf o never fuel _ ps hrun)

variable (I L p inp) in
/-- what survives an early return -/
structure LSInv (st : St) : Prop where
  wfSt : WFSt' p st
  keys : ∀ r, (declOf p r).lat = true → ((relSt st r).rows.map keyOf).Nodup
  below : ∀ M, Tgt I L p inp M → DBLe I L p (factsOf st) M

theorem LPInv.lsinv {st : St} (h : LPInv I L p inp st) : LSInv I L p inp st :=
  ⟨wfSt'_of_idx p h.len fun r i hi => (h.idxAll r i).mpr hi, h.keys, h.below⟩

theorem LInv.abandon (scc : List Nat) {s : SccSt} (hinv : LInv I L p inp (dynRels p scc) s) :
    LSInv I L p inp (abandonScc p scc s) :=
  ⟨Agg.abandon_wfSt hinv.wf, fun r hl => by rw [Agg.abandon_rows]; exact hinv.keys r hl,
    fun M hM => by rw [Agg.facts_abandon]; exact hinv.below M hM⟩

variable (haf : ∀ r ∈ p.rules, r.aggFree = true) (hh : ∀ r ∈ p.rules, ∀ h ∈ r.heads, h.rel < p.rels.length)

include haf in
/-- the pass of the serial engine is one trace of the nondeterministic engine -/
theorem detPassL_ok (scc : List Nat) (st : St) :
    LPassOK I L p inp False (Tgt I L p inp) (fun a => nAgg a.rel) (DBLe I L p) (Dominated I L p) (Agg.detPass I {} p) st
      (dynRels p scc) (sccRules p scc) := by
  rintro s _ hinv hb hnd rfl
  exact sccPassNDL_ok (tracksDominated I L p inp) haf (fun _ _ _ _ => trivial) scc st s _ hinv hb hnd
    (evalRules_is_pass (fun r hr => haf r (sccRules_sub p scc r hr)) s)

include haf hh in
theorem runTimeout_lat (o : SccOrder) (ho : validOrder p o = true) (dl : Deadline) (fuel : Nat) (s : St) (ps : ProgSt)
    (hs : WFSt' p s)
    (hk : ∀ r, r < p.rels.length → (declOf p r).lat = true → ((relSt s r).rows.map keyOf).Nodup)
    (hrun : runTimeout I {} p o dl fuel s = .done ps ∨ runTimeout I {} p o dl fuel s = .timedOut ps) :
    LSInv I L p (rowsFn s) ps.st ∧ DBLe I L p (inDB p (rowsFn s)) (factsOf ps.st) := by
  rcases hrun with hrun | hrun
  · obtain ⟨h1, _, h3⟩ := run_from_spec (L := L) haf hh o ho dl fuel s ps hs hk hrun
    exact ⟨h1.lsinv, h3⟩
  · -- a completed prefix of the order, then an SCC abandoned after whole iterations
    obtain ⟨hp0, hin0⟩ := LPInv_from (I := I) (L := L) s hs hk
    have T := alongDominated I L p
    obtain ⟨done, scc, rest, psMid, ho', hdone, hto⟩ := Agg.runSccs_timedOut_split I {} p hrun
    obtain ⟨hpMid, _, hleMid⟩ := sccsG_track T hh ho (fun _ _ => True) (fun _ _ _ _ => trivial) (scc :: rest)
      (fun _ scc _ st _ _ _ _ _ => detPassL_ok haf scc st) (Agg.runSccs_sccsG I {} p hdone) [] ho'.symm hp0
      (fun _ h => nomatch h) trivial
    obtain ⟨s1, a', hpre, hst⟩ := Agg.runScc_sccPreG I {} p hto
    obtain ⟨_, _, hg, _, hcase⟩ := sccPreG_track T (hpMid.enter _ (dynRels_lt p hh scc)) (hpMid.enter_nd _)
      (detPassL_ok haf scc _) hpre
    have ha : LInv I L p (rowsFn s) (dynRels p scc) a' ∧ DBLe I L p (factsOf psMid.st) (FactsS a') := by
      rcases hcase with ⟨_, rfl⟩ | ⟨_, rfl⟩
      · exact ⟨LInvT_tgt.mp hg.inv, hg.le⟩
      · exact ⟨LInv_shift (LInvT_tgt.mp hg.inv), hg.le⟩
    rw [hst, Agg.facts_abandon]
    exact ⟨ha.1.abandon scc, DBLe.trans hin0 (DBLe.trans hleMid ha.2)⟩

end From

end AscentVerif.Engine
