import AscentVerif.Proofs.UFRun
import AscentVerif.Spec.UFSpec
/-!
Refinement of the abstract state `Spec` (`Spec/UFSpec.lean`) by the `UnionFind` model (`Refines`):
every history inside the contract runs without panic on the model and ends in a well-formed state
whose partition is `EqvGen` of the united pairs (`run_refines`).  `Props/C18.lean` reads its
statements about histories off `Refines`.
-/
namespace AscentVerif

theorem EqvGen.mono {α : Type} {r r' : α → α → Prop} (h : ∀ a b, r a b → r' a b) {a b : α} (e : EqvGen r a b) :
    EqvGen r' a b := by
  induction e with
  | rel h' => exact .rel (h _ _ h')
  | refl => exact .refl _
  | symm _ ih => exact .symm ih
  | trans _ _ ih1 ih2 => exact .trans ih1 ih2

theorem EqvGen.congr {α : Type} {r r' : α → α → Prop} (h : ∀ a b, r a b ↔ r' a b) {a b : α} :
    EqvGen r a b ↔ EqvGen r' a b :=
  ⟨.mono fun a b => (h a b).mp, .mono fun a b => (h a b).mpr⟩

theorem EqvGen.add_edge {α : Type} (r : α → α → Prop) (a b i j : α) :
    EqvGen (fun p q => (p = a ∧ q = b) ∨ r p q) i j ↔
      (EqvGen r i j ∨ (EqvGen r i a ∧ EqvGen r b j) ∨ (EqvGen r i b ∧ EqvGen r a j)) := by
  constructor
  · intro h
    induction h with
    | rel h =>
      rcases h with ⟨rfl, rfl⟩ | h
      · exact Or.inr (Or.inl ⟨.refl _, .refl _⟩)
      · exact Or.inl (.rel h)
    | refl => exact Or.inl (.refl _)
    | symm _ ih =>
      rcases ih with h | ⟨h1, h2⟩ | ⟨h1, h2⟩
      · exact Or.inl h.symm
      · exact Or.inr (Or.inr ⟨h2.symm, h1.symm⟩)
      · exact Or.inr (Or.inl ⟨h2.symm, h1.symm⟩)
    | trans _ _ ih1 ih2 =>
      rcases ih1 with h | ⟨h1, h2⟩ | ⟨h1, h2⟩ <;> rcases ih2 with h' | ⟨h3, h4⟩ | ⟨h3, h4⟩
      · exact Or.inl (h.trans h')
      · exact Or.inr (Or.inl ⟨h.trans h3, h4⟩)
      · exact Or.inr (Or.inr ⟨h.trans h3, h4⟩)
      · exact Or.inr (Or.inl ⟨h1, h2.trans h'⟩)
      · exact Or.inl (h1.trans (h3.symm.trans (h2.symm.trans h4)))
      · exact Or.inl (h1.trans h4)
      · exact Or.inr (Or.inr ⟨h1, h2.trans h'⟩)
      · exact Or.inl (h1.trans h4)
      · exact Or.inl (h1.trans (h3.symm.trans (h2.symm.trans h4)))
  · have lift : ∀ {p q}, EqvGen r p q → EqvGen (fun p q => (p = a ∧ q = b) ∨ r p q) p q :=
      fun h => h.mono fun _ _ h => Or.inr h
    have edge : EqvGen (fun p q => (p = a ∧ q = b) ∨ r p q) a b := .rel (Or.inl ⟨rfl, rfl⟩)
    rintro (h | ⟨h1, h2⟩ | ⟨h1, h2⟩)
    · exact lift h
    · exact (lift h1).trans (edge.trans (lift h2))
    · exact (lift h1).trans (edge.symm.trans (lift h2))

theorem EqvGen.isolated {α : Type} {r : α → α → Prop} {x : α} (hx : ∀ y, ¬ r x y ∧ ¬ r y x) {p q : α}
    (h : EqvGen r p q) : (p = x ∨ q = x) → p = q := by
  induction h with
  | rel h =>
    rintro (rfl | rfl)
    · exact absurd h (hx _).1
    · exact absurd h (hx _).2
  | refl => intro _; rfl
  | symm _ ih => intro h; exact (ih h.symm).symm
  | trans _ _ ih1 ih2 =>
    rintro (h | h)
    · have e1 := ih1 (Or.inl h); subst e1; exact ih2 (Or.inl h)
    · have e2 := ih2 (Or.inr h); subst e2; exact ih1 (Or.inr h)

namespace UF

structure Refines (u : UnionFind) (s : Spec) : Prop where
  wf : WF u
  len : s.items.length = u.elems.length
  val : ∀ i, i < u.elems.length → s.items[i]? = some (valueOf u.elems i)
  same_iff : ∀ i j, i < u.elems.length → j < u.elems.length →
    (Same u.elems i j ↔ s.Conn (valueOf u.elems i) (valueOf u.elems j))
  pairs_mem : ∀ x y, (x, y) ∈ s.pairs → x ∈ s.items ∧ y ∈ s.items
  next : NextCycles u.elems

theorem refines_empty : Refines {} {} := by
  refine ⟨wf_empty, rfl, ?_, ?_, ?_, nextCycles_nil⟩ <;> simp

theorem Refines.mem_iff {u : UnionFind} {s : Spec} (R : Refines u s) (x : Int) :
    x ∈ s.items ↔ ∃ i, i < u.elems.length ∧ valueOf u.elems i = x := by
  rw [List.mem_iff_getElem?]
  constructor
  · rintro ⟨i, hi⟩
    have hlt : i < u.elems.length := by rw [← R.len]; exact (List.getElem?_eq_some_iff.mp hi).1
    rw [R.val i hlt] at hi
    exact ⟨i, hlt, Option.some.inj hi⟩
  · rintro ⟨i, hi, rfl⟩; exact ⟨i, R.val i hi⟩

theorem Refines.mem_iff_lookup {u : UnionFind} {s : Spec} (R : Refines u s) (x : Int) :
    x ∈ s.items ↔ (lookup u.items x).isSome = true := by
  rw [R.mem_iff]
  constructor
  · rintro ⟨i, hi, rfl⟩
    obtain ⟨id, h, _⟩ := R.wf.item_of_elem i hi
    simp [h]
  · intro h
    cases hl : lookup u.items x with
    | none => simp [hl] at h
    | some id => exact R.wf.elem_of_item x id hl

theorem refines_of_keeps {u u' : UnionFind} {s : Spec} (R : Refines u s) (K : Keeps u u') : Refines u' s := by
  refine ⟨K.wf, by rw [K.length_eq]; exact R.len, ?_, ?_, R.pairs_mem, K.next_ok R.next⟩
  · intro i hi; rw [K.length_eq] at hi; rw [K.value_eq]; exact R.val i hi
  · intro i j hi hj; rw [K.length_eq] at hi hj; rw [K.same_iff, K.value_eq, K.value_eq]; exact R.same_iff i j hi hj

theorem add_refines {u : UnionFind} {s : Spec} (R : Refines u s) (x : Int) :
    ∃ u' isNew id, u.add x = .ok (u', isNew, id) ∧ Refines u' (s.addItem x) ∧
      (∃ i, i < u'.elems.length ∧ valueOf u'.elems i = x ∧ Same u'.elems id i) ∧
      (∀ i j, Same u.elems i j → Same u'.elems i j) ∧ ∀ i, i < u.elems.length → valueOf u'.elems i = valueOf u.elems i := by
  obtain ⟨u', isNew, id, hadd, P⟩ := add_ok R.wf x
  cases isNew with
  | false =>
    obtain ⟨hsome, K⟩ := P.old rfl
    refine ⟨u', false, id, hadd, ?_, P.id_same, fun i j => (K.same_iff i j).mpr, fun i _ => K.value_eq i⟩
    simp only [Spec.addItem, if_pos ((R.mem_iff_lookup x).mpr hsome)]
    exact refines_of_keeps R K
  | true =>
    obtain ⟨hnone, Q⟩ := P.new rfl
    have hsame := Q.same_iff
    refine ⟨u', true, id, hadd, ?_, P.id_same, fun i j h => (hsame i j).mpr (Or.inl h), Q.value_lt⟩
    have hx : x ∉ s.items := by
      intro h; have := (R.mem_iff_lookup x).mp h; simp [hnone] at this
    simp only [Spec.addItem, if_neg hx]
    -- `x` is new, hence in no pair, hence connected to nothing else
    have hiso : ∀ y, ¬ (x, y) ∈ s.pairs ∧ ¬ (y, x) ∈ s.pairs :=
      fun y => ⟨fun h => hx (R.pairs_mem _ _ h).1, fun h => hx (R.pairs_mem _ _ h).2⟩
    have hvx : ∀ j, j < u.elems.length → valueOf u.elems j ≠ x :=
      fun j hj h => hx ((R.mem_iff x).mpr ⟨j, hj, h⟩)
    refine ⟨P.wf, by simp [Q.length_eq, R.len], ?_, ?_, ?_, P.next_ok R.next⟩
    · intro i hi; rw [Q.length_eq] at hi
      show (s.items ++ [x])[i]? = _
      rcases Nat.lt_succ_iff_lt_or_eq.mp hi with h | rfl
      · rw [List.getElem?_append_left (R.len ▸ h), Q.value_lt i h]; exact R.val i h
      · rw [Q.value_new, ← R.len]; exact List.getElem?_concat_length
    · intro i j hi hj; rw [Q.length_eq] at hi hj
      show Same u'.elems i j ↔ EqvGen (fun a b => (a, b) ∈ s.pairs) (valueOf u'.elems i) (valueOf u'.elems j)
      rw [hsame]
      rcases Nat.lt_succ_iff_lt_or_eq.mp hi with h1 | rfl <;> rcases Nat.lt_succ_iff_lt_or_eq.mp hj with h2 | rfl
      · rw [Q.value_lt i h1, Q.value_lt j h2]
        exact ⟨fun h => (R.same_iff i j h1 h2).mp (h.resolve_right fun e => Nat.ne_of_lt h1 e.1),
          fun h => Or.inl ((R.same_iff i j h1 h2).mpr h)⟩
      · rw [Q.value_lt i h1, Q.value_new]
        exact iff_of_false (fun h => h.elim (fun h => Nat.lt_irrefl _ h.lt_right) fun e => Nat.ne_of_lt h1 e.1)
          fun h => hvx i h1 (EqvGen.isolated hiso h (Or.inr rfl))
      · rw [Q.value_lt j h2, Q.value_new]
        exact iff_of_false (fun h => h.elim (fun h => Nat.lt_irrefl _ h.lt_left) fun e => Nat.ne_of_lt h2 e.2)
          fun h => hvx j h2 (EqvGen.isolated hiso h (Or.inl rfl)).symm
      · exact iff_of_true (Or.inr ⟨rfl, rfl⟩) (.refl _)
    · intro a b h
      obtain ⟨h1, h2⟩ := R.pairs_mem a b h
      exact ⟨List.mem_append_left _ h1, List.mem_append_left _ h2⟩

/-- `union a b` where `a`, `b` lie in the classes of the elements carrying `x`, `y`: refines adding the pair `(x, y)` -/
theorem union_refines {u : UnionFind} {s : Spec} (R : Refines u s) {a b ia ib : Nat}
    (ha : Same u.elems a ia) (hb : Same u.elems b ib) :
    ∃ u' w, u.union a b = .ok (u', w) ∧
      Refines u' { s with pairs := (valueOf u.elems ia, valueOf u.elems ib) :: s.pairs } := by
  obtain ⟨u', w, hu, P⟩ := union_ok R.wf ha.lt_left hb.lt_left
  have hia := ha.lt_right
  have hib := hb.lt_right
  refine ⟨u', w, hu, P.wf, by rw [P.length_eq]; exact R.len, ?_, ?_, ?_, P.next_ok R.next⟩
  · intro i hi; rw [P.length_eq] at hi; rw [P.value_eq]; exact R.val i hi
  · intro i j hi hj; rw [P.length_eq] at hi hj
    rw [P.value_eq, P.value_eq, P.same_iff]
    show _ ↔ EqvGen (fun p q => (p, q) ∈ (valueOf u.elems ia, valueOf u.elems ib) :: s.pairs) _ _
    have e : ∀ p q : Int, ((p, q) ∈ (valueOf u.elems ia, valueOf u.elems ib) :: s.pairs) ↔
        ((p = valueOf u.elems ia ∧ q = valueOf u.elems ib) ∨ (p, q) ∈ s.pairs) := by
      intro p q; simp [List.mem_cons]
    rw [EqvGen.congr e, EqvGen.add_edge]
    -- membership in the class of `a` (`b`) is membership in the class of `ia` (`ib`)
    have c := R.same_iff
    have sa : ∀ k, k < u.elems.length → (Same u.elems k a ↔ s.Conn (valueOf u.elems k) (valueOf u.elems ia)) :=
      fun k hk => Iff.trans ⟨(·.trans ha), (·.trans ha.symm)⟩ (c k ia hk hia)
    have sb : ∀ k, k < u.elems.length → (Same u.elems k b ↔ s.Conn (valueOf u.elems k) (valueOf u.elems ib)) :=
      fun k hk => Iff.trans ⟨(·.trans hb), (·.trans hb.symm)⟩ (c k ib hk hib)
    have sa' : ∀ k, k < u.elems.length → (Same u.elems a k ↔ s.Conn (valueOf u.elems ia) (valueOf u.elems k)) :=
      fun k hk => Iff.trans ⟨ha.symm.trans, ha.trans⟩ (c ia k hia hk)
    have sb' : ∀ k, k < u.elems.length → (Same u.elems b k ↔ s.Conn (valueOf u.elems ib) (valueOf u.elems k)) :=
      fun k hk => Iff.trans ⟨hb.symm.trans, hb.trans⟩ (c ib k hib hk)
    exact or_congr (c i j hi hj) (or_congr (and_congr (sa i hi) (sb' j hj)) (and_congr (sb i hi) (sa' j hj)))
  · intro p q h
    rcases List.mem_cons.mp h with h | h
    · cases h
      exact ⟨(R.mem_iff _).mpr ⟨ia, hia, rfl⟩, (R.mem_iff _).mpr ⟨ib, hib, rfl⟩⟩
    · exact R.pairs_mem p q h

theorem step_refines {u : UnionFind} {s s' : Spec} (R : Refines u s) (op : Op) (h : s.step op = some s') :
    ∃ u', step u op = .ok u' ∧ Refines u' s' := by
  cases op with
  | add x =>
    obtain ⟨u', isNew, id, hadd, R', _⟩ := add_refines R x
    simp only [Spec.step, Option.some.injEq] at h; subst h
    exact ⟨u', by simp [step, hadd], R'⟩
  | findItem x =>
    simp only [Spec.step, Option.some.injEq] at h; subst h
    cases hl : lookup u.items x with
    | none => exact ⟨u, by simp [step, findItem_none hl], R⟩
    | some id =>
      obtain ⟨u', r, hf, K, _⟩ := findItem_some R.wf hl
      exact ⟨u', by simp [step, hf], refines_of_keeps R K⟩
  | find id =>
    simp only [Spec.step] at h
    split at h
    · next hid =>
      cases h
      obtain ⟨u', r, hf, K, _⟩ := find_ok R.wf (by rw [← R.len]; exact hid)
      exact ⟨u', by simp [step, hf], refines_of_keeps R K⟩
    · cases h
  | union a b =>
    simp only [Spec.step] at h
    split at h
    · next x y hx hy =>
      cases h
      have ha : a < u.elems.length := by rw [← R.len]; exact (List.getElem?_eq_some_iff.mp hx).1
      have hb : b < u.elems.length := by rw [← R.len]; exact (List.getElem?_eq_some_iff.mp hy).1
      have vx : valueOf u.elems a = x := Option.some.inj ((R.val a ha).symm.trans hx)
      have vy : valueOf u.elems b = y := Option.some.inj ((R.val b hb).symm.trans hy)
      obtain ⟨u', w, hu, R'⟩ := union_refines R (R.wf.forest.same_refl ha) (R.wf.forest.same_refl hb)
      rw [vx, vy] at R'
      exact ⟨u', by simp [step, hu], R'⟩
    · cases h
  | unionAdd x y =>
    simp only [Spec.step, Option.some.injEq] at h; subst h
    obtain ⟨u1, n1, id1, hadd1, R1, ⟨i1, hi1, hv1, hs1⟩, _⟩ := add_refines R x
    obtain ⟨u2, n2, id2, hadd2, R2, ⟨i2, hi2, hv2, hs2⟩, hmono, hval⟩ := add_refines R1 y
    have hs1' : Same u2.elems id1 i1 := hmono _ _ hs1
    have hv1' : valueOf u2.elems i1 = x := (hval i1 hi1).trans hv1
    obtain ⟨u3, w, hu, R3⟩ := union_refines R2 hs1' hs2
    rw [hv1', hv2] at R3
    exact ⟨u3, by simp [step, UnionFind.unionAdd, hadd1, hadd2, hu], R3⟩

theorem run_refines {u : UnionFind} {s s' : Spec} (R : Refines u s) (ops : List Op) (h : s.run ops = some s') :
    ∃ u', run u ops = .ok u' ∧ Refines u' s' := by
  induction ops generalizing u s with
  | nil => simp only [Spec.run, Option.some.injEq] at h; subst h; exact ⟨u, rfl, R⟩
  | cons op rest ih =>
    simp only [Spec.run] at h
    cases hs : s.step op with
    | none => simp [hs] at h
    | some s1 =>
      rw [hs] at h
      obtain ⟨u1, h1, R1⟩ := step_refines R op hs
      obtain ⟨u', h2, R'⟩ := ih R1 h
      exact ⟨u', by simp [run, h1, h2], R'⟩

end UF
end AscentVerif
