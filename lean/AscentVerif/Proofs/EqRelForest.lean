import AscentVerif.Model.EqRelInd
import AscentVerif.Proofs.TrRelCollapseBasic
/-!
# The `set_subsumptions` forest of `EqRel` (union_find.rs)

`Dom subs i d`: following `set_subsumptions` from set id `i` ends in the dominant id `d`.  It is the walk `Rt` of
Proofs/TrRelCollapseBasic.lean (`dom_iff_rt`: `EqRel` and `TrRelUnionFind` share `get_dominant_id` and its model), so path
compression and the union of two roots are taken from there.  `Ranked subs r`: a rank that strictly increases along every
subsumption edge and is bounded by the size of the map — what makes `get_dominant_id` terminate within the model's fuel.
-/
namespace AscentVerif.EqRelM
open AscentVerif.TrRel (Res unwrap alGet alSet alGet_alSet Rt Compress)
open AscentVerif.TrRel.TrRel (getDominantIdAux getDominantIdMutAux)

abbrev Subs := List (Nat × Nat)

variable {subs : Subs} {r : Nat → Nat}

inductive Dom (subs : Subs) : Nat → Nat → Prop where
  | root {i : Nat} : alGet subs i = none → Dom subs i i
  | step {i j d : Nat} : alGet subs i = some j → Dom subs j d → Dom subs i d

theorem getDomAux_sound : ∀ (fuel i d : Nat), getDominantIdAux subs i fuel = .ok d → Dom subs i d := by
  intro fuel
  induction fuel with
  | zero => intro i d h; simp [getDominantIdAux] at h
  | succ n ih =>
    intro i d h
    unfold getDominantIdAux at h
    split at h
    · rename_i dom hd
      exact .step hd (ih _ _ h)
    · rename_i hd
      cases h
      exact .root hd

theorem dom_iff_rt {i d : Nat} : Dom subs i d ↔ Rt subs i d := by
  constructor
  · intro h
    induction h with
    | root h => exact TrRel.rt_of_none h
    | step h _ ih => exact (TrRel.rt_some_iff h).2 ih
  · rintro ⟨k, hk⟩
    exact getDomAux_sound _ _ _ hk

theorem Dom.is_root {i d : Nat} (h : Dom subs i d) : alGet subs d = none := (dom_iff_rt.1 h).root_none

theorem Dom.functional {i d d' : Nat} (h : Dom subs i d) (h' : Dom subs i d') : d = d' :=
  (dom_iff_rt.1 h).unique (dom_iff_rt.1 h')

theorem Dom.of_root {d d' : Nat} (h : alGet subs d = none) (h' : Dom subs d d') : d' = d :=
  Dom.functional h' (.root h)

def Ranked (subs : Subs) (r : Nat → Nat) : Prop :=
  (∀ i j, alGet subs i = some j → r i < r j) ∧ ∀ i, r i ≤ subs.length

theorem ranked_nil : Ranked [] fun _ => 0 := ⟨fun _ _ h => by simp [alGet] at h, fun _ => Nat.le_refl _⟩

theorem Dom.rank_le (hr : Ranked subs r) {i d : Nat} (h : Dom subs i d) : r i ≤ r d := by
  induction h with
  | root _ => exact Nat.le_refl _
  | step hi _ ih => exact Nat.le_of_lt (Nat.lt_of_lt_of_le (hr.1 _ _ hi) ih)

theorem Dom.rank_lt (hr : Ranked subs r) {i d p : Nat} (h : Dom subs i d)
    (hp : alGet subs i = some p) : r i < r d := by
  cases h with
  | root hi => rw [hi] at hp; cases hp
  | step hi hd => exact Nat.lt_of_lt_of_le (hr.1 _ _ hi) (hd.rank_le hr)

theorem getDomAux_complete (hr : Ranked subs r) :
    ∀ (fuel i : Nat), subs.length < fuel + r i → ∃ d, getDominantIdAux subs i fuel = .ok d := by
  intro fuel
  induction fuel with
  | zero =>
    intro i h
    have := hr.2 i
    omega
  | succ n ih =>
    intro i h
    unfold getDominantIdAux
    split
    · rename_i dom hd
      have := hr.1 _ _ hd
      exact ih dom (by omega)
    · exact ⟨i, rfl⟩

theorem dom_total (hr : Ranked subs r) (i : Nat) : ∃ d, Dom subs i d := by
  obtain ⟨d, hd⟩ := getDomAux_complete hr (subs.length + 1) i (by omega)
  exact ⟨d, getDomAux_sound _ _ _ hd⟩

/-- under the rank invariant the model's fuel suffices -/
theorem getDominantId_eq {e : EqRel} (hr : Ranked e.subs r) {i d : Nat} (h : Dom e.subs i d) :
    e.getDominantId i = .ok d := by
  obtain ⟨d', hd'⟩ := getDomAux_complete hr (e.subs.length + 1) i (by omega)
  rw [Dom.functional (getDomAux_sound _ _ _ hd') h] at hd'
  exact hd'

theorem dom_compress {a b : Subs} (h : Compress a b) (k d : Nat) : Dom b k d ↔ Dom a k d :=
  ⟨fun hb => dom_iff_rt.2 (h.rt_back k d (dom_iff_rt.1 hb)),
   fun ha => by obtain ⟨n, hn⟩ := dom_iff_rt.1 ha; exact dom_iff_rt.2 ⟨n, h.walk k n d hn⟩⟩

/-- a compressed map keeps every rank: a new value of `j` is the dominant id of `j`, which lies above `j` -/
theorem ranked_compress {a b : Subs} (h : Compress a b) (hr : Ranked a r) : Ranked b r := by
  refine ⟨fun j p hjp => ?_, fun i => h.length_eq ▸ hr.2 i⟩
  rcases h.val j p hjp with ha | ha
  · exact hr.1 j p ha
  · cases hq : alGet a j with
    | none => rw [(h.none_iff j).2 hq] at hjp; cases hjp
    | some q => exact (dom_iff_rt.2 ha).rank_lt hr hq

/-- `get_dominant_id_update` -/
theorem getDomMutAux_spec (hr : Ranked subs r) (fuel i : Nat) (hf : subs.length < fuel + r i) :
    ∃ subs' d, getDominantIdMutAux subs i fuel = .ok (subs', d) ∧ Dom subs i d ∧ Compress subs subs' := by
  obtain ⟨d, hd⟩ := getDomAux_complete hr fuel i hf
  obtain ⟨subs', he, hc⟩ := TrRel.mutAux_spec hd
  exact ⟨subs', d, he, getDomAux_sound _ _ _ hd, hc⟩

/-- the root `ys` becomes a child of the root `xs`: what `add` does to `set_subsumptions` when it merges two sets -/
theorem dom_link (hr : Ranked subs r) {xs ys : Nat} (hx : alGet subs xs = none)
    (hy : alGet subs ys = none) (hne : xs ≠ ys) (k d : Nat) :
    Dom (alSet subs ys xs) k d ↔ (Dom subs k d ∧ d ≠ ys) ∨ (Dom subs k ys ∧ d = xs) := by
  -- a walk of the old map that ends in `e` ends in `if e = ys then xs else e` in the new one
  have fwd : ∀ {e}, Dom subs k e → Dom (alSet subs ys xs) k (if e = ys then xs else e) := fun h => by
    obtain ⟨n, hn⟩ := dom_iff_rt.1 h
    exact dom_iff_rt.2 ⟨n + 1, TrRel.aux_absorb_step hy hx (Ne.symm hne) hn⟩
  constructor
  · intro h
    obtain ⟨e, he⟩ := dom_total hr k
    have := h.functional (fwd he)
    by_cases hey : e = ys
    · rw [if_pos hey] at this
      exact .inr ⟨hey ▸ he, this⟩
    · rw [if_neg hey] at this
      exact .inl ⟨this ▸ he, this ▸ hey⟩
  · rintro (⟨h, hd⟩ | ⟨h, rfl⟩)
    · have := fwd h
      rwa [if_neg hd] at this
    · have := fwd h
      rwa [if_pos rfl] at this

theorem ranked_link (hr : Ranked subs r) {xs ys : Nat} (hx : alGet subs xs = none)
    (hy : alGet subs ys = none) (hne : xs ≠ ys) :
    Ranked (alSet subs ys xs) fun i => if i = xs then Nat.max (r xs) (r ys + 1) else r i := by
  refine ⟨fun k j hk => ?_, fun k => ?_⟩
  · rw [alGet_alSet] at hk
    split at hk
    · -- the new edge `ys → xs`
      rename_i hyk
      subst hyk
      cases hk
      simp only [if_neg (Ne.symm hne), if_true]
      exact Nat.lt_of_lt_of_le (Nat.lt_succ_self _) (Nat.le_max_right _ _)
    · -- an old edge `k → j`: `k` is not the root `xs`, and no rank has decreased
      have hkx : k ≠ xs := fun e => by rw [e, hx] at hk; cases hk
      simp only [if_neg hkx]
      refine Nat.lt_of_lt_of_le (hr.1 _ _ hk) ?_
      split
      · rename_i hj
        rw [hj]; exact Nat.le_max_left _ _
      · exact Nat.le_refl _
  · rw [TrRel.alSet_length_of_none _ hy]
    show (if k = xs then _ else _) ≤ _
    split
    · exact Nat.max_le.2 ⟨Nat.le_succ_of_le (hr.2 xs), Nat.succ_le_succ (hr.2 ys)⟩
    · exact Nat.le_succ_of_le (hr.2 k)

end AscentVerif.EqRelM
