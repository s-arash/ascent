import AscentVerif.Model.ParLatHead
/-!
C05 for the parallel lattice head update (the transition system of `Model/ParLatHead`), as an Owicki–Gries proof.
`StepCase` is `step` as an inductive relation, one constructor per atomic step of the generated code, so that proofs go
by `cases` and not by unfolding `step`.  `Inv` couples facts about the shared state (at most one row; a row exists once
NEW maps the key; none while the mutex is free and NEW does not) with one assertion per worker (`Knows`); `Inv.update` is
the proof rule.  Progress, termination, and that the one final row is an upper bound of all values below every other
upper bound follow for any `join` and order with the respective lattice laws; `Props/C05Par` states them.
-/
namespace AscentVerif.ParLat

variable {V : Type}

/-- the worker's value has already been put into the row -/
def PC.after : PC → Bool
  | .pushed | .unlock | .done => true
  | _ => false

/-- the number of steps the worker has left at most (the termination measure sums it) -/
def PC.rank : PC → Nat
  | .start => 5 | .wantLock => 4 | .holding => 3 | .pushed => 2 | .unlock => 1 | .done => 0

theorem getElem?_setWorker {ws : List (Worker V)} {i j : Nat} {w x : Worker V}
    (h : (setWorker ws i w)[j]? = some x) : (j = i ∧ x = w) ∨ (j ≠ i ∧ ws[j]? = some x) := by
  unfold setWorker at h
  rw [List.getElem?_set] at h
  by_cases hij : i = j
  · subst hij
    simp only [if_true] at h
    split at h
    · left; exact ⟨rfl, by simpa using h.symm⟩
    · cases h
  · right
    simp only [hij, if_false] at h
    exact ⟨fun e => hij e.symm, h⟩

theorem length_setWorker (ws : List (Worker V)) (i : Nat) (w : Worker V) :
    (setWorker ws i w).length = ws.length := by
  unfold setWorker; simp

theorem map_v_setWorker (ws : List (Worker V)) (i : Nat) (w : Worker V) (pc : PC) (h : ws[i]? = some w) :
    (setWorker ws i { w with pc := pc }).map (·.v) = ws.map (·.v) := by
  unfold setWorker
  rw [List.map_set]
  apply List.ext_getElem?
  intro j
  rw [List.getElem?_set]
  by_cases hij : i = j
  · subst hij
    obtain ⟨hlt, he⟩ := List.getElem?_eq_some_iff.1 h
    simp [hlt, he]
  · simp [hij]

theorem sum_map_set {α : Type} (f : α → Nat) (l : List α) (i : Nat) (a b : α) (h : l[i]? = some a) :
    ((l.set i b).map f).sum + f a = (l.map f).sum + f b := by
  induction l generalizing i with
  | nil => simp at h
  | cons x xs ih =>
    cases i with
    | zero =>
      simp only [List.getElem?_cons_zero, Option.some.injEq] at h
      subst h
      simp only [List.set_cons_zero, List.map_cons, List.sum_cons]
      omega
    | succ i =>
      simp only [List.getElem?_cons_succ] at h
      have := ih i h
      simp only [List.set_cons_succ, List.map_cons, List.sum_cons]
      omega

theorem length_joinRow0 (join : V → V → V) (rows : List V) (v : V) : (joinRow0 join rows v).length = rows.length := by
  cases rows <;> rfl

theorem mem_joinRow0 {join : V → V → V} {rows : List V} {v r' : V} (h : r' ∈ joinRow0 join rows v) :
    (∃ r ∈ rows, r' = join r v) ∨ r' ∈ rows := by
  cases rows with
  | nil => simp [joinRow0] at h
  | cons r rest =>
    simp only [joinRow0, List.mem_cons] at h
    rcases h with h | h
    · left; exact ⟨r, by simp, h⟩
    · right; simp [h]

theorem mem_joinRow0_single {join : V → V → V} {rows : List V} {v r' : V} (hl : rows.length = 1)
    (h : r' ∈ joinRow0 join rows v) : ∃ r, rows = [r] ∧ r' = join r v := by
  match rows, hl with
  | [r], _ =>
    simp only [joinRow0, List.mem_cons, List.not_mem_nil, or_false] at h
    exact ⟨r, rfl, h⟩

/-- the atomic steps: look-up in NEW (hit: join into the row; miss: go for the mutex), lock, re-check under the
mutex (hit / push a row), index insert, unlock -/
inductive StepCase (join : V → V → V) (s : State V) (i : Nat) (w : Worker V) : State V → Prop where
  | startHit : w.pc = .start → s.inNew = true →
      StepCase join s i w { s with rows := joinRow0 join s.rows w.v, workers := setWorker s.workers i { w with pc := .done } }
  | startMiss : w.pc = .start → s.inNew = false →
      StepCase join s i w { s with workers := setWorker s.workers i { w with pc := .wantLock } }
  | lock : w.pc = .wantLock → s.lock = none →
      StepCase join s i w { s with lock := some i, workers := setWorker s.workers i { w with pc := .holding } }
  | recheckHit : w.pc = .holding → s.inNew = true →
      StepCase join s i w { s with rows := joinRow0 join s.rows w.v, workers := setWorker s.workers i { w with pc := .unlock } }
  | push : w.pc = .holding → s.inNew = false →
      StepCase join s i w { s with rows := s.rows ++ [w.v], workers := setWorker s.workers i { w with pc := .pushed } }
  | insert : w.pc = .pushed →
      StepCase join s i w { s with inNew := true, workers := setWorker s.workers i { w with pc := .unlock } }
  | unlock : w.pc = .unlock →
      StepCase join s i w { s with lock := none, workers := setWorker s.workers i { w with pc := .done } }

theorem step_cases {join : V → V → V} {s s' : State V} {i : Nat} (h : step join s i = some s') :
    ∃ w, s.workers[i]? = some w ∧ StepCase join s i w s' := by
  unfold step at h
  split at h
  · cases h
  next w hw =>
    refine ⟨w, hw, ?_⟩
    split at h
    next hpc =>
      split at h
      next hin => cases h; exact .startHit hpc hin
      next hin => cases h; exact .startMiss hpc (Bool.eq_false_iff.2 hin)
    next hpc =>
      split at h
      · cases h
      next hl => cases h; exact .lock hpc hl
    next hpc =>
      split at h
      next hin => cases h; exact .recheckHit hpc hin
      next hin => cases h; exact .push hpc (Bool.eq_false_iff.2 hin)
    next hpc => cases h; exact .insert hpc
    next hpc => cases h; exact .unlock hpc
    · cases h

/-- What worker `i` standing at `pc` may assume about the shared state: its assertion in an
Owicki–Gries proof outline of the head update. -/
def Knows (s : State V) (i : Nat) : PC → Prop
  | .start | .wantLock => s.lock ≠ some i
  | .holding => s.lock = some i ∧ (s.inNew = false → s.rows.length = 0)
  | .pushed => s.lock = some i ∧ s.rows.length = 1
  | .unlock => s.lock = some i ∧ s.inNew = true
  | .done => s.lock ≠ some i ∧ s.rows.length = 1

theorem Knows.congr {s s' : State V} {j : Nat} {pc : PC} (h : Knows s j pc) (hl : s'.lock = s.lock)
    (hb : s'.inNew = s.inNew) (hn : s'.rows.length = s.rows.length) : Knows s' j pc := by
  cases pc <;> simpa only [Knows, hl, hb, hn] using h

/-- interference freedom for a worker that does not hold the mutex: its assertion survives any change that
leaves the mutex with somebody else and keeps a single row single -/
theorem Knows.other {s s' : State V} {j : Nat} {pc : PC} (h : Knows s j pc) (hl : s.lock ≠ some j)
    (hl' : s'.lock ≠ some j) (hn : s.rows.length = 1 → s'.rows.length = 1) : Knows s' j pc := by
  cases pc with
  | start => exact hl'
  | wantLock => exact hl'
  | done => exact ⟨hl', hn h.2⟩
  | holding => exact absurd h.1 hl
  | pushed => exact absurd h.1 hl
  | unlock => exact absurd h.1 hl

structure Inv (vs : List V) (s : State V) : Prop where
  vals : s.workers.map (·.v) = vs
  lockLt : ∀ i, s.lock = some i → i < s.workers.length
  len : s.rows.length ≤ 1
  inNewLen : s.inNew = true → s.rows.length = 1
  freeEmpty : s.lock = none → s.inNew = false → s.rows.length = 0
  knows : ∀ (i : Nat) (w : Worker V), s.workers[i]? = some w → Knows s i w.pc

theorem Inv.init (vs : List V) : Inv vs (init vs) where
  vals := by simp [ParLat.init, List.map_map, Function.comp_def]
  lockLt := nofun
  len := Nat.zero_le 1
  inNewLen := nofun
  freeEmpty _ _ := rfl
  knows i w h := by
    simp only [ParLat.init, List.getElem?_map, Option.map_eq_some_iff] at h
    obtain ⟨v, _, rfl⟩ := h
    exact nofun

theorem Inv.afterLen {vs : List V} {s : State V} (hI : Inv vs s) {i : Nat} {w : Worker V}
    (hw : s.workers[i]? = some w) (ha : w.pc.after = true) : s.rows.length = 1 := by
  have hk := hI.knows i w hw
  generalize w.pc = pc at hk ha
  cases pc with
  | pushed => exact hk.2
  | unlock => exact hI.inNewLen hk.2
  | done => exact hk.2
  | _ => cases ha

/-- The Owicki–Gries rule: after a step of worker `i` to `pc'` the invariant holds again if the facts about the
shared state do, worker `i`'s new assertion holds, and no other worker's assertion is invalidated. -/
theorem Inv.update {vs : List V} {s s' : State V} {i : Nat} {w : Worker V} {pc' : PC} (hI : Inv vs s)
    (hw : s.workers[i]? = some w) (hws : s'.workers = setWorker s.workers i { w with pc := pc' })
    (hlock : ∀ k, s'.lock = some k → k < s.workers.length) (hlen : s'.rows.length ≤ 1)
    (hin : s'.inNew = true → s'.rows.length = 1) (hfree : s'.lock = none → s'.inNew = false → s'.rows.length = 0)
    (hself : Knows s' i pc') (hother : ∀ j pc, j ≠ i → Knows s j pc → Knows s' j pc) : Inv vs s' where
  vals := by rw [hws, map_v_setWorker _ _ _ _ hw]; exact hI.vals
  lockLt := by rw [hws, length_setWorker]; exact hlock
  len := hlen
  inNewLen := hin
  freeEmpty := hfree
  knows j x hx := by
    rw [hws] at hx
    rcases getElem?_setWorker hx with ⟨rfl, rfl⟩ | ⟨hne, hx'⟩
    · exact hself
    · exact hother j x.pc hne (hI.knows j x hx')

theorem Inv.update_same {vs : List V} {s s' : State V} {i : Nat} {w : Worker V} {pc' : PC} (hI : Inv vs s)
    (hw : s.workers[i]? = some w) (hws : s'.workers = setWorker s.workers i { w with pc := pc' })
    (hl : s'.lock = s.lock) (hb : s'.inNew = s.inNew) (hn : s'.rows.length = s.rows.length)
    (hself : Knows s i pc') : Inv vs s' :=
  hI.update hw hws (hl ▸ hI.lockLt) (hn ▸ hI.len) (hb ▸ hn ▸ hI.inNewLen) (hl ▸ hb ▸ hn ▸ hI.freeEmpty)
    (hself.congr hl hb hn) (fun _ _ _ h => h.congr hl hb hn)

theorem lock_ne {l : Option Nat} {i j : Nat} (hl : l = some i) (hne : j ≠ i) : l ≠ some j :=
  fun e => hne (Option.some.inj (e.symm.trans hl))

theorem Inv.step {join : V → V → V} {vs : List V} {s s' : State V} {i : Nat} {w : Worker V}
    (hI : Inv vs s) (hw : s.workers[i]? = some w) (hc : StepCase join s i w s') : Inv vs s' := by
  have hk := hI.knows i w hw
  -- `update_same` where lock, NEW and the number of rows stay; otherwise `update`, whose arguments after the two about
  -- the workers are: lock in range, at most one row, NEW ⇒ a row, free ∧ ¬NEW ⇒ no row, own assertion, the others'
  cases hc with
  | startHit hpc hin =>
    rw [hpc] at hk
    exact hI.update_same hw rfl rfl rfl (length_joinRow0 ..) ⟨hk, hI.inNewLen hin⟩
  | startMiss hpc hin =>
    rw [hpc] at hk
    exact hI.update_same hw rfl rfl rfl rfl hk
  | recheckHit hpc hin =>
    rw [hpc] at hk
    exact hI.update_same hw rfl rfl rfl (length_joinRow0 ..) ⟨hk.1, hin⟩
  | lock hpc hl =>
    have hlt : i < s.workers.length := (List.getElem?_eq_some_iff.1 hw).1
    refine hI.update hw rfl (fun k hk => ?_) hI.len hI.inNewLen nofun ⟨rfl, hI.freeEmpty hl⟩ (fun j pc hne h => ?_)
    · cases hk
      exact hlt
    · exact h.other (hl ▸ nofun) (lock_ne rfl hne) id
  | push hpc hin =>
    rw [hpc] at hk
    have hlen : (s.rows ++ [w.v]).length = 1 := by rw [List.length_append, hk.2 hin]; rfl
    refine hI.update hw rfl hI.lockLt (Nat.le_of_eq hlen) (fun _ => hlen) (fun h => ?_) ⟨hk.1, hlen⟩
      (fun j pc hne h => ?_)
    · cases hk.1.symm.trans h
    · exact h.other (lock_ne hk.1 hne) (lock_ne hk.1 hne)
        (fun _ => hlen)
  | insert hpc =>
    rw [hpc] at hk
    refine hI.update hw rfl hI.lockLt hI.len (fun _ => hk.2) nofun ⟨hk.1, rfl⟩ (fun j pc hne h => ?_)
    exact h.other (lock_ne hk.1 hne) (lock_ne hk.1 hne) id
  | unlock hpc =>
    rw [hpc] at hk
    refine hI.update hw rfl nofun hI.len hI.inNewLen (fun _ h => ?_) ⟨nofun, hI.inNewLen hk.2⟩ (fun j pc hne h => ?_)
    · cases hk.2.symm.trans h
    · exact h.other (lock_ne hk.1 hne) nofun id

theorem Reachable.inv {join : V → V → V} {vs : List V} {s : State V} (h : Reachable join vs s) : Inv vs s := by
  induction h with
  | init => exact Inv.init vs
  | step i _ hs ih =>
    obtain ⟨w, hw, hc⟩ := step_cases hs
    exact ih.step hw hc

theorem step_enabled (join : V → V → V) (s : State V) (i : Nat) (w : Worker V) (hw : s.workers[i]? = some w)
    (hnd : w.pc ≠ .done) (hlk : w.pc = .wantLock → s.lock = none) : ∃ s', step join s i = some s' := by
  unfold step
  simp only [hw]
  cases hpc : w.pc with
  | start => simp only []; split <;> exact ⟨_, rfl⟩
  | wantLock => simp only [hlk hpc]; exact ⟨_, rfl⟩
  | holding => simp only []; split <;> exact ⟨_, rfl⟩
  | pushed => exact ⟨_, rfl⟩
  | unlock => exact ⟨_, rfl⟩
  | done => exact absurd hpc hnd

theorem no_stuck_of_inv {join : V → V → V} {vs : List V} {s : State V} (hI : Inv vs s) (hnd : ¬ allDone s) :
    ∃ i s', step join s i = some s' := by
  cases hl : s.lock with
  | none =>
    obtain ⟨w, hw⟩ := Classical.not_forall.1 hnd
    obtain ⟨hmem, hpc⟩ := Classical.not_imp.1 hw
    obtain ⟨j, hj⟩ := List.getElem?_of_mem hmem
    exact ⟨j, step_enabled join s j w hj hpc (fun _ => hl)⟩
  | some k =>
    -- the holder of the mutex is neither done nor waiting for it
    have hk := hI.lockLt k hl
    have hwk : s.workers[k]? = some s.workers[k] := List.getElem?_eq_getElem hk
    have hkn := hI.knows k _ hwk
    refine ⟨k, step_enabled join s k _ hwk ?_ ?_⟩
    · intro h
      rw [h] at hkn
      exact absurd hl hkn.1
    · intro h
      rw [h] at hkn
      exact absurd hl hkn

/-- `measure` of `Props/C05Par`, written with `PC.rank` -/
def measure' (s : State V) : Nat := (s.workers.map fun w => w.pc.rank).sum

theorem StepCase.workers_eq {join : V → V → V} {s s' : State V} {i : Nat} {w : Worker V} (hc : StepCase join s i w s') :
    ∃ pc', s'.workers = s.workers.set i { w with pc := pc' } ∧ pc'.rank < w.pc.rank := by
  cases hc with
  | startHit hpc _ => exact ⟨_, rfl, by rw [hpc]; decide⟩
  | startMiss hpc _ => exact ⟨_, rfl, by rw [hpc]; decide⟩
  | lock hpc _ => exact ⟨_, rfl, by rw [hpc]; decide⟩
  | recheckHit hpc _ => exact ⟨_, rfl, by rw [hpc]; decide⟩
  | push hpc _ => exact ⟨_, rfl, by rw [hpc]; decide⟩
  | insert hpc => exact ⟨_, rfl, by rw [hpc]; decide⟩
  | unlock hpc => exact ⟨_, rfl, by rw [hpc]; decide⟩

theorem measure'_decreases (join : V → V → V) (s s' : State V) (i : Nat) (h : step join s i = some s') :
    measure' s' < measure' s := by
  obtain ⟨w, hw, hc⟩ := step_cases h
  obtain ⟨pc', hws, hlt⟩ := hc.workers_eq
  unfold measure'
  rw [hws]
  have := sum_map_set (fun w : Worker V => w.pc.rank) s.workers i w { w with pc := pc' } hw
  simp only at this
  omega

/-- every row is above every value that has been put in already -/
def Dom (le : V → V → Prop) (s : State V) : Prop :=
  ∀ (i : Nat) (w : Worker V), s.workers[i]? = some w → w.pc.after = true → ∀ r ∈ s.rows, le w.v r

theorem Dom.of_rows_eq {le : V → V → Prop} {s : State V} {i : Nat} {w : Worker V} (hD : Dom le s)
    (hw : s.workers[i]? = some w) (pc' : PC) (hafter : pc'.after = true → w.pc.after = true)
    (s' : State V) (hrows : s'.rows = s.rows) (hws : s'.workers = setWorker s.workers i { w with pc := pc' }) :
    Dom le s' := by
  intro j x hx ha r hr
  rw [hrows] at hr
  rw [hws] at hx
  rcases getElem?_setWorker hx with ⟨rfl, rfl⟩ | ⟨_, hx'⟩
  · exact hD j w hw (hafter ha) r hr
  · exact hD j x hx' ha r hr

section
variable {join : V → V → V} {le : V → V → Prop} (hrefl : ∀ a, le a a) (htrans : ∀ a b c, le a b → le b c → le a c)
  (hl : ∀ a b, le a (join a b)) (hr : ∀ a b, le b (join a b))
include htrans hl hr

theorem Dom.of_join {s : State V} {i : Nat} {w : Worker V} (hD : Dom le s) (hlen : s.rows.length = 1)
    (pc' : PC) (s' : State V) (hrows : s'.rows = joinRow0 join s.rows w.v)
    (hws : s'.workers = setWorker s.workers i { w with pc := pc' }) :
    Dom le s' := by
  intro j x hx ha r' hr'
  rw [hrows] at hr'
  rw [hws] at hx
  obtain ⟨r, hr0, rfl⟩ := mem_joinRow0_single hlen hr'
  rcases getElem?_setWorker hx with ⟨rfl, rfl⟩ | ⟨_, hx'⟩
  · exact hr r w.v
  · exact htrans _ _ _ (hD j x hx' ha r (by simp [hr0])) (hl r w.v)

include hrefl

theorem Dom.step {vs : List V} {s s' : State V} {i : Nat} {w : Worker V}
    (hI : Inv vs s) (hD : Dom le s) (hw : s.workers[i]? = some w) (hc : StepCase join s i w s') : Dom le s' := by
  cases hc with
  | startHit hpc hin => exact hD.of_join htrans hl hr (hI.inNewLen hin) _ _ rfl rfl
  | recheckHit hpc hin => exact hD.of_join htrans hl hr (hI.inNewLen hin) _ _ rfl rfl
  | startMiss hpc _ => exact hD.of_rows_eq hw _ (by simp [PC.after]) _ rfl rfl
  | lock hpc _ => exact hD.of_rows_eq hw _ (by simp [PC.after]) _ rfl rfl
  | insert hpc => exact hD.of_rows_eq hw _ (by simp [hpc, PC.after]) _ rfl rfl
  | unlock hpc => exact hD.of_rows_eq hw _ (by simp [hpc, PC.after]) _ rfl rfl
  | push hpc hin =>
    have hemp : s.rows = [] := List.eq_nil_of_length_eq_zero ((hpc ▸ hI.knows i w hw).2 hin)
    intro j x hx ha r hr
    simp only [hemp, List.nil_append, List.mem_singleton] at hr
    subst hr
    rcases getElem?_setWorker hx with ⟨rfl, rfl⟩ | ⟨_, hx'⟩
    · exact hrefl _
    · have := hI.afterLen hx' ha
      simp [hemp] at this

theorem Reachable.dom {vs : List V} {s : State V} (h : Reachable join vs s) : Dom le s := by
  induction h with
  | init => intro i w _ _ r hr; simp [ParLat.init] at hr
  | step i hreach hs ih =>
    obtain ⟨w, hw, hc⟩ := step_cases hs
    exact Dom.step hrefl htrans hl hr hreach.inv ih hw hc

end

theorem Inv.mem_vs {vs : List V} {s : State V} (hI : Inv vs s) {i : Nat} {w : Worker V} (hw : s.workers[i]? = some w) :
    w.v ∈ vs := by
  rw [← hI.vals]
  exact List.mem_map.2 ⟨w, List.mem_of_getElem? hw, rfl⟩

theorem least_step {join : V → V → V} {le : V → V → Prop}
    (hleast : ∀ a b c, le a c → le b c → le (join a b) c)
    {s s' : State V} {i : Nat} {w : Worker V} (ub : V) (hv : le w.v ub)
    (hL : ∀ r ∈ s.rows, le r ub) (hc : StepCase join s i w s') : ∀ r ∈ s'.rows, le r ub := by
  have hjoin : ∀ r' ∈ joinRow0 join s.rows w.v, le r' ub := by
    intro r' hr'
    rcases mem_joinRow0 hr' with ⟨r, hr, rfl⟩ | hr
    · exact hleast _ _ _ (hL r hr) hv
    · exact hL r' hr
  cases hc with
  | startHit _ _ => exact hjoin
  | recheckHit _ _ => exact hjoin
  | startMiss _ _ => exact hL
  | lock _ _ => exact hL
  | insert _ => exact hL
  | unlock _ => exact hL
  | push _ _ =>
    intro r hr
    simp only [List.mem_append, List.mem_singleton] at hr
    rcases hr with hr | rfl
    · exact hL r hr
    · exact hv

theorem Reachable.least {join : V → V → V} {le : V → V → Prop}
    (hleast : ∀ a b c, le a c → le b c → le (join a b) c)
    {vs : List V} {s : State V} (h : Reachable join vs s) (ub : V) (hub : ∀ v ∈ vs, le v ub) :
    ∀ r ∈ s.rows, le r ub := by
  induction h with
  | init => intro r hr; simp [ParLat.init] at hr
  | step i hreach hs ih =>
    obtain ⟨w, hw, hc⟩ := step_cases hs
    exact least_step hleast ub (hub _ (hreach.inv.mem_vs hw)) ih hc

/-- run an explicit schedule (the examples of `C05Par` exhibit reachable final states with it) -/
def runSched (join : V → V → V) (s : State V) : List Nat → Option (State V)
  | [] => some s
  | i :: is => (step join s i).bind fun s' => runSched join s' is

theorem reachable_runSched {join : V → V → V} {vs : List V} {s s' : State V} (sched : List Nat)
    (h : Reachable join vs s) (hr : runSched join s sched = some s') : Reachable join vs s' := by
  induction sched generalizing s with
  | nil =>
    simp only [runSched, Option.some.injEq] at hr
    exact hr ▸ h
  | cons i is ih =>
    simp only [runSched, Option.bind_eq_some_iff] at hr
    obtain ⟨s1, hs1, hrest⟩ := hr
    exact ih (Reachable.step i h hs1) hrest

end AscentVerif.ParLat
