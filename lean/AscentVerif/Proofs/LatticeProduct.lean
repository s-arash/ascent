import AscentVerif.Proofs.LatticeBasic
/-!
# Component-wise products

`comb2`, `combine_orderings` lifted to comparison results, is a commutative monoid with unit `some .eq`;
that is what lets the accumulator of the `Product` folds be pulled out (`fold_cons`).  `PairLike` says
that a type is the component-wise product of two others, and `lawful_pair` that it is then lawful.  Its two
instances follow: `Product` of a tuple (`product_pairLike`) and of an array (`arr_pairLike`, `lawful_arr`).
-/
namespace AscentVerif.Lat

def comb2 (p q : Option Ordering) : Option Ordering :=
  p.bind fun o1 => q.bind fun o2 => combineOrderings o1 o2

theorem comb2_comm (p q : Option Ordering) : comb2 p q = comb2 q p := by
  rcases p with _ | p <;> rcases q with _ | q <;> try rfl
  cases p <;> cases q <;> rfl

theorem comb2_eq_right (p : Option Ordering) : comb2 p (some .eq) = p := by
  rcases p with _ | p
  · rfl
  · cases p <;> rfl

theorem comb2_none_right (p : Option Ordering) : comb2 p none = none := by
  rcases p with _ | p <;> rfl

theorem comb2_assoc (p q r : Option Ordering) : comb2 (comb2 p q) r = comb2 p (comb2 q r) := by
  rcases p with _ | p
  · rfl
  rcases q with _ | q
  · rfl
  rcases r with _ | r
  · rw [comb2_none_right, comb2_none_right, comb2_none_right]
  · cases p <;> cases q <;> cases r <;> rfl

/-- one step of a `Product` comparison fold whose tail `f` has its accumulator pulled out already -/
theorem fold_cons (p X : Option Ordering) (f : Ordering → Option Ordering) (hf : ∀ r, f r = comb2 X (some r))
    (res : Ordering) :
    (p.bind fun ord => (combineOrderings ord res).bind f) = comb2 (comb2 p X) (some res) := by
  have hb : ∀ q : Option Ordering, q.bind f = comb2 X q := by
    intro q
    rcases q with _ | q
    · exact (comb2_none_right X).symm
    · exact hf q
  rw [comb2_comm p X, comb2_assoc]
  rcases p with _ | ord
  · exact (comb2_none_right X).symm
  · exact hb _

def leO (p : Option Ordering) : Bool := p == some .lt || p == some .eq

theorem le_eq_leO {α : Type} [Lat α] (a b : α) : le a b = leO (pcmp a b) := rfl

theorem leO_comb2 (p q : Option Ordering) : leO (comb2 p q) = (leO p && leO q) := by
  rcases p with _ | p <;> rcases q with _ | q
  · rfl
  · cases q <;> rfl
  · cases p <;> rfl
  · cases p <;> cases q <;> rfl

theorem comb2_eq_eq (p q : Option Ordering) (h : comb2 p q = some .eq) : p = some .eq ∧ q = some .eq := by
  rcases p with _ | p <;> rcases q with _ | q
  · cases h
  · cases h
  · cases p <;> cases h
  · cases p <;> cases q <;> first | exact ⟨rfl, rfl⟩ | cases h

theorem comb2_swap (p q : Option Ordering) :
    comb2 (p.map Ordering.swap) (q.map Ordering.swap) = (comb2 p q).map Ordering.swap := by
  rcases p with _ | p <;> rcases q with _ | q
  · rfl
  · rfl
  · cases p <;> rfl
  · cases p <;> cases q <;> rfl

structure PairLike (α β γ : Type) [Lat α] [Lat β] [Lat γ] (WFa : α → Prop) (WFb : β → Prop)
    (WFc : γ → Prop) (mk : α → β → γ) : Prop where
  surj : ∀ c, WFc c → ∃ a b, c = mk a b
  inj : ∀ a b a' b', mk a b = mk a' b' → a = a' ∧ b = b'
  wf : ∀ a b, WFc (mk a b) ↔ WFa a ∧ WFb b
  pcmp_mk : ∀ a b a' b', pcmp (mk a b) (mk a' b') = comb2 (pcmp a a') (pcmp b b')
  join_mk : ∀ a b a' b', WFa a → WFb b → WFa a' → WFb b' →
    join (mk a b) (mk a' b') = mk (join a a') (join b b')
  meet_mk : ∀ a b a' b', WFa a → WFb b → WFa a' → WFb b' →
    meet (mk a b) (mk a' b') = mk (meet a a') (meet b b')
  joinMut_mk : ∀ a b a' b', WFa a → WFb b → WFa a' → WFb b' →
    joinMut (mk a b) (mk a' b') =
      (mk (joinMut a a').1 (joinMut b b').1, (joinMut a a').2 || (joinMut b b').2)
  meetMut_mk : ∀ a b a' b', WFa a → WFb b → WFa a' → WFb b' →
    meetMut (mk a b) (mk a' b') =
      (mk (meetMut a a').1 (meetMut b b').1, (meetMut a a').2 || (meetMut b b').2)

section
variable {α β γ : Type} [Lat α] [Lat β] [Lat γ] {WFa : α → Prop} {WFb : β → Prop}
    {WFc : γ → Prop} {mk : α → β → γ}

theorem PairLike.le_mk_iff (P : PairLike α β γ WFa WFb WFc mk) (a : α) (b : β) (a' : α) (b' : β) :
    le (mk a b) (mk a' b') = true ↔ (le a a' = true ∧ le b b' = true) := by
  rw [le_eq_leO (mk a b), P.pcmp_mk, leO_comb2, Bool.and_eq_true]; rfl

theorem PairLike.ind (P : PairLike α β γ WFa WFb WFc mk) {Q : γ → Prop}
    (hQ : ∀ a b, WFa a → WFb b → Q (mk a b)) (c : γ) (hc : WFc c) : Q c := by
  obtain ⟨a, b, rfl⟩ := P.surj c hc
  obtain ⟨wa, wb⟩ := (P.wf a b).1 hc
  exact hQ a b wa wb

theorem PairLike.ind2 (P : PairLike α β γ WFa WFb WFc mk) {Q : γ → γ → Prop}
    (hQ : ∀ a b a' b', WFa a → WFb b → WFa a' → WFb b' → Q (mk a b) (mk a' b'))
    (c d : γ) (hc : WFc c) (hd : WFc d) : Q c d :=
  P.ind (Q := fun c => Q c d) (fun a b wa wb => P.ind (fun a' b' => hQ a b a' b' wa wb) d hd) c hc

theorem PairLike.ind3 (P : PairLike α β γ WFa WFb WFc mk) {Q : γ → γ → γ → Prop}
    (hQ : ∀ a b a' b' a'' b'', WFa a → WFb b → WFa a' → WFb b' → WFa a'' → WFb b'' →
      Q (mk a b) (mk a' b') (mk a'' b''))
    (c d e : γ) (hc : WFc c) (hd : WFc d) (he : WFc e) : Q c d e :=
  P.ind2 (Q := fun c d => Q c d e)
    (fun a b a' b' wa wb wa' wb' => P.ind (fun a'' b'' => hQ a b a' b' a'' b'' wa wb wa' wb') e he) c d hc hd

theorem PairLike.flag (P : PairLike α β γ WFa WFb WFc mk) {a ja : α} {b jb : β} {fa fb : Bool}
    (ha : fa = true ↔ ja ≠ a) (hb : fb = true ↔ jb ≠ b) : (fa || fb) = true ↔ mk ja jb ≠ mk a b := by
  rw [Bool.or_eq_true, ha, hb]
  constructor
  · rintro (h | h) e
    · exact h (P.inj _ _ _ _ e).1
    · exact h (P.inj _ _ _ _ e).2
  · intro h
    by_cases e1 : ja = a
    · exact .inr fun e2 => h (by rw [e1, e2])
    · exact .inl e1

theorem lawful_pair (P : PairLike α β γ WFa WFb WFc mk) (ha : LawfulLat α WFa) (hb : LawfulLat β WFb) :
    LawfulLat γ WFc where
  pcmp_refl := P.ind fun a b wa wb => by
    rw [P.pcmp_mk, ha.pcmp_refl a wa, hb.pcmp_refl b wb]; rfl
  eq_of_pcmp_eq := P.ind2 fun a b a' b' wa wb wa' wb' h => by
    rw [P.pcmp_mk] at h
    obtain ⟨h1, h2⟩ := comb2_eq_eq _ _ h
    rw [ha.eq_of_pcmp_eq a a' wa wa' h1, hb.eq_of_pcmp_eq b b' wb wb' h2]
  pcmp_swap := P.ind2 fun a b a' b' wa wb wa' wb' => by
    rw [P.pcmp_mk, P.pcmp_mk, ha.pcmp_swap a a' wa wa', hb.pcmp_swap b b' wb wb', comb2_swap]
  le_trans := P.ind3 fun a b a' b' a'' b'' wa wb wa' wb' wa'' wb'' h1 h2 => by
    rw [P.le_mk_iff] at *
    exact ⟨ha.le_trans a a' a'' wa wa' wa'' h1.1 h2.1, hb.le_trans b b' b'' wb wb' wb'' h1.2 h2.2⟩
  join_wf := P.ind2 fun a b a' b' wa wb wa' wb' => by
    rw [P.join_mk a b a' b' wa wb wa' wb', P.wf]
    exact ⟨ha.join_wf a a' wa wa', hb.join_wf b b' wb wb'⟩
  meet_wf := P.ind2 fun a b a' b' wa wb wa' wb' => by
    rw [P.meet_mk a b a' b' wa wb wa' wb', P.wf]
    exact ⟨ha.meet_wf a a' wa wa', hb.meet_wf b b' wb wb'⟩
  le_join_left := P.ind2 fun a b a' b' wa wb wa' wb' => by
    rw [P.join_mk a b a' b' wa wb wa' wb', P.le_mk_iff]
    exact ⟨ha.le_join_left a a' wa wa', hb.le_join_left b b' wb wb'⟩
  le_join_right := P.ind2 fun a b a' b' wa wb wa' wb' => by
    rw [P.join_mk a b a' b' wa wb wa' wb', P.le_mk_iff]
    exact ⟨ha.le_join_right a a' wa wa', hb.le_join_right b b' wb wb'⟩
  join_le := P.ind3 fun a b a' b' a'' b'' wa wb wa' wb' wa'' wb'' h1 h2 => by
    rw [P.join_mk a b a' b' wa wb wa' wb']
    rw [P.le_mk_iff] at *
    exact ⟨ha.join_le a a' a'' wa wa' wa'' h1.1 h2.1, hb.join_le b b' b'' wb wb' wb'' h1.2 h2.2⟩
  meet_le_left := P.ind2 fun a b a' b' wa wb wa' wb' => by
    rw [P.meet_mk a b a' b' wa wb wa' wb', P.le_mk_iff]
    exact ⟨ha.meet_le_left a a' wa wa', hb.meet_le_left b b' wb wb'⟩
  meet_le_right := P.ind2 fun a b a' b' wa wb wa' wb' => by
    rw [P.meet_mk a b a' b' wa wb wa' wb', P.le_mk_iff]
    exact ⟨ha.meet_le_right a a' wa wa', hb.meet_le_right b b' wb wb'⟩
  le_meet := P.ind3 fun a b a' b' a'' b'' wa wb wa' wb' wa'' wb'' h1 h2 => by
    rw [P.meet_mk a b a' b' wa wb wa' wb']
    rw [P.le_mk_iff] at *
    exact ⟨ha.le_meet a a' a'' wa wa' wa'' h1.1 h2.1, hb.le_meet b b' b'' wb wb' wb'' h1.2 h2.2⟩
  joinMut_fst := P.ind2 fun a b a' b' wa wb wa' wb' => by
    rw [P.joinMut_mk a b a' b' wa wb wa' wb', P.join_mk a b a' b' wa wb wa' wb',
      ha.joinMut_fst a a' wa wa', hb.joinMut_fst b b' wb wb']
  joinMut_snd := P.ind2 fun a b a' b' wa wb wa' wb' => by
    rw [P.joinMut_mk a b a' b' wa wb wa' wb', P.join_mk a b a' b' wa wb wa' wb']
    exact P.flag (ha.joinMut_snd a a' wa wa') (hb.joinMut_snd b b' wb wb')
  meetMut_fst := P.ind2 fun a b a' b' wa wb wa' wb' => by
    rw [P.meetMut_mk a b a' b' wa wb wa' wb', P.meet_mk a b a' b' wa wb wa' wb',
      ha.meetMut_fst a a' wa wa', hb.meetMut_fst b b' wb wb']
  meetMut_snd := P.ind2 fun a b a' b' wa wb wa' wb' => by
    rw [P.meetMut_mk a b a' b' wa wb wa' wb', P.meet_mk a b a' b' wa wb wa' wb']
    exact P.flag (ha.meetMut_snd a a' wa wa') (hb.meetMut_snd b b' wb wb')

end

/-! ## `Product<(T0, …, Tn)>` as iterated pairs

The Rust macro folds over the components with an accumulator (the ordering so far, the "changed" flag); `PTailAcc` says
the accumulator can be pulled out of a tail's folds, which makes `Product (α × β)` a `PairLike` of `α` and `Product β`.
A tuple type is built from `Unit` by pairing, so there is no induction here: `ptailAcc_unit` / `ptailAcc_cons` and
`lawful_product_unit` / `lawful_product_cons` are the two cases, bundled as `lawfulPTail_unit` / `lawfulPTail_cons` in
`Props/C16Struct` and composed once per arity. -/

structure PTailAcc (β : Type) [PTail β] : Prop where
  pcmp_acc : ∀ (res : Ordering) (x y : β),
    PTail.pcmpFold res x y = (PTail.pcmpFold .eq x y).bind (fun o => combineOrderings o res)
  joinMut_acc : ∀ (c : Bool) (x y : β),
    PTail.joinMutFold c x y = ((PTail.joinMutFold false x y).1, c || (PTail.joinMutFold false x y).2)
  meetMut_acc : ∀ (c : Bool) (x y : β),
    PTail.meetMutFold c x y = ((PTail.meetMutFold false x y).1, c || (PTail.meetMutFold false x y).2)

theorem ptailAcc_unit : PTailAcc Unit where
  pcmp_acc res _ _ := by cases res <;> rfl
  joinMut_acc c _ _ := by cases c <;> rfl
  meetMut_acc c _ _ := by cases c <;> rfl

section
variable {α β : Type} [Lat α] [PTail β]

theorem pcmpFold_cons (res : Ordering) (a b : α × β) :
    PTail.pcmpFold res a b =
      (pcmp a.1 b.1).bind (fun ord => (combineOrderings ord res).bind (fun r => PTail.pcmpFold r a.2 b.2)) := by
  dsimp only [PTail.pcmpFold]
  cases pcmp a.1 b.1 with
  | none => rfl
  | some ord => dsimp only [Option.bind_some]; cases combineOrderings ord res <;> rfl

theorem pcmpFold_cons_acc (hb : PTailAcc β) (res : Ordering) (a b : α × β) :
    PTail.pcmpFold res a b =
      comb2 (comb2 (pcmp a.1 b.1) (PTail.pcmpFold .eq a.2 b.2)) (some res) := by
  rw [pcmpFold_cons]
  exact fold_cons _ _ _ (fun r => hb.pcmp_acc r a.2 b.2) res

theorem joinMutFold_cons (c : Bool) (a b : α × β) :
    PTail.joinMutFold c a b =
      (((joinMut a.1 b.1).1, (PTail.joinMutFold (c || (joinMut a.1 b.1).2) a.2 b.2).1),
        (PTail.joinMutFold (c || (joinMut a.1 b.1).2) a.2 b.2).2) := rfl

theorem meetMutFold_cons (c : Bool) (a b : α × β) :
    PTail.meetMutFold c a b =
      (((meetMut a.1 b.1).1, (PTail.meetMutFold (c || (meetMut a.1 b.1).2) a.2 b.2).1),
        (PTail.meetMutFold (c || (meetMut a.1 b.1).2) a.2 b.2).2) := rfl

theorem ptailAcc_cons (hb : PTailAcc β) : PTailAcc (α × β) where
  pcmp_acc res x y := by
    rw [pcmpFold_cons_acc hb, pcmpFold_cons_acc hb, comb2_eq_right]; rfl
  joinMut_acc c x y := by
    rw [joinMutFold_cons, joinMutFold_cons, hb.joinMut_acc (c || _), hb.joinMut_acc (false || _),
      Bool.false_or, Bool.or_assoc]
  meetMut_acc c x y := by
    rw [meetMutFold_cons, meetMutFold_cons, hb.meetMut_acc (c || _), hb.meetMut_acc (false || _),
      Bool.false_or, Bool.or_assoc]

theorem product_pairLike (hb : PTailAcc β) (WFa : α → Prop) (WFb : β → Prop) :
    PairLike α (Product β) (Product (α × β)) WFa (fun p => WFb p.val)
      (fun p => WFa p.val.1 ∧ WFb p.val.2) (fun a x => ⟨(a, x.val)⟩) where
  surj c _ := ⟨c.val.1, ⟨c.val.2⟩, rfl⟩
  inj a b a' b' h := ⟨congrArg (·.val.1) h, congrArg (fun p : Product (α × β) => Product.mk p.val.2) h⟩
  wf a b := Iff.rfl
  pcmp_mk a b a' b' :=
    (pcmpFold_cons_acc hb .eq (a, b.val) (a', b'.val)).trans (comb2_eq_right _)
  join_mk a b a' b' _ _ _ _ := rfl
  meet_mk a b a' b' _ _ _ _ := rfl
  joinMut_mk a b a' b' _ _ _ _ := by
    dsimp only [joinMut]
    rw [joinMutFold_cons, hb.joinMut_acc (false || _), Bool.false_or]
  meetMut_mk a b a' b' _ _ _ _ := by
    dsimp only [meetMut]
    rw [meetMutFold_cons, hb.meetMut_acc (false || _), Bool.false_or]

theorem lawful_product_cons (hacc : PTailAcc β) {WFa : α → Prop} {WFb : β → Prop}
    (ha : LawfulLat α WFa) (hb : LawfulLat (Product β) (fun p => WFb p.val)) :
    LawfulLat (Product (α × β)) (fun p => WFa p.val.1 ∧ WFb p.val.2) :=
  lawful_pair (product_pairLike hacc WFa WFb) ha hb

end

theorem lawful_product_unit : LawfulLat (Product Unit) (fun _ => True) :=
  lawful_point ⟨()⟩ trivial (fun _ _ => rfl) rfl rfl rfl rfl rfl

/-! ## `Product<[T; N]>`

Modelled as a list with the length in the invariant `ArrWF`: an array of length `n + 1` is a `PairLike` of its head
and an array of length `n` (`arr_pairLike`), once the accumulators of `arrPcmp`, `arrJoinMut`, `arrMeetMut` are pulled
out; `lawful_arr` is the induction on `n`. -/

section
variable {α : Type} [Lat α]

theorem arrPcmp_cons (ord : Ordering) (x y : α) (xs ys : List α) :
    arrPcmp ord (x :: xs) (y :: ys) =
      (pcmp x y).bind (fun ith => (combineOrderings ith ord).bind (fun r => arrPcmp r xs ys)) := by
  rw [arrPcmp]
  cases pcmp x y with
  | none => rfl
  | some ith => dsimp only [Option.bind_some]; cases combineOrderings ith ord <;> rfl

theorem arrPcmp_nil_left (ord : Ordering) (ys : List α) : arrPcmp ord [] ys = some ord := by
  rw [arrPcmp]; intros; contradiction

theorem arrPcmp_nil_right (ord : Ordering) (xs : List α) : arrPcmp ord xs [] = some ord := by
  rw [arrPcmp]; intros; contradiction

theorem arrPcmp_acc (ord : Ordering) (xs ys : List α) :
    arrPcmp ord xs ys = comb2 (arrPcmp .eq xs ys) (some ord) := by
  induction xs generalizing ord ys with
  | nil => rw [arrPcmp_nil_left, arrPcmp_nil_left]; cases ord <;> rfl
  | cons x xs ih =>
    cases ys with
    | nil => rw [arrPcmp_nil_right, arrPcmp_nil_right]; cases ord <;> rfl
    | cons y ys =>
      rw [arrPcmp_cons, arrPcmp_cons, fold_cons _ _ _ (fun r => ih r ys), fold_cons _ _ _ (fun r => ih r ys),
        comb2_eq_right]

theorem arrJoinMut_cons (c : Bool) (x y : α) (xs ys : List α) :
    arrJoinMut c (x :: xs) (y :: ys) =
      ((joinMut x y).1 :: (arrJoinMut (c || (joinMut x y).2) xs ys).1,
        (arrJoinMut (c || (joinMut x y).2) xs ys).2) := by
  rw [arrJoinMut]

theorem arrMeetMut_cons (c : Bool) (x y : α) (xs ys : List α) :
    arrMeetMut c (x :: xs) (y :: ys) =
      ((meetMut x y).1 :: (arrMeetMut (c || (meetMut x y).2) xs ys).1,
        (arrMeetMut (c || (meetMut x y).2) xs ys).2) := by
  rw [arrMeetMut]

theorem arrJoinMut_nil_left (c : Bool) (ys : List α) : arrJoinMut c [] ys = ([], c) := by
  rw [arrJoinMut]; intros; contradiction
theorem arrJoinMut_nil_right (c : Bool) (xs : List α) : arrJoinMut c xs [] = (xs, c) := by
  rw [arrJoinMut]; intros; contradiction
theorem arrMeetMut_nil_left (c : Bool) (ys : List α) : arrMeetMut c [] ys = ([], c) := by
  rw [arrMeetMut]; intros; contradiction
theorem arrMeetMut_nil_right (c : Bool) (xs : List α) : arrMeetMut c xs [] = (xs, c) := by
  rw [arrMeetMut]; intros; contradiction

theorem arrJoinMut_acc (c : Bool) (xs ys : List α) :
    arrJoinMut c xs ys = ((arrJoinMut false xs ys).1, c || (arrJoinMut false xs ys).2) := by
  induction xs generalizing c ys with
  | nil => simp [arrJoinMut_nil_left]
  | cons x xs ih =>
    cases ys with
    | nil => simp [arrJoinMut_nil_right]
    | cons y ys =>
      rw [arrJoinMut_cons, arrJoinMut_cons, ih (c || _), ih (false || _)]
      simp [Bool.or_assoc]

theorem arrMeetMut_acc (c : Bool) (xs ys : List α) :
    arrMeetMut c xs ys = ((arrMeetMut false xs ys).1, c || (arrMeetMut false xs ys).2) := by
  induction xs generalizing c ys with
  | nil => simp [arrMeetMut_nil_left]
  | cons x xs ih =>
    cases ys with
    | nil => simp [arrMeetMut_nil_right]
    | cons y ys =>
      rw [arrMeetMut_cons, arrMeetMut_cons, ih (c || _), ih (false || _)]
      simp [Bool.or_assoc]

def ArrWF (WF : α → Prop) (n : Nat) (p : ProductArr α) : Prop := p.val.length = n ∧ ∀ x ∈ p.val, WF x

theorem arr_joinMut_cons (a a' : α) (b b' : ProductArr α) :
    joinMut (⟨a :: b.val⟩ : ProductArr α) ⟨a' :: b'.val⟩ =
      (⟨(joinMut a a').1 :: (joinMut b b').1.val⟩, (joinMut a a').2 || (joinMut b b').2) := by
  show ((⟨(arrJoinMut false (a :: b.val) (a' :: b'.val)).1⟩ : ProductArr α),
      (arrJoinMut false (a :: b.val) (a' :: b'.val)).2) = _
  rw [arrJoinMut_cons, arrJoinMut_acc (false || _)]
  simp only [Bool.false_or]
  rfl

theorem arr_meetMut_cons (a a' : α) (b b' : ProductArr α) :
    meetMut (⟨a :: b.val⟩ : ProductArr α) ⟨a' :: b'.val⟩ =
      (⟨(meetMut a a').1 :: (meetMut b b').1.val⟩, (meetMut a a').2 || (meetMut b b').2) := by
  show ((⟨(arrMeetMut false (a :: b.val) (a' :: b'.val)).1⟩ : ProductArr α),
      (arrMeetMut false (a :: b.val) (a' :: b'.val)).2) = _
  rw [arrMeetMut_cons, arrMeetMut_acc (false || _)]
  simp only [Bool.false_or]
  rfl

theorem arr_join_eq (a b : ProductArr α) : join a b = (joinMut a b).1 := rfl
theorem arr_meet_eq (a b : ProductArr α) : meet a b = (meetMut a b).1 := rfl

theorem arr_pairLike {WF : α → Prop} (h : LawfulLat α WF) (n : Nat) :
    PairLike α (ProductArr α) (ProductArr α) WF (ArrWF WF n) (ArrWF WF (n + 1))
      (fun a p => ⟨a :: p.val⟩) where
  surj c hc := by
    rcases c with ⟨_ | ⟨x, xs⟩⟩
    · exact absurd hc.1 (by simp)
    · exact ⟨x, ⟨xs⟩, rfl⟩
  inj a b a' b' h := by
    cases b; cases b'
    simp only [ProductArr.mk.injEq, List.cons.injEq] at h
    exact ⟨h.1, by rw [h.2]⟩
  wf a b := by
    unfold ArrWF
    simp only [List.length_cons, Nat.add_right_cancel_iff, List.mem_cons, forall_eq_or_imp]
    constructor
    · rintro ⟨h1, h2, h3⟩; exact ⟨h2, h1, h3⟩
    · rintro ⟨h2, h1, h3⟩; exact ⟨h1, h2, h3⟩
  pcmp_mk a b a' b' := by
    show arrPcmp Ordering.eq (a :: b.val) (a' :: b'.val) = _
    rw [arrPcmp_cons, fold_cons _ _ _ (fun r => arrPcmp_acc r b.val b'.val), comb2_eq_right]; rfl
  join_mk a b a' b' wa _ wa' _ := by
    rw [arr_join_eq, arr_join_eq, arr_joinMut_cons, h.joinMut_fst a a' wa wa']
  meet_mk a b a' b' wa _ wa' _ := by
    rw [arr_meet_eq, arr_meet_eq, arr_meetMut_cons, h.meetMut_fst a a' wa wa']
  joinMut_mk a b a' b' _ _ _ _ := arr_joinMut_cons a a' b b'
  meetMut_mk a b a' b' _ _ _ _ := arr_meetMut_cons a a' b b'

omit [Lat α] in
theorem arrWF_zero {WF : α → Prop} (p : ProductArr α) (h : ArrWF WF 0 p) : p = ⟨[]⟩ := by
  rcases p with ⟨_ | ⟨x, xs⟩⟩
  · rfl
  · exact absurd h.1 (by simp)

omit [Lat α] in
theorem arrWF_nil {WF : α → Prop} : ArrWF WF 0 (⟨[]⟩ : ProductArr α) := ⟨rfl, by simp⟩

theorem lawful_arr {WF : α → Prop} (h : LawfulLat α WF) (n : Nat) :
    LawfulLat (ProductArr α) (ArrWF WF n) := by
  induction n with
  | zero => exact lawful_point ⟨[]⟩ arrWF_nil arrWF_zero rfl rfl rfl rfl rfl
  | succ n ih => exact lawful_pair (arr_pairLike h n) h ih

end

end AscentVerif.Lat
