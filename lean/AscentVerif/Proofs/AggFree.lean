import AscentVerif.Proofs.AggStrata
/-!
# Programs without aggregation items: the results of `Proofs/AggStrata.lean` read in `Derivable`

Where no rule has an aggregation item the aggregation view is immaterial: `Agg.DerA` for any view is `Derivable … nAgg`
(`derA_iff`), `Agg.GoodRows` is `GoodRows`, and a database closed in the sense of `Agg.ClosedRules` is closed under
`Cons … nAgg`.  So the invariant `Agg.PInv` with all rules closed is the conclusion of C01 (`Agg.PInv.leastModel`: exactly the
derivable facts, old rows a prefix, every new tuple once), for every engine `Agg.SccsG Pass`; an engine interrupted after a
completed prefix of the order and whole iterations holds derivable rows (`sccsPreG_good`).  For the serial engine:
`runFrom_eq_leastModel` (a completed `run_timeout`, any deadline oracle) and `runTimeout_sound'` (whatever `run_timeout`
returns is sound and resumable).
-/
namespace AscentVerif.Engine
open AscentVerif

variable {E B G P A : Type}

theorem not_mem_agg {items : List (Item E B G P A)} (h : aggFreeL items = true) (a : AggClause E A) :
    Item.agg a ∉ items :=
  fun hm => Bool.false_ne_true (List.all_eq_true.mp h _ hm)

theorem aggOverDynamic_of_aggFree {p : Program E B G P A} (haf : ∀ r ∈ p.rules, r.aggFree = true) (scc : List Nat) :
    aggOverDynamic p scc = false := by
  rw [aggOverDynamic, List.any_eq_false]
  intro r hr hany
  obtain ⟨it, hit, hf⟩ := List.any_eq_true.mp hany
  cases it with
  | agg a => exact not_mem_agg (haf r (sccRules_sub p scc r hr)) a hit
  | _ => cases hf

section Free
variable {I : Interp E B G P A} {cfg : Config} {p : Program E B G P A} {inp : RelId → List Tuple} {n : Nat}
  {aggv : AggClause E A → List Tuple} (haf : ∀ r ∈ p.rules, r.aggFree = true)
include haf

/-- whatever `Agg.sccG_spec` and its companions ask of the aggregation items of an SCC: there are none -/
theorem no_agg_items (scc : List Nat) {Q : AggClause E A → Prop} :
    ∀ rule ∈ sccRules p scc, ∀ a, Item.agg a ∈ rule.body → Q a :=
  fun rule hr a ha => absurd ha (not_mem_agg (haf rule (sccRules_sub p scc rule hr)) a)

theorem derA_iff (D : DB) (f : Fact) : Agg.DerA I p.rules aggv D f ↔ Derivable I p.rules nAgg D f :=
  (Agg.derA_congr (fun r hr a ha => absurd ha (not_mem_agg (haf r hr) a)) f).trans Agg.derivable_iff_derA.symm

theorem goodRows_iff (r : RelId) (rows : List Tuple) :
    Agg.GoodRows I p inp aggv r rows ↔ GoodRows I p inp r rows :=
  and_congr_left' (forall₂_congr fun _ _ => derA_iff haf _ _)

theorem good_iff (s : SccSt) : Agg.Good I p inp aggv n s ↔ Good I p inp n s :=
  forall₂_congr fun r _ => goodRows_iff haf r _

theorem closed_cons {D : DB} (h : Agg.ClosedRules I aggv p.rules D) : ∀ f, Cons I p.rules nAgg D f → D f := by
  rintro f ⟨rule, hrule, ρ, hsat, hd, hhd, rfl⟩
  exact h rule hrule ρ ((Agg.sat_iff_satA.mp hsat).congr_agg fun a ha => absurd ha (not_mem_agg (haf rule hrule) a)) hd hhd

/-- **the state invariant with all rules closed is the least model**: a well-formed value holding exactly the
derivable facts, the input rows as a prefix and every derived tuple once -/
theorem Agg.PInv.leastModel {K : Prop} {st : St} (h : Agg.PInv I p inp aggv K p.rels.length st)
    (hcl : Agg.ClosedRules I aggv p.rules (factsOf st)) :
    WFSt' p st ∧ (∀ f, factsOf st f ↔ Derivable I p.rules nAgg (inDB p inp) f) ∧
      (∀ r, r < p.rels.length → ∃ derived : List Tuple,
        (relSt st r).rows = inp r ++ derived ∧ derived.Nodup ∧ ∀ t ∈ derived, t ∉ inp r) :=
  ⟨h.wfSt, fun f => (h.eq_model hcl f).trans (derA_iff haf _ f), fun r hr => (h.good r hr).2⟩

variable (hl : ∀ d ∈ p.rels, d.lat = false) (hh : ∀ r ∈ p.rules, ∀ h ∈ r.heads, h.rel < p.rels.length)
  {Pass : List RelId → List (Rule E B G P A) → SccSt → SccSt → Prop}
  (hpass : ∀ scc, Agg.PassOK I cfg p inp aggv False Pass scc)

include hl hh hpass in
/-- the SCCs in any order keep the invariant (closedness of the rules needs a valid order: `Agg.sccsG_prefix_spec`) -/
theorem sccsG_pinv {done : SccOrder} {st st' : St} (hdone : Agg.SccsG Pass p done st st') :
    Agg.PInv I p inp aggv False p.rels.length st → Agg.PInv I p inp aggv False p.rels.length st' := by
  induction hdone with
  | nil => exact id
  | cons hscc _ ih => exact fun h0 => ih (Agg.sccG_spec hl hh h0 (no_agg_items haf _) (hpass _) hscc).1

include hl hh hpass in
/-- **an engine interrupted after a completed prefix `done` of any order and whole iterations of `scc`**: the state is
well-formed, every row is derivable, the input rows are a prefix of every row vector -/
theorem sccsPreG_good {done : SccOrder} {scc : List Nat} {s stMid : St} {s1 a' : SccSt} (hst : WFSt' p s)
    (hinp : ∀ r, r < p.rels.length → (relSt s r).rows = inp r)
    (hdone : Agg.SccsG Pass p done (updateIndices s) stMid) (hpre : Agg.SccPreG Pass p scc stMid s1 a') :
    WF p.rels.length (dynRels p scc) a' ∧ Good I p inp p.rels.length a' :=
  have ⟨hwf, hgood⟩ := Agg.sccPreG_good hl hh (sccsG_pinv haf hl hh hpass hdone (Agg.PInv_start I False aggv hst hinp))
    (no_agg_items haf scc) (hpass scc) hpre
  ⟨hwf, (good_iff haf a').mp hgood⟩

end Free

section Serial
variable (I : Interp E B G P A) (cfg : Config) (p : Program E B G P A) (inp : RelId → List Tuple)
  (hl : ∀ d ∈ p.rels, d.lat = false) (haf : ∀ r ∈ p.rules, r.aggFree = true)
  (hh : ∀ r ∈ p.rules, ∀ h ∈ r.heads, h.rel < p.rels.length)
  (o : SccOrder) (ho : validOrder p o = true) (dl : Deadline) (fuel : Nat) (s : St) (ps : ProgSt) (hs : WFSt' p s)
  (hinp : ∀ r, r < p.rels.length → (relSt s r).rows = inp r)

include hl haf hh ho hs hinp in
theorem run_spec (hrun : runTimeout I cfg p o dl fuel s = .done ps) :
    Agg.PInv I p inp (Agg.aggOf cfg p ps.st) False p.rels.length ps.st ∧
      Agg.ClosedRules I (Agg.aggOf cfg p ps.st) p.rules (factsOf ps.st) :=
  Agg.run_spec I cfg p inp False hl hh o ho (fun scc _ => aggOverDynamic_of_aggFree haf scc) dl fuel s ps hs hinp hrun

include hl haf hh ho hs hinp in
/-- **a completed run from any well-formed program value**, under any deadline oracle -/
theorem runFrom_eq_leastModel (hrun : runTimeout I cfg p o dl fuel s = .done ps) :
    WFSt' p ps.st ∧ (∀ f, factsOf ps.st f ↔ Derivable I p.rules nAgg (inDB p inp) f) ∧
      (∀ r, r < p.rels.length → ∃ derived : List Tuple,
        (relSt ps.st r).rows = inp r ++ derived ∧ derived.Nodup ∧ ∀ t ∈ derived, t ∉ inp r) :=
  let ⟨hp, hcl⟩ := run_spec I cfg p inp hl haf hh o ho dl fuel s ps hs hinp hrun
  hp.leastModel haf hcl

include hl haf hh ho hs hinp in
/-- `run_timeout` under any deadline oracle: the returned value (finished or not) is a well-formed
program value, holds only derivable facts, and has lost no input fact -/
theorem runTimeout_sound'
    (hrun : runTimeout I cfg p o dl fuel s = .done ps ∨ runTimeout I cfg p o dl fuel s = .timedOut ps) :
    WFSt' p ps.st ∧ (∀ f, factsOf ps.st f → Derivable I p.rules nAgg (inDB p inp) f) ∧
      (∀ f, f.rel < p.rels.length → f.args ∈ inp f.rel → factsOf ps.st f) := by
  rcases hrun with hrun | hrun
  · obtain ⟨hw, hm, hr⟩ := runFrom_eq_leastModel I cfg p inp hl haf hh o ho dl fuel s ps hs hinp hrun
    exact ⟨hw, fun f => (hm f).mp, fun f hf hin => (hm f).mpr (derivable_input ⟨hf, hin⟩)⟩
  · -- a completed prefix of the order, then an SCC abandoned after whole iterations
    obtain ⟨done, scc, rest, psMid, -, hdone, hto⟩ := Agg.runSccs_timedOut_split I cfg p hrun
    obtain ⟨s1, a', hpre, hst⟩ := Agg.runScc_sccPreG I cfg p hto
    obtain ⟨hwf, hgood⟩ := sccsPreG_good (aggv := fun a => nAgg a.rel) haf hl hh (Agg.detPass_ok hl) hs hinp
      (Agg.runSccs_sccsG I cfg p hdone) hpre
    have hrows := Agg.abandon_rows p scc a'
    rw [hst]
    refine ⟨Agg.abandon_wfSt hwf, fun f hf => ?_, fun f hr hin => ?_⟩
    · have hf' : f.args ∈ rowsOf a' f.rel := hrows f.rel ▸ hf
      exact (hgood f.rel (hwf.rel_lt hf')).1 f.args hf'
    · obtain ⟨derived, e, _, _⟩ := (hgood f.rel hr).2
      show f.args ∈ (relSt (abandonScc p scc a') f.rel).rows
      rw [hrows, e]
      exact List.mem_append_left _ hin

end Serial

end AscentVerif.Engine
