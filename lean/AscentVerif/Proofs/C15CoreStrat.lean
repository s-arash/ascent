import AscentVerif.Proofs.C15Basic
/-!
# C15: stratification: the test `stratError`, unfolded, and the search `reachFrom` behind its classes

`stratError_iff`: the test fires iff some rule aggregates over a head relation of a rule in its own class, classes
taken by `sameScc`; on a skeleton the right side is `IllFormedStrat` word for word (`C15Core`, `Props/C15`).

`reaches_of_path` (`Props/C15`): the fuel-bounded breadth-first search `reachFrom` finds every dependency path.  A round
with a non-empty frontier visits a rule that was `missing`, so after as many rounds as there are rules the visited set is
`Closed` under `feeds`, and a closed set that contains `i` contains everything a `Path` from `i` reaches.
-/
namespace AscentVerif.Check
open AscentVerif AscentVerif.Engine

theorem table_getD (f : Nat → List Nat) (n i : Nat) (h : i < n) : ((List.range n).map f).getD i [] = f i := by
  simp [List.getD_eq_getElem?_getD, h]

/-- the reachability table of `stratError` -/
def reachTable (p : Skel) : List (List Nat) := (List.range p.rules.length).map fun i => reachFrom p p.rules.length [i]

theorem mem_classOf (p : Skel) (i j : Nat) (hi : i < p.rules.length) :
    j ∈ classOf p (reachTable p) i ↔ j < p.rules.length ∧ sameScc p i j = true := by
  unfold classOf
  rw [List.mem_filter, List.mem_range]
  constructor
  · rintro ⟨hj, h⟩
    unfold reachTable at h
    rw [table_getD _ _ _ hi, table_getD _ _ _ hj] at h
    exact ⟨hj, h⟩
  · rintro ⟨hj, h⟩
    unfold reachTable
    rw [table_getD _ _ _ hi, table_getD _ _ _ hj]
    exact ⟨hj, h⟩

theorem mem_sccRules (p : Skel) (scc : List Nat) (r : AscentVerif.Rule Unit Unit Unit Unit Unit) :
    r ∈ sccRules p scc ↔ ∃ k ∈ scc, p.rules[k]? = some r := by
  unfold sccRules
  rw [List.mem_filterMap]

theorem mem_dynRels (p : Skel) (scc : List Nat) (x : RelId) :
    x ∈ dynRels p scc ↔ ∃ j ∈ scc, ∃ rj, p.rules[j]? = some rj ∧ x ∈ rj.headRels := by
  unfold dynRels
  rw [List.mem_eraseDups, List.mem_flatMap]
  constructor
  · rintro ⟨r, hr, hx⟩
    obtain ⟨j, hj, hrj⟩ := (mem_sccRules p scc r).1 hr
    exact ⟨j, hj, r, hrj, hx⟩
  · rintro ⟨j, hj, r, hrj, hx⟩
    exact ⟨r, (mem_sccRules p scc r).2 ⟨j, hj, hrj⟩, hx⟩

theorem aggOverDynamic_iff (p : Skel) (scc : List Nat) :
    aggOverDynamic p scc = true ↔
      ∃ k ∈ scc, ∃ rk, p.rules[k]? = some rk ∧ ∃ a, AscentVerif.Item.agg a ∈ rk.body ∧
        ∃ j ∈ scc, ∃ rj, p.rules[j]? = some rj ∧ a.rel ∈ rj.headRels := by
  unfold aggOverDynamic
  rw [List.any_eq_true]
  constructor
  · rintro ⟨r, hr, h⟩
    obtain ⟨k, hk, hrk⟩ := (mem_sccRules p scc r).1 hr
    rw [List.any_eq_true] at h
    obtain ⟨it, hit, h⟩ := h
    cases it with
    | agg a =>
      simp only [List.contains_iff_mem] at h
      exact ⟨k, hk, r, hrk, a, hit, (mem_dynRels p scc a.rel).1 h⟩
    | clause r' args conds => simp at h
    | cond c => simp at h
    | gen v g => simp at h
  · rintro ⟨k, hk, rk, hrk, a, ha, hdyn⟩
    refine ⟨rk, (mem_sccRules p scc rk).2 ⟨k, hk, hrk⟩, ?_⟩
    rw [List.any_eq_true]
    refine ⟨_, ha, ?_⟩
    simp only [List.contains_iff_mem]
    exact (mem_dynRels p scc a.rel).2 hdyn

theorem stratError_eq (p : Skel) :
    stratError p = (List.range p.rules.length).any fun i => aggOverDynamic p (classOf p (reachTable p) i) := rfl

theorem stratError_iff (p : Skel) :
    stratError p = true ↔
      ∃ i k j rk rj a, i < p.rules.length ∧ sameScc p i k = true ∧ sameScc p i j = true ∧
        p.rules[k]? = some rk ∧ p.rules[j]? = some rj ∧ AscentVerif.Item.agg a ∈ rk.body ∧ a.rel ∈ rj.headRels := by
  rw [stratError_eq, List.any_eq_true]
  constructor
  · rintro ⟨i, hi, h⟩
    rw [List.mem_range] at hi
    obtain ⟨k, hk, rk, hrk, a, ha, j, hj, rj, hrj, hx⟩ := (aggOverDynamic_iff p _).1 h
    exact ⟨i, k, j, rk, rj, a, hi, ((mem_classOf p i k hi).1 hk).2, ((mem_classOf p i j hi).1 hj).2, hrk, hrj, ha, hx⟩
  · rintro ⟨i, k, j, rk, rj, a, hi, hsk, hsj, hrk, hrj, ha, hx⟩
    refine ⟨i, List.mem_range.2 hi, (aggOverDynamic_iff p _).2 ?_⟩
    obtain ⟨hk, _⟩ := List.getElem?_eq_some_iff.1 hrk
    obtain ⟨hj, _⟩ := List.getElem?_eq_some_iff.1 hrj
    exact ⟨k, (mem_classOf p i k hi).2 ⟨hk, hsk⟩, rk, hrk, a, ha, j, (mem_classOf p i j hi).2 ⟨hj, hsj⟩, rj, hrj, hx⟩

theorem filter_length_le (f g : Nat → Bool) (l : List Nat) (h : ∀ x ∈ l, f x = true → g x = true) :
    (l.filter f).length ≤ (l.filter g).length := by
  rw [← List.countP_eq_length_filter, ← List.countP_eq_length_filter]
  exact List.countP_mono_left h

theorem filter_length_lt (f g : Nat → Bool) (x : Nat) (hg : g x = true) (hf : f x = false) (l : List Nat)
    (h : ∀ y ∈ l, f y = true → g y = true) (hx : x ∈ l) : (l.filter f).length < (l.filter g).length := by
  -- split the list at `x`, which only `g` keeps
  obtain ⟨l1, l2, rfl⟩ := List.append_of_mem hx
  have h1 := filter_length_le f g l1 fun y hy => h y (List.mem_append_left _ hy)
  have h2 := filter_length_le f g l2 fun y hy => h y (List.mem_append_right _ (List.mem_cons_of_mem _ hy))
  rw [List.filter_append, List.filter_append, List.filter_cons_of_neg (by rw [hf]; exact Bool.false_ne_true),
    List.filter_cons_of_pos hg, List.length_append, List.length_append, List.length_cons]
  omega

theorem feeds_lt {p : Skel} {i j : Nat} (h : feeds p i j = true) : i < p.rules.length ∧ j < p.rules.length := by
  unfold feeds at h
  split at h
  · rename_i ri rj hi hj
    obtain ⟨h1, _⟩ := List.getElem?_eq_some_iff.1 hi
    obtain ⟨h2, _⟩ := List.getElem?_eq_some_iff.1 hj
    exact ⟨h1, h2⟩
  · cases h

/-- what one round of `reachFrom` adds to the visited rules -/
def frontier (p : Skel) (vis : List Nat) : List Nat :=
  (List.range p.rules.length).filter fun j => !vis.contains j && vis.any fun k => feeds p k j

theorem reachFrom_succ (p : Skel) (fuel : Nat) (vis : List Nat) :
    reachFrom p (fuel + 1) vis = if (frontier p vis).isEmpty then vis else reachFrom p fuel (vis ++ frontier p vis) := rfl

theorem mem_frontier {p : Skel} {vis : List Nat} {j : Nat} :
    j ∈ frontier p vis ↔ j < p.rules.length ∧ j ∉ vis ∧ ∃ k ∈ vis, feeds p k j = true := by
  unfold frontier
  simp [List.mem_filter, List.mem_range]

def Closed (p : Skel) (vis : List Nat) : Prop := ∀ k ∈ vis, ∀ j, feeds p k j = true → j ∈ vis

theorem closed_of_frontier_empty {p : Skel} {vis : List Nat} (h : frontier p vis = []) : Closed p vis := by
  intro k hk j hf
  by_cases hj : j ∈ vis
  · exact hj
  · have : j ∈ frontier p vis := mem_frontier.2 ⟨(feeds_lt hf).2, hj, k, hk, hf⟩
    rw [h] at this
    cases this

theorem path_closed {p : Skel} {vis : List Nat} (hc : Closed p vis) {k j : Nat} (hp : Path p k j) :
    k ∈ vis → j ∈ vis := by
  induction hp with
  | refl i => exact id
  | step hf _ ih => exact fun hk => ih (hc _ hk _ hf)

theorem subset_reachFrom (p : Skel) : ∀ (fuel : Nat) (vis : List Nat), ∀ x ∈ vis, x ∈ reachFrom p fuel vis := by
  intro fuel
  induction fuel with
  | zero => exact fun vis x hx => hx
  | succ fuel ih =>
    intro vis x hx
    rw [reachFrom_succ]
    split
    · exact hx
    · exact ih _ x (List.mem_append_left _ hx)

def missing (p : Skel) (vis : List Nat) : Nat :=
  ((List.range p.rules.length).filter fun j => !vis.contains j).length

theorem closed_of_missing_zero {p : Skel} {vis : List Nat} (h : missing p vis = 0) : Closed p vis := by
  intro k hk j hf
  unfold missing at h
  have hnil := List.eq_nil_of_length_eq_zero h
  by_cases hj : j ∈ vis
  · exact hj
  · have : j ∈ (List.range p.rules.length).filter fun j => !vis.contains j := by
      simp [List.mem_filter, List.mem_range, (feeds_lt hf).2, hj]
    rw [hnil] at this
    cases this

theorem missing_lt {p : Skel} {vis : List Nat} (h : frontier p vis ≠ []) :
    missing p (vis ++ frontier p vis) < missing p vis := by
  obtain ⟨x, hx⟩ := List.exists_mem_of_ne_nil _ h
  obtain ⟨h1, h2, _⟩ := mem_frontier.1 hx
  unfold missing
  apply filter_length_lt _ _ x
  · simp [h2]
  · simp [hx]
  · intro y _ hy
    have hy' : y ∉ vis ++ frontier p vis := by simpa using hy
    have : y ∉ vis := fun hm => hy' (List.mem_append_left _ hm)
    simpa using this
  · exact List.mem_range.2 h1

theorem closed_reachFrom (p : Skel) : ∀ (fuel : Nat) (vis : List Nat), missing p vis ≤ fuel →
    Closed p (reachFrom p fuel vis) := by
  intro fuel
  induction fuel with
  | zero => exact fun vis h => closed_of_missing_zero (Nat.le_zero.1 h)
  | succ fuel ih =>
    intro vis h
    rw [reachFrom_succ]
    split
    · rename_i he
      exact closed_of_frontier_empty (List.isEmpty_iff.1 he)
    · rename_i he
      have hne : frontier p vis ≠ [] := fun h' => he (List.isEmpty_iff.2 h')
      have := missing_lt hne
      exact ih _ (by omega)

theorem missing_le (p : Skel) (vis : List Nat) : missing p vis ≤ p.rules.length := by
  unfold missing
  have := List.length_filter_le (fun j => !vis.contains j) (List.range p.rules.length)
  simpa using this

theorem reaches_of_path (p : Skel) (i j : Nat) (h : Path p i j) : reaches p p.rules.length i j = true := by
  unfold reaches
  rw [List.contains_iff_mem]
  exact path_closed (closed_reachFrom p _ [i] (missing_le p [i])) h
    (subset_reachFrom p _ [i] i (List.mem_singleton.2 rfl))

end AscentVerif.Check
