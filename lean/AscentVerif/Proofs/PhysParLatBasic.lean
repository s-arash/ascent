import AscentVerif.Model.EnginePhysParLat
import AscentVerif.Proofs.PhysLatSim
import AscentVerif.Proofs.PhysParSim
import AscentVerif.Props.C03
/-!
# The parallel engine with lattices: erasure, protocol flags, the simulation relation

A state of `Model/EnginePhysParLat.lean` has a plain part (a `PhysPar` state) and a lattice part; `PLScc.erase` forgets the
frozen / unfrozen flags and yields a state of the serial lattice model.  What the proofs carry inside an SCC is `PIS`: the
simulation `SimP` between the bag engine and the erased state, the split `PLWf` of the relations over the two parts, and the
protocol flags of both parts (`PhysPar.Flags`, `LFlags`).  The rest of `Proofs/PhysParLat*.lean` is built on these.  At the end:
a value built by `initSt` from typed input is well-formed (`wfSt_initSt`), for the examples.
-/
namespace AscentVerif.PhysParLat
open AscentVerif AscentVerif.Engine AscentVerif.Index AscentVerif.Phys AscentVerif.PhysLat AscentVerif.PhysPar

variable {E B G P A : Type}

theorem lrel_setNth_self (l : List LCRel) (r : RelId) (x : LCRel) (h : r < l.length) : lrel (setNth l r x) r = x :=
  getD_setNth_self _ l r x h

theorem lrel_setNth_ne (l : List LCRel) (r r' : RelId) (x : LCRel) (h : r' ≠ r) : lrel (setNth l r x) r' = lrel l r' :=
  getD_setNth_ne _ l r r' x h

theorem lrel_of_ge (l : List LCRel) (r : RelId) (h : l.length ≤ r) : lrel l r = ⟨[], []⟩ :=
  getD_of_ge _ l r h

theorem lrel_rangeMap (f : Nat → LCRel) (m : Nat) (r : RelId) (hr : r < m) : lrel ((List.range m).map f) r = f r :=
  getD_rangeMap _ r f m hr

theorem lrel_mem (l : List LCRel) (r : RelId) (h : r < l.length) : lrel l r ∈ l :=
  getD_mem _ l r h

theorem setNth_lrel_self (l : List LCRel) (r : RelId) (h : r < l.length) : setNth l r (lrel l r) = l :=
  setNth_getD_self _ l r h

theorem findLDyn_rel {dyn : List LCDyn} {r : RelId} {d : LCDyn} (h : findLDyn dyn r = some d) : d.rel = r := by
  have := List.find?_some h
  simpa using this

theorem findLDyn_mem {dyn : List LCDyn} {r : RelId} {d : LCDyn} (h : findLDyn dyn r = some d) : d ∈ dyn :=
  List.mem_of_find?_eq_some h

theorem findLDyn_setLDyn (dyn : List LCDyn) (d : LCDyn) (r : RelId) :
    findLDyn (setLDyn dyn d) r = if r = d.rel then (findLDyn dyn r).map (fun _ => d) else findLDyn dyn r :=
  find?_map_upd (fun x : LCDyn => x.rel) dyn d r

theorem setLDyn_rels (dyn : List LCDyn) (d : LCDyn) : (setLDyn dyn d).map (·.rel) = dyn.map (·.rel) :=
  map_upd_key (fun x : LCDyn => x.rel) dyn d

theorem setLDyn_mem {dyn : List LCDyn} {d x : LCDyn} (h : x ∈ setLDyn dyn d) : x = d ∨ x ∈ dyn :=
  mem_map_upd (fun x : LCDyn => x.rel) h

theorem findLDyn_map (dyn : List LCDyn) (f : LCDyn → LCDyn) (hf : ∀ x, (f x).rel = x.rel) (r : RelId) :
    findLDyn (dyn.map f) r = (findLDyn dyn r).map f :=
  find?_map_key (fun x : LCDyn => x.rel) (fun x : LCDyn => x.rel) f hf dyn r

theorem findPCDyn_map (dyn : List PCDyn) (f : PCDyn → PCDyn) (hf : ∀ x, (f x).rel = x.rel) (r : RelId) :
    findPCDyn (dyn.map f) r = (findPCDyn dyn r).map f :=
  find?_map_key (fun x : PCDyn => x.rel) (fun x : PCDyn => x.rel) f hf dyn r

theorem erase_rels_length (p : Program E B G P A) (s : PLScc) : (s.erase p).rels.length = s.pc.rels.length := by
  show ((List.range s.pc.rels.length).map _).length = _
  rw [List.length_map, List.length_range]

theorem eraseSt_length (p : Program E B G P A) (s : PLSt) : (s.erase p).length = s.pc.length := by
  show ((List.range s.pc.length).map _).length = _
  rw [List.length_map, List.length_range]

theorem erase_changed (p : Program E B G P A) (s : PLScc) : (s.erase p).changed = s.pc.changed := rfl

theorem eraseRel_ge (p : Program E B G P A) (pcs : PCSt) (ls : List LCRel) (r : RelId) (h1 : p.rels.length ≤ r)
    (h2 : pcs.length ≤ r) : eraseRel p pcs ls r = ⟨[], [], []⟩ := by
  unfold eraseRel
  rw [isLat_of_ge p r h1]
  simp only [Bool.false_eq_true, if_false, pcrel_of_ge _ _ h2]
  rfl

theorem xrel_eraseRels (p : Program E B G P A) (pcs : PCSt) (ls : List LCRel) (hlen : pcs.length = p.rels.length) (r : RelId) :
    xrel ((List.range pcs.length).map (eraseRel p pcs ls)) r = eraseRel p pcs ls r := by
  by_cases hr : r < pcs.length
  · exact xrel_rangeMap _ _ _ hr
  · have hr' : pcs.length ≤ r := Nat.le_of_not_lt hr
    rw [xrel_rangeMap_ge _ _ _ hr', eraseRel_ge p _ _ r (hlen ▸ hr') hr']

theorem xrel_erase (p : Program E B G P A) (s : PLScc) (hlen : s.pc.rels.length = p.rels.length) (r : RelId) :
    xrel (s.erase p).rels r = eraseRel p s.pc.rels s.lrels r :=
  xrel_eraseRels p s.pc.rels s.lrels hlen r

theorem xrel_eraseSt (p : Program E B G P A) (s : PLSt) (hlen : s.pc.length = p.rels.length) (r : RelId) :
    xrel (s.erase p) r = eraseRel p s.pc s.lat r :=
  xrel_eraseRels p s.pc s.lat hlen r

theorem eraseRel_lat (p : Program E B G P A) (pcs : PCSt) (ls : List LCRel) (r : RelId) (hl : isLatRel p r = true) :
    eraseRel p pcs ls r = ⟨(lrel ls r).rows, [], (lrel ls r).idxs.map fun ci => (ci.1, ci.2.erase)⟩ := by
  simp only [eraseRel, hl, if_true]

theorem eraseRel_plain (p : Program E B G P A) (pcs : PCSt) (ls : List LCRel) (r : RelId) (hl : isLatRel p r = false) :
    eraseRel p pcs ls r =
      ⟨(pcrel pcs r).rows, (pcrel pcs r).full.m, (pcrel pcs r).idxs.map fun ci => (ci.1, XIx.vals ci.2.erase)⟩ := by
  simp only [eraseRel, hl, Bool.false_eq_true, if_false]

theorem eraseRel_rows_split (p : Program E B G P A) (pcs : PCSt) (ls : List LCRel) (r : RelId)
    (hp : isLatRel p r = true → (pcrel pcs r).rows = []) (hl : isLatRel p r = false → lrel ls r = ⟨[], []⟩) :
    (eraseRel p pcs ls r).rows = (pcrel pcs r).rows ++ (lrel ls r).rows := by
  cases h : isLatRel p r with
  | true => rw [eraseRel_lat p _ _ r h, hp h]; rfl
  | false => rw [eraseRel_plain p _ _ r h, hl h, List.append_nil]

theorem findXDyn_append (l1 l2 : List XDyn) (r : RelId) :
    findXDyn (l1 ++ l2) r = (findXDyn l1 r).orElse fun _ => findXDyn l2 r := by
  simp only [findXDyn, List.find?_append]
  cases List.find? (fun x => x.rel == r) l1 <;> rfl

theorem findXDyn_eraseP (dyn : List PCDyn) (r : RelId) : findXDyn (dyn.map erasePDyn) r = (findPCDyn dyn r).map erasePDyn :=
  find?_map_key (fun x : PCDyn => x.rel) (fun x : XDyn => x.rel) erasePDyn (fun _ => rfl) dyn r

theorem findXDyn_eraseL (dyn : List LCDyn) (r : RelId) : findXDyn (dyn.map eraseLDyn) r = (findLDyn dyn r).map eraseLDyn :=
  find?_map_key (fun x : LCDyn => x.rel) (fun x : XDyn => x.rel) eraseLDyn (fun _ => rfl) dyn r

theorem findPCDyn_lat {p : Program E B G P A} {dyn : List PCDyn} (hp : ∀ d ∈ dyn, isLatRel p d.rel = false) {r : RelId}
    (hl : isLatRel p r = true) : findPCDyn dyn r = none := by
  apply List.find?_eq_none.mpr
  intro d hd he
  have := hp d hd
  rw [beq_iff_eq.mp he, hl] at this
  cases this

theorem findLDyn_plain {p : Program E B G P A} {dyn : List LCDyn} (hq : ∀ d ∈ dyn, isLatRel p d.rel = true) {r : RelId}
    (hl : isLatRel p r = false) : findLDyn dyn r = none := by
  apply List.find?_eq_none.mpr
  intro d hd he
  have := hq d hd
  rw [beq_iff_eq.mp he, hl] at this
  cases this

theorem findXDyn_erase_lat (p : Program E B G P A) (s : PLScc) (hp : ∀ d ∈ s.pc.dyn, isLatRel p d.rel = false) (r : RelId)
    (hl : isLatRel p r = true) : findXDyn (s.erase p).dyn r = (findLDyn s.ldyn r).map eraseLDyn := by
  show findXDyn (s.pc.dyn.map erasePDyn ++ s.ldyn.map eraseLDyn) r = _
  rw [findXDyn_append, findXDyn_eraseP, findXDyn_eraseL]
  rw [findPCDyn_lat hp hl]
  rfl

theorem findXDyn_erase_plain (p : Program E B G P A) (s : PLScc) (hq : ∀ d ∈ s.ldyn, isLatRel p d.rel = true) (r : RelId)
    (hl : isLatRel p r = false) : findXDyn (s.erase p).dyn r = (findPCDyn s.pc.dyn r).map erasePDyn := by
  show findXDyn (s.pc.dyn.map erasePDyn ++ s.ldyn.map eraseLDyn) r = _
  rw [findXDyn_append, findXDyn_eraseP, findXDyn_eraseL]
  rw [findLDyn_plain hq hl]
  cases findPCDyn s.pc.dyn r <;> rfl

/-- the split of a state: a plain relation has an empty lattice slot and its dynamic entry in `s.pc.dyn`, a lattice has no
plain rows and its dynamic entry in `s.ldyn`; no relation has two dynamic entries -/
structure PLWf (p : Program E B G P A) (s : PLScc) : Prop where
  len : s.pc.rels.length = p.rels.length
  llen : s.lrels.length = p.rels.length
  pdyn : ∀ d ∈ s.pc.dyn, isLatRel p d.rel = false
  ldyn : ∀ d ∈ s.ldyn, isLatRel p d.rel = true
  prow : ∀ r, isLatRel p r = true → (pcrel s.pc.rels r).rows = []
  lrow : ∀ r, isLatRel p r = false → lrel s.lrels r = ⟨[], []⟩
  pnd : (s.pc.dyn.map (·.rel)).Nodup
  lnd : (s.ldyn.map (·.rel)).Nodup

theorem PLWf.congr {p : Program E B G P A} {s s' : PLScc} (h : PLWf p s) (hlen : s'.pc.rels.length = s.pc.rels.length)
    (hllen : s'.lrels.length = s.lrels.length) (hpd : s'.pc.dyn.map (·.rel) = s.pc.dyn.map (·.rel))
    (hld : s'.ldyn.map (·.rel) = s.ldyn.map (·.rel))
    (hpr : ∀ r, isLatRel p r = true → (pcrel s'.pc.rels r).rows = (pcrel s.pc.rels r).rows)
    (hlr : ∀ r, isLatRel p r = false → lrel s'.lrels r = lrel s.lrels r) : PLWf p s' := by
  refine ⟨hlen.trans h.len, hllen.trans h.llen, fun d' hd' => ?_, fun d' hd' => ?_, fun r hl => (hpr r hl).trans (h.prow r hl),
    fun r hl => (hlr r hl).trans (h.lrow r hl), hpd ▸ h.pnd, hld ▸ h.lnd⟩
  · have hm : d'.rel ∈ s.pc.dyn.map (·.rel) := hpd ▸ List.mem_map_of_mem hd'
    obtain ⟨d, hd, e⟩ := List.mem_map.mp hm
    exact e ▸ h.pdyn d hd
  · have hm : d'.rel ∈ s.ldyn.map (·.rel) := hld ▸ List.mem_map_of_mem hd'
    obtain ⟨d, hd, e⟩ := List.mem_map.mp hm
    exact e ▸ h.ldyn d hd

theorem erase_rows_split (p : Program E B G P A) (s : PLScc) (hpl : PLWf p s) (r : RelId) :
    (xrel (s.erase p).rels r).rows = (pcrel s.pc.rels r).rows ++ (lrel s.lrels r).rows := by
  rw [xrel_erase p s hpl.len r]
  exact eraseRel_rows_split p _ _ r (hpl.prow r) (hpl.lrow r)

def LCx.isKey : LCx → Bool
  | .key _ _ => true
  | .rows _ _ => false

@[simp] theorem LCx.erase_freeze (x : LCx) : x.freeze.erase = x.erase := by cases x <;> rfl
@[simp] theorem LCx.erase_unfreeze (x : LCx) : x.unfreeze.erase = x.erase := by cases x <;> rfl
@[simp] theorem LCx.isFrozen_freeze (x : LCx) : x.freeze.isFrozen = true := by cases x <;> rfl
@[simp] theorem LCx.isFrozen_unfreeze (x : LCx) : x.unfreeze.isFrozen = false := by cases x <;> rfl
@[simp] theorem LCx.isFrozen_fresh (x : LCx) : x.fresh.isFrozen = false := by cases x <;> rfl
@[simp] theorem LCx.isKey_freeze (x : LCx) : x.freeze.isKey = x.isKey := by cases x <;> rfl
@[simp] theorem LCx.isKey_unfreeze (x : LCx) : x.unfreeze.isKey = x.isKey := by cases x <;> rfl
@[simp] theorem LCx.isKey_fresh (x : LCx) : x.fresh.isKey = x.isKey := by cases x <;> rfl
theorem LCx.erase_fresh (x : LCx) : x.fresh.erase = emptyLike x.erase := by cases x <;> rfl
theorem LCx.erase_new (b : Bool) : (LCx.new b).erase = XIx.empty true b := by cases b <;> rfl
theorem LCx.isKey_new (b : Bool) : (LCx.new b).isKey = b := by cases b <;> rfl
theorem LCx.isFrozen_new (b : Bool) : (LCx.new b).isFrozen = false := by cases b <;> rfl

theorem LCx.eq_key_of_isKey {x : LCx} (h : x.isKey = true) : ∃ f m, x = .key f m := by
  cases x with
  | key f m => exact ⟨f, m, rfl⟩
  | rows f m => cases h

theorem LCx.eq_rows_of_isKey {x : LCx} (h : x.isKey = false) : ∃ f m, x = .rows f m := by
  cases x with
  | key f m => cases h
  | rows f m => exact ⟨f, m, rfl⟩

/-- kind and protocol state of one index of a lattice: a `CRelFullIndex` exactly for the key columns `kc`, frozen iff `fz` -/
structure LCx.Ok (kc cols : List Nat) (fz : Bool) (x : LCx) : Prop where
  kind : x.isKey = (cols == kc)
  frozen : x.isFrozen = fz

theorem LCx.Ok.freeze {kc cols : List Nat} {fz : Bool} {x : LCx} (h : x.Ok kc cols fz) : x.freeze.Ok kc cols true :=
  ⟨by rw [LCx.isKey_freeze]; exact h.kind, LCx.isFrozen_freeze x⟩

theorem LCx.Ok.unfreeze {kc cols : List Nat} {fz : Bool} {x : LCx} (h : x.Ok kc cols fz) : x.unfreeze.Ok kc cols false :=
  ⟨by rw [LCx.isKey_unfreeze]; exact h.kind, LCx.isFrozen_unfreeze x⟩

theorem LCx.Ok.fresh {kc cols : List Nat} {fz : Bool} {x : LCx} (h : x.Ok kc cols fz) : x.fresh.Ok kc cols false :=
  ⟨by rw [LCx.isKey_fresh]; exact h.kind, LCx.isFrozen_fresh x⟩

theorem LCx.Ok.new (kc cols : List Nat) : (LCx.new (cols == kc)).Ok kc cols false :=
  ⟨LCx.isKey_new _, LCx.isFrozen_new _⟩

theorem LCx.Ok.insert {kc cols : List Nat} {x : LCx} (h : x.Ok kc cols false) (k : List Val) (i : Nat) :
    ∃ x', x.insert k i = .ok x' ∧ x'.Ok kc cols false := by
  obtain ⟨hk, hf⟩ := h
  cases x with
  | key fz m =>
    obtain rfl : fz = false := hf
    exact ⟨_, rfl, hk, rfl⟩
  | rows fz m =>
    obtain rfl : fz = false := hf
    exact ⟨_, rfl, hk, rfl⟩

theorem LCx_insert_erase (x x' : LCx) (cols : List Nat) (row : Tuple) (i : Nat)
    (h : x.insert (Plan.proj cols row) i = .ok x') : x'.erase = x.erase.insert cols row i := by
  cases x with
  | key fz m =>
    simp only [LCx.insert] at h
    split at h
    · cases h
    · cases h; rfl
  | rows fz m =>
    simp only [LCx.insert] at h
    split at h
    · cases h
    · cases h; rfl

structure LTriFlags (kc : List Nat) (fz : Bool) (ci : List Nat × Tri LCx) : Prop where
  total : ci.2.total.Ok kc ci.1 fz
  delta : ci.2.delta.Ok kc ci.1 fz
  new : ci.2.new.Ok kc ci.1 false

def LDynFlags (p : Program E B G P A) (fz : Bool) (d : LCDyn) : Prop :=
  ∀ ci ∈ d.idxs, LTriFlags (keyCols p d.rel) fz ci

def LRelFlags (p : Program E B G P A) (r : RelId) (fz : Bool) (l : LCRel) : Prop :=
  ∀ ci ∈ l.idxs, ci.2.Ok (keyCols p r) ci.1 fz

/-- the protocol state of the lattice indices inside an SCC, as `PhysPar.Flags` for the plain part: `total` and `delta` of a
dynamic lattice are frozen iff `fz` (inside an iteration), `new` never; a stored index is frozen iff its relation is among the
body-only relations `bo` -/
structure LFlags (p : Program E B G P A) (bo : List RelId) (fz : Bool) (s : PLScc) : Prop where
  dyn : ∀ d ∈ s.ldyn, LDynFlags p fz d ∧ bo.contains d.rel = false
  rels : ∀ r, r < s.lrels.length → isLatRel p r = true → LRelFlags p r (bo.contains r) (lrel s.lrels r)

/-- between SCCs -/
def LStFlags (p : Program E B G P A) (lat : List LCRel) : Prop :=
  ∀ r, r < lat.length → isLatRel p r = true → LRelFlags p r false (lrel lat r)

/-- the column sets `ix'` with `PhysLat.ixOf p ix' r` = what the parallel code allocates for `r` -/
def ixP (p : Program E B G P A) (ix : IxSets) : IxSets := fun r =>
  if isLatRel p r then
    List.range (arityOf p r) :: (ix r).filter fun c => c != keyCols p r && c.length != arityOf p r
  else ix r

theorem ixOf_ixP_lat (p : Program E B G P A) (ix : IxSets) (r : RelId) (hl : isLatRel p r = true) (har : 0 < arityOf p r) :
    ixOf p (ixP p ix) r = latIxOf p ix r := by
  have hne : (List.range (arityOf p r) != keyCols p r) = true := by
    simp only [bne_iff_ne, ne_eq, keyCols]
    intro h
    have := congrArg List.length h
    simp at this
    omega
  simp only [ixOf, ixP, hl, if_true, latIxOf, List.filter_cons, hne]
  congr 2
  rw [List.filter_filter]
  apply List.filter_congr
  intro c _
  cases h1 : (c != keyCols p r) <;> simp

theorem ixOf_ixP_plain (p : Program E B G P A) (ix : IxSets) (r : RelId) (hl : isLatRel p r = false) :
    ixOf p (ixP p ix) r = ix r := by
  simp [ixOf, ixP, hl]

theorem mem_ixOf_ixP (p : Program E B G P A) (ix : IxSets) (r : RelId) (cols : List Nat) (h : cols ∈ ixOf p ix r) :
    cols.length = arityOf p r ∨ cols ∈ ixOf p (ixP p ix) r := by
  cases hl : isLatRel p r with
  | false =>
    right
    rw [ixOf_ixP_plain p ix r hl]
    simpa [ixOf, hl] using h
  | true =>
    simp only [ixOf, hl, if_true, List.mem_cons, List.mem_filter] at h
    by_cases hlen : cols.length = arityOf p r
    · exact .inl hlen
    · right
      simp only [ixOf, ixP, hl, if_true, List.mem_cons, List.mem_filter]
      rcases h with h | ⟨h1, h2⟩
      · exact .inl h
      · right
        refine ⟨?_, h2⟩
        right
        refine ⟨h1, ?_⟩
        simp only [Bool.and_eq_true, h2, true_and]
        simpa using hlen

theorem clOk_ixP (p : Program E B G P A) (ix : IxSets) (h : Hir.HRule) (i : Nat) (body : List (Item E B G P A))
    (hc : ClOk p (fun r => ixOf p ix r) h i body) : ClOk p (fun r => ixOf p (ixP p ix) r) h i body := by
  intro k it hk
  have := hc k it hk
  cases it with
  | clause rel args conds =>
    obtain ⟨h1, h2, h3⟩ := this
    refine ⟨h1, ?_, h3⟩
    rcases h2 with h2 | h2
    · exact .inl h2
    · exact mem_ixOf_ixP p ix rel _ h2
  | _ => trivial

/-- `PhysLat.SimL` with the dynamic relations matched by look-up instead of by position: the bag engine lists them in the order
of `dynRels`, the erased parallel state lists the plain ones before the lattices -/
structure SimP (p : Program E B G P A) (ix : IxSets) (a : SccSt) (x : XScc) : Prop where
  len : a.rels.length = x.rels.length
  rows : ∀ r, (relSt a.rels r).rows = (xrel x.rels r).rows
  changed : a.changed = x.changed
  dynN : ∀ r, findDyn a.dyn r = none → findXDyn x.dyn r = none
  dynS : ∀ r d, findDyn a.dyn r = some d → ∃ pd, findXDyn x.dyn r = some pd ∧ pd.rel = r ∧
    XTriOk p ix r (relSt a.rels r).rows d pd.full pd.idxs
  nd : ∀ r, r < a.rels.length → findDyn a.dyn r = none →
    XVerOk p ix r (relSt a.rels r).rows (relSt a.rels r).idx (xrel x.rels r).full (xrel x.rels r).idxs
  typed : ∀ r, ∀ t ∈ (relSt a.rels r).rows, t.length = arityOf p r

theorem SimP.find {p : Program E B G P A} {ix : IxSets} {a : SccSt} {x : XScc} (h : SimP p ix a x) (r : RelId) :
    (findDyn a.dyn r = none ∧ findXDyn x.dyn r = none) ∨
      ∃ d pd, findDyn a.dyn r = some d ∧ findXDyn x.dyn r = some pd ∧ pd.rel = r ∧
        XTriOk p ix r (relSt a.rels r).rows d pd.full pd.idxs := by
  cases hd : findDyn a.dyn r with
  | none => exact .inl ⟨rfl, h.dynN r hd⟩
  | some d =>
    obtain ⟨pd, h1, h2, h3⟩ := h.dynS r d hd
    exact .inr ⟨d, pd, rfl, h1, h2, h3⟩

theorem SimP.of_find {p : Program E B G P A} {ix : IxSets} {a : SccSt} {x : XScc} (len : a.rels.length = x.rels.length)
    (rows : ∀ r, (relSt a.rels r).rows = (xrel x.rels r).rows) (changed : a.changed = x.changed)
    (find : ∀ r, (findDyn a.dyn r = none ∧ findXDyn x.dyn r = none) ∨
      ∃ d pd, findDyn a.dyn r = some d ∧ findXDyn x.dyn r = some pd ∧ pd.rel = r ∧
        XTriOk p ix r (relSt a.rels r).rows d pd.full pd.idxs)
    (nd : ∀ r, r < a.rels.length → findDyn a.dyn r = none →
      XVerOk p ix r (relSt a.rels r).rows (relSt a.rels r).idx (xrel x.rels r).full (xrel x.rels r).idxs)
    (typed : ∀ r, ∀ t ∈ (relSt a.rels r).rows, t.length = arityOf p r) : SimP p ix a x := by
  refine ⟨len, rows, changed, fun r hn => ?_, fun r d hd => ?_, nd, typed⟩
  · rcases find r with ⟨_, h2⟩ | ⟨d, _, h1, _⟩
    · exact h2
    · rw [hn] at h1; cases h1
  · rcases find r with ⟨h1, _⟩ | ⟨d', pd, h1, h2, hp, tri⟩
    · rw [hd] at h1; cases h1
    · rw [hd] at h1; cases h1
      exact ⟨pd, h2, hp, tri⟩

/-- the invariant inside an SCC: the simulation on the erased state, the two parts of the state, the protocol flags of both
parts (`fz`: inside an iteration) -/
structure PIS (p : Program E B G P A) (ix : IxSets) (N : Nat) (bo : List RelId) (fz : Bool) (a : SccSt) (s : PLScc) : Prop where
  sim : SimP p (ixP p ix) a (s.erase p)
  wf : PLWf p s
  pfl : Flags N bo fz s.pc
  lfl : LFlags p bo fz s

theorem _root_.AscentVerif.PhysLat.SimL.toSimP {p : Program E B G P A} {ix : IxSets} {a : SccSt} {x : XScc}
    (h : SimL p ix a x) : SimP p ix a x :=
  SimP.of_find h.len h.rows h.changed h.find h.nd h.typed

theorem reset_simP {p : Program E B G P A} {ix : IxSets} {a : SccSt} {x x' : XScc} (hsim : SimP p ix a x)
    (hr : x'.rels = x.rels) (hd : x'.dyn = x.dyn) (hc : x'.changed = false) :
    SimP p ix { a with changed := false } x' :=
  ⟨by rw [hr]; exact hsim.len, by rw [hr]; exact hsim.rows, hc.symm, by rw [hd]; exact hsim.dynN,
    by rw [hd]; exact hsim.dynS, by rw [hr]; exact hsim.nd, hsim.typed⟩

theorem sim_viewsOkP (p : Program E B G P A) (ix : IxSets) {dynR : List RelId} {a : SccSt} {x : XScc}
    (hsim : SimP p ix a x) (hwf : WF p.rels.length dynR a) (har : ∀ r, isLatRel p r = true → 0 < arityOf p r) :
    ViewsOkL p (fun r => ixOf p ix r) a x :=
  viewsOkL_of_find p ix hsim.len hsim.rows
    (fun r => (hsim.find r).imp id fun ⟨d, pd, h1, h2, _, tri⟩ => ⟨d, pd, h1, h2, tri⟩) hsim.nd hsim.typed hwf har

theorem SimP.congr_right {p : Program E B G P A} {ix : IxSets} {a : SccSt} {x x' : XScc} (hsim : SimP p ix a x)
    (hlen : x'.rels.length = x.rels.length) (hrel : ∀ r, xrel x'.rels r = xrel x.rels r)
    (hch : x'.changed = x.changed) (hdyn : ∀ r, findXDyn x'.dyn r = findXDyn x.dyn r) : SimP p ix a x' :=
  ⟨by rw [hlen]; exact hsim.len, fun r => by rw [hrel]; exact hsim.rows r, by rw [hch]; exact hsim.changed,
    fun r h => by rw [hdyn]; exact hsim.dynN r h, fun r d h => by rw [hdyn]; exact hsim.dynS r d h,
    fun r h1 h2 => by rw [hrel]; exact hsim.nd r h1 h2, hsim.typed⟩

theorem eraseLDyn_cols (ld : LCDyn) : (eraseLDyn ld).idxs.map (·.1) = ld.idxs.map (·.1) := by
  simp only [eraseLDyn, List.map_map]
  rfl

theorem mem_eraseLDyn {ld : LCDyn} {c : List Nat × Tri LCx} (hc : c ∈ ld.idxs) :
    (c.1, (⟨c.2.total.erase, c.2.delta.erase, c.2.new.erase⟩ : Tri XIx)) ∈ (eraseLDyn ld).idxs :=
  List.mem_map.mpr ⟨c, hc, rfl⟩

theorem XTriOk_lat {p : Program E B G P A} {ix : IxSets} {r : RelId} {rows : List Tuple} {d : Dyn} {ld : LCDyn}
    (hl : isLatRel p r = true) :
    XTriOk p ix r rows d ⟨[], [], []⟩ (eraseLDyn ld).idxs ↔
      ld.idxs.map (·.1) = ixOf p ix r ∧ ∀ c ∈ ld.idxs, XOk p r rows d.total c.1 c.2.total.erase ∧
        XOk p r rows d.delta c.1 c.2.delta.erase ∧ XOk p r rows d.new c.1 c.2.new.erase := by
  have hnoF : ∀ {α : Prop}, isLatRel p r = false → α := fun hf => by rw [hl] at hf; cases hf
  constructor
  · intro h
    exact ⟨by rw [← eraseLDyn_cols]; exact h.cols,
      fun c hc => ⟨h.it _ (mem_eraseLDyn hc), h.id _ (mem_eraseLDyn hc), h.inw _ (mem_eraseLDyn hc)⟩⟩
  · rintro ⟨hcols, hall⟩
    exact ⟨hnoF, hnoF, hnoF, by rw [eraseLDyn_cols]; exact hcols, List.forall_mem_map.mpr fun c hc => (hall c hc).1,
      List.forall_mem_map.mpr fun c hc => (hall c hc).2.1, List.forall_mem_map.mpr fun c hc => (hall c hc).2.2⟩

theorem SimP.rowsL {p : Program E B G P A} {ix : IxSets} {a : SccSt} {s : PLScc} (h : SimP p ix a (s.erase p))
    (hpl : PLWf p s) {r : RelId} (hl : isLatRel p r = true) : (lrel s.lrels r).rows = (relSt a.rels r).rows := by
  have := h.rows r
  rw [xrel_erase p s hpl.len, eraseRel_lat p _ _ r hl] at this
  exact this.symm

theorem SimP.rowsP {p : Program E B G P A} {ix : IxSets} {a : SccSt} {s : PLScc} (h : SimP p ix a (s.erase p))
    (hpl : PLWf p s) {r : RelId} (hl : isLatRel p r = false) : (pcrel s.pc.rels r).rows = (relSt a.rels r).rows := by
  have := h.rows r
  rw [xrel_erase p s hpl.len, eraseRel_plain p _ _ r hl] at this
  exact this.symm

theorem SimP.findL {p : Program E B G P A} {ix : IxSets} {a : SccSt} {s : PLScc} (h : SimP p ix a (s.erase p))
    (hpl : PLWf p s) {r : RelId} (hl : isLatRel p r = true) :
    (findDyn a.dyn r = none ∧ findLDyn s.ldyn r = none) ∨
      ∃ d ld, findDyn a.dyn r = some d ∧ findLDyn s.ldyn r = some ld ∧
        XTriOk p ix r (relSt a.rels r).rows d ⟨[], [], []⟩ (eraseLDyn ld).idxs := by
  have hfx := findXDyn_erase_lat p s hpl.pdyn r hl
  rcases h.find r with ⟨h1, h2⟩ | ⟨d, pd, h1, h2, _, tri⟩
  · rw [hfx, Option.map_eq_none_iff] at h2
    exact .inl ⟨h1, h2⟩
  · rw [hfx] at h2
    obtain ⟨ld, hld, rfl⟩ := Option.map_eq_some_iff.mp h2
    exact .inr ⟨d, ld, h1, hld, tri⟩

theorem SimP.findP {p : Program E B G P A} {ix : IxSets} {a : SccSt} {s : PLScc} (h : SimP p ix a (s.erase p))
    (hpl : PLWf p s) {r : RelId} (hl : isLatRel p r = false) :
    (findDyn a.dyn r = none ∧ findPCDyn s.pc.dyn r = none) ∨
      ∃ d cd, findDyn a.dyn r = some d ∧ findPCDyn s.pc.dyn r = some cd ∧
        XTriOk p ix r (relSt a.rels r).rows d (erasePDyn cd).full (erasePDyn cd).idxs := by
  have hfx := findXDyn_erase_plain p s hpl.ldyn r hl
  rcases h.find r with ⟨h1, h2⟩ | ⟨d, pd, h1, h2, _, tri⟩
  · rw [hfx, Option.map_eq_none_iff] at h2
    exact .inl ⟨h1, h2⟩
  · rw [hfx] at h2
    obtain ⟨cd, hcd, rfl⟩ := Option.map_eq_some_iff.mp h2
    exact .inr ⟨d, cd, h1, hcd, tri⟩

/-- replacing the row vector and the dynamic part of one relation, the physical side given by its two parts -/
theorem upd_simP {p : Program E B G P A} {ix : IxSets} {a : SccSt} {s s' : PLScc} (hsim : SimP p ix a (s.erase p))
    (hpl : PLWf p s) (hpl' : PLWf p s') {r : RelId} {d : Dyn} (hd : findDyn a.dyn r = some d) (hr : r < a.rels.length)
    (d' : Dyn) (hrel : d'.rel = r) (rows' : List Tuple) (hself : (eraseRel p s'.pc.rels s'.lrels r).rows = rows')
    (hne : ∀ r', r' ≠ r → eraseRel p s'.pc.rels s'.lrels r' = eraseRel p s.pc.rels s.lrels r')
    (hch : s'.pc.changed = true) (pd' : XDyn) (hdself : findXDyn (s'.erase p).dyn r = some pd') (hprel : pd'.rel = r)
    (htri : XTriOk p ix r rows' d' pd'.full pd'.idxs)
    (hL : ∀ r', r' ≠ r → findLDyn s'.ldyn r' = findLDyn s.ldyn r')
    (hP : ∀ r', r' ≠ r → findPCDyn s'.pc.dyn r' = findPCDyn s.pc.dyn r')
    (htyped : ∀ t ∈ rows', t.length = arityOf p r) : SimP p ix (upd a r d' rows') (s'.erase p) := by
  have hrows_self : (relSt (upd a r d' rows').rels r).rows = rows' := upd_rows_self hr
  have hrows_ne : ∀ r', r' ≠ r → relSt (upd a r d' rows').rels r' = relSt a.rels r' := fun r' hne => upd_relSt_ne hne
  have hx' := xrel_erase p s' hpl'.len
  have hx := xrel_erase p s hpl.len
  have hdne : ∀ r', r' ≠ r → findXDyn (s'.erase p).dyn r' = findXDyn (s.erase p).dyn r' := by
    intro r' hr'
    cases hl' : isLatRel p r' with
    | true => rw [findXDyn_erase_lat p _ hpl'.pdyn r' hl', findXDyn_erase_lat p _ hpl.pdyn r' hl', hL r' hr']
    | false => rw [findXDyn_erase_plain p _ hpl'.ldyn r' hl', findXDyn_erase_plain p _ hpl.ldyn r' hl', hP r' hr']
  refine ⟨?_, ?_, hch.symm, ?_, ?_, ?_, ?_⟩
  · simp [upd, hsim.len, erase_rels_length, hpl'.len, hpl.len]
  · intro r'
    rw [hx']
    by_cases hr' : r' = r
    · subst hr'; rw [hrows_self, hself]
    · rw [hrows_ne r' hr', hne r' hr', ← hx]; exact hsim.rows r'
  · intro r' hn
    have hr' : r' ≠ r := by
      intro h; subst h
      rw [upd_dyn_self hd hrel] at hn; cases hn
    rw [upd_dyn_ne hrel hr'] at hn
    rw [hdne r' hr']; exact hsim.dynN r' hn
  · intro r' d'' hs
    by_cases hr' : r' = r
    · subst hr'
      rw [upd_dyn_self hd hrel] at hs
      cases hs
      exact ⟨pd', hdself, hprel, by rw [hrows_self]; exact htri⟩
    · rw [upd_dyn_ne hrel hr'] at hs
      rw [hdne r' hr', hrows_ne r' hr']
      exact hsim.dynS r' d'' hs
  · intro r' hr'l hnd
    have hr' : r' ≠ r := by
      intro h; subst h
      rw [upd_dyn_self hd hrel] at hnd; cases hnd
    rw [upd_dyn_ne hrel hr'] at hnd
    rw [hrows_ne r' hr', hx', hne r' hr', ← hx]
    exact hsim.nd r' (by simpa [upd] using hr'l) hnd
  · intro r' t ht
    by_cases hr' : r' = r
    · subst hr'
      rw [hrows_self] at ht
      exact htyped t ht
    · rw [hrows_ne r' hr'] at ht; exact hsim.typed r' t ht

/-! ## plain relations: `XTriOk` of the erased dynamic entry against `TriOk` of `PhysPar`'s erasure -/

theorem XOk_vals_iff {p : Program E B G P A} {r : RelId} {rows : List Tuple} {bag cols : List Nat} {m : PIx}
    (hl : isLatRel p r = false) : XOk p r rows bag cols (.vals m) ↔ IxOk rows bag cols m :=
  ⟨fun h => h.2 hl, fun h => XOk_plain hl h⟩

theorem XTriOk_plain {p : Program E B G P A} {ix : IxSets} {r : RelId} {rows : List Tuple} {d : Dyn} {pd : PCDyn}
    (hl : isLatRel p r = false) :
    XTriOk p ix r rows d (erasePDyn pd).full (erasePDyn pd).idxs ↔ TriOk (ixOf p ix r) rows d pd.erase.full pd.erase.idxs := by
  have hc : (erasePDyn pd).idxs.map (·.1) = pd.erase.idxs.map (·.1) := by
    show (pd.idxs.map _).map _ = (pd.idxs.map _).map _
    rw [List.map_map, List.map_map]; rfl
  constructor
  · intro h
    exact ⟨h.ft hl, h.fd hl, h.fn hl, hc ▸ h.cols,
      List.forall_mem_map.mpr fun c hc' => (h.it _ (List.mem_map_of_mem hc')).2 hl,
      List.forall_mem_map.mpr fun c hc' => (h.id _ (List.mem_map_of_mem hc')).2 hl,
      List.forall_mem_map.mpr fun c hc' => (h.inw _ (List.mem_map_of_mem hc')).2 hl⟩
  · intro h
    exact ⟨fun _ => h.ft, fun _ => h.fd, fun _ => h.fn, hc ▸ h.cols,
      List.forall_mem_map.mpr fun c hc' => XOk_plain hl (h.it _ (List.mem_map_of_mem hc')),
      List.forall_mem_map.mpr fun c hc' => XOk_plain hl (h.id _ (List.mem_map_of_mem hc')),
      List.forall_mem_map.mpr fun c hc' => XOk_plain hl (h.inw _ (List.mem_map_of_mem hc'))⟩

theorem WFSt.typed {p : Program E B G P A} {s : PLSt} (h : WFSt p s) (r : RelId) : ∀ t ∈ xrows s r, t.length = arityOf p r :=
  fun t ht => (List.mem_append.mp ht).elim (h.1.2.1 r t) (h.2.2.2.2.1 r t)

section Fresh
variable (threads0 : Nat) (p : Program E B G P A) (ix : IxSets) (inp : RelId → List Tuple)

theorem pcrel_initSt (r : RelId) : (pcrel (initSt threads0 p ix inp).pc r).rows =
    if r < p.rels.length ∧ isLatRel p r = false then inp r else [] := by
  show (pcrel (PhysPar.initSt _ _ _ _) r).rows = _
  unfold PhysPar.initSt
  by_cases hr : r < p.rels.length
  · rw [pcrel_rangeMap _ _ _ hr]
    cases hl : isLatRel p r <;> simp [hr, hl]
  · rw [pcrel_of_ge _ _ (by rw [List.length_map, List.length_range]; exact Nat.le_of_not_lt hr), if_neg (fun h => hr h.1)]

theorem lrel_initSt (r : RelId) : (lrel (initSt threads0 p ix inp).lat r).rows =
    if isLatRel p r = true then inp r else [] := by
  unfold initSt
  by_cases hr : r < p.rels.length
  · rw [lrel_rangeMap _ _ _ hr]
    cases isLatRel p r <;> rfl
  · have hr' := Nat.le_of_not_lt hr
    rw [lrel_of_ge _ _ (by rw [List.length_map, List.length_range]; exact hr'), isLat_of_ge p r hr']
    rfl

theorem xrows_initSt (r : RelId) : xrows (initSt threads0 p ix inp) r = if r < p.rels.length then inp r else [] := by
  unfold xrows
  rw [pcrel_initSt, lrel_initSt]
  by_cases hr : r < p.rels.length
  · cases isLatRel p r <;> simp [hr]
  · simp [hr, isLat_of_ge p r (Nat.le_of_not_lt hr)]

variable {threads0 p ix inp}

theorem wfSt_initSt (h : ∀ r, r < p.rels.length → ∀ t ∈ inp r, t.length = arityOf p r) :
    WFSt p (initSt threads0 p ix inp) := by
  refine ⟨⟨by simp [initSt, PhysPar.initSt], fun r t ht => ?_, fun pr hpr => ?_⟩, by simp [initSt], fun r hl => ?_,
    fun r hl => ?_, fun r t ht => ?_, fun l hl ci hci => ?_⟩
  · rw [pcrel_initSt] at ht
    split at ht
    · next hr => exact h r hr.1 t ht
    · cases ht
  · obtain ⟨r, _, rfl⟩ := List.mem_map.mp hpr
    refine ⟨rfl, fun ci hci => ?_⟩
    obtain ⟨c, _, rfl⟩ := List.mem_map.mp hci
    exact isFrozen_new threads0 c
  · rw [pcrel_initSt, if_neg (by rw [hl]; simp)]
  · rw [lrel_initSt, if_neg (by rw [hl]; simp)]
  · rw [lrel_initSt] at ht
    split at ht
    · next hl => exact h r (lat_lt p hl) t ht
    · cases ht
  · obtain ⟨r, _, rfl⟩ := List.mem_map.mp hl
    split at hci
    · obtain ⟨c, _, rfl⟩ := List.mem_map.mp hci
      exact LCx.isFrozen_new _
    · cases hci

theorem inputOK_initSt (h : InputOK p inp) : InputOK p (xrows (initSt threads0 p ix inp)) := by
  refine ⟨fun r hr => ?_, fun r hr => ?_⟩
  · rw [xrows_initSt, if_pos hr]; exact h.1 r hr
  · rw [xrows_initSt, if_pos hr]; exact h.2 r hr

end Fresh

end AscentVerif.PhysParLat
