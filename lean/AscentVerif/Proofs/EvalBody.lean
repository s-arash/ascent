import AscentVerif.Model.Engine
import AscentVerif.Spec.Datalog
import AscentVerif.Proofs.Versions
import AscentVerif.Proofs.StBasics
/-!
# Body evaluation = `Sat` over a versioned database

`SatA` is the declarative semantics of a body with one list per aggregation *item* (`aggv : AggClause → List Tuple`) instead
of one per aggregated *relation* (`Sat`, `agg : RelId → _`, which is the case `aggv a = agg a.rel`: `sat_iff_satA`).  This is
what the engine literally does: `aggTuples` deduplicates or not depending on the item.  `ConsA` / `ClosedA` / `DerA` are the
least model for it.  `Agg.SatV I view aggv items vs ρ ρ'` is its versioned form: the clause at body position `j` draws its tuple
from `view r vs[j]`.  `evalBody` enumerates exactly the `Agg.SatV` derivations over the view `viewOf` of the current state,
without any side condition, and the semi-naive covering lemma `seminaive_cover` holds for every body.  `Engine.SatV` is
`Agg.SatV` without the aggregation case, for aggregation-free bodies (`SatV.toAgg`, `Agg.SatV.toCore`).

Namespace `Engine.Agg`, here and in the modules that follow: the notions that carry a per-item aggregation view `aggv`, and the
engine skeleton stated with them (`Proofs/AggScc.lean`); where a notion has a reading for aggregation-free programs
(`Sat … nAgg`, `Derivable … nAgg`), that reading has the same name in `Engine`.
-/
namespace AscentVerif.Engine
open AscentVerif

variable {E B G P A : Type}

/-- no aggregated relation is consulted in this fragment (same as `noAgg` of `Props/C01`) -/
def nAgg : RelId → List Tuple := fun _ => []

def aggFreeL (items : List (Item E B G P A)) : Bool := items.all fun i => !i.isAgg

theorem aggFree_eq (r : Rule E B G P A) : r.aggFree = aggFreeL r.body := rfl

theorem aggFreeL_cons {it : Item E B G P A} {rest : List (Item E B G P A)} (h : aggFreeL (it :: rest) = true) :
    it.isAgg = false ∧ aggFreeL rest = true := by
  rw [aggFreeL, List.all_cons, Bool.and_eq_true, Bool.not_eq_true'] at h
  exact h

inductive SatV (I : Interp E B G P A) (view : RelId → Option Ver → Tuple → Prop) :
    List (Item E B G P A) → List (Option Ver) → Env → Env → Prop where
  | nil (vs : List (Option Ver)) (ρ : Env) : SatV I view [] vs ρ ρ
  | clause {r : RelId} {args : List (Arg E)} {conds : List (Cond E B P)} {rest : List (Item E B G P A)}
      {vs : List (Option Ver)} {ρ ρ₁ ρ₂ ρ₃ : Env} (t : Tuple) :
      view r (vs.headD none) t → matchArgs I ρ args t ρ = some ρ₁ → satConds I conds ρ₁ = some ρ₂ →
      SatV I view rest vs.tail ρ₂ ρ₃ → SatV I view (.clause r args conds :: rest) vs ρ ρ₃
  | cond {c : Cond E B P} {rest : List (Item E B G P A)} {vs : List (Option Ver)} {ρ ρ₁ ρ₂ : Env} :
      satCond I c ρ = some ρ₁ → SatV I view rest vs.tail ρ₁ ρ₂ → SatV I view (.cond c :: rest) vs ρ ρ₂
  | gen {v : Var} {g : G} {rest : List (Item E B G P A)} {vs : List (Option Ver)} {ρ ρ₂ : Env} (x : Val) :
      x ∈ I.gen g ρ → SatV I view rest vs.tail ((v, x) :: ρ) ρ₂ → SatV I view (.gen v g :: rest) vs ρ ρ₂

theorem SatV.mono {I : Interp E B G P A} {view view' : RelId → Option Ver → Tuple → Prop}
    (h : ∀ r v t, view r v t → view' r v t) :
    ∀ {items : List (Item E B G P A)} {vs : List (Option Ver)} {ρ ρ' : Env},
      SatV I view items vs ρ ρ' → SatV I view' items vs ρ ρ' := by
  intro items vs ρ ρ' hs
  induction hs with
  | nil vs ρ => exact .nil vs ρ
  | clause t hd hm hc _ ih => exact .clause t (h _ _ _ hd) hm hc ih
  | cond hc _ ih => exact .cond hc ih
  | gen x hx _ ih => exact .gen x hx ih

theorem SatV.toSat {I : Interp E B G P A} {view : RelId → Option Ver → Tuple → Prop} {D : DB}
    {agg : RelId → List Tuple} (h : ∀ r v t, view r v t → D ⟨r, t⟩) :
    ∀ {items : List (Item E B G P A)} {vs : List (Option Ver)} {ρ ρ' : Env},
      SatV I view items vs ρ ρ' → Sat I D agg items ρ ρ' := by
  intro items vs ρ ρ' hs
  induction hs with
  | nil vs ρ => exact .nil ρ
  | clause t hd hm hc _ ih => exact .clause t (h _ _ _ hd) hm hc ih
  | cond hc _ ih => exact .cond hc ih
  | gen x hx _ ih => exact .gen x hx ih

def viewOf (cfg : Config) (p : Program E B G P A) (s : SccSt) (r : RelId) (v : Option Ver) (t : Tuple) : Prop :=
  ∃ i ∈ clauseRows cfg p s r v, rowAt (relSt s.rels r).rows i = t

def dynCount (dynR : List RelId) (items : List (Item E B G P A)) : Nat :=
  ((dynClauses dynR items).filter id).length

theorem dynCount_clause_false (dynR : List RelId) (r : RelId) (args : List (Arg E)) (conds : List (Cond E B P))
    (rest : List (Item E B G P A)) (h : dynR.contains r = false) :
    dynCount dynR (.clause r args conds :: rest) = dynCount dynR rest := by
  rw [dynCount, dynClauses, h]
  rfl

theorem dynCount_clause_true (dynR : List RelId) (r : RelId) (args : List (Arg E)) (conds : List (Cond E B P))
    (rest : List (Item E B G P A)) (h : dynR.contains r = true) :
    dynCount dynR (.clause r args conds :: rest) = dynCount dynR rest + 1 := by
  rw [dynCount, dynClauses, h]
  rfl

theorem map_none_eq_spread (dc : List Bool) : (dc.map fun _ => (none : Option Ver)) = spread dc [] := by
  induction dc with
  | nil => rfl
  | cons b bs ih =>
    rw [List.map_cons, ih]
    cases b <;> rfl

theorem variants_eq (dynR : List RelId) (r : Rule E B G P A) :
    variants dynR r =
      if dynCount dynR r.body = 0 then [(dynClauses dynR r.body).map fun _ => none]
      else (versionsBase (dynCount dynR r.body)).map (spread (dynClauses dynR r.body)) := rfl

end AscentVerif.Engine

namespace AscentVerif.Engine.Agg
open AscentVerif AscentVerif.Engine

variable {E B G P A : Type}

inductive SatA (I : Interp E B G P A) (D : DB) (aggv : AggClause E A → List Tuple) :
    List (Item E B G P A) → Env → Env → Prop where
  | nil (ρ : Env) : SatA I D aggv [] ρ ρ
  | clause {r : RelId} {args : List (Arg E)} {conds : List (Cond E B P)} {rest : List (Item E B G P A)}
      {ρ ρ₁ ρ₂ ρ₃ : Env} (t : Tuple) :
      D ⟨r, t⟩ → matchArgs I ρ args t ρ = some ρ₁ → satConds I conds ρ₁ = some ρ₂ →
      SatA I D aggv rest ρ₂ ρ₃ → SatA I D aggv (.clause r args conds :: rest) ρ ρ₃
  | cond {c : Cond E B P} {rest : List (Item E B G P A)} {ρ ρ₁ ρ₂ : Env} :
      satCond I c ρ = some ρ₁ → SatA I D aggv rest ρ₁ ρ₂ → SatA I D aggv (.cond c :: rest) ρ ρ₂
  | gen {v : Var} {g : G} {rest : List (Item E B G P A)} {ρ ρ₂ : Env} (x : Val) :
      x ∈ I.gen g ρ → SatA I D aggv rest ((v, x) :: ρ) ρ₂ → SatA I D aggv (.gen v g :: rest) ρ ρ₂
  | aggr {a : AggClause E A} {rest : List (Item E B G P A)} {ρ ρ₁ ρ₂ : Env} :
      ρ₁ ∈ aggEnvs I a ρ (aggv a) → SatA I D aggv rest ρ₁ ρ₂ → SatA I D aggv (.agg a :: rest) ρ ρ₂

theorem mem_rels_cons {it : Item E B G P A} {rest : List (Item E B G P A)} {r : RelId}
    (h : r ∈ rest.filterMap Item.rel?) : r ∈ (it :: rest).filterMap Item.rel? := by
  obtain ⟨x, hx, hr⟩ := List.mem_filterMap.mp h
  exact List.mem_filterMap.mpr ⟨x, List.mem_cons_of_mem _ hx, hr⟩

theorem SatA.map {I : Interp E B G P A} {aggv aggv' : AggClause E A → List Tuple} {D D' : DB}
    {items : List (Item E B G P A)} {ρ ρ' : Env} (hs : SatA I D aggv items ρ ρ') :
    (∀ r ∈ items.filterMap Item.rel?, ∀ t, D ⟨r, t⟩ → D' ⟨r, t⟩) →
    (∀ a, Item.agg a ∈ items → ∀ ρ, aggEnvs I a ρ (aggv a) = aggEnvs I a ρ (aggv' a)) →
      SatA I D' aggv' items ρ ρ' := by
  induction hs with
  | nil ρ => exact fun _ _ => .nil ρ
  | clause t hd hm hc _ ih =>
    exact fun h h' => .clause t (h _ (List.mem_filterMap.mpr ⟨_, List.mem_cons_self, rfl⟩) t hd) hm hc
      (ih (fun r hr => h r (mem_rels_cons hr)) fun a ha => h' a (List.mem_cons_of_mem _ ha))
  | cond hc _ ih =>
    exact fun h h' => .cond hc (ih (fun r hr => h r (mem_rels_cons hr)) fun a ha => h' a (List.mem_cons_of_mem _ ha))
  | gen x hx _ ih =>
    exact fun h h' => .gen x hx (ih (fun r hr => h r (mem_rels_cons hr)) fun a ha => h' a (List.mem_cons_of_mem _ ha))
  | aggr ha _ ih =>
    exact fun h h' => .aggr (h' _ List.mem_cons_self _ ▸ ha)
      (ih (fun r hr => h r (mem_rels_cons hr)) fun a ha => h' a (List.mem_cons_of_mem _ ha))

theorem SatA.mono {I : Interp E B G P A} {aggv : AggClause E A → List Tuple} {D D' : DB} (h : ∀ f, D f → D' f)
    {items : List (Item E B G P A)} {ρ ρ' : Env} (hs : SatA I D aggv items ρ ρ') : SatA I D' aggv items ρ ρ' :=
  hs.map (fun _ _ _ => h _) fun _ _ _ => rfl

theorem SatA.congr_agg {I : Interp E B G P A} {aggv aggv' : AggClause E A → List Tuple} {D : DB}
    {items : List (Item E B G P A)} {ρ ρ' : Env} (hs : SatA I D aggv items ρ ρ')
    (h : ∀ a, Item.agg a ∈ items → aggv a = aggv' a) : SatA I D aggv' items ρ ρ' :=
  hs.map (fun _ _ _ => id) fun a ha _ => by rw [h a ha]

theorem SatA.congr_rels {I : Interp E B G P A} {aggv : AggClause E A → List Tuple} {D D' : DB}
    {items : List (Item E B G P A)} {ρ ρ' : Env} (hs : SatA I D aggv items ρ ρ')
    (h : ∀ r ∈ items.filterMap Item.rel?, ∀ t, D ⟨r, t⟩ → D' ⟨r, t⟩) : SatA I D' aggv items ρ ρ' :=
  hs.map h fun _ _ _ => rfl

theorem sat_iff_satA {I : Interp E B G P A} {agg : RelId → List Tuple} {D : DB}
    {items : List (Item E B G P A)} {ρ ρ' : Env} :
    Sat I D agg items ρ ρ' ↔ SatA I D (fun a => agg a.rel) items ρ ρ' := by
  constructor
  · intro hs
    induction hs with
    | nil ρ => exact .nil ρ
    | clause t hd hm hc _ ih => exact .clause t hd hm hc ih
    | cond hc _ ih => exact .cond hc ih
    | gen x hx _ ih => exact .gen x hx ih
    | aggr ha _ ih => exact .aggr ha ih
  · intro hs
    induction hs with
    | nil ρ => exact .nil ρ
    | clause t hd hm hc _ ih => exact .clause t hd hm hc ih
    | cond hc _ ih => exact .cond hc ih
    | gen x hx _ ih => exact .gen x hx ih
    | aggr ha _ ih => exact .aggr ha ih

def ConsA (I : Interp E B G P A) (rules : List (Rule E B G P A)) (aggv : AggClause E A → List Tuple) (D : DB)
    (f : Fact) : Prop :=
  ∃ r ∈ rules, ∃ ρ, SatA I D aggv r.body [] ρ ∧ ∃ h ∈ r.heads, f = headFact I h ρ

def ClosedA (I : Interp E B G P A) (rules : List (Rule E B G P A)) (aggv : AggClause E A → List Tuple)
    (inp D : DB) : Prop :=
  (∀ f, inp f → D f) ∧ (∀ f, ConsA I rules aggv D f → D f)

def DerA (I : Interp E B G P A) (rules : List (Rule E B G P A)) (aggv : AggClause E A → List Tuple)
    (inp : DB) (f : Fact) : Prop :=
  ∀ D, ClosedA I rules aggv inp D → D f

theorem derA_closed (I : Interp E B G P A) (rules : List (Rule E B G P A)) (aggv : AggClause E A → List Tuple)
    (inp : DB) : ClosedA I rules aggv inp (DerA I rules aggv inp) := by
  refine ⟨fun f hf D hD => hD.1 f hf, ?_⟩
  rintro f ⟨r, hr, ρ, hs, h, hh, rfl⟩ D hD
  exact hD.2 _ ⟨r, hr, ρ, SatA.mono (fun g hg => hg D hD) hs, h, hh, rfl⟩

theorem derA_least (I : Interp E B G P A) (rules : List (Rule E B G P A)) (aggv : AggClause E A → List Tuple)
    (inp D : DB) (hD : ClosedA I rules aggv inp D) : ∀ f, DerA I rules aggv inp f → D f := fun _ hf => hf D hD

theorem derA_input {I : Interp E B G P A} {rules : List (Rule E B G P A)} {aggv : AggClause E A → List Tuple}
    {inp : DB} {f : Fact} (h : inp f) : DerA I rules aggv inp f := fun _ hD => hD.1 f h

theorem derA_cons {I : Interp E B G P A} {rules : List (Rule E B G P A)} {aggv : AggClause E A → List Tuple}
    {inp : DB} {f : Fact} (h : ConsA I rules aggv (DerA I rules aggv inp) f) : DerA I rules aggv inp f :=
  (derA_closed I rules aggv inp).2 f h

theorem closed_iff_closedA {I : Interp E B G P A} {rules : List (Rule E B G P A)} {agg : RelId → List Tuple}
    {inp D : DB} : Closed I rules agg inp D ↔ ClosedA I rules (fun a => agg a.rel) inp D := by
  constructor
  · rintro ⟨h1, h2⟩
    refine ⟨h1, ?_⟩
    rintro f ⟨r, hr, ρ, hs, h⟩
    exact h2 f ⟨r, hr, ρ, sat_iff_satA.mpr hs, h⟩
  · rintro ⟨h1, h2⟩
    refine ⟨h1, ?_⟩
    rintro f ⟨r, hr, ρ, hs, h⟩
    exact h2 f ⟨r, hr, ρ, sat_iff_satA.mp hs, h⟩

theorem derivable_iff_derA {I : Interp E B G P A} {rules : List (Rule E B G P A)} {agg : RelId → List Tuple}
    {inp : DB} {f : Fact} : Derivable I rules agg inp f ↔ DerA I rules (fun a => agg a.rel) inp f :=
  ⟨fun h D hD => h D (closed_iff_closedA.mpr hD), fun h D hD => h D (closed_iff_closedA.mp hD)⟩

theorem closedA_congr {I : Interp E B G P A} {rules : List (Rule E B G P A)} {aggv aggv' : AggClause E A → List Tuple}
    {inp D : DB} (h : ∀ r ∈ rules, ∀ a, Item.agg a ∈ r.body → aggv a = aggv' a)
    (hc : ClosedA I rules aggv inp D) : ClosedA I rules aggv' inp D := by
  refine ⟨hc.1, ?_⟩
  rintro f ⟨r, hr, ρ, hs, hh⟩
  exact hc.2 f ⟨r, hr, ρ, SatA.congr_agg hs (fun a ha => (h r hr a ha).symm), hh⟩

theorem derA_congr {I : Interp E B G P A} {rules : List (Rule E B G P A)} {aggv aggv' : AggClause E A → List Tuple}
    {inp : DB} (h : ∀ r ∈ rules, ∀ a, Item.agg a ∈ r.body → aggv a = aggv' a) (f : Fact) :
    DerA I rules aggv inp f ↔ DerA I rules aggv' inp f :=
  ⟨fun hd D hD => hd D (closedA_congr (fun r hr a ha => (h r hr a ha).symm) hD),
   fun hd D hD => hd D (closedA_congr h hD)⟩

inductive SatV (I : Interp E B G P A) (view : RelId → Option Ver → Tuple → Prop)
    (aggv : AggClause E A → List Tuple) :
    List (Item E B G P A) → List (Option Ver) → Env → Env → Prop where
  | nil (vs : List (Option Ver)) (ρ : Env) : SatV I view aggv [] vs ρ ρ
  | clause {r : RelId} {args : List (Arg E)} {conds : List (Cond E B P)} {rest : List (Item E B G P A)}
      {vs : List (Option Ver)} {ρ ρ₁ ρ₂ ρ₃ : Env} (t : Tuple) :
      view r (vs.headD none) t → matchArgs I ρ args t ρ = some ρ₁ → satConds I conds ρ₁ = some ρ₂ →
      SatV I view aggv rest vs.tail ρ₂ ρ₃ → SatV I view aggv (.clause r args conds :: rest) vs ρ ρ₃
  | cond {c : Cond E B P} {rest : List (Item E B G P A)} {vs : List (Option Ver)} {ρ ρ₁ ρ₂ : Env} :
      satCond I c ρ = some ρ₁ → SatV I view aggv rest vs.tail ρ₁ ρ₂ → SatV I view aggv (.cond c :: rest) vs ρ ρ₂
  | gen {v : Var} {g : G} {rest : List (Item E B G P A)} {vs : List (Option Ver)} {ρ ρ₂ : Env} (x : Val) :
      x ∈ I.gen g ρ → SatV I view aggv rest vs.tail ((v, x) :: ρ) ρ₂ → SatV I view aggv (.gen v g :: rest) vs ρ ρ₂
  | aggr {a : AggClause E A} {rest : List (Item E B G P A)} {vs : List (Option Ver)} {ρ ρ₁ ρ₂ : Env} :
      ρ₁ ∈ aggEnvs I a ρ (aggv a) → SatV I view aggv rest vs.tail ρ₁ ρ₂ → SatV I view aggv (.agg a :: rest) vs ρ ρ₂

theorem SatV.map {I : Interp E B G P A} {view view' : RelId → Option Ver → Tuple → Prop}
    {aggv aggv' : AggClause E A → List Tuple} (h : ∀ r v t, view r v t → view' r v t)
    {items : List (Item E B G P A)} {vs : List (Option Ver)} {ρ ρ' : Env} (hs : SatV I view aggv items vs ρ ρ') :
    (∀ a, Item.agg a ∈ items → aggv a = aggv' a) → SatV I view' aggv' items vs ρ ρ' := by
  induction hs with
  | nil vs ρ => exact fun _ => .nil vs ρ
  | clause t hd hm hc _ ih => exact fun h' => .clause t (h _ _ _ hd) hm hc (ih fun a ha => h' a (List.mem_cons_of_mem _ ha))
  | cond hc _ ih => exact fun h' => .cond hc (ih fun a ha => h' a (List.mem_cons_of_mem _ ha))
  | gen x hx _ ih => exact fun h' => .gen x hx (ih fun a ha => h' a (List.mem_cons_of_mem _ ha))
  | aggr ha _ ih => exact fun h' => .aggr (h' _ List.mem_cons_self ▸ ha) (ih fun a ha => h' a (List.mem_cons_of_mem _ ha))

theorem SatV.mono {I : Interp E B G P A} {view view' : RelId → Option Ver → Tuple → Prop}
    {aggv : AggClause E A → List Tuple} (h : ∀ r v t, view r v t → view' r v t)
    {items : List (Item E B G P A)} {vs : List (Option Ver)} {ρ ρ' : Env}
    (hs : SatV I view aggv items vs ρ ρ') : SatV I view' aggv items vs ρ ρ' :=
  hs.map h fun _ _ => rfl

theorem SatV.congr_agg {I : Interp E B G P A} {view : RelId → Option Ver → Tuple → Prop}
    {aggv aggv' : AggClause E A → List Tuple} {items : List (Item E B G P A)} {vs : List (Option Ver)} {ρ ρ' : Env}
    (hs : SatV I view aggv items vs ρ ρ') (h : ∀ a, Item.agg a ∈ items → aggv a = aggv' a) :
    SatV I view aggv' items vs ρ ρ' :=
  hs.map (fun _ _ _ => id) h

theorem SatV.toSatA {I : Interp E B G P A} {view : RelId → Option Ver → Tuple → Prop} {D : DB}
    {aggv : AggClause E A → List Tuple} (h : ∀ r v t, view r v t → D ⟨r, t⟩) :
    ∀ {items : List (Item E B G P A)} {vs : List (Option Ver)} {ρ ρ' : Env},
      SatV I view aggv items vs ρ ρ' → SatA I D aggv items ρ ρ' := by
  intro items vs ρ ρ' hs
  induction hs with
  | nil vs ρ => exact .nil ρ
  | clause t hd hm hc _ ih => exact .clause t (h _ _ _ hd) hm hc ih
  | cond hc _ ih => exact .cond hc ih
  | gen x hx _ ih => exact .gen x hx ih
  | aggr ha _ ih => exact .aggr ha ih

theorem evalBody_of_SatV (I : Interp E B G P A) (cfg : Config) (p : Program E B G P A) (s : SccSt) :
    ∀ {items : List (Item E B G P A)} {vs : List (Option Ver)} {ρ ρ' : Env},
      SatV I (viewOf cfg p s) (aggTuples cfg p s) items vs ρ ρ' → ρ' ∈ evalBody I cfg p s items vs ρ := by
  intro items vs ρ ρ' hs
  induction hs with
  | nil vs ρ => simp [evalBody]
  | @clause r args conds rest vs ρ ρ₁ ρ₂ ρ₃ t hd hm hc _ ih =>
    obtain ⟨i, hi, rfl⟩ := hd
    simp only [evalBody, List.mem_flatMap]
    refine ⟨i, hi, ?_⟩
    rw [hm]
    simp only []
    rw [hc]
    exact ih
  | cond hc _ ih =>
    simp only [evalBody]
    rw [hc]
    exact ih
  | gen x hx _ ih =>
    simp only [evalBody, List.mem_flatMap]
    exact ⟨x, hx, ih⟩
  | @aggr a rest vs ρ ρ₁ ρ₂ ha _ ih =>
    simp only [evalBody, List.mem_flatMap]
    exact ⟨ρ₁, ha, ih⟩

theorem SatV_of_evalBody (I : Interp E B G P A) (cfg : Config) (p : Program E B G P A) (s : SccSt) :
    ∀ (items : List (Item E B G P A)) (vs : List (Option Ver)) (ρ ρ' : Env),
      ρ' ∈ evalBody I cfg p s items vs ρ → SatV I (viewOf cfg p s) (aggTuples cfg p s) items vs ρ ρ' := by
  intro items
  induction items with
  | nil =>
    intro vs ρ ρ' h
    simp only [evalBody, List.mem_singleton] at h
    subst h; exact .nil vs _
  | cons it rest ih =>
    intro vs ρ ρ' h
    cases it with
    | clause r args conds =>
      simp only [evalBody, List.mem_flatMap] at h
      obtain ⟨i, hi, h⟩ := h
      split at h
      · simp at h
      · rename_i ρ₁ hm
        split at h
        · simp at h
        · rename_i ρ₂ hc
          exact .clause _ ⟨i, hi, rfl⟩ hm hc (ih _ _ _ h)
    | cond c =>
      simp only [evalBody] at h
      split at h
      · simp at h
      · rename_i ρ₁ hc
        exact .cond hc (ih _ _ _ h)
    | gen v g =>
      simp only [evalBody, List.mem_flatMap] at h
      obtain ⟨x, hx, h⟩ := h
      exact .gen x hx (ih _ _ _ h)
    | agg a =>
      simp only [evalBody, List.mem_flatMap] at h
      obtain ⟨ρ₁, ha, h⟩ := h
      exact .aggr ha (ih _ _ _ h)

/-! ## semi-naive covering, over an abstract view (aggregation items are never dynamic) -/

theorem dynCount_agg (dynR : List RelId) (a : AggClause E A) (rest : List (Item E B G P A)) :
    dynCount dynR (.agg a :: rest) = dynCount dynR rest := rfl

section Cover
variable (I : Interp E B G P A) (view : RelId → Option Ver → Tuple → Prop) (aggv : AggClause E A → List Tuple)
  (dynR : List RelId)
  (hnd : ∀ r, dynR.contains r = false → ∀ v v' t, view r v t → view r v' t)
  (hsplit : ∀ r t, view r (some .totalDelta) t → view r (some .total) t ∨ view r (some .delta) t)

include hnd in
/-- a derivation over `total ∪ delta` is a derivation of the all-`TotalDelta` version vector.
(`dynClauses`, `spread` and `dynCount` compute on a body whose first item is known: the steps below
rely on that.) -/
theorem SatV_allTD :
    ∀ {items : List (Item E B G P A)} {ρ ρ' : Env},
      SatA I (fun f => view f.rel (some .totalDelta) f.args) aggv items ρ ρ' →
      ∀ m, dynCount dynR items ≤ m →
        SatV I view aggv items (spread (dynClauses dynR items) (List.replicate m Ver.totalDelta)) ρ ρ' := by
  intro items ρ ρ' hs
  induction hs with
  | nil ρ => intro m _; exact .nil _ ρ
  | @clause r args conds rest ρ ρ₁ ρ₂ ρ₃ t hd hm hc _ ih =>
    intro m hle
    cases hdy : dynR.contains r with
    | false =>
      rw [dynCount_clause_false dynR r args conds rest hdy] at hle
      rw [dynClauses, hdy]
      exact .clause t (hnd r hdy _ _ t hd) hm hc (ih m hle)
    | true =>
      rw [dynCount_clause_true dynR r args conds rest hdy] at hle
      obtain ⟨m', rfl⟩ := Nat.exists_eq_add_one_of_ne_zero (Nat.ne_of_gt (Nat.lt_of_lt_of_le (Nat.succ_pos _) hle))
      rw [dynClauses, hdy]
      exact .clause t hd hm hc (ih m' (Nat.le_of_succ_le_succ hle))
  | cond hc _ ih => intro m hle; exact .cond hc (ih m hle)
  | gen x hx _ ih => intro m hle; exact .gen x hx (ih m hle)
  | aggr ha _ ih => intro m hle; exact .aggr ha (ih m hle)

include hnd hsplit in
theorem seminaive_aux :
    ∀ {items : List (Item E B G P A)} {ρ ρ' : Env},
      SatA I (fun f => view f.rel (some .totalDelta) f.args) aggv items ρ ρ' →
      SatA I (fun f => view f.rel (some .total) f.args) aggv items ρ ρ' ∨
      ∃ vs ∈ versionsBase (dynCount dynR items), SatV I view aggv items (spread (dynClauses dynR items) vs) ρ ρ' := by
  intro items ρ ρ' hs
  induction hs with
  | nil ρ => exact .inl (.nil ρ)
  | @clause r args conds rest ρ ρ₁ ρ₂ ρ₃ t hd hm hc hrest ih =>
    cases hdy : dynR.contains r with
    | false =>
      rw [dynCount_clause_false dynR r args conds rest hdy, dynClauses, hdy]
      rcases ih with h | ⟨vs, hvs, h⟩
      · exact .inl (.clause t (hnd r hdy _ _ t hd) hm hc h)
      · exact .inr ⟨vs, hvs, .clause t (hnd r hdy _ _ t hd) hm hc h⟩
    | true =>
      rw [dynCount_clause_true dynR r args conds rest hdy, dynClauses, hdy]
      rcases hsplit r t hd with htot | hdel
      · rcases ih with h | ⟨vs, hvs, h⟩
        · exact .inl (.clause t htot hm hc h)
        · exact .inr ⟨Ver.total :: vs, (mem_versionsBase_succ _ _).mpr (.inr ⟨vs, hvs, rfl⟩),
            .clause t htot hm hc h⟩
      · exact .inr ⟨Ver.delta :: List.replicate (dynCount dynR rest) Ver.totalDelta,
          (mem_versionsBase_succ _ _).mpr (.inl rfl),
          .clause t hdel hm hc (SatV_allTD I view aggv dynR hnd hrest _ (Nat.le_refl _))⟩
  | cond hc _ ih =>
    rcases ih with h | ⟨vs, hvs, h⟩
    · exact .inl (.cond hc h)
    · exact .inr ⟨vs, hvs, .cond hc h⟩
  | gen x hx _ ih =>
    rcases ih with h | ⟨vs, hvs, h⟩
    · exact .inl (.gen x hx h)
    · exact .inr ⟨vs, hvs, .gen x hx h⟩
  | aggr ha _ ih =>
    rcases ih with h | ⟨vs, hvs, h⟩
    · exact .inl (.aggr ha h)
    · exact .inr ⟨vs, hvs, .aggr ha h⟩

include hnd hsplit in
/-- **semi-naive covering**: every rule instance over `total ∪ delta` is either an instance over
`total` alone (of a rule with a dynamic clause) or is enumerated by one of the rule's variants -/
theorem seminaive_cover (r : Rule E B G P A) {ρ' : Env}
    (hs : SatA I (fun f => view f.rel (some .totalDelta) f.args) aggv r.body [] ρ') :
    (dynCount dynR r.body ≠ 0 ∧ SatA I (fun f => view f.rel (some .total) f.args) aggv r.body [] ρ') ∨
    ∃ vs ∈ variants dynR r, SatV I view aggv r.body vs [] ρ' := by
  by_cases hn : dynCount dynR r.body = 0
  · refine .inr ⟨(dynClauses dynR r.body).map fun _ => none, ?_, ?_⟩
    · rw [variants_eq, if_pos hn]
      exact List.mem_singleton_self _
    · rw [map_none_eq_spread]
      exact SatV_allTD I view aggv dynR hnd hs 0 (Nat.le_of_eq hn)
  · rcases seminaive_aux I view aggv dynR hnd hsplit hs with h | ⟨vs, hvs, h⟩
    · exact .inl ⟨hn, h⟩
    · refine .inr ⟨spread (dynClauses dynR r.body) vs, ?_, h⟩
      rw [variants_eq, if_neg hn]
      exact List.mem_map.mpr ⟨vs, hvs, rfl⟩

end Cover

theorem SatA.no_dyn {I : Interp E B G P A} {D : DB} {aggv : AggClause E A → List Tuple} (dynR : List RelId)
    (hD : ∀ r t, dynR.contains r = true → ¬ D ⟨r, t⟩) :
    ∀ {items : List (Item E B G P A)} {ρ ρ' : Env}, SatA I D aggv items ρ ρ' → dynCount dynR items = 0 := by
  intro items ρ ρ' hs
  induction hs with
  | nil ρ => rfl
  | @clause r args conds rest ρ ρ₁ ρ₂ ρ₃ t hd hm hc _ ih =>
    cases hdy : dynR.contains r with
    | false => rw [dynCount_clause_false dynR r args conds rest hdy]; exact ih
    | true => exact absurd hd (hD r t hdy)
  | cond hc _ ih => exact ih
  | gen x hx _ ih => exact ih
  | aggr ha _ ih => exact ih

end AscentVerif.Engine.Agg

namespace AscentVerif.Engine
open AscentVerif

variable {E B G P A : Type} {I : Interp E B G P A} {view : RelId → Option Ver → Tuple → Prop}

theorem SatV.toAgg {aggv : AggClause E A → List Tuple} {items : List (Item E B G P A)} {vs : List (Option Ver)}
    {ρ ρ' : Env} (hs : SatV I view items vs ρ ρ') : Agg.SatV I view aggv items vs ρ ρ' := by
  induction hs with
  | nil vs ρ => exact .nil vs ρ
  | clause t hd hm hc _ ih => exact .clause t hd hm hc ih
  | cond hc _ ih => exact .cond hc ih
  | gen x hx _ ih => exact .gen x hx ih

theorem Agg.SatV.toCore {aggv : AggClause E A → List Tuple} {items : List (Item E B G P A)} {vs : List (Option Ver)}
    {ρ ρ' : Env} (hs : Agg.SatV I view aggv items vs ρ ρ') : aggFreeL items = true → Engine.SatV I view items vs ρ ρ' := by
  induction hs with
  | nil vs ρ => exact fun _ => .nil vs ρ
  | clause t hd hm hc _ ih => exact fun h => .clause t hd hm hc (ih (aggFreeL_cons h).2)
  | cond hc _ ih => exact fun h => .cond hc (ih (aggFreeL_cons h).2)
  | gen x hx _ ih => exact fun h => .gen x hx (ih (aggFreeL_cons h).2)
  | aggr _ _ _ => exact fun h => nomatch (aggFreeL_cons h).1

theorem evalBody_of_SatV (I : Interp E B G P A) (cfg : Config) (p : Program E B G P A) (s : SccSt)
    {items : List (Item E B G P A)} {vs : List (Option Ver)} {ρ ρ' : Env}
    (hs : SatV I (viewOf cfg p s) items vs ρ ρ') : ρ' ∈ evalBody I cfg p s items vs ρ :=
  Agg.evalBody_of_SatV I cfg p s hs.toAgg

theorem SatV_of_evalBody (I : Interp E B G P A) (cfg : Config) (p : Program E B G P A) (s : SccSt)
    (items : List (Item E B G P A)) (vs : List (Option Ver)) (ρ ρ' : Env) (haf : aggFreeL items = true)
    (h : ρ' ∈ evalBody I cfg p s items vs ρ) : SatV I (viewOf cfg p s) items vs ρ ρ' :=
  (Agg.SatV_of_evalBody I cfg p s items vs ρ ρ' h).toCore haf

end AscentVerif.Engine
