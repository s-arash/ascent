import AscentVerif.Proofs.PhysLatSim
import AscentVerif.Proofs.Scc
/-!
# The simulation relation through the merge, SCC entry and exit, and `update_indices` (lattice programs)

`SimL` is kept by `shift` (one row per key makes the merge of the key index harmless: `LOk_shift`), established by `enterScc`
from `SimStL` and given back as `SimStL` by `leaveScc`; `update_indices` establishes `SimStL` between a physical value with typed
rows, one row per lattice key, and the abstract value with the same rows (`absStX`).  Used by `Proofs/PhysLatRun.lean`; the
parallel tower (`Proofs/PhysParLatScc.lean`) reuses `XOk_shift` and `enter_simL`.
-/
namespace AscentVerif.PhysLat
open AscentVerif AscentVerif.Engine AscentVerif.Index AscentVerif.Phys

variable {E B G P A : Type}

section
variable {p : Program E B G P A} {ix : IxSets} {r : RelId} {rows : List Tuple} {bag cols : List Nat} {dynR : List RelId}
  {a : SccSt} {x : XScc}

theorem XOk_shift {bt bd bn : List Nat} {t : Tri XIx} (ht : XOk p r rows bt cols t.total) (hd : XOk p r rows bd cols t.delta)
    (hn : XOk p r rows bn cols t.new)
    (hu : isLatRel p r = true → cols = keyCols p r →
      ∀ i ∈ bt, ∀ j ∈ bd, Plan.proj cols (rowAt rows i) = Plan.proj cols (rowAt rows j) → i = j) :
    XOk p r rows (bt ++ bd) cols (shiftX t).total ∧ XOk p r rows bn cols (shiftX t).delta ∧
      XOk p r rows [] cols (shiftX t).new := by
  cases hl : isLatRel p r with
  | true =>
    by_cases hc : ∀ c ∈ cols, c < arityOf p r - 1
    · obtain ⟨g1, g2, g3⟩ := LOk_shift (ht.1 hl hc) (hd.1 hl hc) (hn.1 hl hc) (hu hl)
      exact ⟨XOk_lat hl fun _ => g1, XOk_lat hl fun _ => g2, XOk_lat hl fun _ => g3⟩
    · -- an index over the value column: nothing is claimed
      exact ⟨XOk_lat hl fun h => absurd h hc, XOk_lat hl fun h => absurd h hc, XOk_lat hl fun h => absurd h hc⟩
  | false =>
    obtain ⟨tt, td, tn⟩ := t
    obtain ⟨mt, rfl, h1⟩ := POk_vals (ht.2 hl)
    obtain ⟨md, rfl, h2⟩ := POk_vals (hd.2 hl)
    obtain ⟨mn, rfl, h3⟩ := POk_vals (hn.2 hl)
    obtain ⟨g1, g2, g3⟩ := IxOk_shift (t := ⟨mt, md, mn⟩) h1 h2 h3
    exact ⟨XOk_plain hl g1, XOk_plain hl g2, XOk_plain hl g3⟩

theorem shift_simL (hsim : SimL p ix a x) (hwf : WF p.rels.length dynR a)
    (hkeys : ∀ r, isLatRel p r = true → ((rowsOf a r).map keyOf).Nodup) :
    SimL p ix (Engine.shift a) (shift x) := by
  refine ⟨hsim.len, hsim.rows, hsim.changed, ?_, ?_, hsim.typed⟩
  · show Rel2 _ (a.dyn.map _) (x.dyn.map _)
    refine Rel2.map (S := XDynOk p ix _) _ _ (fun _ _ h => h) (hsim.dyn.imp_mem ?_)
    intro d hdm pd hd
    refine ⟨hd.rel, ?_⟩
    have tri := hd.tri
    obtain ⟨bT, bD, _⟩ := WF.bag_lt hwf (hwf.uniq d hdm)
    have hu : isLatRel p d.rel = true → ∀ cols, cols = keyCols p d.rel →
        ∀ i ∈ d.total, ∀ j ∈ d.delta,
          Plan.proj cols (rowAt (rowsOf a d.rel) i) = Plan.proj cols (rowAt (rowsOf a d.rel) j) → i = j := by
      intro hl cols hc i hi j hj hp
      rw [hc] at hp
      exact idx_of_proj_keyCols (hsim.typed d.rel) (hkeys d.rel hl) (bT i hi) (bD j hj) hp
    refine XTriOk.of_map (fun ci => shiftX ci.2) tri.cols ?_ ?_ ?_
      fun c hc => XOk_shift (tri.it c hc) (tri.id c hc) (tri.inw c hc) (fun hl => hu hl c.1)
    · intro hl; exact (FullOk_shift (tri.ft hl) (tri.fd hl) (tri.fn hl)).1
    · intro hl; exact (FullOk_shift (tri.ft hl) (tri.fd hl) (tri.fn hl)).2.1
    · intro hl; exact (FullOk_shift (tri.ft hl) (tri.fd hl) (tri.fn hl)).2.2
  · intro r hr hnd
    rw [findDyn_shift, Option.map_eq_none_iff] at hnd
    exact hsim.nd r hr hnd

theorem reset_simL (hsim : SimL p ix a x) :
    SimL p ix { a with changed := false } { x with changed := false } :=
  ⟨hsim.len, hsim.rows, rfl, hsim.dyn, hsim.nd, hsim.typed⟩

theorem XOk_emptyLike {x : XIx} (h : XOk p r rows bag cols x) : XOk p r rows [] cols (emptyLike x) := by
  refine ⟨fun hl hc => LOk_emptyLike (h.1 hl hc) rows, fun hl => ?_⟩
  obtain ⟨m, rfl, _⟩ := POk_vals (h.2 hl)
  exact IxOk_nil _ _

theorem enter_simL {st : St} {xst : XSt} (hs : SimStL p ix st xst)
    (dyn : List RelId) (hlt : ∀ r ∈ dyn, r < st.length) :
    SimL p ix (Engine.enterScc st dyn) (enterScc xst dyn) := by
  have hxrel : ∀ r, (xrel (enterScc xst dyn).rels r).rows = (xrel xst r).rows :=
    getD_rangeMap_rows _ xst XRel.rows fun r => by split <;> rfl
  refine ⟨?_, ?_, rfl, ?_, ?_, ?_⟩
  · rw [enterScc_rels, hs.len]; simp [enterScc]
  · intro r; rw [enterScc_rels, hxrel]; exact hs.rows r
  · rw [enterScc_rels]
    show Rel2 _ (dyn.map _) (dyn.map _)
    apply Rel2.of_map
    intro r hr
    obtain ⟨hf, hc, hi⟩ := hs.ok r (hlt r hr)
    exact ⟨rfl, XTriOk.of_map (fun ci => ⟨emptyLike ci.2, ci.2, emptyLike ci.2⟩) hc (fun _ => FullOk_nil _) hf
      (fun _ => FullOk_nil _) fun c hc' => ⟨XOk_emptyLike (hi c hc'), hi c hc', XOk_emptyLike (hi c hc')⟩⟩
  · intro r hr hnd
    rw [enterScc_rels] at hr ⊢
    rw [findDyn_enter] at hnd
    have hc : dyn.contains r = false := by
      cases h : dyn.contains r with
      | false => rfl
      | true => rw [h] at hnd; simp at hnd
    have hrp : r < xst.length := by rw [← hs.len]; exact hr
    have : xrel (enterScc xst dyn).rels r = xrel xst r := by
      simp only [enterScc, xrel_rangeMap _ _ _ hrp, hc, Bool.false_eq_true, if_false]
    rw [this]; exact hs.ok r hr
  · intro r t ht
    rw [enterScc_rels] at ht; exact hs.typed r t ht

end

abbrev leaveUpdX (xr : XRel) (d : XDyn) : XRel :=
  { xr with full := d.full.total, idxs := d.idxs.map fun ci => (ci.1, ci.2.total) }

theorem leaveSccX_eq (s : XScc) : leaveScc s = s.dyn.foldl (leaveStepG ⟨[], [], []⟩ XDyn.rel leaveUpdX) s.rels := rfl

theorem leave_simL {p : Program E B G P A} {ix : IxSets} {a : SccSt} {x : XScc} (hsim : SimL p ix a x)
    (hdlt : ∀ d ∈ a.dyn, d.rel < a.rels.length) : SimStL p ix (Engine.leaveScc a) (leaveScc x) := by
  rw [leaveScc_eq, leaveSccX_eq]
  have hrows := fun r => leave_rows r a.dyn a.rels hdlt
  obtain ⟨hxlen, hxrows⟩ := leaveG_rows ⟨[], [], []⟩ XDyn.rel leaveUpdX XRel.rows (fun _ _ => rfl) x.dyn x.rels
    (fun pd hpd => by
      obtain ⟨d, hd, hok⟩ := hsim.dyn.forall_right pd hpd
      rw [hok.rel, ← hsim.len]; exact hdlt d hd)
  refine ⟨by rw [leave_length]; exact hsim.len.trans hxlen.symm, fun r => by rw [hrows]; exact (hsim.rows r).trans (hxrows r).symm,
    fun r hr => ?_, fun r t ht => ?_⟩
  · rw [leave_length] at hr
    rw [hrows]
    exact leaveG_fold (⟨[], [], []⟩ : XRel) XDyn.rel leaveUpdX
      (Q := fun r idx xr => XVerOk p ix r (relSt a.rels r).rows idx xr.full xr.idxs)
      hsim.dyn (fun d pd hok => ⟨hok.rel, fun _ => hok.tri.verT⟩) a.rels x.rels hsim.len hdlt r
      ((dyn_or_nd a r).imp_left (hsim.nd r hr))
  · rw [hrows] at ht
    exact hsim.typed r t ht

/-- the abstract program value with the rows of a physical one (`Engine.updateIndices` rebuilds its bags) -/
def absStX (s : XSt) : St := s.map fun pr => ⟨pr.rows, []⟩

theorem relSt_absStX (s : XSt) (r : RelId) : (relSt (absStX s) r).rows = (xrel s r).rows :=
  congrArg RelSt.rows (getD_map (⟨[], [], []⟩ : XRel) s r fun pr => (⟨pr.rows, []⟩ : RelSt))

theorem foldl_insert_vals (cols : List Nat) : ∀ (l : List (Nat × Tuple)) (m : PIx),
    l.foldl (fun x ir => XIx.insert x cols ir.2 ir.1) (.vals m) =
      .vals ((l.map (·.2)).foldl (fun m row => Idx.insert m (Plan.proj cols row) (projC cols row)) m) := by
  intro l
  induction l with
  | nil => exact fun _ => rfl
  | cons it tl ih =>
    intro m
    simp only [List.foldl_cons, List.map_cons, XIx.insert]
    exact ih _

theorem buildX_plain (p : Program E B G P A) (r : RelId) (hl : isLatRel p r = false) (cols : List Nat)
    (rows : List Tuple) : buildX p r cols rows = .vals (buildIx cols rows) := by
  unfold buildX buildIx buildIx.proj
  have he : XIx.empty (isLatRel p r) (cols == keyCols p r) = .vals [] := by simp [XIx.empty, hl]
  rw [he, foldl_insert_vals]
  rw [show ((List.range rows.length).zip rows).map (·.2) = rows from List.map_snd_zip (by simp)]

theorem updateIndices_simL (p : Program E B G P A) (ix : IxSets) (s : XSt)
    (htyped : ∀ r, ∀ t ∈ (xrel s r).rows, t.length = arityOf p r)
    (hkeys : ∀ r, isLatRel p r = true → (((xrel s r).rows).map keyOf).Nodup) :
    SimStL p ix (Engine.updateIndices (absStX s)) (updateIndices p ix s) := by
  have hxrel : ∀ r, r < s.length → xrel (updateIndices p ix s) r =
      { rows := (xrel s r).rows, full := if isLatRel p r then [] else buildFull (xrel s r).rows,
        idxs := (ixOf p ix r).map fun c => (c, buildX p r c (xrel s r).rows) } := by
    intro r hr
    simp only [updateIndices, xrel_rangeMap _ _ _ hr]
  refine ⟨by simp [Engine.updateIndices, updateIndices, absStX], ?_, ?_, ?_⟩
  · intro r
    rw [relSt_updateIndices, relSt_absStX]
    refine (getD_rangeMap_rows _ s XRel.rows ?_ r).symm
    exact fun _ => rfl
  · intro r hr
    have hr' : r < s.length := by simpa [Engine.updateIndices, absStX] using hr
    rw [relSt_updateIndices, relSt_absStX, hxrel r hr']
    refine ⟨?_, ?_, ?_⟩
    · intro hl
      simp only [hl, Bool.false_eq_true, if_false]
      exact FullOk_build _
    · simp only [List.map_map]
      show (ixOf p ix r).map (fun c => c) = ixOf p ix r
      simp
    · intro ci hci
      obtain ⟨c, _, rfl⟩ := List.mem_map.mp hci
      refine ⟨fun hl _ => ?_, fun hl => ?_⟩
      · apply LOk_build p r hl
        intro hc i j hi hj hp
        rw [hc] at hp
        exact idx_of_proj_keyCols (htyped r) (hkeys r hl) hi hj hp
      · show POk _ _ _ (buildX p r c (xrel s r).rows)
        rw [buildX_plain p r hl]
        exact IxOk_build _ _
  · intro r t ht
    rw [relSt_updateIndices, relSt_absStX] at ht
    exact htyped r t ht

end AscentVerif.PhysLat
