import AscentVerif.Proofs.PlanStep
/-!
The simple join in its original order, pair of rows by pair of rows.  `joinStep` iterates the first clause grouped by
key and looks the second clause up once per key: up to a permutation it is the double loop of `planPair` (the environment
the generated code reaches for a pair of rows, if any), as `evalBody` is the double loop of `semPair`.  Under `JoinCtx`
(what the compiler guarantees about the two clauses of a simple join) the two environments are look-up-equal (`pairN`):
both bind pairs of the row read as a valuation of the clause's variables (`zrow`), in different blocks and orders
(`blk`: the one block of `matchArgs` and of the look-up code; the join code binds the first clause's index columns from
the key, `kb`, before the others), and that is not observable (`get?_valuation`; `PlanSwap` uses it again).
-/
namespace AscentVerif.Plan
open AscentVerif AscentVerif.Engine AscentVerif.Hir

variable {E B G P A : Type}

/-- the bindings `bindArgs` makes, first argument first -/
def bl (skip : Nat → Var → Bool) : Nat → List (Arg E) → Tuple → Env
  | j, .var v :: as, x :: xs => if skip j v then bl skip (j + 1) as xs else (v, x) :: bl skip (j + 1) as xs
  | j, .expr _ :: as, _ :: xs => bl skip (j + 1) as xs
  | _, _, _ => []

theorem bindArgs_closed (skip : Nat → Var → Bool) (as : List (Arg E)) (xs : Tuple) (j : Nat) (acc : Env)
    (h : xs.length = as.length) : bindArgs skip j as xs acc = some ((bl skip j as xs).reverse ++ acc) := by
  induction as, xs using args_row_induction generalizing j acc with
  | nil => rfl
  | nil_cons | cons_nil => cases h
  | var v as x xs ih =>
    simp only [bindArgs, bl]
    rw [ih (j + 1) _ (Nat.succ.inj h)]
    cases skip j v with
    | true => rfl
    | false => simp only [Bool.false_eq_true, if_false, List.reverse_cons, List.append_assoc, List.singleton_append]
  | expr e as x xs ih => exact ih (j + 1) acc (Nat.succ.inj h)

/-- the block of bindings an ordinary clause puts in front of the environment: its variable arguments outside `g`, last
argument first -/
def blk (g : List Var) (args : List (Arg E)) (row : Tuple) : Env := (bl (fun _ v => g.contains v) 0 args row).reverse

theorem bindArgs_blk (g : List Var) (as : List (Arg E)) (xs : Tuple) (acc : Env) (h : xs.length = as.length) :
    bindArgs (fun _ v => g.contains v) 0 as xs acc = some (blk g as xs ++ acc) :=
  bindArgs_closed _ as xs 0 acc h

theorem mem_bl (skip : Nat → Var → Bool) (p : Var × Val) (as : List (Arg E)) (xs : Tuple) (j : Nat) :
    p ∈ bl skip j as xs ↔
      ∃ t v x, as[t]? = some (.var v) ∧ xs[t]? = some x ∧ skip (j + t) v = false ∧ p = (v, x) := by
  induction as, xs using args_row_induction generalizing j with
  | nil | nil_cons => simp only [bl, List.not_mem_nil, List.getElem?_nil, reduceCtorEq, false_and, exists_false]
  | cons_nil a => cases a <;> simp only [bl, List.not_mem_nil, List.getElem?_nil, reduceCtorEq, false_and, and_false, exists_false]
  | var w as y xs ih =>
    have ih := ih (j + 1)
    simp only [Nat.add_assoc, Nat.add_comm 1] at ih
    rw [exists_nat_succ]
    simp only [bl, List.getElem?_cons_zero, List.getElem?_cons_succ, Option.some.injEq, Arg.var.injEq, Nat.add_zero, ← ih]
    cases hs : skip j w with
    | true =>
      simp only [if_true, iff_or_self]
      rintro ⟨v, x, rfl, _, h, _⟩
      rw [hs] at h; cases h
    | false =>
      simp only [Bool.false_eq_true, if_false, List.mem_cons]
      constructor
      · rintro (rfl | h)
        · exact .inl ⟨w, y, rfl, rfl, hs, rfl⟩
        · exact .inr h
      · rintro (⟨v, x, rfl, rfl, _, rfl⟩ | h)
        · exact .inl rfl
        · exact .inr h
  | expr e as y xs ih =>
    have ih := ih (j + 1)
    simp only [Nat.add_assoc, Nat.add_comm 1] at ih
    rw [exists_nat_succ]
    simp only [bl, List.getElem?_cons_zero, List.getElem?_cons_succ, Option.some.injEq, reduceCtorEq, false_and,
      exists_false, false_or, ← ih]

/-- the bindings `bindKey` makes from the key of a row, first index column first -/
def kb (args : List (Arg E)) (row : Tuple) (cols : List Nat) : Env :=
  cols.filterMap fun j =>
    match args[j]? with
    | some (Arg.var v) => some (v, row.getD j Val.unit)
    | _ => none

theorem bindKey_closed (args : List (Arg E)) (row : Tuple) (cols : List Nat) (ρ : Env) :
    bindKey args cols (proj cols row) ρ = (kb args row cols).reverse ++ ρ := by
  induction cols generalizing ρ with
  | nil => rfl
  | cons j cols ih =>
    simp only [proj, List.map_cons, bindKey, kb, List.filterMap_cons]
    cases args[j]? with
    | none => exact ih ρ
    | some a =>
      cases a with
      | var v =>
        dsimp only
        rw [List.reverse_cons, List.append_assoc]
        exact ih _
      | expr e => exact ih ρ

theorem mem_kb (args : List (Arg E)) (row : Tuple) (cols : List Nat) (p : Var × Val) :
    p ∈ kb args row cols ↔ ∃ j v, j ∈ cols ∧ args[j]? = some (.var v) ∧ p = (v, row.getD j .unit) := by
  unfold kb
  rw [List.mem_filterMap]
  constructor
  · rintro ⟨j, hj, h⟩
    cases ha : args[j]? with
    | none => rw [ha] at h; cases h
    | some a =>
      rw [ha] at h
      cases a with
      | var v => exact ⟨j, v, hj, ha, (Option.some.inj h).symm⟩
      | expr e => cases h
  · rintro ⟨j, v, hj, ha, hp⟩
    exact ⟨j, hj, by rw [ha, hp]⟩

/-- what `clauseStep` and the two levels of `joinStep` do with one matching row -/
def rowStep (I : Interp E B G P A) (skip : Nat → Var → Bool) (args : List (Arg E)) (conds : List (Cond E B P)) (ρ : Env)
    (k : Env → List Env) (row : Tuple) : List Env :=
  match bindArgs skip 0 args row ρ with
  | none => []
  | some ρ₁ =>
    match satConds I conds ρ₁ with
    | none => []
    | some ρ₂ => k ρ₂

theorem clauseStep_rows (I : Interp E B G P A) (rows : List Tuple) (bag cols : List Nat) (pre : List Var)
    (args : List (Arg E)) (conds : List (Cond E B P)) (ρ : Env) (k : Env → List Env) :
    clauseStep I rows bag cols pre args conds ρ k =
      (idxGet rows bag cols (keyOf I ρ args cols)).flatMap fun i =>
        rowStep I (fun _ v => pre.contains v) args conds ρ k (rowAt rows i) := rfl

theorem optK_bind (k : Env → List Env) (o : Option Env) (f : Env → Option Env) :
    optK k (o.bind f) = optK (fun a => optK k (f a)) o := by cases o <;> rfl

theorem optK_flatMap {ι : Type} (k : Env → List Env) (o : Option Env) (l : List ι) (f : Env → ι → Option Env) :
    optK (fun ρ => l.flatMap fun i => optK k (f ρ i)) o = l.flatMap fun i => optK k (o.bind (f · i)) := by
  cases o with
  | none => exact (flatMap_nil_fun l).symm
  | some ρ => rfl

/-- the environment the simple-join code reaches for one row of the iterated clause `a` and one row of the looked-up
clause `b` -/
def planPair (I : Interp E B G P A) (colsA : List Nat) (argsA : List (Arg E)) (condsA : List (Cond E B P))
    (colsB : List Nat) (argsB : List (Arg E)) (condsB : List (Cond E B P)) (preB : List Var) (ρ : Env)
    (rowA rowB : Tuple) : Option Env :=
  if proj colsB rowB == keyOf I (bindKey argsA colsA (proj colsA rowA) ρ) argsB colsB then
    ((bindArgs (fun j _ => colsA.contains j) 0 argsA rowA (bindKey argsA colsA (proj colsA rowA) ρ)).bind
      (satConds I condsA)).bind fun ρ₂ => (bindArgs (fun _ v => preB.contains v) 0 argsB rowB ρ₂).bind (satConds I condsB)
  else none

/-- the environment `evalBody` reaches for one row of the first clause and one row of the second -/
def semPair (I : Interp E B G P A) (ρ : Env) (a1 : List (Arg E)) (c1 : List (Cond E B P)) (a2 : List (Arg E))
    (c2 : List (Cond E B P)) (row1 row2 : Tuple) : Option Env :=
  ((matchArgs I ρ a1 row1 ρ).bind (satConds I c1)).bind fun ρ₂ => (matchArgs I ρ₂ a2 row2 ρ₂).bind (satConds I c2)

theorem flatMap_if_nil {α β : Type} (l : List α) (p : α → Bool) :
    (l.flatMap fun a => if p a = true then ([] : List β) else []) = [] := by
  induction l with
  | nil => rfl
  | cons a l ih => simp

theorem semClause_eq (I : Interp E B G P A) (rows : List Tuple) (bag : List Nat) (args : List (Arg E))
    (conds : List (Cond E B P)) (ρ : Env) (k : Env → List Env) :
    semClause I rows bag args conds ρ k =
      bag.flatMap fun i => optK k ((matchArgs I ρ args (rowAt rows i) ρ).bind (satConds I conds)) := by
  simp only [optK_bind]; rfl

theorem rowStep_eq (I : Interp E B G P A) (skip : Nat → Var → Bool) (args : List (Arg E)) (conds : List (Cond E B P))
    (ρ : Env) (k : Env → List Env) (row : Tuple) :
    rowStep I skip args conds ρ k row = optK k ((bindArgs skip 0 args row ρ).bind (satConds I conds)) := by
  rw [optK_bind]; rfl

theorem joinStep_eq (I : Interp E B G P A) (rowsA : List Tuple) (bagA : List Nat) (colsA : List Nat)
    (argsA : List (Arg E)) (condsA : List (Cond E B P)) (rowsB : List Tuple) (bagB : List Nat) (colsB : List Nat)
    (argsB : List (Arg E)) (condsB : List (Cond E B P)) (preB : List Var) (ρ : Env) (k : Env → List Env) :
    joinStep I rowsA bagA colsA argsA condsA rowsB bagB colsB argsB condsB preB ρ k =
      (iterAll rowsA bagA colsA).flatMap fun kr => kr.2.flatMap fun ia =>
        rowStep I (fun j _ => colsA.contains j) argsA condsA (bindKey argsA colsA kr.1 ρ)
          (fun ρ₂ => (idxGet rowsB bagB colsB (keyOf I (bindKey argsA colsA kr.1 ρ) argsB colsB)).flatMap
            fun ib => rowStep I (fun _ v => preB.contains v) argsB condsB ρ₂ k (rowAt rowsB ib)) (rowAt rowsA ia) := rfl

theorem joinStep_perm (I : Interp E B G P A) (rowsA : List Tuple) (bagA : List Nat) (colsA : List Nat)
    (argsA : List (Arg E)) (condsA : List (Cond E B P)) (rowsB : List Tuple) (bagB : List Nat) (colsB : List Nat)
    (argsB : List (Arg E)) (condsB : List (Cond E B P)) (preB : List Var) (ρ : Env) (k : Env → List Env) :
    (joinStep I rowsA bagA colsA argsA condsA rowsB bagB colsB argsB condsB preB ρ k).Perm
      (bagA.flatMap fun ia => bagB.flatMap fun ib =>
        optK k (planPair I colsA argsA condsA colsB argsB condsB preB ρ (rowAt rowsA ia) (rowAt rowsB ib))) := by
  have hspec := (iterAll_spec_aux rowsA bagA colsA).2.1
  rw [joinStep_eq]
  refine (List.Perm.of_eq ?_).trans (iterAll_flatMap_perm rowsA bagA colsA _)
  refine flatMap_congr fun kr hkr => flatMap_congr fun ia hia => ?_
  -- every row of a group has the group's key; the look-up of `b` is a filter of its version
  simp only [rowStep_eq]
  rw [← ((hspec kr hkr).2.2 ia hia).2, optK_flatMap]
  unfold idxGet planPair
  rw [filter_flatMap_eq]
  refine flatMap_congr fun ib _ => ?_
  split <;> rfl

theorem semJoin_eq (I : Interp E B G P A) (rows1 : List Tuple) (bag1 : List Nat) (a1 : List (Arg E))
    (c1 : List (Cond E B P)) (rows2 : List Tuple) (bag2 : List Nat) (a2 : List (Arg E)) (c2 : List (Cond E B P))
    (ρ : Env) (k : Env → List Env) :
    semClause I rows1 bag1 a1 c1 ρ (fun ρ₂ => semClause I rows2 bag2 a2 c2 ρ₂ k) =
      bag1.flatMap fun i1 => bag2.flatMap fun i2 =>
        optK k (semPair I ρ a1 c1 a2 c2 (rowAt rows1 i1) (rowAt rows2 i2)) := by
  rw [semClause_eq]
  simp only [semClause_eq, optK_flatMap]
  rfl

/-- what the compiler guarantees about the two clauses of a simple join (`compile_join`).  `gk`, `gk1`: the variables grounded
before the first and before the second clause.  The arguments of the first clause are pairwise distinct new variables, and it
is indexed on those it shares with the second (`cols1`); the arguments of the second are variables that no condition of the
first binds, the new ones pairwise distinct, and it is indexed as an ordinary clause is (`cols2`, `pre2`). -/
structure JoinCtx (gk gk1 : List Var) (a1 : List (Arg E)) (c1 : List (Cond E B P)) (a2 : List (Arg E))
    (cols1 cols2 : List Nat) (pre2 : List Var) : Prop where
  a1vars : ∀ a ∈ a1, ∃ v, a = Arg.var v ∧ v ∉ gk
  nd1 : (freshVars gk a1).Nodup
  hcols1 : ∀ j, j ∈ cols1 ↔ ∃ v, a1[j]? = some (Arg.var v) ∧ v ∈ a2.filterMap argVar?
  a2vars : ∀ a ∈ a2, ∃ v, a = Arg.var v ∧ v ∉ c1.flatMap Cond.boundVars
  hgk1 : ∀ v, v ∈ gk1 ↔ v ∈ gk ∨ v ∈ a1.filterMap argVar? ∨ v ∈ c1.flatMap Cond.boundVars
  hcols2 : ∀ j, j ∈ cols2 ↔ ∃ a, a2[j]? = some a ∧ isIdx gk1 a = true
  nd2 : (freshVars gk1 a2).Nodup
  hpre2 : ∀ v, v ∈ pre2 ↔ v ∈ gk1

theorem getElem?_getD {row : Tuple} {j : Nat} (h : j < row.length) : row[j]? = some (row.getD j .unit) := by
  rw [List.getD_eq_getElem?_getD, List.getElem?_eq_getElem h]; rfl

theorem mem_keys {z : Env} {v : Var} {x : Val} (h : (v, x) ∈ z) : v ∈ keys z := List.mem_map.2 ⟨_, h, rfl⟩

theorem keys_sub {e z : Env} (h : e ⊆ z) : keys e ⊆ keys z := List.map_subset _ h

theorem keys_reverse (l : Env) (v : Var) : v ∈ keys l.reverse ↔ v ∈ keys l := by
  rw [keys, keys, List.map_reverse, List.mem_reverse]

theorem get?_app_none {a b : Env} {v : Var} (h : v ∉ keys a) : Env.get? (a ++ b) v = Env.get? b v := by
  rw [get?_append, (get?_eq_none_iff a v).2 h, Option.none_or]

def Functional (z : Env) : Prop := ∀ v x y, (v, x) ∈ z → (v, y) ∈ z → x = y

theorem Functional.of_nodup {z : Env} (hn : (keys z).Nodup) : Functional z := fun _ _ _ hx hy =>
  Option.some.inj ((get?_of_mem_nodup hn hx).symm.trans (get?_of_mem_nodup hn hy))

theorem Functional.get? {z : Env} (hz : Functional z) {v : Var} {x : Val} (h : (v, x) ∈ z) : Env.get? z v = some x := by
  obtain ⟨y, hy⟩ := get?_of_key (mem_keys h)
  rw [hy, hz v y x (get?_mem hy) h]

/-- Bindings taken from a functional valuation `z`, in whatever order and however often, give a variable they bind
the value `z` gives it. -/
theorem get?_of_sub {z e : Env} (hz : Functional z) (hsub : e ⊆ z) {v : Var} (hv : v ∈ keys e) (σ : Env) :
    Env.get? (e ++ σ) v = Env.get? z v := by
  obtain ⟨x, hx⟩ := get?_of_key hv
  rw [get?_append, hx, Option.some_or, hz.get? (hsub (get?_mem hx))]

/-- So, in front of any `σ`, they read like `z` itself at every variable that they bind if `z` does: two environments
built from blocks of `z` over the same `σ` agree wherever both cover `z`, whatever the order of the blocks. -/
theorem get?_valuation {z e : Env} (hz : Functional z) (hsub : e ⊆ z) (σ : Env) {v : Var}
    (hv : v ∈ keys z → v ∈ keys e) : Env.get? (e ++ σ) v = Env.get? (z ++ σ) v := by
  by_cases h : v ∈ keys e
  · rw [get?_of_sub hz hsub h, get?_of_sub hz (List.Subset.refl z) (keys_sub hsub h)]
  · rw [get?_app_none h, get?_app_none fun h' => h (hv h')]

theorem mem_vars_iff (as : List (Arg E)) (v : Var) :
    v ∈ as.filterMap argVar? ↔ ∃ t : Nat, as[t]? = some (Arg.var v) := by
  rw [List.mem_filterMap]
  constructor
  · rintro ⟨a, ha, hav⟩
    cases a with
    | var w =>
      simp only [argVar?, Option.some.injEq] at hav; subst hav
      obtain ⟨t, ht⟩ := List.mem_iff_getElem?.1 ha
      exact ⟨t, ht⟩
    | expr e => cases hav
  · rintro ⟨t, ht⟩
    exact ⟨_, List.mem_of_getElem? ht, rfl⟩

theorem mem_keys_bl (skip : Nat → Var → Bool) (as : List (Arg E)) (xs : Tuple) (hlen : xs.length = as.length) (v : Var) :
    v ∈ keys (bl skip 0 as xs) ↔ ∃ t : Nat, as[t]? = some (Arg.var v) ∧ skip t v = false := by
  constructor
  · intro hv
    obtain ⟨p, hp, rfl⟩ := List.mem_map.1 hv
    obtain ⟨t, v, x, h1, _, h3, rfl⟩ := (mem_bl skip p as xs 0).1 hp
    exact ⟨t, h1, by simpa using h3⟩
  · rintro ⟨t, h1, h3⟩
    have ht : t < xs.length := by rw [hlen]; exact (List.getElem?_eq_some_iff.1 h1).1
    exact mem_keys ((mem_bl skip _ as xs 0).2 ⟨t, v, _, h1, getElem?_getD ht, by simpa using h3, rfl⟩)

theorem mem_keys_blk (g : List Var) (as : List (Arg E)) (xs : Tuple) (h : xs.length = as.length) (v : Var) :
    v ∈ keys (blk g as xs) ↔ v ∈ as.filterMap argVar? ∧ v ∉ g := by
  rw [blk, keys_reverse, mem_keys_bl _ as xs h, mem_vars_iff]
  exact ⟨fun ⟨t, h1, h2⟩ => ⟨⟨t, h1⟩, fun hg => Bool.noConfusion ((List.contains_iff_mem.2 hg).symm.trans h2)⟩,
    fun ⟨⟨t, h1⟩, h2⟩ => ⟨t, h1, contains_false_of_not_mem h2⟩⟩

theorem mem_keys_kb {args : List (Arg E)} {cols : List Nat} {t : Nat} {v : Var} (row : Tuple)
    (ht : args[t]? = some (Arg.var v)) (hc : t ∈ cols) : v ∈ keys (kb args row cols).reverse :=
  (keys_reverse _ v).2 (mem_keys ((mem_kb args row cols _).2 ⟨t, v, hc, ht, rfl⟩))

/-- the index columns, bound from the key, and the other columns, bound from the row, together bind every variable of
the clause -/
theorem keys_split (as : List (Arg E)) (row : Tuple) (cols : List Nat) (hlen : row.length = as.length) {v : Var}
    (hv : v ∈ as.filterMap argVar?) :
    v ∈ keys ((bl (fun j _ => cols.contains j) 0 as row).reverse ++ (kb as row cols).reverse) := by
  obtain ⟨t, ht⟩ := (mem_vars_iff as v).1 hv
  rw [keys_append, List.mem_append, keys_reverse]
  by_cases hc : t ∈ cols
  · exact .inr (mem_keys_kb row ht hc)
  · exact .inl ((mem_keys_bl _ as row hlen v).2 ⟨t, ht, contains_false_of_not_mem hc⟩)

theorem forall_vars {as : List (Arg E)} {Q : Var → Prop} (h : ∀ a ∈ as, ∃ v, a = Arg.var v ∧ Q v) :
    ∀ v ∈ as.filterMap argVar?, Q v := by
  intro v hv
  obtain ⟨a, ha, hav⟩ := List.mem_filterMap.1 hv
  obtain ⟨v', rfl, hq⟩ := h a ha
  cases hav
  exact hq

theorem freshVars_allNew {g : List Var} {as : List (Arg E)} (hvars : ∀ a ∈ as, ∃ v, a = Arg.var v ∧ v ∉ g) :
    freshVars g as = as.filterMap argVar? :=
  List.filter_eq_self.2 fun v hv => by rw [contains_false_of_not_mem (forall_vars hvars v hv)]; rfl

def zrow (args : List (Arg E)) (row : Tuple) : Env := bl (fun _ _ => false) 0 args row

theorem mem_zrow (args : List (Arg E)) (row : Tuple) (v : Var) (x : Val) :
    (v, x) ∈ zrow args row ↔ ∃ t : Nat, args[t]? = some (Arg.var v) ∧ row[t]? = some x := by
  unfold zrow
  rw [mem_bl]
  constructor
  · rintro ⟨t, v', x', h1, h2, _, h4⟩; cases h4; exact ⟨t, h1, h2⟩
  · rintro ⟨t, h1, h2⟩; exact ⟨t, v, x, h1, h2, rfl, rfl⟩

theorem bl_sub_zrow (skip : Nat → Var → Bool) (args : List (Arg E)) (row : Tuple) :
    (bl skip 0 args row).reverse ⊆ zrow args row := by
  intro p h
  obtain ⟨t, v, x, h1, h2, _, rfl⟩ := (mem_bl skip p args row 0).1 (List.mem_reverse.1 h)
  exact (mem_zrow args row v x).2 ⟨t, h1, h2⟩

theorem blk_sub_zrow (g : List Var) (args : List (Arg E)) (row : Tuple) : blk g args row ⊆ zrow args row :=
  bl_sub_zrow _ args row

theorem kb_sub_zrow (args : List (Arg E)) (row : Tuple) (cols : List Nat) (hlen : row.length = args.length) :
    (kb args row cols).reverse ⊆ zrow args row := by
  intro p h
  obtain ⟨j, v, _, h2, rfl⟩ := (mem_kb args row cols p).1 (List.mem_reverse.1 h)
  have hj : j < row.length := by rw [hlen]; exact (List.getElem?_eq_some_iff.1 h2).1
  exact (mem_zrow args row v _).2 ⟨j, h2, getElem?_getD hj⟩

theorem keys_zrow (args : List (Arg E)) (row : Tuple) (hlen : row.length = args.length) :
    keys (zrow args row) = args.filterMap argVar? := by
  unfold zrow
  generalize 0 = j
  induction args, row using args_row_induction generalizing j with
  | nil => rfl
  | nil_cons | cons_nil => cases hlen
  | var v as x xs ih => exact congrArg (v :: ·) (ih (Nat.succ.inj hlen) (j + 1))
  | expr e as x xs ih => exact ih (Nat.succ.inj hlen) (j + 1)

theorem zrow_functional {args : List (Arg E)} {row : Tuple} (hlen : row.length = args.length)
    (hn : (args.filterMap argVar?).Nodup) : Functional (zrow args row) :=
  .of_nodup (by rw [keys_zrow args row hlen]; exact hn)

theorem zrow_total (args : List (Arg E)) (row : Tuple) (hlen : row.length = args.length) (v : Var)
    (hv : v ∈ args.filterMap argVar?) : ∃ x, (v, x) ∈ zrow args row := by
  rw [← keys_zrow args row hlen] at hv
  obtain ⟨p, hp, rfl⟩ := List.mem_map.1 hv
  exact ⟨p.2, hp⟩

theorem matchArgs_blk (I : Interp E B G P A) (ρ : Env) (g : List Var) (hdom : DomEq ρ g) (as : List (Arg E))
    (hvars : ∀ a ∈ as, ∃ v, a = Arg.var v ∧ v ∉ g) (hnd : (freshVars g as).Nodup) (xs : Tuple)
    (hlen : xs.length = as.length) : matchArgs I ρ as xs ρ = some (blk g as xs ++ ρ) := by
  have h := clause_row_eq I ρ g g hdom (fun _ => Iff.rfl) as [] (by
    intro j
    constructor
    · intro h; cases h
    · rintro ⟨a, ha, hi⟩
      obtain ⟨v, rfl, hv⟩ := hvars a (List.mem_of_getElem? ha)
      simp only [isIdx] at hi
      exact absurd (List.contains_iff_mem.1 hi) hv) hnd xs
  rw [← h, ← bindArgs_blk g as xs ρ hlen]
  rfl

section
variable {gk gk1 : List Var} {a1 : List (Arg E)} {c1 : List (Cond E B P)} {a2 : List (Arg E)}
  {cols1 cols2 : List Nat} {pre2 : List Var}

theorem JoinCtx.new (ctx : JoinCtx gk gk1 a1 c1 a2 cols1 cols2 pre2) {v : Var} (hv : v ∈ a1.filterMap argVar?) : v ∉ gk :=
  forall_vars ctx.a1vars v hv

theorem JoinCtx.a2_notc1 (ctx : JoinCtx gk gk1 a1 c1 a2 cols1 cols2 pre2) {v : Var} (hv : v ∈ a2.filterMap argVar?) :
    v ∉ c1.flatMap Cond.boundVars :=
  forall_vars ctx.a2vars v hv

/-- a variable of the second clause that is grounded before it, but not before the join, is a variable of the first -/
theorem JoinCtx.grounded (ctx : JoinCtx gk gk1 a1 c1 a2 cols1 cols2 pre2) {v : Var} (hn : v ∉ gk)
    (hv : v ∈ a2.filterMap argVar?) (hg : v ∈ gk1) : v ∈ a1.filterMap argVar? := by
  rcases (ctx.hgk1 v).1 hg with h | h | h
  · exact absurd h hn
  · exact h
  · exact absurd h (ctx.a2_notc1 hv)

theorem JoinCtx.nodup1 (ctx : JoinCtx gk gk1 a1 c1 a2 cols1 cols2 pre2) : (a1.filterMap argVar?).Nodup := by
  rw [← freshVars_allNew ctx.a1vars]; exact ctx.nd1

theorem JoinCtx.functional (ctx : JoinCtx gk gk1 a1 c1 a2 cols1 cols2 pre2) {row1 : Tuple}
    (hl : row1.length = a1.length) : Functional (zrow a1 row1) :=
  zrow_functional hl ctx.nodup1

theorem JoinCtx.cols2_iff (ctx : JoinCtx gk gk1 a1 c1 a2 cols1 cols2 pre2) (j : Nat) :
    j ∈ cols2 ↔ ∃ v, a2[j]? = some (Arg.var v) ∧ v ∈ gk1 := by
  rw [ctx.hcols2 j]
  constructor
  · rintro ⟨a, ha, hi⟩
    obtain ⟨v, rfl, _⟩ := ctx.a2vars a (List.mem_of_getElem? ha)
    exact ⟨v, ha, List.contains_iff_mem.1 hi⟩
  · rintro ⟨v, ha, hg⟩
    exact ⟨_, ha, List.contains_iff_mem.2 hg⟩

/-- The first clause binds the same pairs either way: `matchArgs` in one block (every argument is a new variable), the
plan in two, the non-index columns from the row over the index columns from the key; both read like the row's
valuation.  So does the key alone on a variable of the second clause, so the second look-up's key can be built before
the row of the first clause is read. -/
theorem first_clause (ctx : JoinCtx gk gk1 a1 c1 a2 cols1 cols2 pre2) (row1 : Tuple)
    (hlen : row1.length = a1.length) (ρ : Env) (v : Var) :
    Env.get? (blk gk a1 row1 ++ ρ) v = Env.get? (zrow a1 row1 ++ ρ) v ∧
    Env.get? ((bl (fun j _ => cols1.contains j) 0 a1 row1).reverse ++ ((kb a1 row1 cols1).reverse ++ ρ)) v =
      Env.get? (zrow a1 row1 ++ ρ) v ∧
    (v ∈ a2.filterMap argVar? → Env.get? ((kb a1 row1 cols1).reverse ++ ρ) v = Env.get? (zrow a1 row1 ++ ρ) v) := by
  have hfn := ctx.functional hlen
  refine ⟨get?_valuation hfn (blk_sub_zrow gk a1 row1) ρ fun h => ?_, ?_,
    fun h2 => get?_valuation hfn (kb_sub_zrow a1 row1 cols1 hlen) ρ fun h => ?_⟩
  · rw [keys_zrow a1 row1 hlen] at h
    exact (mem_keys_blk gk a1 row1 hlen v).2 ⟨h, ctx.new h⟩
  · rw [← List.append_assoc]
    refine get?_valuation hfn (List.append_subset.2 ⟨bl_sub_zrow _ a1 row1, kb_sub_zrow a1 row1 cols1 hlen⟩) ρ fun h => ?_
    rw [keys_zrow a1 row1 hlen] at h
    exact keys_split a1 row1 cols1 hlen h
  · rw [keys_zrow a1 row1 hlen] at h
    obtain ⟨t, ht⟩ := (mem_vars_iff a1 v).1 h
    exact mem_keys_kb row1 ht ((ctx.hcols1 t).2 ⟨v, ht, h2⟩)

theorem ite_bind_none {α β : Type} (c : Prop) [Decidable c] (o : Option α) (f : α → Option β) :
    (if c then o.bind f else none) = o.bind fun a => if c then f a else none := by
  split
  · rfl
  · cases o <;> rfl

/-- the key comparison of the look-up can be made after the iterated clause's conditions (they are pure) -/
theorem planPair_inner (I : Interp E B G P A) (colsA : List Nat) (argsA : List (Arg E)) (condsA : List (Cond E B P))
    (colsB : List Nat) (argsB : List (Arg E)) (condsB : List (Cond E B P)) (preB : List Var) (ρ : Env)
    (rowA rowB : Tuple) :
    planPair I colsA argsA condsA colsB argsB condsB preB ρ rowA rowB =
      ((bindArgs (fun j _ => colsA.contains j) 0 argsA rowA (bindKey argsA colsA (proj colsA rowA) ρ)).bind
        (satConds I condsA)).bind fun ρ₂ =>
          if proj colsB rowB == keyOf I (bindKey argsA colsA (proj colsA rowA) ρ) argsB colsB then
            (bindArgs (fun _ v => preB.contains v) 0 argsB rowB ρ₂).bind (satConds I condsB)
          else none :=
  ite_bind_none ..

/-- the original order: on every pair of rows the join code and the filter semantics reach look-up-equal environments, or
neither reaches one -/
theorem pairN (I : Interp E B G P A) (hI : ExtC I) (ctx : JoinCtx gk gk1 a1 c1 a2 cols1 cols2 pre2) (c2 : List (Cond E B P))
    (ρ : Env) (hdom : DomEq ρ gk) (row1 row2 : Tuple) :
    OptEnvEq (planPair I cols1 a1 c1 cols2 a2 c2 pre2 ρ row1 row2) (semPair I ρ a1 c1 a2 c2 row1 row2) := by
  rw [planPair_inner]
  unfold semPair
  by_cases hlen : row1.length = a1.length
  case neg =>
    rw [bindArgs_none _ a1 row1 0 _ hlen, matchArgs_none I ρ a1 row1 ρ hlen]
    trivial
  have hm := matchArgs_blk I ρ gk hdom a1 ctx.a1vars ctx.nd1 row1 hlen
  have hfc := first_clause ctx row1 hlen ρ
  rw [hm, bindArgs_closed _ a1 row1 0 _ hlen, bindKey_closed]
  generalize blk gk a1 row1 = S1 at hm hfc
  generalize (bl (fun j _ => cols1.contains j) 0 a1 row1).reverse = N1 at hfc
  generalize (kb a1 row1 cols1).reverse = Kb at hfc
  have heq1 : EnvEq (N1 ++ (Kb ++ ρ)) (S1 ++ ρ) := fun v => (hfc v).2.1.trans (hfc v).1.symm
  simp only [Option.bind_some]
  apply (satConds_envEq I hI c1 heq1).bind
  intro ρ₂p ρ₂s h2p h2s heq2
  have hdom2 : DomEq ρ₂s gk1 := domEq_clause I hdom ctx.hgk1 hm h2s
  -- the key of the second clause does not depend on where it is evaluated
  have hkey : keyOf I (Kb ++ ρ) a2 cols2 = keyOf I ρ₂s a2 cols2 := by
    unfold keyOf
    rw [List.map_inj_left]
    intro j hj
    obtain ⟨a, ha, _⟩ := (ctx.hcols2 j).1 hj
    rw [ha]
    obtain ⟨v, rfl, hvc⟩ := ctx.a2vars a (List.mem_of_getElem? ha)
    have hv2 : v ∈ a2.filterMap argVar? := List.mem_filterMap.2 ⟨_, List.mem_of_getElem? ha, rfl⟩
    simp only [argVal]
    congr 1
    obtain ⟨C, hC, hCk⟩ := satConds_form I c1 _ ρ₂s h2s
    have hvC : v ∉ keys C := fun h => hvc ((hCk v).1 h)
    rw [hC, get?_app_none hvC]
    exact ((hfc v).2.2 hv2).trans (hfc v).1.symm
  rw [hkey, ← clause_row_eq I ρ₂s gk1 pre2 hdom2 ctx.hpre2 a2 cols2 ctx.hcols2 ctx.nd2 row2]
  split
  · exact (bindArgs_envEq _ a2 row2 0 _ _ heq2).bind fun a b _ _ hab => satConds_envEq I hI c2 hab
  · trivial

theorem semPair_dom (I : Interp E B G P A) (ρ : Env) (hdom : DomEq ρ gk) (c2 : List (Cond E B P)) (gk2 : List Var)
    (hgk1 : ∀ v, v ∈ gk1 ↔ v ∈ gk ∨ v ∈ a1.filterMap argVar? ∨ v ∈ c1.flatMap Cond.boundVars)
    (hgk2 : ∀ v, v ∈ gk2 ↔ v ∈ gk1 ∨ v ∈ a2.filterMap argVar? ∨ v ∈ c2.flatMap Cond.boundVars)
    (row1 row2 : Tuple) (ρ₄ : Env) (h : semPair I ρ a1 c1 a2 c2 row1 row2 = some ρ₄) : DomEq ρ₄ gk2 := by
  obtain ⟨ρ₂, h12, h34⟩ := Option.bind_eq_some_iff.1 h
  obtain ⟨ρ₁, h1, h2⟩ := Option.bind_eq_some_iff.1 h12
  obtain ⟨ρ₃, h3, h4⟩ := Option.bind_eq_some_iff.1 h34
  exact domEq_clause I (domEq_clause I hdom hgk1 h1 h2) hgk2 h3 h4

end

end AscentVerif.Plan
