import AscentVerif.Proofs.TrRelCollapseQueries
import AscentVerif.Proofs.ListBasics
/-!
# `count_exact` under the invariant

`count_exact` never panics on a state satisfying `Inv t ps` and returns the length of a
duplicate-free list that enumerates exactly the pairs of `Closure ps` — i.e. the number of
closure pairs.
-/
namespace AscentVerif.TrRel

theorem forIn_yield {α β : Type} (L : List α) (b : β) (f : α → β → Res (ForInStep β)) (g : α → β → β)
    (h : ∀ a ∈ L, ∀ b, f a b = .ok (.yield (g a b))) : forIn L b f = .ok (L.foldl (fun b a => g a b) b) := by
  induction L generalizing b with
  | nil => rfl
  | cons a rest ih =>
    rw [List.forIn_cons, h a (List.mem_cons_self ..) b]
    simp only [Res.bind_ok, List.foldl_cons]
    exact ih _ fun a' ha' b' => h a' (List.mem_cons_of_mem _ ha') b'

/-- the body of the outer loop of `count_exact`, as the `do` notation elaborates it -/
def countStep (t : TrRel) (s r : Nat) : Res (ForInStep Nat) := do
  let set ← unwrap t.sets[s]?
  let conns ← t.getSetConnections s
  match conns with
  | none => pure (ForInStep.yield (r + set.length * set.length))
  | some ss => do
    let r ← forIn ss (r + set.length * set.length) fun s2 r =>
      if (s == s2) = true then pure (ForInStep.yield r)
      else do
        let set2 ← unwrap t.sets[s2]?
        pure (ForInStep.yield (r + set.length * set2.length))
    pure (ForInStep.yield r)

theorem countExact_eq (t : TrRel) : t.countExact =
    ((List.range t.sets.length).mapM fun s => t.getDominantId s) >>= fun doms =>
      forIn doms.eraseDups 0 (countStep t) >>= fun r => pure r := rfl

theorem inner_fold (t : TrRel) (d : Nat) (c : List Nat) (r0 : Nat) :
    c.foldl (fun r s2 => if d = s2 then r else r + (setAt t d).length * (setAt t s2).length) r0 =
      r0 + (setAt t d).length * ((c.filter (· != d)).map (setAt t)).flatten.length := by
  induction c generalizing r0 with
  | nil => simp
  | cons s2 rest ih =>
    simp only [List.foldl_cons, ih]
    by_cases h : d = s2
    · subst h
      simp
    · have h' : (s2 != d) = true := by simp [Ne.symm h]
      simp only [if_neg h, List.filter_cons, h', if_true, List.map_cons, List.flatten_cons, List.length_append]
      rw [Nat.mul_add]; omega

/-- the pairs `count_exact` counts for the dominant id `d` -/
def pairsAt (t : TrRel) (d : Nat) : List (Int × Int) :=
  (setAt t d).flatMap fun x => (setList t t.conn d).map fun y => (x, y)

theorem length_setList (t : TrRel) (m : NMap) (d : Nat) :
    (setList t m d).length = ((((alGet m d).getD []).filter (· != d)).map (setAt t)).flatten.length + (setAt t d).length := by
  unfold setList
  simp [List.map_append, List.flatten_append]

theorem mem_pairsAt (t : TrRel) (d : Nat) (p : Int × Int) : p ∈ pairsAt t d ↔ Mem t d p.1 ∧ p.2 ∈ setList t t.conn d := by
  simp only [pairsAt, List.mem_flatMap, List.mem_map, mem_setAt]
  exact ⟨fun ⟨x, hx, y, hy, e⟩ => e ▸ ⟨hx, hy⟩, fun ⟨hx, hy⟩ => ⟨p.1, hx, p.2, hy, rfl⟩⟩

theorem Core.setList_conn {t : TrRel} {ps : List (Int × Int)} (C : Core t ps) {d : Nat} (hd : IsDom t d) :
    (setList t t.conn d).Nodup ∧ ∀ y, y ∈ setList t t.conn d ↔ (Mem t d y ∨ ∃ s, rel t.conn d s ∧ Mem t s y) :=
  (setOfBySetIdIn_eq C C.keysOk.1 (rt_of_none hd.2) hd fun s h => (C.conn_dom d s h).2).2

/-- the dominant ids, as `count_exact` computes them -/
def domList (t : TrRel) : List Nat := ((List.range t.sets.length).map fun i => (t.getDominantId i).getD 0).eraseDups

theorem mem_domList {t : TrRel} {ps : List (Int × Int)} (C : Core t ps) (d : Nat) : d ∈ domList t ↔ IsDom t d := by
  unfold domList
  rw [List.mem_eraseDups, List.mem_map]
  constructor
  · rintro ⟨i, hi, rfl⟩
    rw [List.mem_range] at hi
    obtain ⟨d', hd'⟩ := C.forest i
    have : t.getDominantId i = .ok d' := hd'
    rw [this]
    exact ⟨aux_lt (fun i p h => (C.subs_lt i p h).2) hi hd', aux_root_none hd'⟩
  · intro hd
    exact ⟨d, List.mem_range.mpr hd.1, by rw [getDominantId_dom hd]; rfl⟩

theorem countStep_dom {t : TrRel} {ps : List (Int × Int)} (C : Core t ps) {d : Nat} (hd : IsDom t d) (r : Nat) :
    countStep t d r = .ok (.yield (r + (pairsAt t d).length)) := by
  unfold countStep
  have hlen : (pairsAt t d).length = (setAt t d).length * (setAt t d).length +
      (setAt t d).length * ((((alGet t.conn d).getD []).filter (· != d)).map (setAt t)).flatten.length := by
    unfold pairsAt
    rw [length_flatMap_map, length_setList, Nat.mul_add]; omega
  rw [unwrap_sets_of_lt hd.1]
  simp only [Res.bind_ok]
  rw [C.getSetConnections_eq]
  cases hc : alGet t.conn d with
  | none =>
    simp only [Res.bind_ok, Res.pure_eq]
    rw [hlen, hc]; simp
  | some c =>
    have hdoms : ∀ s ∈ c, IsDom t s := fun s hs => (C.conn_dom d s ⟨c, hc, hs⟩).2
    simp only [Res.bind_ok]
    rw [forIn_yield c _ _ (fun s2 r => if d = s2 then r else r + (setAt t d).length * (setAt t s2).length)]
    · simp only [Res.bind_ok]
      rw [inner_fold, hlen, hc]
      simp only [Option.getD_some]
      congr 2; omega
    · intro s2 hs2 r'
      by_cases h : d = s2
      · simp [h]
      · have : (d == s2) = false := by simp [h]
        simp only [this, Bool.false_eq_true, if_false, if_neg h, unwrap_sets_of_lt (hdoms s2 hs2).1, Res.bind_ok, Res.pure_eq]

/-- C18 for `count_exact`: it never panics and returns the number of pairs of the reference closure -/
theorem countExact_spec {t : TrRel} {ps : List (Int × Int)} (I : Inv t ps) :
    ∃ L : List (Int × Int), L.Nodup ∧ (∀ p, p ∈ L ↔ Closure ps p.1 p.2) ∧ t.countExact = .ok L.length := by
  have C := I.core
  refine ⟨(domList t).flatMap (pairsAt t), ?_, ?_, ?_⟩
  · refine nodup_flatMap (nodup_eraseDups _) (fun d hd => ?_) fun a _ b _ hab p hp hq =>
      hab (C.disjoint a b p.1 ((mem_pairsAt t a p).mp hp).1 ((mem_pairsAt t b p).mp hq).1)
    have hd' := (mem_domList C d).mp hd
    refine nodup_flatMap (C.nodup_setAt d) (fun x _ => nodup_map_of_inj (fun _ _ e => (Prod.mk.inj e).2) (C.setList_conn hd').1)
      fun x _ y _ hxy p hp hq => ?_
    obtain ⟨_, _, rfl⟩ := List.mem_map.mp hp
    obtain ⟨_, _, e⟩ := List.mem_map.mp hq
    exact hxy (Prod.mk.inj e).1.symm
  · intro p
    rw [List.mem_flatMap]
    constructor
    · rintro ⟨d, hd, hp⟩
      obtain ⟨hx, hy⟩ := (mem_pairsAt t d p).mp hp
      exact (linked_iff_closure I p.1 p.2).mp ⟨d, hx, ((C.setList_conn ((mem_domList C d).mp hd)).2 p.2).mp hy⟩
    · intro hc
      obtain ⟨d, hx, h⟩ := (linked_iff_closure I p.1 p.2).mpr hc
      have hd' := C.mem_dom hx
      exact ⟨d, (mem_domList C d).mpr hd', (mem_pairsAt t d p).mpr ⟨hx, ((C.setList_conn hd').2 p.2).mpr h⟩⟩
  · rw [countExact_eq, mapM_ok_map (f := fun s => t.getDominantId s) 0 _ fun i _ => C.forest i]
    simp only [Res.bind_ok]
    change forIn (domList t) 0 (countStep t) >>= _ = _
    rw [forIn_yield _ 0 _ (fun d r => r + (pairsAt t d).length) fun d hd r => countStep_dom C ((mem_domList C d).mp hd) r]
    simp only [Res.bind_ok, Res.pure_eq, foldl_add_length, Nat.zero_add]

end AscentVerif.TrRel
