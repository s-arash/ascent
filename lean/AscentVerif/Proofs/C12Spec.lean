import AscentVerif.Spec.TrClosure
import AscentVerif.Model.StdInterp
import AscentVerif.Proofs.EnvSim
/-!
# Explicit-closure twins: what a program `others ++ C` derives when `C` are closure rules of a relation `t`

Shared by C10 (`eqrel`), C11 (`trrel`) and C12 (`trrel_uf`).  `others`, the rules of the program, may read and write `t`
freely.  `twin_lfp`: the least model of `others ++ C` is the least model of `C` alone over what the input and `others` insert,
so each property only has to say what its closure rules compute from an arbitrary input — `closure_generic` says it for
"reflexive on mentioned" + "transitive" (`ReflTrans`, C12).  Before that: the one-step consequences of a rule whose body is an
edge `t(.., x, y)` or a join `t(.., x, y), t(.., y, z)` over variables.  `copy_inserted` serves the example twin
`t(x, y) <-- e(x, y)` of each of the three properties.
-/
namespace AscentVerif.C12
open AscentVerif

variable {E B G P A : Type} {I : Interp E B G P A} {agg : RelId → List Tuple} {D : DB} {f : Fact}

theorem cons_append {l1 l2 : List (Rule E B G P A)} :
    Cons I (l1 ++ l2) agg D f ↔ Cons I l1 agg D f ∨ Cons I l2 agg D f := by
  simp only [Cons, List.mem_append, or_and_right, exists_or]

theorem cons_singleton {r : Rule E B G P A} :
    Cons I [r] agg D f ↔ ∃ ρ, Sat I D agg r.body [] ρ ∧ ∃ h ∈ r.heads, f = headFact I h ρ := by
  simp only [Cons, List.mem_singleton, exists_eq_left]

theorem cons_cons {r : Rule E B G P A} {rs : List (Rule E B G P A)} :
    Cons I (r :: rs) agg D f ↔ Cons I [r] agg D f ∨ Cons I rs agg D f :=
  cons_append (l1 := [r])

variable {ρ₀ ρ ρ₁ ρ' : Env} {tup : Tuple} {v : Var} {as : List (Arg E)}

theorem matchArgs_nil : matchArgs I ρ₀ [] tup ρ = some ρ₁ ↔ tup = [] ∧ ρ₁ = ρ := by
  cases tup with
  | nil => exact ⟨fun h => ⟨rfl, (Option.some.inj h).symm⟩, fun h => congrArg some h.2.symm⟩
  | cons _ _ => exact ⟨fun h => (nomatch h), fun h => (nomatch h.1)⟩

theorem matchArgs_fresh (h : ρ.get? v = none) :
    matchArgs I ρ₀ (.var v :: as) tup ρ = some ρ₁ ↔ ∃ x xs, tup = x :: xs ∧ matchArgs I ρ₀ as xs ((v, x) :: ρ) = some ρ₁ := by
  cases tup with
  | nil => simp [matchArgs]
  | cons a l =>
    simp only [matchArgs, h]
    exact ⟨fun hm => ⟨a, l, rfl, hm⟩, fun ⟨_, _, he, hm⟩ => by cases he; exact hm⟩

theorem matchArgs_bound {y : Val} (h : ρ.get? v = some y) :
    matchArgs I ρ₀ (.var v :: as) tup ρ = some ρ₁ ↔ ∃ xs, tup = y :: xs ∧ matchArgs I ρ₀ as xs ρ = some ρ₁ := by
  cases tup with
  | nil => simp [matchArgs]
  | cons a l =>
    simp only [matchArgs, h]
    constructor
    · intro hm
      split at hm
      · rename_i he
        exact ⟨l, by rw [he], hm⟩
      · cases hm
    · rintro ⟨_, he, hm⟩
      cases he
      rw [if_pos rfl]
      exact hm

theorem sat_clause_iff {r : RelId} {args : List (Arg E)} {rest : List (Item E B G P A)} :
    Sat I D agg (.clause r args [] :: rest) ρ ρ' ↔
      ∃ tup ρ₁, D ⟨r, tup⟩ ∧ matchArgs I ρ args tup ρ = some ρ₁ ∧ Sat I D agg rest ρ₁ ρ' := by
  constructor
  · intro h
    cases h with
    | clause tup hD hm hc hrest =>
      cases hc
      exact ⟨tup, _, hD, hm, hrest⟩
  · rintro ⟨tup, ρ₁, hD, hm, hrest⟩
    exact .clause tup hD hm rfl hrest

/-- `ρ` is arbitrary: in the ternary form it holds the binding of the key -/
theorem matchArgs_edge (h0 : ρ.get? 0 = none) (h1 : ρ.get? 1 = none) :
    matchArgs I ρ₀ [.var 0, .var 1] tup ρ = some ρ₁ ↔ ∃ a b, tup = [a, b] ∧ ρ₁ = (1, b) :: (0, a) :: ρ := by
  rw [matchArgs_fresh h0]
  constructor
  · rintro ⟨a, _, rfl, hm⟩
    obtain ⟨b, _, rfl, hm'⟩ := (matchArgs_fresh (ρ := (0, a) :: ρ) (v := 1) h1).mp hm
    obtain ⟨rfl, rfl⟩ := matchArgs_nil.mp hm'
    exact ⟨a, b, rfl, rfl⟩
  · rintro ⟨a, b, rfl, rfl⟩
    exact ⟨a, _, rfl, (matchArgs_fresh (ρ := (0, a) :: ρ) (v := 1) h1).mpr ⟨b, _, rfl, matchArgs_nil.mpr ⟨rfl, rfl⟩⟩⟩

theorem matchArgs_join {a b : Val} (h2 : ρ.get? 2 = none) :
    matchArgs I ρ₀ [.var 1, .var 2] tup ((1, b) :: (0, a) :: ρ) = some ρ₁ ↔
      ∃ c, tup = [b, c] ∧ ρ₁ = (2, c) :: (1, b) :: (0, a) :: ρ := by
  rw [matchArgs_bound (y := b) rfl]
  constructor
  · rintro ⟨_, rfl, hm⟩
    obtain ⟨c, _, rfl, hm'⟩ := (matchArgs_fresh (ρ := (1, b) :: (0, a) :: ρ) (v := 2) h2).mp hm
    obtain ⟨rfl, rfl⟩ := matchArgs_nil.mp hm'
    exact ⟨c, rfl, rfl⟩
  · rintro ⟨c, rfl, rfl⟩
    exact ⟨_, rfl, (matchArgs_fresh (ρ := (1, b) :: (0, a) :: ρ) (v := 2) h2).mpr ⟨c, _, rfl, matchArgs_nil.mpr ⟨rfl, rfl⟩⟩⟩

variable {t : RelId} {heads : List (HeadClause E)}

theorem cons_edge2 :
    Cons I [⟨heads, [.clause t [.var 0, .var 1] []]⟩] agg D f ↔
      ∃ a b, D ⟨t, [a, b]⟩ ∧ ∃ h ∈ heads, f = headFact I h [(1, b), (0, a)] := by
  simp only [cons_singleton, sat_clause_iff, Engine.sat_nil_iff, matchArgs_edge (ρ := []) rfl rfl]
  constructor
  · rintro ⟨_, ⟨_, _, hD, ⟨a, b, rfl, rfl⟩, rfl⟩, hh⟩
    exact ⟨a, b, hD, hh⟩
  · rintro ⟨a, b, hD, hh⟩
    exact ⟨_, ⟨_, _, hD, ⟨a, b, rfl, rfl⟩, rfl⟩, hh⟩

theorem cons_join2 :
    Cons I [⟨heads, [.clause t [.var 0, .var 1] [], .clause t [.var 1, .var 2] []]⟩] agg D f ↔
      ∃ a b c, D ⟨t, [a, b]⟩ ∧ D ⟨t, [b, c]⟩ ∧ ∃ h ∈ heads, f = headFact I h [(2, c), (1, b), (0, a)] := by
  simp only [cons_singleton, sat_clause_iff, Engine.sat_nil_iff, matchArgs_edge (ρ := []) rfl rfl]
  constructor
  · rintro ⟨_, ⟨_, _, h1, ⟨a, b, rfl, rfl⟩, _, _, h2, hm, rfl⟩, hh⟩
    obtain ⟨c, rfl, rfl⟩ := (matchArgs_join rfl).mp hm
    exact ⟨a, b, c, h1, h2, hh⟩
  · rintro ⟨a, b, c, h1, h2, hh⟩
    exact ⟨_, ⟨_, _, h1, ⟨a, b, rfl, rfl⟩, _, _, h2, (matchArgs_join rfl).mpr ⟨c, rfl, rfl⟩, rfl⟩, hh⟩

theorem cons_edge3 :
    Cons I [⟨heads, [.clause t [.var 9, .var 0, .var 1] []]⟩] agg D f ↔
      ∃ k a b, D ⟨t, [k, a, b]⟩ ∧ ∃ h ∈ heads, f = headFact I h [(1, b), (0, a), (9, k)] := by
  simp only [cons_singleton, sat_clause_iff, Engine.sat_nil_iff, matchArgs_fresh (ρ := []) (v := 9) rfl]
  constructor
  · rintro ⟨_, ⟨_, _, hD, ⟨k, _, rfl, hm⟩, rfl⟩, hh⟩
    obtain ⟨a, b, rfl, rfl⟩ := (matchArgs_edge rfl rfl).mp hm
    exact ⟨k, a, b, hD, hh⟩
  · rintro ⟨k, a, b, hD, hh⟩
    exact ⟨_, ⟨_, _, hD, ⟨k, _, rfl, (matchArgs_edge rfl rfl).mpr ⟨a, b, rfl, rfl⟩⟩, rfl⟩, hh⟩

theorem cons_join3 :
    Cons I [⟨heads, [.clause t [.var 9, .var 0, .var 1] [], .clause t [.var 9, .var 1, .var 2] []]⟩] agg D f ↔
      ∃ k a b c, D ⟨t, [k, a, b]⟩ ∧ D ⟨t, [k, b, c]⟩ ∧
        ∃ h ∈ heads, f = headFact I h [(2, c), (1, b), (0, a), (9, k)] := by
  simp only [cons_singleton, sat_clause_iff, Engine.sat_nil_iff, matchArgs_fresh (ρ := []) (v := 9) rfl]
  constructor
  · rintro ⟨_, ⟨_, _, h1, ⟨k, _, rfl, hm⟩, _, _, h2, hm2, rfl⟩, hh⟩
    obtain ⟨a, b, rfl, rfl⟩ := (matchArgs_edge rfl rfl).mp hm
    obtain ⟨_, rfl, hm3⟩ := (matchArgs_bound (y := k) rfl).mp hm2
    obtain ⟨c, rfl, rfl⟩ := (matchArgs_join rfl).mp hm3
    exact ⟨k, a, b, c, h1, h2, hh⟩
  · rintro ⟨k, a, b, c, h1, h2, hh⟩
    exact ⟨_, ⟨_, _, h1, ⟨k, _, rfl, (matchArgs_edge rfl rfl).mpr ⟨a, b, rfl, rfl⟩⟩, _, _, h2,
      (matchArgs_bound (y := k) rfl).mpr ⟨_, rfl, (matchArgs_join rfl).mpr ⟨c, rfl, rfl⟩⟩, rfl⟩, hh⟩

/-- the explicit-closure twin is the closure program `C` run on what the input and `others` insert: the steps of `others`
(over the least model of the whole twin) count as input of `C` -/
theorem twin_lfp {others C : List (Rule E B G P A)} {inp : DB} :
    Derivable I (others ++ C) agg inp f ↔
      Derivable I C agg (fun g => inp g ∨ Cons I others agg (Derivable I (others ++ C) agg inp) g) f := by
  constructor
  · intro hf
    -- the facts of the twin's least model that `C` derives are closed; the first half is kept so that a step of `others`
    -- is a step over the least model itself
    refine (hf (fun f => Derivable I (others ++ C) agg inp f ∧ Derivable I C agg _ f) ⟨fun f hf => ?_, fun f hc => ?_⟩).2
    · exact ⟨derivable_input hf, derivable_input (.inl hf)⟩
    · refine ⟨derivable_cons (Engine.Cons.mono (fun _ h => h.1) hc), ?_⟩
      rcases cons_append.mp hc with ho | hc
      · exact derivable_input (.inr (Engine.Cons.mono (fun _ h => h.1) ho))
      · exact derivable_cons (Engine.Cons.mono (fun _ h => h.2) hc)
  · intro hf
    refine hf _ ⟨fun f hf => ?_, fun f hc => derivable_cons (cons_append.mpr (.inr hc))⟩
    exact hf.elim derivable_input fun hc => derivable_cons (cons_append.mpr (.inl hc))

theorem cons_rel {rules : List (Rule E B G P A)} (h : Cons I rules agg D f) : ∃ r ∈ rules, f.rel ∈ r.headRels := by
  obtain ⟨r, hr, ρ, _, hd, hh, rfl⟩ := h
  exact ⟨r, hr, List.mem_map_of_mem hh⟩

theorem input_only {rules : List (Rule E B G P A)} {inp : DB} {q : RelId} (hq : ∀ r ∈ rules, q ∉ r.headRels) {tup : Tuple}
    (h : Derivable I rules agg inp ⟨q, tup⟩) : inp ⟨q, tup⟩ := by
  refine h (fun g => g.rel = q → inp g) ⟨fun _ hg _ => hg, fun g hc he => ?_⟩ rfl
  obtain ⟨r, hr, hg⟩ := cons_rel hc
  exact absurd (he ▸ hg) (hq r hr)

theorem twin_other_rel {others C : List (Rule E B G P A)} {inp : DB} (hC : ∀ r ∈ C, f.rel ∉ r.headRels) :
    Derivable I (others ++ C) agg inp f ↔ (inp f ∨ Cons I others agg (Derivable I (others ++ C) agg inp) f) :=
  twin_lfp.trans ⟨input_only (tup := f.args) hC, fun h => derivable_input h⟩

theorem reflTrans_ends {α : Type} {R : α → α → Prop} {x y : α} (h : ReflTrans R x y) :
    ReflTrans R x x ∧ ReflTrans R y y := by
  induction h with
  | base h => exact ⟨.reflL h, .reflR h⟩
  | reflL h => exact ⟨.reflL h, .reflL h⟩
  | reflR h => exact ⟨.reflR h, .reflR h⟩
  | trans _ _ ih1 ih2 => exact ⟨ih1.1, ih2.2⟩

/-- `hC`: the one-step consequences of `C` are exactly "reflexive on mentioned" + "transitive" on the facts `mk k · ·`
(`k` the key columns, if any) -/
theorem closure_generic {K : Type} (C : List (Rule E B G P A)) (J : DB) (mk : K → Val → Val → Fact)
    (hinj : ∀ {k x y k' x' y'}, mk k x y = mk k' x' y' → k = k' ∧ x = x' ∧ y = y')
    (hC : ∀ {D : DB} {f : Fact}, Cons I C agg D f ↔
        ((∃ k x y, D (mk k x y) ∧ (f = mk k x x ∨ f = mk k y y)) ∨
         (∃ k x y z, D (mk k x y) ∧ D (mk k y z) ∧ f = mk k x z)))
    (k : K) (x y : Val) :
    Derivable I C agg J (mk k x y) ↔ ReflTrans (fun a b => J (mk k a b)) x y := by
  constructor
  · intro h
    refine h (fun f => ∀ k a b, f = mk k a b → ReflTrans (fun a b => J (mk k a b)) a b) ⟨?_, ?_⟩ k x y rfl
    · rintro _ hf k a b rfl
      exact .base hf
    · rintro _ hc k a b rfl
      rcases hC.mp hc with ⟨k', u, v, hu, he | he⟩ | ⟨k', u, v, w, hu, hv, he⟩
      · obtain ⟨rfl, rfl, rfl⟩ := hinj he
        exact (reflTrans_ends (hu _ _ _ rfl)).1
      · obtain ⟨rfl, rfl, rfl⟩ := hinj he
        exact (reflTrans_ends (hu _ _ _ rfl)).2
      · obtain ⟨rfl, rfl, rfl⟩ := hinj he
        exact .trans (hu _ _ _ rfl) (hv _ _ _ rfl)
  · intro h
    induction h with
    | base hab => exact derivable_input hab
    | reflL hab => exact derivable_cons (hC.mpr (.inl ⟨k, _, _, derivable_input hab, .inl rfl⟩))
    | reflR hab => exact derivable_cons (hC.mpr (.inl ⟨k, _, _, derivable_input hab, .inr rfl⟩))
    | trans _ _ ih1 ih2 => exact derivable_cons (hC.mpr (.inr ⟨k, _, _, _, ih1, ih2, rfl⟩))

variable {varE : Var → E}

theorem headFact_vars2 (hv : VarExpr I varE) (s : RelId) (u w : Var) (ρ : Env) :
    headFact I ⟨s, [varE u, varE w]⟩ ρ = ⟨s, [(ρ.get? u).getD .unit, (ρ.get? w).getD .unit]⟩ := by
  simp only [headFact, List.map, hv _ _]

theorem headFact_vars3 (hv : VarExpr I varE) (s : RelId) (k u w : Var) (ρ : Env) :
    headFact I ⟨s, [varE k, varE u, varE w]⟩ ρ =
      ⟨s, [(ρ.get? k).getD .unit, (ρ.get? u).getD .unit, (ρ.get? w).getD .unit]⟩ := by
  simp only [headFact, List.map, hv _ _]

theorem cons_closure2 (hv : VarExpr I varE) :
    Cons I (closureRules2 varE t) agg D f ↔
      ((∃ x y, D ⟨t, [x, y]⟩ ∧ (f = ⟨t, [x, x]⟩ ∨ f = ⟨t, [y, y]⟩)) ∨
       (∃ x y z, D ⟨t, [x, y]⟩ ∧ D ⟨t, [y, z]⟩ ∧ f = ⟨t, [x, z]⟩)) := by
  rw [closureRules2, cons_cons, cons_edge2, cons_join2]
  simp only [List.mem_cons, List.not_mem_nil, or_false, exists_eq_or_imp, exists_eq_left, headFact_vars2 hv]
  -- what is left is the look-up of the variables in the environments
  exact Iff.rfl

theorem cons_closure3 (hv : VarExpr I varE) :
    Cons I (closureRules3 varE t) agg D f ↔
      ((∃ k x y, D ⟨t, [k, x, y]⟩ ∧ (f = ⟨t, [k, x, x]⟩ ∨ f = ⟨t, [k, y, y]⟩)) ∨
       (∃ k x y z, D ⟨t, [k, x, y]⟩ ∧ D ⟨t, [k, y, z]⟩ ∧ f = ⟨t, [k, x, z]⟩)) := by
  rw [closureRules3, cons_cons, cons_edge3, cons_join3]
  simp only [List.mem_cons, List.not_mem_nil, or_false, exists_eq_or_imp, exists_eq_left, headFact_vars3 hv]
  exact Iff.rfl

/-- the copy rule `t(x, y) <-- s(x, y)` -/
theorem cons_copy (hv : VarExpr I varE) {s : RelId} :
    Cons I [⟨[⟨t, [varE 0, varE 1]⟩], [.clause s [.var 0, .var 1] []]⟩] agg D f ↔ ∃ a b, D ⟨s, [a, b]⟩ ∧ f = ⟨t, [a, b]⟩ := by
  rw [cons_edge2]
  simp only [List.mem_singleton, exists_eq_left, headFact_vars2 hv]
  exact Iff.rfl

/-- the example twins: the only other rule is the copy rule, the closure rules do not write `s`, the input holds `s` only;
then what is inserted into `t` is the input -/
theorem copy_inserted (hv : VarExpr I varE) {s : RelId} {C : List (Rule E B G P A)} {inp : DB}
    (hC : ∀ r ∈ C, s ∉ r.headRels) (hst : s ≠ t) (hinp : ∀ g, inp g → g.rel = s) (a b : Val) :
    (inp ⟨t, [a, b]⟩ ∨ Cons I [⟨[⟨t, [varE 0, varE 1]⟩], [.clause s [.var 0, .var 1] []]⟩] agg
      (Derivable I ([⟨[⟨t, [varE 0, varE 1]⟩], [.clause s [.var 0, .var 1] []]⟩] ++ C) agg inp) ⟨t, [a, b]⟩) ↔
      inp ⟨s, [a, b]⟩ := by
  rw [cons_copy hv]
  constructor
  · rintro (h | ⟨_, _, hM, e⟩)
    · exact absurd (hinp _ h).symm hst
    · cases e
      refine input_only (fun r hr => ?_) hM
      rcases List.mem_append.1 hr with hr | hr
      · cases List.mem_singleton.1 hr
        exact fun h => hst (List.mem_singleton.1 h)
      · exact hC r hr
  · exact fun h => .inr ⟨a, b, derivable_input h, rfl⟩

theorem closureRules2_heads {r : Rule E B G P A} (hr : r ∈ closureRules2 varE t) {s : RelId} (hs : s ∈ r.headRels) :
    s = t := by
  simp only [closureRules2, List.mem_cons, List.not_mem_nil, or_false] at hr
  rcases hr with rfl | rfl <;> simpa [Rule.headRels] using hs

theorem varExpr_std (kinds : RelId → Std.LatKind) : VarExpr (Std.interp kinds) Std.Ex.var :=
  fun _ _ => rfl

#print axioms varExpr_std

end AscentVerif.C12
