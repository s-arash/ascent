import AscentVerif.Proofs.TrRelBasic
/-!
# `set_subsumptions` as a forest

The walk along `set_subsumptions` (`get_dominant_id`, with fuel in the model) is turned into the fuel-free relation `Rt`;
path compression (`Compress`, `mutAux_spec`) keeps every walk with the same fuel, and absorbing dominant ids into another
one lengthens every walk by at most one step (`aux_after`, the one induction behind `rt_after`, `aux_absorb_step` and
`forest_after`).  `EqRel` shares `get_dominant_id` and uses the same lemmas.
-/
namespace AscentVerif.TrRel
open TrRel (getDominantIdAux getDominantIdMutAux)

theorem aux_succ {subs : List (Nat × Nat)} {i d k : Nat} (h : getDominantIdAux subs i k = .ok d) :
    getDominantIdAux subs i (k + 1) = .ok d := by
  induction k generalizing i with
  | zero => simp [getDominantIdAux] at h
  | succ k ih =>
    unfold getDominantIdAux at h ⊢
    split
    · next p hp => rw [hp] at h; exact ih h
    · next hp => rw [hp] at h; exact h

theorem aux_mono {subs : List (Nat × Nat)} {i d k k' : Nat} (h : getDominantIdAux subs i k = .ok d) (hk : k ≤ k') :
    getDominantIdAux subs i k' = .ok d := by
  induction hk with
  | refl => exact h
  | step _ ih => exact aux_succ ih

/-- `get_dominant_id(i) = d`, for some fuel -/
def Rt (subs : List (Nat × Nat)) (i d : Nat) : Prop := ∃ k, getDominantIdAux subs i k = .ok d

theorem Rt.unique {subs : List (Nat × Nat)} {i d d' : Nat} (h : Rt subs i d) (h' : Rt subs i d') : d = d' := by
  obtain ⟨k, hk⟩ := h
  obtain ⟨k', hk'⟩ := h'
  have h1 := aux_mono hk (Nat.le_max_left k k')
  have h2 := aux_mono hk' (Nat.le_max_right k k')
  rw [h1] at h2; cases h2; rfl

theorem rt_of_none {subs : List (Nat × Nat)} {i : Nat} (h : alGet subs i = none) : Rt subs i i :=
  ⟨1, by simp [getDominantIdAux, h]⟩

theorem rt_none_iff {subs : List (Nat × Nat)} {i d : Nat} (h : alGet subs i = none) : Rt subs i d ↔ d = i :=
  ⟨fun h' => h'.unique (rt_of_none h), fun e => by subst e; exact rt_of_none h⟩

theorem rt_some_iff {subs : List (Nat × Nat)} {i p d : Nat} (h : alGet subs i = some p) : Rt subs i d ↔ Rt subs p d := by
  constructor
  · rintro ⟨k, hk⟩
    cases k with
    | zero => simp [getDominantIdAux] at hk
    | succ k => simp only [getDominantIdAux, h] at hk; exact ⟨k, hk⟩
  · rintro ⟨k, hk⟩
    exact ⟨k + 1, by simp only [getDominantIdAux, h]; exact hk⟩

theorem aux_root_none {subs : List (Nat × Nat)} {i d k : Nat} (h : getDominantIdAux subs i k = .ok d) :
    alGet subs d = none := by
  induction k generalizing i with
  | zero => simp [getDominantIdAux] at h
  | succ k ih =>
    unfold getDominantIdAux at h
    split at h
    · exact ih h
    · next hp => cases h; exact hp

theorem Rt.root_none {subs : List (Nat × Nat)} {i d : Nat} (h : Rt subs i d) : alGet subs d = none := by
  obtain ⟨k, hk⟩ := h; exact aux_root_none hk

theorem aux_compress_step {s : List (Nat × Nat)} {id p dom k0 : Nat} (hp : alGet s id = some p)
    (hd : getDominantIdAux s id k0 = .ok dom) {j k e : Nat} (h : getDominantIdAux s j k = .ok e) :
    getDominantIdAux (alSet s id dom) j k = .ok e := by
  have hdn := aux_root_none hd
  have hne : id ≠ dom := by intro e'; subst e'; rw [hp] at hdn; cases hdn
  induction k generalizing j with
  | zero => simp [getDominantIdAux] at h
  | succ k ih =>
    by_cases hj : id = j
    · subst hj
      have he : e = dom := Rt.unique ⟨_, h⟩ ⟨_, hd⟩
      subst he
      unfold getDominantIdAux at h ⊢
      rw [hp] at h
      rw [alGet_alSet, if_pos rfl]
      simp only
      cases k with
      | zero => simp [getDominantIdAux] at h
      | succ k =>
        unfold getDominantIdAux
        rw [alGet_alSet, if_neg hne, hdn]
    · unfold getDominantIdAux at h ⊢
      rw [alGet_alSet, if_neg hj]
      split
      · next q hq => rw [hq] at h; exact ih h
      · next hq => rw [hq] at h; exact h

/-- `subs'` is a path-compressed version of `subs`: same keys, every walk succeeds with the same fuel and result, and a
value is either the old one or the dominant id of its key -/
structure Compress (subs subs' : List (Nat × Nat)) : Prop where
  length_eq : subs'.length = subs.length
  none_iff : ∀ j, alGet subs' j = none ↔ alGet subs j = none
  walk : ∀ j k e, getDominantIdAux subs j k = .ok e → getDominantIdAux subs' j k = .ok e
  rt_back : ∀ j e, Rt subs' j e → Rt subs j e
  val : ∀ j p, alGet subs' j = some p → alGet subs j = some p ∨ Rt subs j p

theorem Compress.refl (s : List (Nat × Nat)) : Compress s s :=
  ⟨rfl, fun _ => Iff.rfl, fun _ _ _ h => h, fun _ _ h => h, fun _ _ h => Or.inl h⟩

theorem Compress.trans {a b c : List (Nat × Nat)} (h1 : Compress a b) (h2 : Compress b c) : Compress a c := by
  refine ⟨h2.length_eq.trans h1.length_eq, fun j => (h2.none_iff j).trans (h1.none_iff j),
    fun j k e h => h2.walk j k e (h1.walk j k e h), fun j e h => h1.rt_back j e (h2.rt_back j e h), ?_⟩
  intro j p h
  rcases h2.val j p h with h | h
  · exact h1.val j p h
  · exact Or.inr (h1.rt_back j p h)

theorem rt_compress_back {s : List (Nat × Nat)} {id p dom k0 : Nat} (hp : alGet s id = some p)
    (hd : getDominantIdAux s id k0 = .ok dom) {j e : Nat} (h : Rt (alSet s id dom) j e) : Rt s j e := by
  have hdn := aux_root_none hd
  have hne : id ≠ dom := by intro e'; subst e'; rw [hp] at hdn; cases hdn
  obtain ⟨k, hk⟩ := h
  induction k generalizing j with
  | zero => simp [getDominantIdAux] at hk
  | succ k ih =>
    unfold getDominantIdAux at hk
    rw [alGet_alSet] at hk
    by_cases hj : id = j
    · subst hj
      rw [if_pos rfl] at hk
      simp only at hk
      have h1 : Rt (alSet s id dom) dom dom := rt_of_none (by rw [alGet_alSet, if_neg hne]; exact hdn)
      have : e = dom := Rt.unique ⟨_, hk⟩ h1
      subst this
      exact ⟨_, hd⟩
    · rw [if_neg hj] at hk
      split at hk
      · next q hq => exact (rt_some_iff hq).mpr (ih hk)
      · next hq => cases hk; exact rt_of_none hq

theorem compress_step {s : List (Nat × Nat)} {id p dom k0 : Nat} (hp : alGet s id = some p)
    (hd : getDominantIdAux s id k0 = .ok dom) : Compress s (alSet s id dom) := by
  refine ⟨alSet_length_of_some _ hp, ?_, fun j k e h => aux_compress_step hp hd h, fun j e h => rt_compress_back hp hd h, ?_⟩
  · intro j
    rw [alGet_alSet]
    by_cases hj : id = j
    · subst hj; simp [hp]
    · simp [hj]
  · intro j q h
    rcases alGet_alSet_some h with ⟨rfl, rfl⟩ | ⟨_, h⟩
    · exact Or.inr ⟨_, hd⟩
    · exact Or.inl h

theorem mutAux_spec {subs : List (Nat × Nat)} {id d k : Nat} (h : getDominantIdAux subs id k = .ok d) :
    ∃ subs', getDominantIdMutAux subs id k = .ok (subs', d) ∧ Compress subs subs' := by
  induction k generalizing id with
  | zero => simp [getDominantIdAux] at h
  | succ k ih =>
    unfold getDominantIdAux at h
    unfold getDominantIdMutAux
    split at h
    · next p hp =>
      obtain ⟨subs1, h1, C1⟩ := ih h
      simp only [h1]
      by_cases hdp : d ≠ p
      · rw [if_pos hdp]
        refine ⟨_, rfl, C1.trans ?_⟩
        have hp1 : ∃ p1, alGet subs1 id = some p1 := by
          cases h' : alGet subs1 id with
          | none => rw [C1.none_iff] at h'; rw [hp] at h'; cases h'
          | some p1 => exact ⟨p1, rfl⟩
        obtain ⟨p1, hp1⟩ := hp1
        have : getDominantIdAux subs id (k + 1) = .ok d := by
          unfold getDominantIdAux; rw [hp]; exact h
        exact compress_step hp1 (C1.walk _ _ _ this)
      · rw [if_neg hdp]
        exact ⟨_, rfl, C1⟩
    · next hp =>
      cases h
      exact ⟨_, rfl, Compress.refl _⟩

/-- walking after the dominant ids in `L` were absorbed into the dominant id `frm` (`s'` is `s` with `j ↦ frm` recorded for
every `j` in `L`): a walk that ended in `L` goes on to `frm`, so every walk needs at most one more step -/
theorem aux_after {s s' : List (Nat × Nat)} {L : Nat → Prop} [DecidablePred L] {frm : Nat}
    (hget : ∀ j, alGet s' j = if L j then some frm else alGet s j) (hl : ∀ j, L j → alGet s j = none)
    (hfrm : alGet s frm = none) (hfl : ¬ L frm) {i e k : Nat} (h : getDominantIdAux s i k = .ok e) :
    getDominantIdAux s' i (k + 1) = .ok (if L e then frm else e) := by
  induction k generalizing i with
  | zero => simp [getDominantIdAux] at h
  | succ k ih =>
    unfold getDominantIdAux at h
    split at h
    · next q hq =>
      have hil : ¬ L i := fun hi => by rw [hl i hi] at hq; cases hq
      rw [getDominantIdAux, hget, if_neg hil, hq]
      exact ih h
    · next hq =>
      cases h
      by_cases hil : L e
      · rw [getDominantIdAux, hget, if_pos hil, if_pos hil]
        simp only
        rw [getDominantIdAux, hget, if_neg hfl, hfrm]
      · rw [getDominantIdAux, hget, if_neg hil, hq, if_neg hil]

theorem rt_after {s s' : List (Nat × Nat)} {l : List Nat} {frm : Nat}
    (hget : ∀ j, alGet s' j = if j ∈ l then some frm else alGet s j) (hl : ∀ j ∈ l, alGet s j = none)
    (hfrm : alGet s frm = none) (hfl : frm ∉ l) {i e : Nat} (h : Rt s i e) : Rt s' i (if e ∈ l then frm else e) := by
  obtain ⟨k, hk⟩ := h
  exact ⟨k + 1, aux_after hget hl hfrm hfl hk⟩

/-- one subsumption `s ↦ frm` between two dominant ids -/
theorem aux_absorb_step {subs : List (Nat × Nat)} {s frm : Nat} (hs : alGet subs s = none) (hf : alGet subs frm = none)
    (hne : s ≠ frm) {j k e : Nat} (h : getDominantIdAux subs j k = .ok e) :
    getDominantIdAux (alSet subs s frm) j (k + 1) = .ok (if e = s then frm else e) :=
  aux_after (L := (· = s)) (fun j => by rw [alGet_alSet]; exact ite_congr (propext eq_comm) (fun _ => rfl) (fun _ => rfl)) (fun _ hj => hj ▸ hs) hf
    (fun h => hne h.symm) h

/-- the fuel `get_dominant_id` gives itself still covers every walk after an absorption: the map has grown by one entry at least -/
theorem forest_after {s : List (Nat × Nat)} {l : List Nat} {frm : Nat} (hl : ∀ j ∈ l, alGet s j = none)
    (hfrm : alGet s frm = none) (hfl : frm ∉ l) (hf : ∀ j, ∃ e, getDominantIdAux s j (s.length + 1) = .ok e) (j : Nat) :
    ∃ e, getDominantIdAux (l.foldl (fun m x => alSet m x frm) s) j ((l.foldl (fun m x => alSet m x frm) s).length + 1) = .ok e := by
  obtain ⟨e, he⟩ := hf j
  cases l with
  | nil => exact ⟨e, he⟩
  | cons a rest =>
    refine ⟨_, aux_mono (aux_after (fun j => alGet_foldl_alSet _ frm s j) hl hfrm hfl he) ?_⟩
    have := length_le_foldl_alSet rest frm (alSet s a frm)
    rw [alSet_length_of_none frm (hl a (List.mem_cons_self ..))] at this
    exact Nat.succ_le_succ this

theorem aux_lt {subs : List (Nat × Nat)} {n : Nat} (hv : ∀ i p, alGet subs i = some p → p < n) {i d k : Nat}
    (hi : i < n) (h : getDominantIdAux subs i k = .ok d) : d < n := by
  induction k generalizing i with
  | zero => simp [getDominantIdAux] at h
  | succ k ih =>
    unfold getDominantIdAux at h
    split at h
    · next q hq => exact ih (hv _ _ hq) h
    · cases h; exact hi

end AscentVerif.TrRel
