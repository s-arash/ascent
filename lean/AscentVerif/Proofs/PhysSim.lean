import AscentVerif.Proofs.PhysEval
import AscentVerif.Proofs.Strata
/-!
# The simulation relation between the physical engine and the bag engine

`SimB p ix a ph`: the abstract SCC state `a` (bags of row numbers) and the physical SCC state `ph` (hash indices) hold the
same rows, the same `changed` flag, the same dynamic relations in the same order, and every physical index version holds
exactly the tuples of the corresponding bag: the full index as a set (`FullOk`), every hash index with the multiplicities
(`IxB`).  `SimStB`: the same between SCCs.  The head update, the merge, SCC entry and exit and `update_indices` preserve it.
`Sim` / `SimSt` are its projections to membership (`IxOk`): what the evaluation of ordinary clauses reads (`sim_viewsOk`),
and what the statements about a whole run (`Proofs/PhysAggRun.lean`) speak of.  The lists of dynamic relations of two states are
related entry by entry, `Rel2 R`; its lemmas open the file and serve all four towers.
-/
namespace AscentVerif.Phys
open AscentVerif AscentVerif.Engine AscentVerif.Index

variable {E B G P A : Type}

inductive Rel2 {α β : Type} (R : α → β → Prop) : List α → List β → Prop where
  | nil : Rel2 R [] []
  | cons {a : α} {b : β} {l : List α} {l' : List β} : R a b → Rel2 R l l' → Rel2 R (a :: l) (b :: l')

theorem Rel2.map {α β γ δ : Type} {R : α → β → Prop} {S : γ → δ → Prop} (f : α → γ) (g : β → δ)
    (h : ∀ a b, R a b → S (f a) (g b)) {l : List α} {l' : List β} (hr : Rel2 R l l') : Rel2 S (l.map f) (l'.map g) := by
  induction hr with
  | nil => exact .nil
  | cons hab _ ih => exact .cons (h _ _ hab) ih

theorem Rel2.of_map {ι α β : Type} {R : α → β → Prop} (f : ι → α) (g : ι → β) :
    ∀ (l : List ι), (∀ x ∈ l, R (f x) (g x)) → Rel2 R (l.map f) (l.map g) := by
  intro l
  induction l with
  | nil => exact fun _ => .nil
  | cons x l ih => exact fun h => .cons (h x (by simp)) (ih fun y hy => h y (List.mem_cons_of_mem _ hy))

theorem Rel2.snoc {α β : Type} {R : α → β → Prop} {l : List α} {l' : List β} (h : Rel2 R l l') {a : α} {b : β}
    (hab : R a b) : Rel2 R (l ++ [a]) (l' ++ [b]) := by
  induction h with
  | nil => exact .cons hab .nil
  | cons h1 _ ih => exact .cons h1 ih

theorem Rel2.comp {α β γ : Type} {R : α → β → Prop} {S : β → γ → Prop} {l : List α} {l' : List β} {l'' : List γ}
    (h : Rel2 R l l') (h' : Rel2 S l' l'') : Rel2 (fun a c => ∃ b, R a b ∧ S b c) l l'' := by
  induction h generalizing l'' with
  | nil => cases h'; exact .nil
  | cons h1 _ ih =>
    cases h' with
    | cons h2 h3 => exact .cons ⟨_, h1, h2⟩ (ih h3)

theorem Rel2.forall_right {α β : Type} {R : α → β → Prop} {l : List α} {l' : List β} (h : Rel2 R l l') :
    ∀ b ∈ l', ∃ a ∈ l, R a b := by
  induction h with
  | nil => intro b hb; cases hb
  | cons h1 _ ih =>
    intro b hb
    rcases List.mem_cons.mp hb with rfl | hb
    · exact ⟨_, List.mem_cons_self, h1⟩
    · obtain ⟨a, ha, hr⟩ := ih b hb
      exact ⟨a, List.mem_cons_of_mem _ ha, hr⟩

theorem Rel2.map_eq {α β γ : Type} {R : α → β → Prop} (f : α → γ) (g : β → γ) (hfg : ∀ a b, R a b → f a = g b)
    {l : List α} {l' : List β} (h : Rel2 R l l') : l.map f = l'.map g := by
  induction h with
  | nil => rfl
  | cons h1 _ ih => simp only [List.map_cons, hfg _ _ h1, ih]

theorem Rel2.length_eq {α β : Type} {R : α → β → Prop} {l : List α} {l' : List β}
    (h : Rel2 R l l') : l.length = l'.length := by
  induction h with
  | nil => rfl
  | cons _ _ ih => simp only [List.length_cons, ih]

theorem Rel2.get {α β : Type} {R : α → β → Prop} {l : List α} {l' : List β}
    (h : Rel2 R l l') : ∀ (i : Nat) (a : α) (b : β), l[i]? = some a → l'[i]? = some b → R a b := by
  induction h with
  | nil => intro i a b h1; simp at h1
  | cons h1 _ ih =>
    intro i a b ha hb
    cases i with
    | zero =>
      simp only [List.getElem?_cons_zero, Option.some.injEq] at ha hb
      subst ha; subst hb; exact h1
    | succ i =>
      simp only [List.getElem?_cons_succ] at ha hb
      exact ih i a b ha hb

theorem Rel2.append {α β : Type} {R : α → β → Prop} {l₁ l₂ : List α} {l₁' l₂' : List β} (h₁ : Rel2 R l₁ l₁')
    (h₂ : Rel2 R l₂ l₂') : Rel2 R (l₁ ++ l₂) (l₁' ++ l₂') := by
  induction h₁ with
  | nil => exact h₂
  | cons hab _ ih => exact .cons hab ih

theorem Rel2.imp_mem {α β : Type} {R S : α → β → Prop} {l : List α} {l' : List β} (h : Rel2 R l l')
    (hs : ∀ a ∈ l, ∀ b, R a b → S a b) : Rel2 S l l' := by
  induction h with
  | nil => exact .nil
  | cons hab _ ih => exact .cons (hs _ List.mem_cons_self _ hab) (ih fun a ha => hs a (List.mem_cons_of_mem _ ha))

theorem Rel2.map_right {α β γ : Type} {R : α → γ → Prop} (g : β → γ) {l : List α} {l' : List β}
    (h : Rel2 (fun a b => R a (g b)) l l') : Rel2 R l (l'.map g) := by
  induction h with
  | nil => exact .nil
  | cons h1 _ ih => exact .cons h1 ih

theorem Rel2.refl_of {α : Type} {R : α → α → Prop} (l : List α) (h : ∀ a ∈ l, R a a) : Rel2 R l l := by
  induction l with
  | nil => exact .nil
  | cons a l ih => exact .cons (h a List.mem_cons_self) (ih fun b hb => h b (List.mem_cons_of_mem _ hb))

theorem prel_setNth_self (s : PSt) (r : RelId) (x : PRel) (h : r < s.length) : prel (setNth s r x) r = x :=
  getD_setNth_self _ s r x h

theorem prel_setNth_ne (s : PSt) (r r' : RelId) (x : PRel) (h : r' ≠ r) : prel (setNth s r x) r' = prel s r' :=
  getD_setNth_ne _ s r r' x h

theorem prel_of_ge (s : PSt) (r : RelId) (h : s.length ≤ r) : prel s r = ⟨[], [], []⟩ :=
  getD_of_ge _ s r h

theorem lt_of_mem_prel (s : PSt) (r : RelId) (t : Tuple) (h : t ∈ (prel s r).rows) : r < s.length :=
  Nat.lt_of_not_le fun hn => by
    rw [prel_of_ge s r hn] at h
    cases h

theorem prel_rangeMap (f : Nat → PRel) (m : Nat) (r : RelId) (hr : r < m) : prel ((List.range m).map f) r = f r :=
  getD_rangeMap _ r f m hr

theorem prel_rangeMap_ge (f : Nat → PRel) (m : Nat) (r : RelId) (hr : m ≤ r) :
    prel ((List.range m).map f) r = ⟨[], [], []⟩ :=
  prel_of_ge _ _ (by simpa using hr)

theorem prel_rangeMap_rows {s : PSt} {f : Nat → PRel} (h : ∀ r, (f r).rows = (prel s r).rows) (r : RelId) :
    (prel ((List.range s.length).map f) r).rows = (prel s r).rows :=
  getD_rangeMap_rows _ s PRel.rows h r

theorem findPDyn_cons (x : PDyn) (l : List PDyn) (r : RelId) :
    findPDyn (x :: l) r = if x.rel == r then some x else findPDyn l r := by
  simp only [findPDyn, List.find?_cons]
  cases x.rel == r <;> rfl

structure TriOk (ixr : List (List Nat)) (rows : List Tuple) (d : Dyn) (full : Tri FIx)
    (idxs : List (List Nat × Tri PIx)) : Prop where
  ft : FullOk rows d.total full.total
  fd : FullOk rows d.delta full.delta
  fn : FullOk rows d.new full.new
  cols : idxs.map (·.1) = ixr
  it : ∀ ci ∈ idxs, IxOk rows d.total ci.1 ci.2.total
  id : ∀ ci ∈ idxs, IxOk rows d.delta ci.1 ci.2.delta
  inw : ∀ ci ∈ idxs, IxOk rows d.new ci.1 ci.2.new

theorem verOk_map {ixr : List (List Nat)} {rows : List Tuple} {bag : List Nat} {full : FIx}
    {idxs : List (List Nat × Tri PIx)} (sel : Tri PIx → PIx) (hf : FullOk rows bag full)
    (hc : idxs.map (·.1) = ixr) (hi : ∀ ci ∈ idxs, IxOk rows bag ci.1 (sel ci.2)) :
    VerOk ixr rows bag full (idxs.map fun ci => (ci.1, sel ci.2)) := by
  refine ⟨hf, ?_, ?_⟩
  · rw [List.map_map, ← hc]; rfl
  · intro ci hci
    obtain ⟨c, hc', rfl⟩ := List.mem_map.mp hci
    exact hi c hc'

theorem TriOk.of_map {ι : Type} {ixr : List (List Nat)} {rows : List Tuple} {d : Dyn} {full : Tri FIx} (l : List ι)
    (c : ι → List Nat) (f : ι → Tri PIx) (ft : FullOk rows d.total full.total) (fd : FullOk rows d.delta full.delta)
    (fn : FullOk rows d.new full.new) (hc : l.map c = ixr)
    (hi : ∀ x ∈ l, IxOk rows d.total (c x) (f x).total ∧ IxOk rows d.delta (c x) (f x).delta ∧
      IxOk rows d.new (c x) (f x).new) : TriOk ixr rows d full (l.map fun x => (c x, f x)) := by
  refine ⟨ft, fd, fn, ?_, ?_, ?_, ?_⟩
  · rw [List.map_map, ← hc]
    rfl
  · intro ci hci
    obtain ⟨x, hx, rfl⟩ := List.mem_map.mp hci
    exact (hi x hx).1
  · intro ci hci
    obtain ⟨x, hx, rfl⟩ := List.mem_map.mp hci
    exact (hi x hx).2.1
  · intro ci hci
    obtain ⟨x, hx, rfl⟩ := List.mem_map.mp hci
    exact (hi x hx).2.2

theorem TriOk.verT {ixr : List (List Nat)} {rows : List Tuple} {d : Dyn} {full : Tri FIx}
    {idxs : List (List Nat × Tri PIx)} (h : TriOk ixr rows d full idxs) :
    VerOk ixr rows d.total full.total (idxs.map fun ci => (ci.1, ci.2.total)) :=
  verOk_map (·.total) h.ft h.cols h.it

theorem TriOk.verD {ixr : List (List Nat)} {rows : List Tuple} {d : Dyn} {full : Tri FIx}
    {idxs : List (List Nat × Tri PIx)} (h : TriOk ixr rows d full idxs) :
    VerOk ixr rows d.delta full.delta (idxs.map fun ci => (ci.1, ci.2.delta)) :=
  verOk_map (·.delta) h.fd h.cols h.id

structure DynOk (ix : IxSets) (rows : RelId → List Tuple) (d : Dyn) (pd : PDyn) : Prop where
  rel : pd.rel = d.rel
  tri : TriOk (ix d.rel) (rows d.rel) d pd.full pd.idxs

theorem Rel2_find? {α β : Type} (ka : α → Nat) (kb : β → Nat) {Q : α → β → Prop} (hk : ∀ a b, Q a b → kb b = ka a)
    {l : List α} {l' : List β} (h : Rel2 Q l l') (r : Nat) :
    (l.find? (fun x => ka x == r) = none → l'.find? (fun x => kb x == r) = none) ∧
      ∀ a, l.find? (fun x => ka x == r) = some a → ∃ b, l'.find? (fun x => kb x == r) = some b ∧ Q a b := by
  induction h with
  | nil => exact ⟨fun _ => rfl, fun _ h => nomatch h⟩
  | @cons a b l l' hab _ ih =>
    simp only [List.find?_cons, hk a b hab]
    cases ka a == r with
    | true => exact ⟨fun h => (nomatch h), fun _ h => by cases h; exact ⟨b, rfl, hab⟩⟩
    | false => exact ih

theorem Rel2.findR {R : Dyn → PDyn → Prop} (hrel : ∀ d pd, R d pd → pd.rel = d.rel) {l : List Dyn} {l' : List PDyn}
    (h : Rel2 R l l') (r : RelId) :
    (findDyn l r = none ∧ findPDyn l' r = none) ∨
      ∃ d pd, findDyn l r = some d ∧ findPDyn l' r = some pd ∧ R d pd := by
  have h' := Rel2_find? (·.rel) (·.rel) hrel h r
  cases hd : findDyn l r with
  | none => exact .inl ⟨rfl, h'.1 hd⟩
  | some d => exact .inr ⟨d, (h'.2 d hd).imp fun _ hpd => ⟨rfl, hpd⟩⟩

structure Sim (p : Program E B G P A) (ix : IxSets) (a : SccSt) (ph : PScc) : Prop where
  len : a.rels.length = ph.rels.length
  rows : ∀ r, (relSt a.rels r).rows = (prel ph.rels r).rows
  changed : a.changed = ph.changed
  dyn : Rel2 (DynOk ix fun r => (relSt a.rels r).rows) a.dyn ph.dyn
  nd : ∀ r, r < a.rels.length → findDyn a.dyn r = none →
    VerOk (ix r) (relSt a.rels r).rows (relSt a.rels r).idx (prel ph.rels r).full (prel ph.rels r).idxs
  typed : ∀ r, ∀ t ∈ (relSt a.rels r).rows, t.length = arityOf p r

structure SimSt (p : Program E B G P A) (ix : IxSets) (st : St) (pst : PSt) : Prop where
  len : st.length = pst.length
  rows : ∀ r, (relSt st r).rows = (prel pst r).rows
  ok : ∀ r, r < st.length → VerOk (ix r) (relSt st r).rows (relSt st r).idx (prel pst r).full (prel pst r).idxs
  typed : ∀ r, ∀ t ∈ (relSt st r).rows, t.length = arityOf p r

/-! `VerB`, `TriB`, `DynB`, `SimB`, `SimStB` are `VerOk`, `TriOk`, `DynOk`, `Sim`, `SimSt` with `IxB` (multiplicities) in place
of `IxOk` (membership): the relation the engine steps preserve. -/

def VerB (ixr : List (List Nat)) (rows : List Tuple) (bag : List Nat) (full : FIx) (idxs : List (List Nat × PIx)) : Prop :=
  FullOk rows bag full ∧ idxs.map (·.1) = ixr ∧ ∀ ci ∈ idxs, IxB (bagTuples rows bag) ci.1 ci.2

theorem VerB.ok {ixr : List (List Nat)} {rows : List Tuple} {bag : List Nat} {full : FIx} {idxs : List (List Nat × PIx)}
    (h : VerB ixr rows bag full idxs) : VerOk ixr rows bag full idxs :=
  ⟨h.1, h.2.1, fun c hc => (h.2.2 c hc).ok⟩

structure TriB (ixr : List (List Nat)) (rows : List Tuple) (d : Dyn) (full : Tri FIx)
    (idxs : List (List Nat × Tri PIx)) : Prop where
  ft : FullOk rows d.total full.total
  fd : FullOk rows d.delta full.delta
  fn : FullOk rows d.new full.new
  cols : idxs.map (·.1) = ixr
  ix : ∀ ci ∈ idxs, IxB (bagTuples rows d.total) ci.1 ci.2.total ∧ IxB (bagTuples rows d.delta) ci.1 ci.2.delta ∧
    IxB (bagTuples rows d.new) ci.1 ci.2.new

theorem TriB.ok {ixr : List (List Nat)} {rows : List Tuple} {d : Dyn} {full : Tri FIx} {idxs : List (List Nat × Tri PIx)}
    (h : TriB ixr rows d full idxs) : TriOk ixr rows d full idxs :=
  ⟨h.ft, h.fd, h.fn, h.cols, fun c hc => (h.ix c hc).1.ok, fun c hc => (h.ix c hc).2.1.ok, fun c hc => (h.ix c hc).2.2.ok⟩

theorem TriB.of_map {ι : Type} {ixr : List (List Nat)} {rows : List Tuple} {d : Dyn} {full : Tri FIx} (l : List ι)
    (c : ι → List Nat) (f : ι → Tri PIx) (ft : FullOk rows d.total full.total) (fd : FullOk rows d.delta full.delta)
    (fn : FullOk rows d.new full.new) (hc : l.map c = ixr)
    (hi : ∀ x ∈ l, IxB (bagTuples rows d.total) (c x) (f x).total ∧ IxB (bagTuples rows d.delta) (c x) (f x).delta ∧
      IxB (bagTuples rows d.new) (c x) (f x).new) : TriB ixr rows d full (l.map fun x => (c x, f x)) := by
  refine ⟨ft, fd, fn, by rw [List.map_map, ← hc]; rfl, fun ci hci => ?_⟩
  obtain ⟨x, hx, rfl⟩ := List.mem_map.mp hci
  exact hi x hx

theorem TriB.verT {ixr : List (List Nat)} {rows : List Tuple} {d : Dyn} {full : Tri FIx} {idxs : List (List Nat × Tri PIx)}
    (h : TriB ixr rows d full idxs) : VerB ixr rows d.total full.total (idxs.map fun ci => (ci.1, ci.2.total)) := by
  refine ⟨h.ft, by rw [List.map_map, ← h.cols]; rfl, fun ci hci => ?_⟩
  obtain ⟨c, hc, rfl⟩ := List.mem_map.mp hci
  exact (h.ix c hc).1

structure DynB (ix : IxSets) (rows : RelId → List Tuple) (d : Dyn) (pd : PDyn) : Prop where
  rel : pd.rel = d.rel
  tri : TriB (ix d.rel) (rows d.rel) d pd.full pd.idxs

structure SimB (p : Program E B G P A) (ix : IxSets) (a : SccSt) (ph : PScc) : Prop where
  len : a.rels.length = ph.rels.length
  rows : ∀ r, (relSt a.rels r).rows = (prel ph.rels r).rows
  changed : a.changed = ph.changed
  dyn : Rel2 (DynB ix fun r => (relSt a.rels r).rows) a.dyn ph.dyn
  nd : ∀ r, r < a.rels.length → findDyn a.dyn r = none →
    VerB (ix r) (relSt a.rels r).rows (relSt a.rels r).idx (prel ph.rels r).full (prel ph.rels r).idxs
  typed : ∀ r, ∀ t ∈ (relSt a.rels r).rows, t.length = arityOf p r

structure SimStB (p : Program E B G P A) (ix : IxSets) (st : St) (pst : PSt) : Prop where
  len : st.length = pst.length
  rows : ∀ r, (relSt st r).rows = (prel pst r).rows
  ok : ∀ r, r < st.length → VerB (ix r) (relSt st r).rows (relSt st r).idx (prel pst r).full (prel pst r).idxs
  typed : ∀ r, ∀ t ∈ (relSt st r).rows, t.length = arityOf p r

theorem SimB.sim {p : Program E B G P A} {ix : IxSets} {a : SccSt} {ph : PScc} (h : SimB p ix a ph) : Sim p ix a ph :=
  ⟨h.len, h.rows, h.changed, h.dyn.imp_mem fun _ _ _ hd => ⟨hd.rel, hd.tri.ok⟩, fun r hr hnd => (h.nd r hr hnd).ok, h.typed⟩

theorem SimStB.sim {p : Program E B G P A} {ix : IxSets} {st : St} {pst : PSt} (h : SimStB p ix st pst) :
    SimSt p ix st pst :=
  ⟨h.len, h.rows, fun r hr => (h.ok r hr).ok, h.typed⟩

theorem arityOf_of_ge (p : Program E B G P A) (r : RelId) (h : p.rels.length ≤ r) : arityOf p r = 0 := by
  simp [arityOf, declOf, List.getD_eq_getElem?_getD, List.getElem?_eq_none h]

theorem sim_viewsOk (cfg : Config) (p : Program E B G P A) (hl : ∀ d ∈ p.rels, d.lat = false) (ix : IxSets)
    {dynR : List RelId} {a : SccSt} {ph : PScc} (hsim : Sim p ix a ph) (hwf : WF p.rels.length dynR a) :
    ViewsOk cfg p ix a ph := by
  intro r v cols hc hix
  have hty : ∀ i, i < (relSt a.rels r).rows.length → (rowAt (relSt a.rels r).rows i).length = arityOf p r :=
    fun i hi => hsim.typed r _ (rowAt_mem _ i hi)
  unfold Phys.viewOf
  rcases hsim.dyn.findR (fun _ _ hok => hok.rel) r with ⟨h1, h2⟩ | ⟨d, pd, h1, h2, hok⟩
  · rw [h2, clauseRows_none cfg p hl v h1]
    by_cases hr : r < a.rels.length
    · exact ViewSpec.of_stored hc hix (hsim.nd r hr h1) (fun i hi => hty i ((hwf.cover_nd r h1 i).mpr hi))
    · -- an undeclared relation: arity 0, no rows, the full index of the empty row set
      have hr' : a.rels.length ≤ r := Nat.le_of_not_lt hr
      have harz : arityOf p r = 0 := arityOf_of_ge p r (by rw [← hwf.len]; exact hr')
      have hcols : cols = [] := by
        cases cols with
        | nil => rfl
        | cons j t =>
          have := hc.2 j List.mem_cons_self
          rw [harz] at this
          cases this
      rw [relSt_of_ge _ _ hr', prel_of_ge _ _ (by rw [← hsim.len]; exact hr')]
      exact ViewSpec.of_stored (ixr := []) hc
        (.inl (by rw [hcols, harz]; rfl))
        ⟨FullOk_nil [], rfl, fun _ hci => nomatch hci⟩ (fun _ hi => nomatch hi)
  · have tri : TriOk (ix r) (relSt a.rels r).rows d pd.full pd.idxs := findDyn_rel h1 ▸ hok.tri
    have hbT : ∀ i ∈ d.total, (rowAt (relSt a.rels r).rows i).length = arityOf p r :=
      fun i hi => hty i ((hwf.cover r d h1 i).mpr (.inl hi))
    have hbD : ∀ i ∈ d.delta, (rowAt (relSt a.rels r).rows i).length = arityOf p r :=
      fun i hi => hty i ((hwf.cover r d h1 i).mpr (.inr (.inl hi)))
    rw [h2, clauseRows_some cfg p hl v h1]
    cases v with
    | none => exact ViewSpec.of_one hc hix tri.verT hbT
    | some v =>
      cases v with
      | total => exact ViewSpec.of_one hc hix tri.verT hbT
      | delta => exact ViewSpec.of_one hc hix tri.verD hbD
      | totalDelta => exact ViewSpec.of_two hc hix tri.verT tri.verD hbT hbD

theorem WF.bag_lt {n : Nat} {dynR : List RelId} {a : SccSt} (hwf : WF n dynR a) {r : RelId} {d : Dyn}
    (hd : findDyn a.dyn r = some d) :
    (∀ i ∈ d.total, i < (relSt a.rels r).rows.length) ∧ (∀ i ∈ d.delta, i < (relSt a.rels r).rows.length) ∧
      ∀ i ∈ d.new, i < (relSt a.rels r).rows.length :=
  ⟨fun i hi => (hwf.cover r d hd i).mpr (.inl hi), fun i hi => (hwf.cover r d hd i).mpr (.inr (.inl hi)),
    fun i hi => (hwf.cover r d hd i).mpr (.inr (.inr hi))⟩

theorem dyn_lt {n : Nat} {dynR : List RelId} {a : SccSt} (hwf : WF n dynR a) (hlt : ∀ r, dynR.contains r = true → r < n)
    {r : RelId} {d : Dyn} (h : findDyn a.dyn r = some d) : r < a.rels.length := by
  rw [hwf.len]
  apply hlt
  rw [← hwf.dyn_iff, h]
  rfl

theorem headRel_wf_ext {n : Nat} {dynR : List RelId} (hlt : ∀ r, dynR.contains r = true → r < n) {s₀ s : SccSt}
    (hwf : WF n dynR s) (hext : Ext s₀ s) (r : RelId) (row : Tuple) :
    WF n dynR (Engine.headRel s r row) ∧ Ext s₀ (Engine.headRel s r row) := by
  rw [headRel_eq]
  cases hd : findDyn s.dyn r with
  | none => exact ⟨hwf, hext⟩
  | some d =>
    have hr : r < n := hwf.len ▸ dyn_lt hwf hlt hd
    simp only []
    split
    · exact ⟨hwf, hext⟩
    · exact ⟨WF_pushRow hwf hd hr, Ext_pushRow hwf hext hd hr⟩

/-- the physical state after a row was pushed (`newFull`: the `new` full index after `insert_if_not_present`) -/
def pushP (ph : PScc) (r : RelId) (pd : PDyn) (row : Tuple) (newFull : FIx) : PScc :=
  { rels := setNth ph.rels r { prel ph.rels r with rows := (prel ph.rels r).rows ++ [row] }
    dyn := setPDyn ph.dyn { pd with
      full := { pd.full with new := newFull }
      idxs := pd.idxs.map fun ci => (ci.1, { ci.2 with new := Idx.insert ci.2.new (Plan.proj ci.1 row) (projC ci.1 row) }) }
    changed := true }

theorem physHeadRel_eq (s : PScc) (r : RelId) (row : Tuple) :
    Phys.headRel s r row =
      match findPDyn s.dyn r with
      | none => s
      | some d =>
        if FullIdx.containsKey d.full.total row || FullIdx.containsKey d.full.delta row then s
        else if !(FullIdx.insertIfNotPresent d.full.new row ()).2 then s
        else pushP s r d row (FullIdx.insertIfNotPresent d.full.new row ()).1 := by
  unfold Phys.headRel
  cases findPDyn s.dyn r <;> rfl

/-- a row pushed on the relation of a dynamic entry, the entry replaced by one that holds the new bags -/
theorem push_simB {p : Program E B G P A} {ix : IxSets} {a : SccSt} {ph : PScc}
    (hsim : SimB p ix a ph) {r : RelId} {d : Dyn} (hd : findDyn a.dyn r = some d) (hr : r < a.rels.length) (row : Tuple)
    (hlen : row.length = arityOf p r) (pd' : PDyn) (hprel : pd'.rel = r)
    (htri : TriB (ix r) ((relSt a.rels r).rows ++ [row]) { d with new := d.new ++ [(relSt a.rels r).rows.length] }
      pd'.full pd'.idxs) :
    SimB p ix (pushRow a r d row)
      { rels := setNth ph.rels r { prel ph.rels r with rows := (prel ph.rels r).rows ++ [row] }
        dyn := setPDyn ph.dyn pd', changed := true } := by
  have hrel : d.rel = r := findDyn_rel hd
  have hrp : r < ph.rels.length := by rw [← hsim.len]; exact hr
  have hrows_self : (relSt (pushRow a r d row).rels r).rows = (relSt a.rels r).rows ++ [row] := pushRow_rows_self hr
  refine ⟨?_, ?_, rfl, ?_, ?_, ?_⟩
  · show (setNth _ _ _).length = (setNth _ _ _).length
    rw [length_setNth, length_setNth]
    exact hsim.len
  · intro r'
    by_cases hne : r' = r
    · subst hne
      rw [hrows_self, hsim.rows]
      show _ = (prel (setNth ph.rels r' _) r').rows
      rw [prel_setNth_self _ _ _ hrp]
    · rw [pushRow_relSt_ne hne]
      show _ = (prel (setNth ph.rels r _) r').rows
      rw [prel_setNth_ne _ _ _ _ hne]
      exact hsim.rows r'
  · show Rel2 _ (setDyn a.dyn _) (setPDyn ph.dyn _)
    rw [setDyn_eq_map]
    refine Rel2.map _ _ ?_ hsim.dyn
    intro x px hx
    by_cases hc : x.rel = r
    · rw [if_pos (beq_iff_eq.mpr (hc.trans hrel.symm)), if_pos (beq_iff_eq.mpr ((hx.rel.trans hc).trans hprel.symm))]
      refine ⟨hprel.trans hrel.symm, ?_⟩
      subst hrel
      show TriB (ix d.rel) (relSt (pushRow a d.rel d row).rels d.rel).rows _ _ _
      rw [hrows_self]
      exact htri
    · rw [if_neg fun e => hc ((beq_iff_eq.mp e).trans hrel),
        if_neg fun e => hc (hx.rel.symm.trans ((beq_iff_eq.mp e).trans hprel))]
      refine ⟨hx.rel, ?_⟩
      show TriB _ (relSt (pushRow a r d row).rels x.rel).rows _ _ _
      rw [pushRow_relSt_ne hc]
      exact hx.tri
  · intro r' hr' hnd
    have hnd0 : findDyn a.dyn r' = none := by
      rw [show (pushRow a r d row).dyn = setDyn a.dyn _ from rfl, findDyn_setDyn, Option.map_eq_none_iff] at hnd
      exact hnd
    have hne : r' ≠ r := by intro h; rw [h, hd] at hnd0; cases hnd0
    rw [pushRow_relSt_ne hne]
    show VerB _ _ _ (prel (setNth ph.rels r _) r').full (prel (setNth ph.rels r _) r').idxs
    rw [prel_setNth_ne _ _ _ _ hne]
    exact hsim.nd r' (by rw [← length_setNth a.rels r]; exact hr') hnd0
  · intro r' t ht
    by_cases hne : r' = r
    · subst hne
      rw [hrows_self] at ht
      rcases List.mem_append.mp ht with ht | ht
      · exact hsim.typed r' t ht
      · rw [List.mem_singleton.mp ht]
        exact hlen
    · rw [pushRow_relSt_ne hne] at ht
      exact hsim.typed r' t ht

theorem headRel_simB {p : Program E B G P A} {ix : IxSets} {dynR : List RelId} {n : Nat} {a : SccSt} {ph : PScc}
    (hsim : SimB p ix a ph) (hwf : WF n dynR a) (hlt : ∀ r, dynR.contains r = true → r < n) (r : RelId) (row : Tuple)
    (hlen : row.length = arityOf p r) : SimB p ix (Engine.headRel a r row) (Phys.headRel ph r row) := by
  rw [headRel_eq, physHeadRel_eq]
  rcases hsim.dyn.findR (fun _ _ hok => hok.rel) r with ⟨h1, h2⟩ | ⟨d, pd, h1, h2, hok⟩
  · rw [h1, h2]; exact hsim
  rw [h1, h2]
  have tri : TriB (ix r) (relSt a.rels r).rows d pd.full pd.idxs := findDyn_rel h1 ▸ hok.tri
  obtain ⟨hbT, hbD, hbN⟩ := WF.bag_lt hwf h1
  -- the old versions see the same tuples under the longer row vector; `new` gains the pushed one
  exact headRel_branch tri.ft tri.fd tri.fn hbN row (SimB p ix) hsim fun hnf =>
    push_simB hsim h1 (dyn_lt hwf hlt h1) row hlen _ (hok.rel.trans (findDyn_rel h1))
      (TriB.of_map (d := { d with new := d.new ++ [(relSt a.rels r).rows.length] }) pd.idxs (·.1) _
        (FullOk_rows_append row tri.ft hbT) (FullOk_rows_append row tri.fd hbD) hnf tri.cols fun c hc' =>
        ⟨bagTuples_rows_append row hbT ▸ (tri.ix c hc').1, bagTuples_rows_append row hbD ▸ (tri.ix c hc').2.1,
          bagTuples_push row hbN ▸ (tri.ix c hc').2.2.insert row⟩)

theorem shift_simB {p : Program E B G P A} {ix : IxSets} {a : SccSt} {ph : PScc} (hsim : SimB p ix a ph) :
    SimB p ix (Engine.shift a) (Phys.shift ph) := by
  refine ⟨hsim.len, hsim.rows, hsim.changed, ?_, ?_, hsim.typed⟩
  · show Rel2 _ (a.dyn.map _) (ph.dyn.map _)
    refine Rel2.map _ _ ?_ hsim.dyn
    intro d pd hd
    have tri := hd.tri
    obtain ⟨f1, f2, f3⟩ := FullOk_shift tri.ft tri.fd tri.fn
    refine ⟨hd.rel, TriB.of_map pd.idxs (·.1) (fun ci => shiftIx ci.2) f1 f2 f3 tri.cols fun c hc => ?_⟩
    obtain ⟨i1, i2, i3⟩ := (tri.ix c hc).1.shift (tri.ix c hc).2.1 (tri.ix c hc).2.2
    exact ⟨bagTuples_append _ _ _ ▸ i1, i2, i3⟩
  · intro r hr hnd
    rw [findDyn_shift, Option.map_eq_none_iff] at hnd
    exact hsim.nd r hr hnd

theorem reset_simB {p : Program E B G P A} {ix : IxSets} {a : SccSt} {ph : PScc} (hsim : SimB p ix a ph) :
    SimB p ix { a with changed := false } { ph with changed := false } :=
  ⟨hsim.len, hsim.rows, rfl, hsim.dyn, hsim.nd, hsim.typed⟩

theorem enter_simB {p : Program E B G P A} {ix : IxSets} {st : St} {pst : PSt} (hs : SimStB p ix st pst)
    (dyn : List RelId) (hlt : ∀ r ∈ dyn, r < st.length) :
    SimB p ix (Engine.enterScc st dyn) (Phys.enterScc pst dyn) := by
  have hprel : ∀ r, (prel (Phys.enterScc pst dyn).rels r).rows = (prel pst r).rows :=
    prel_rangeMap_rows fun r => by split <;> rfl
  refine ⟨?_, ?_, rfl, ?_, ?_, ?_⟩
  · rw [enterScc_rels, hs.len]
    exact ((List.length_map _).trans List.length_range).symm
  · intro r; rw [enterScc_rels, hprel]; exact hs.rows r
  · rw [enterScc_rels]
    show Rel2 _ (dyn.map _) (dyn.map _)
    apply Rel2.of_map
    intro r hr
    obtain ⟨hf, hc, hi⟩ := hs.ok r (hlt r hr)
    exact ⟨rfl, TriB.of_map (prel pst r).idxs (·.1) (fun ci => ⟨[], ci.2, []⟩) (FullOk_nil _) hf (FullOk_nil _) hc
      fun c hc' => ⟨.nil _, hi c hc', .nil _⟩⟩
  · intro r hr hnd
    rw [enterScc_rels] at hr ⊢
    rw [findDyn_enter] at hnd
    have hc : dyn.contains r = false := by
      cases h : dyn.contains r with
      | false => rfl
      | true => rw [h] at hnd; simp at hnd
    have hrp : r < pst.length := by rw [← hs.len]; exact hr
    have : prel (Phys.enterScc pst dyn).rels r = prel pst r := by
      simp only [Phys.enterScc, prel_rangeMap _ _ _ hrp, hc, Bool.false_eq_true, if_false]
    rw [this]; exact hs.ok r hr
  · intro r t ht
    rw [enterScc_rels] at ht; exact hs.typed r t ht

/-! SCC exit on a list of slots read by number, for any kind of slot (`PRel` here, `XRel` in `Proofs/PhysLatScc.lean`): the slot of a
dynamic entry `d` takes what `d` holds (`upd`). -/

section LeaveG
variable {α δ : Type} (dflt : α) (key : δ → Nat) (upd : α → δ → α)

/-- SCC exit, relation by relation: what holds (`Q`) of the stored slot of every relation that is not dynamic and of the slot
updated by every dynamic entry holds of the stored slots afterwards -/
theorem leaveG_fold {R : Dyn → δ → Prop} {Q : RelId → List Nat → α → Prop} {L : List Dyn} {L' : List δ} (hL : Rel2 R L L')
    (hR : ∀ d pd, R d pd → key pd = d.rel ∧ ∀ x, Q d.rel d.total (upd x pd)) :
    ∀ (st : St) (pst : List α), st.length = pst.length → (∀ d ∈ L, d.rel < st.length) → ∀ r,
      (Q r (relSt st r).idx (pst.getD r dflt) ∨ r ∈ L.map (·.rel)) →
      Q r (relSt (L.foldl leaveStep st) r).idx ((L'.foldl (leaveStepG dflt key upd) pst).getD r dflt) := by
  induction hL with
  | nil => exact fun st pst _ _ r h => h.resolve_right List.not_mem_nil
  | @cons d pd L L' hd _ ih =>
    intro st pst hlen hlt r hq
    obtain ⟨hpr, hQ⟩ := hR d pd hd
    have hdl : d.rel < st.length := hlt d List.mem_cons_self
    have hdlp : key pd < pst.length := by rw [hpr, ← hlen]; exact hdl
    rw [List.foldl_cons, List.foldl_cons]
    apply ih (leaveStep st d) (leaveStepG dflt key upd pst pd)
      (by rw [leaveStep, leaveStepG, length_setNth, length_setNth, hlen])
      (fun d' hd' => by rw [leaveStep, length_setNth]; exact hlt d' (List.mem_cons_of_mem _ hd'))
    by_cases h : r = d.rel
    · left
      rw [h, leaveStep, relSt_setNth_self _ _ _ hdl, ← hpr, leaveStepG, getD_setNth_self _ _ _ _ hdlp, hpr]
      exact hQ _
    · rcases hq with hq | hq
      · left
        rw [leaveStep, relSt_setNth_ne _ _ _ _ h, leaveStepG, getD_setNth_ne _ _ _ _ _ (hpr ▸ h)]
        exact hq
      · exact .inr ((List.mem_cons.mp hq).resolve_left h)

end LeaveG

abbrev leaveUpdP (pr : PRel) (d : PDyn) : PRel :=
  { pr with full := d.full.total, idxs := d.idxs.map fun ci => (ci.1, ci.2.total) }

abbrev leaveStepP : PSt → PDyn → PSt := leaveStepG ⟨[], [], []⟩ PDyn.rel leaveUpdP

theorem physLeaveScc_eq (s : PScc) : Phys.leaveScc s = s.dyn.foldl leaveStepP s.rels := rfl

theorem dyn_or_nd (a : SccSt) (r : RelId) : findDyn a.dyn r = none ∨ r ∈ a.dyn.map (·.rel) := by
  cases hd : findDyn a.dyn r with
  | none => exact .inl rfl
  | some d => exact .inr (List.mem_map.mpr ⟨d, findDyn_mem hd, findDyn_rel hd⟩)

theorem leave_simB {p : Program E B G P A} {ix : IxSets} {a : SccSt} {ph : PScc} (hsim : SimB p ix a ph)
    (hdlt : ∀ d ∈ a.dyn, d.rel < a.rels.length) : SimStB p ix (Engine.leaveScc a) (Phys.leaveScc ph) := by
  rw [leaveScc_eq, physLeaveScc_eq]
  have hrows := fun r => leave_rows r a.dyn a.rels hdlt
  obtain ⟨hplen, hprows⟩ := leaveG_rows ⟨[], [], []⟩ PDyn.rel leaveUpdP PRel.rows (fun _ _ => rfl) ph.dyn ph.rels
    (fun pd hpd => by
      obtain ⟨d, hd, hok⟩ := hsim.dyn.forall_right pd hpd
      rw [hok.rel, ← hsim.len]; exact hdlt d hd)
  refine ⟨by rw [leave_length]; exact hsim.len.trans hplen.symm,
    fun r => by rw [hrows]; exact (hsim.rows r).trans (hprows r).symm, ?_, ?_⟩
  · intro r hr
    rw [leave_length] at hr
    rw [hrows]
    exact leaveG_fold (⟨[], [], []⟩ : PRel) PDyn.rel leaveUpdP
      (Q := fun r idx pr => VerB (ix r) (relSt a.rels r).rows idx pr.full pr.idxs)
      hsim.dyn (fun d pd hok => ⟨hok.rel, fun _ => hok.tri.verT⟩) a.rels ph.rels hsim.len hdlt r
      ((dyn_or_nd a r).imp_left (hsim.nd r hr))
  · intro r t ht
    rw [hrows] at ht; exact hsim.typed r t ht

/-- the abstract program value a physical one stands for (the stored abstract index contents are irrelevant:
`update_indices` rebuilds them) -/
def absSt (s : PSt) : St := s.map fun pr => ⟨pr.rows, []⟩

theorem relSt_absSt (s : PSt) (r : RelId) : (relSt (absSt s) r).rows = (prel s r).rows :=
  congrArg RelSt.rows (getD_map (⟨[], [], []⟩ : PRel) s r fun pr => (⟨pr.rows, []⟩ : RelSt))

theorem factsOf_absSt (s : PSt) : Engine.factsOf (absSt s) = factsOf s := by
  funext f
  simp only [Engine.factsOf, factsOf, relSt_absSt]

theorem wfSt'_absSt (p : Program E B G P A) (s : PSt) (hs : WFPSt p s) : WFSt' p (absSt s) := by
  refine ⟨by simpa [absSt] using hs.1, ?_⟩
  intro rs hrs i hi
  simp only [absSt, List.mem_map] at hrs
  obtain ⟨pr, _, rfl⟩ := hrs
  cases hi

theorem SimSt.wfP {p : Program E B G P A} {ix : IxSets} {st : St} {pst : PSt} (h : SimSt p ix st pst)
    (hl : st.length = p.rels.length) : WFPSt p pst :=
  ⟨h.len ▸ hl, fun r t ht => h.typed r t (h.rows r ▸ ht)⟩

theorem SimSt.facts {p : Program E B G P A} {ix : IxSets} {st : St} {pst : PSt} (h : SimSt p ix st pst) :
    Engine.factsOf st = factsOf pst := by
  funext f
  simp only [Engine.factsOf, factsOf, h.rows]

theorem updateIndices_simB (p : Program E B G P A) (ix : IxSets) (s : PSt) (hs : WFPSt p s) :
    SimStB p ix (Engine.updateIndices (absSt s)) (Phys.updateIndices ix s) := by
  have hprel : ∀ r, r < s.length → prel (Phys.updateIndices ix s) r =
      { rows := (prel s r).rows, full := buildFull (prel s r).rows,
        idxs := (ix r).map fun c => (c, buildIx c (prel s r).rows) } := by
    intro r hr
    simp only [Phys.updateIndices, prel_rangeMap _ _ _ hr]
  refine ⟨by simp [Engine.updateIndices, Phys.updateIndices, absSt], ?_, ?_, ?_⟩
  · intro r
    rw [relSt_updateIndices, relSt_absSt]
    refine (prel_rangeMap_rows (s := s) ?_ r).symm
    exact fun _ => rfl
  · intro r hr
    have hr' : r < s.length := by simpa [Engine.updateIndices, absSt] using hr
    rw [relSt_updateIndices, relSt_absSt, hprel r hr']
    refine ⟨FullOk_build _, by rw [List.map_map]; exact List.map_id' (ix r), fun ci hci => ?_⟩
    obtain ⟨c, _, rfl⟩ := List.mem_map.mp hci
    show IxB (bagTuples _ (List.range _)) c (buildIx c _)
    rw [bagTuples_range]
    exact .build _ _
  · intro r t ht
    rw [relSt_updateIndices, relSt_absSt] at ht
    exact hs.2 r t ht

end AscentVerif.Phys
