import AscentVerif.Proofs.NDEngine
import AscentVerif.Props.C04
/-!
# The nondeterministic engine on stratified programs with aggregation / negation

`RunND` (`Proofs/NDEngine.lean`) is defined for every program: `iterRows` evaluates aggregation items through `evalBody`, on the
stored index entries of the aggregated relation.  `Agg.runND_spec` there (the aggregation view is what the items read from the
FINAL program value) is read here as the stratified-model theorem for EVERY execution, through `Agg.PInv.view_once` /
`Agg.PInv.eq_model_view`, as `Props/C04.lean` does for the serial engine.
-/
namespace AscentVerif.Engine
open AscentVerif

variable {E B G P A : Type}

/-- **every execution of the nondeterministic engine on a stratified program computes the stratified model** (from any
well-formed program value with duplicate-free row vectors): the result is well-formed; every relation's aggregation view is a
duplicate-free enumeration of exactly its rows; the facts are exactly the least model of the rules with every aggregation
evaluated on the FINAL view of its relation; old rows are a prefix, every new tuple is appended once -/
theorem runND_agg_spec (I : Interp E B G P A) (cfg : Config) (p : Program E B G P A) (order : SccOrder)
    (s s' : St) (hp : RelationalAgg p) (ho : validOrder p order = true) (hst : Stratified p order)
    (hs : WFSt p s) (hnd : ∀ r, (relSt s r).rows.Nodup)
    (hrun : RunND I cfg p order s s') :
    WFSt p s' ∧
    (∀ r, (aggView s' r).Nodup ∧ (aggView s' r).Perm (relSt s' r).rows) ∧
    (∀ f, factsOf s' f ↔ Derivable I p.rules (aggView s') (fun g => g.rel < p.rels.length ∧ factsOf s g) f) ∧
    (∀ r, r < p.rels.length → ∃ derived, (relSt s' r).rows = (relSt s r).rows ++ derived ∧
      derived.Nodup ∧ ∀ t ∈ derived, t ∉ (relSt s r).rows) := by
  have h := Agg.runND_spec I cfg p (fun r => (relSt s r).rows) True hp.1 hp.2 order ho hst s s'
    hs (fun _ _ => rfl) hrun
  exact ⟨h.1.wfSt, h.1.view_once hnd, h.1.eq_model_view hp.1 h.2 hnd, fun r hr => (h.1.good r hr).2⟩

#print axioms AscentVerif.Engine.runND_agg_spec

end AscentVerif.Engine
