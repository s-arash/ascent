import AscentVerif.Model.Desugar
import AscentVerif.Proofs.ListBasics
/-!
# Facts about the gensym functions and the expansion functions of `Model/Desugar.lean` that need no semantics

The gensym functions of the pipeline are one family `gs d k = reservedBase + 8 * k + d` (`gsRep = gs 0`, `gsWild = gs 1`,
`gsPat = gs 2`, `gsMac = gs 3`, `tagVar j x = gs 4 (j * reservedBase + x)`, all by `rfl`): injective in the counter, disjoint for
different residues `d % 8`, at or above `reservedBase`.  The desugaring proofs (C07) and Props/C08.lean take this from here.

For the expansion: `fuel_induct`, induction in the order the expansion recurses (depth budget, then items), of which every
statement about `expandBody` / `idealBody` at all budgets is one application; `expandOne`, the step `expandItemsWith` takes on one
item, so that a `cons` unfolds to one `match`; and what a successful expansion decomposes into.
-/
namespace AscentVerif.Surface
open AscentVerif

def GenOf (gen : Nat → Var) (v : Var) : Prop := ∃ k, v = gen k

def gs (d k : Nat) : Var := reservedBase + 8 * k + d

theorem gs_inj (d : Nat) : ∀ i j : Nat, gs d i = gs d j → i = j := fun _ _ h =>
  Nat.eq_of_mul_eq_mul_left (by decide : 0 < 8) (Nat.add_left_cancel (Nat.add_right_cancel h))

theorem gs_ge (d k : Nat) : reservedBase ≤ gs d k :=
  Nat.le_trans (Nat.le_add_right _ (8 * k)) (Nat.le_add_right _ d)

theorem not_gs_of_lt {d : Nat} {v : Var} (h : v < reservedBase) : ¬ GenOf (gs d) v := by
  rintro ⟨k, rfl⟩
  exact Nat.not_lt.2 (gs_ge d k) h

theorem gs_disjoint {d d' : Nat} (hne : d % 8 ≠ d' % 8) {v : Var} (h : GenOf (gs d) v) : ¬ GenOf (gs d') v := by
  obtain ⟨j, rfl⟩ := h
  rintro ⟨k, hk⟩
  have := congrArg (· % 8) (Nat.add_left_cancel ((Nat.add_assoc ..).symm.trans (hk.trans (Nat.add_assoc ..))))
  simp only [Nat.mul_add_mod] at this
  exact hne this

theorem gs_ne {d d' : Nat} (hne : d % 8 ≠ d' % 8) (k k' : Nat) : gs d k ≠ gs d' k' :=
  fun h => gs_disjoint hne ⟨k, rfl⟩ ⟨k', h⟩

variable {E B G P A : Type}

theorem SItem.induct {M : Type} {pI : SItem E B G P A M → Prop} {pS : SItems E B G P A M → Prop} {pA : SAlts E B G P A M → Prop}
    (flat : ∀ f, pI (.flat f)) (disj : ∀ alts, pA alts → pI (.disj alts)) (mac : ∀ m, pI (.mac m))
    (nil : pS .nil) (cons : ∀ i rest, pI i → pS rest → pS (.cons i rest))
    (anil : pA .nil) (acons : ∀ a rest, pS a → pA rest → pA (.cons a rest)) :
    (∀ i, pI i) ∧ (∀ is, pS is) ∧ ∀ as, pA as :=
  ⟨fun i => SItem.rec (motive_1 := pI) (motive_2 := pS) (motive_3 := pA) flat disj mac nil cons anil acons i,
   fun is => SItems.rec (motive_1 := pI) (motive_2 := pS) (motive_3 := pA) flat disj mac nil cons anil acons is,
   fun as => SAlts.rec (motive_1 := pI) (motive_2 := pS) (motive_3 := pA) flat disj mac nil cons anil acons as⟩

theorem SItems.induct {M : Type} {p : SItems E B G P A M → Prop} (nil : p .nil) (cons : ∀ i rest, p rest → p (.cons i rest)) :
    ∀ is, p is :=
  (SItem.induct (pI := fun _ => True) (pA := fun _ => True) (fun _ => trivial) (fun _ _ => trivial) (fun _ => trivial)
    nil (fun i rest _ => cons i rest) trivial (fun _ _ _ _ => trivial)).2.1

theorem SAlts.induct {M : Type} {p : SAlts E B G P A M → Prop} (nil : p .nil) (cons : ∀ a rest, p rest → p (.cons a rest)) :
    ∀ as, p as :=
  (SItem.induct (pI := fun _ => True) (pS := fun _ => True) (fun _ => trivial) (fun _ _ => trivial) (fun _ => trivial)
    trivial (fun _ _ _ _ => trivial) nil (fun a rest _ => cons a rest)).2.2

/-- induction in the order `expandBody` (and `idealBody`, Props/C08.lean) recurse: with budget `d + 1` a sequence is taken apart item
by item; an item is expanded with budget `d` for the alternatives of a disjunction and for the body of an invoked macro (any sequence:
the instantiated body is not a part of the item) -/
theorem fuel_induct {M : Type} {pI : Nat → SItem E B G P A M → Prop} {pS : Nat → SItems E B G P A M → Prop}
    {pA : Nat → SAlts E B G P A M → Prop}
    (zero : ∀ items, pS 0 items)
    (flat : ∀ d f, pI d (.flat f)) (disj : ∀ d alts, pA d alts → pI d (.disj alts)) (mac : ∀ d m, (∀ body, pS d body) → pI d (.mac m))
    (nil : ∀ d, pS (d + 1) .nil) (cons : ∀ d i rest, pI d i → pS (d + 1) rest → pS (d + 1) (.cons i rest))
    (anil : ∀ d, pA d .nil) (acons : ∀ d a rest, pS d a → pA d rest → pA d (.cons a rest)) :
    (∀ d i, pI d i) ∧ (∀ d items, pS d items) ∧ ∀ d alts, pA d alts := by
  have alts_of : ∀ d, (∀ items, pS d items) → ∀ alts, pA d alts := fun d h =>
    SAlts.induct (anil d) fun a rest ha => acons d a rest (h a) ha
  have item_of : ∀ d, (∀ items, pS d items) → ∀ i, pI d i := by
    intro d h i
    cases i with
    | flat f => exact flat d f
    | disj alts => exact disj d alts (alts_of d h alts)
    | mac m => exact mac d m h
  have hS : ∀ d items, pS d items := by
    intro d
    induction d with
    | zero => exact zero
    | succ d ih => exact SItems.induct (nil d) fun i rest h => cons d i rest (item_of d ih i) h
  exact ⟨fun d => item_of d (hS d), hS, fun d => alts_of d (hS d)⟩

/-- the local `one` of `expandItemsWith`: the expansion of ONE item of a sequence -/
def expandOne (ops : Ops E B G A) (defs : Defs E B G P A) (full : Bool)
    (recur : ExpSt → SItems E B G P A (MInv E) → Except ExpandErr (SItems E B G P A (MInv E) × ExpSt))
    (st : ExpSt) : SItem E B G P A (MInv E) → Except ExpandErr (SItems E B G P A (MInv E) × ExpSt)
  | .flat f => .ok (.cons (.flat f) .nil, st)
  | .disj alts =>
    match expandAltsWith recur st alts with
    | .error e => .error e
    | .ok (alts', st1) => .ok (.cons (.disj alts') .nil, st1)
  | .mac inv => expandInv ops defs full recur st inv

section
variable {S : Type} {recur : S → SItems E B G P A (MInv E) → Except ExpandErr (SItems E B G P A (MInv E) × S)}

theorem expandAltsWith_cons_ok {st : S} {a : SItems E B G P A (MInv E)} {rest out : SAlts E B G P A (MInv E)} {st' : S}
    (h : expandAltsWith recur st (.cons a rest) = .ok (out, st')) :
    ∃ a' st1 rest', recur st a = .ok (a', st1) ∧ expandAltsWith recur st1 rest = .ok (rest', st') ∧ out = .cons a' rest' := by
  simp only [expandAltsWith] at h
  split at h
  · cases h
  · next a' st1 h1 =>
    split at h
    · cases h
    · next rest' st2 h2 =>
      cases h
      exact ⟨a', st1, rest', h1, h2, rfl⟩

end

section
variable {ops : Ops E B G A} {defs : Defs E B G P A} {full : Bool}
  {recur : ExpSt → SItems E B G P A (MInv E) → Except ExpandErr (SItems E B G P A (MInv E) × ExpSt)}
  {st : ExpSt} {inv : MInv E}

theorem expandItemsWith_cons {i : SItem E B G P A (MInv E)} {rest : SItems E B G P A (MInv E)} :
    expandItemsWith ops defs full recur st (.cons i rest) =
      match expandOne ops defs full recur st i with
      | .error e => .error e
      | .ok (is, st1) =>
        match expandItemsWith ops defs full recur st1 rest with
        | .error e => .error e
        | .ok (rest', st2) => .ok (is.append rest', st2) := by
  cases i <;> rfl

theorem expandItemsWith_cons_ok {i : SItem E B G P A (MInv E)} {rest out : SItems E B G P A (MInv E)} {st' : ExpSt}
    (h : expandItemsWith ops defs full recur st (.cons i rest) = .ok (out, st')) :
    ∃ is st1 rest', expandOne ops defs full recur st i = .ok (is, st1) ∧
      expandItemsWith ops defs full recur st1 rest = .ok (rest', st') ∧ out = is.append rest' := by
  rw [expandItemsWith_cons] at h
  split at h
  · cases h
  · next is st1 h1 =>
    split at h
    · cases h
    · next rest' st2 h2 =>
      cases h
      exact ⟨is, st1, rest', h1, h2, rfl⟩

theorem expandInv_eq {d : MacroDef E B G P A} (hd : defs[inv.mac]? = some d) (ha : argsOk d.params inv.args = true) :
    expandInv ops defs full recur st inv =
      match recur { st with inv := st.inv + 1 } (instItems ops inv.args (tagVar st.inv) d.body) with
      | .error e => .error e
      | .ok (exp, st') =>
        .ok (renItems ops true (untagMap st.inv) (renItems ops full (renameMap st.inv st'.gs exp) exp),
              { st' with gs := st'.gs + (originated st.inv exp).length }) := by
  simp only [expandInv, hd, ha, Bool.not_true, Bool.false_eq_true, if_false]
  rfl

theorem expandInv_ok {r : SItems E B G P A (MInv E) × ExpSt} (h : expandInv ops defs full recur st inv = .ok r) :
    ∃ d exp st', defs[inv.mac]? = some d ∧ argsOk d.params inv.args = true ∧
      recur { st with inv := st.inv + 1 } (instItems ops inv.args (tagVar st.inv) d.body) = .ok (exp, st') ∧
      r = (renItems ops true (untagMap st.inv) (renItems ops full (renameMap st.inv st'.gs exp) exp),
            { st' with gs := st'.gs + (originated st.inv exp).length }) := by
  cases hd : defs[inv.mac]? with
  | none => simp only [expandInv, hd] at h; cases h
  | some d =>
    cases ha : argsOk d.params inv.args with
    | false => simp only [expandInv, hd, ha] at h; cases h
    | true =>
      rw [expandInv_eq hd ha] at h
      split at h
      · cases h
      · next exp st' hr =>
        cases h
        exact ⟨d, exp, st', rfl, ha, hr, rfl⟩

theorem expandBody_cons {d : Nat} {i : SItem E B G P A (MInv E)} {rest : SItems E B G P A (MInv E)} :
    expandBody ops defs full (d + 1) st (.cons i rest) =
      match expandOne ops defs full (expandBody ops defs full d) st i with
      | .error e => .error e
      | .ok (is, st1) =>
        match expandBody ops defs full (d + 1) st1 rest with
        | .error e => .error e
        | .ok (rest', st2) => .ok (is.append rest', st2) :=
  expandItemsWith_cons (recur := expandBody ops defs full d)

theorem expandBody_cons_ok {d : Nat} {i : SItem E B G P A (MInv E)} {rest out : SItems E B G P A (MInv E)} {st' : ExpSt}
    (h : expandBody ops defs full (d + 1) st (.cons i rest) = .ok (out, st')) :
    ∃ is st1 rest', expandOne ops defs full (expandBody ops defs full d) st i = .ok (is, st1) ∧
      expandBody ops defs full (d + 1) st1 rest = .ok (rest', st') ∧ out = is.append rest' :=
  expandItemsWith_cons_ok (recur := expandBody ops defs full d) h

theorem expandBody_succ (ops : Ops E B G A) (defs : Defs E B G P A) (full : Bool) :
    ∀ d items st r, expandBody ops defs full d st items = .ok r → expandBody ops defs full (d + 1) st items = .ok r :=
  (fuel_induct
    (pI := fun d i => ∀ st r, expandOne ops defs full (expandBody ops defs full d) st i = .ok r →
      expandOne ops defs full (expandBody ops defs full (d + 1)) st i = .ok r)
    (pA := fun d alts => ∀ st r, expandAltsWith (expandBody ops defs full d) st alts = .ok r →
      expandAltsWith (expandBody ops defs full (d + 1)) st alts = .ok r)
    (fun items st r h => by
      cases items with
      | nil => exact h
      | cons _ _ => cases h)
    (fun _ _ _ _ h => h)
    (fun d alts iha st r h => by
      simp only [expandOne] at h ⊢
      split at h
      · cases h
      · next alts' st1 h1 => rw [iha st _ h1]; exact h)
    (fun d inv ihb st r h => by
      obtain ⟨df, exp, st', hd, ha, hr, rfl⟩ := expandInv_ok h
      rw [expandOne, expandInv_eq hd ha, ihb _ _ _ hr])
    (fun _ _ _ h => h)
    (fun d i rest ihi ih st (out, st') h => by
      obtain ⟨is, st1, rest', h1, h2, rfl⟩ := expandBody_cons_ok h
      rw [expandBody_cons, ihi _ _ h1]
      simp only [ih _ _ h2])
    (fun _ _ _ h => h)
    (fun d a rest ihs iha st (out, st') h => by
      obtain ⟨a', st1, rest', h1, h2, rfl⟩ := expandAltsWith_cons_ok h
      simp only [expandAltsWith, ihs _ _ h1, iha _ _ h2])).2.1

end

theorem expandRule_body_error {ops : Ops E B G A} {defs : Defs E B G P A} {full : Bool} {r : SRule E B G P A (MInv E)} {e : ExpandErr}
    (h : expandBody ops defs full macroDepth {} r.body = .error e) : expandRule ops defs full r = .error e := by
  rw [expandRule, h]

theorem expandRule_heads_error {ops : Ops E B G A} {defs : Defs E B G P A} {full : Bool} {r : SRule E B G P A (MInv E)} {e : ExpandErr}
    {p : SItems E B G P A (MInv E) × ExpSt} (hb : expandBody ops defs full macroDepth {} r.body = .ok p)
    (hh : expandHeads ops defs macroDepth r.heads = .error e) : expandRule ops defs full r = .error e := by
  rw [expandRule, hb, hh]

theorem argsOk_iff (ks : List ParamKind) (as : List (MArg E)) :
    argsOk ks as = true ↔ ks.length = as.length ∧ ∀ i : Nat, ks[i]? = some ParamKind.ident → ∃ x, as[i]? = some (MArg.ident x) := by
  induction ks generalizing as with
  | nil => cases as <;> simp [argsOk]
  | cons k ks ih =>
    cases as with
    | nil => cases k <;> simp [argsOk]
    | cons a as =>
      -- position 0 is the head, the positions after it are those of the tails
      rw [forall_nat_succ (P := fun i => (k :: ks)[i]? = _ → ∃ x, (a :: as)[i]? = _)]
      simp only [List.length_cons, Nat.add_right_cancel_iff, List.getElem?_cons_zero, List.getElem?_cons_succ, Option.some.injEq]
      cases k with
      | expr => simp [argsOk, ih]
      | ident => cases a <;> simp [argsOk, ih]

theorem argsOk_replicate_expr (a : MArg E) : ∀ n, argsOk (List.replicate n .expr) (List.replicate n a) = true
  | 0 => rfl
  | n + 1 => argsOk_replicate_expr a n

theorem instVar_param {args : List (MArg E)} {tag : Var → Var} {x : Var} {a : MArg E}
    (hx : paramBase ≤ x) (ha : args[x - paramBase]? = some a) : instVar args tag x = a := by
  rw [instVar, if_pos hx, List.getD_eq_getElem?_getD, ha, Option.getD_some]

theorem indexOf?_some {v : Var} {l : List Var} : ∀ {i : Nat}, indexOf? v l = some i → l[i]? = some v := by
  induction l with
  | nil => intro i h; cases h
  | cons x xs ih =>
    intro i h
    simp only [indexOf?] at h
    split at h
    · next hx => cases h; simp [hx]
    · obtain ⟨i', hi, rfl⟩ := Option.map_eq_some_iff.1 h
      simpa using ih hi

theorem indexOf?_of_mem {v : Var} {l : List Var} (h : v ∈ l) : ∃ i, i < l.length ∧ indexOf? v l = some i := by
  induction l with
  | nil => cases h
  | cons x xs ih =>
    simp only [indexOf?]
    by_cases hx : x = v
    · exact ⟨0, Nat.zero_lt_succ _, if_pos hx⟩
    · obtain ⟨i, hi, e⟩ := ih ((List.mem_cons.1 h).resolve_left (Ne.symm hx))
      exact ⟨i + 1, Nat.succ_lt_succ hi, by rw [if_neg hx, e]; rfl⟩

theorem mem_originated {j : Nat} {items : SItems E B G P A (MInv E)} {v : Var} :
    v ∈ originated j items ↔ v ∈ boundVarsS items ∧ ∃ x, untag? j v = some x := by
  unfold originated
  rw [List.mem_eraseDups, List.mem_filter, Option.isSome_iff_exists]

end AscentVerif.Surface
