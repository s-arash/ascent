import AscentVerif.Proofs.LatFromQuiet
/-!
# An execution over a closed, quiet value changes no row (idempotence of `run()` with lattices, C13)

If the facts of the start value are closed under the rules up to domination (`LClosedRules`) and every head is quiet
(`ClosedFor (Quiet I p)`), then — for antisymmetric lattice orders — no head update changes any row vector: relation heads
are present already, lattice heads join into a row that dominates them, and the written value equals the stored one.
Proved for EVERY execution of the nondeterministic lattice engine of `Proofs/NDLattice.lean` (any processing order, values read
at any earlier moment of the pass): along a trace every state has the row vectors `R`; an instance read in any of them is an
instance over `DBof R`, so its heads are dominated and quiet.  The deterministic engine is one execution (`run_same`).
-/
namespace AscentVerif.Engine
open AscentVerif

variable {E B G P A : Type}

def SameRows (R : RelId → List Tuple) (s : SccSt) : Prop := ∀ r, rowsOf s r = R r

def DBof (R : RelId → List Tuple) : DB := fun f => f.args ∈ R f.rel

theorem FactsS_of_same {R : RelId → List Tuple} {s : SccSt} (h : SameRows R s) : FactsS s = DBof R := by
  funext f
  simp only [FactsS, DBof, h f.rel]

section Same
variable {I : Interp E B G P A} {L : LatOrder I} {p : Program E B G P A} {inp : RelId → List Tuple}
  {dynR : List RelId}

theorem headLat_same (hanti : ∀ r a b, L.le r a b → L.le r b a → a = b)
    {s : SccSt} (hinv : LInv I L p inp dynR s) (r : RelId) (row : Tuple)
    (hlat : (declOf p r).lat = true) (hdyn : dynR.contains r = true)
    (hdom : Dominated I L p (FactsS s) ⟨r, row⟩) (hq : Quiet I p (FactsS s) ⟨r, row⟩) :
    ∀ r', rowsOf (headLat I {} s r row) r' = rowsOf s r' := by
  have hr' : r < s.rels.length := by rw [hinv.wf.len]; exact hinv.dlt r hdyn
  have hkeys := hinv.keys r hlat
  obtain ⟨t, ht, hk, hv⟩ := (dominated_lat I L p (f := ⟨r, row⟩) hlat).mp hdom
  obtain ⟨d, hd⟩ := hinv.wf.findDyn_some hdyn
  rcases headLat_cases I row hd (hinv.wf.cover r d hd) with ⟨hf, -⟩ | ⟨i, hi, hkey, ⟨hj, h⟩ | ⟨-, h⟩⟩
  · exact absurd hk (hf t ht)
  · intro r'
    rw [h]
    by_cases hne : r' = r
    · subst hne
      -- the row of the key dominates the head, so the join is the stored value
      have hti : rowAt (rowsOf s r') i = t := row_of_key hkeys (rowAt_mem _ _ hi) ht (hkey.trans hk.symm)
      have hx' : (I.joinMut r' (valOf (rowAt (rowsOf s r') i)) (valOf row)).1 = valOf (rowAt (rowsOf s r') i) := by
        apply hanti
        · exact L.join_least _ _ _ _ (L.refl _ _) (by rw [hti]; exact hv)
        · exact L.join_left _ _ _
      -- and it has a value column: a join into an empty row would have answered `false`
      have hne0 : rowAt (rowsOf s r') i ≠ [] := by
        intro h0
        have hq' := hq hlat (by show [] ∈ rowsOf s r'; rw [← h0]; exact rowAt_mem _ _ hi)
          (by show keyOf row = []; rw [← hkey, h0]; rfl)
        rw [h0] at hj
        exact absurd (hj.symm.trans hq') (by simp)
      rw [joinSt_rows_self hr']
      unfold joinRows
      rw [hx', snoc_key_val hne0, setNth_eq_set, rowAt_of_lt _ _ hi]
      exact List.set_getElem_self hi
    · exact joinSt_rows_ne hne
  · rw [h]
    exact fun _ => rfl

theorem headRel_same {s : SccSt} (hinv : LInv I L p inp dynR s) (r : RelId) (row : Tuple)
    (hlat : (declOf p r).lat = false) (hdyn : dynR.contains r = true)
    (hdom : Dominated I L p (FactsS s) ⟨r, row⟩) : headRel s r row = s := by
  obtain ⟨d, hd⟩ := hinv.wf.findDyn_some hdyn
  have hcov := hinv.wf.cover r d hd
  have hmem : row ∈ rowsOf s r := (dominated_rel I L p (f := ⟨r, row⟩) hlat).mp hdom
  rw [headRel_eq, hd]
  simp only []
  rw [if_pos]
  rw [Bool.or_eq_true, Bool.or_eq_true, mem_bagTuples, mem_bagTuples, mem_bagTuples]
  obtain ⟨i, hi, h⟩ := (mem_iff_rowAt _ _).mp hmem
  rcases (hcov i).mp hi with hi | hi | hi
  · exact .inl (.inl ⟨i, hi, h⟩)
  · exact .inl (.inr ⟨i, hi, h⟩)
  · exact .inr ⟨i, hi, h⟩

theorem headUpdate_same (hanti : ∀ r a b, L.le r a b → L.le r b a → a = b)
    {s : SccSt} (hinv : LInv I L p inp dynR s) (h : HeadClause E) (ρ : Env)
    (hdyn : dynR.contains h.rel = true)
    (hdom : Dominated I L p (FactsS s) (headFact I h ρ)) (hq : Quiet I p (FactsS s) (headFact I h ρ)) :
    ∀ r', rowsOf (headUpdate I {} p s h ρ) r' = rowsOf s r' := by
  unfold headUpdate
  cases hlat : (declOf p h.rel).lat with
  | true => exact headLat_same hanti hinv h.rel _ hlat hdyn hdom hq
  | false =>
    intro r'
    simp only [Bool.false_eq_true, if_false]
    rw [headRel_same hinv h.rel _ hlat hdyn hdom]

variable (hanti : ∀ r a b, L.le r a b → L.le r b a → a = b) (R : RelId → List Tuple)
  (hcl : LClosedRules I L p p.rules (DBof R)) (hqcl : ClosedFor I (Quiet I p) p.rules (DBof R))

include hanti in
theorem heads_sameND (heads : List (HeadClause E)) (ρ : Env)
    (hbf : ∀ h ∈ heads, BelowF I L p inp (headFact I h ρ))
    (hdyn : ∀ h ∈ heads, dynR.contains h.rel = true)
    (hdom : ∀ h ∈ heads, Dominated I L p (DBof R) (headFact I h ρ) ∧ Quiet I p (DBof R) (headFact I h ρ)) :
    ∀ s, LInv I L p inp dynR s ∧ SameRows R s →
      LInv I L p inp dynR (heads.foldl (fun s h => headUpdate I {} p s h ρ) s) ∧
      SameRows R (heads.foldl (fun s h => headUpdate I {} p s h ρ) s) := by
  intro s hs
  refine foldl_inv (P := fun s => LInv I L p inp dynR s ∧ SameRows R s) ?_ hs
  intro s h hh hs
  obtain ⟨hd, hq⟩ := hdom h hh
  rw [← FactsS_of_same hs.2] at hd hq
  refine ⟨(headUpdate_step hs.1 h ρ (hdyn h hh) (hbf h hh)).1, ?_⟩
  intro r'
  rw [headUpdate_same hanti hs.1 h ρ (hdyn h hh) hd hq r']
  exact hs.2 r'

include hanti hcl hqcl in
theorem passNDL_same (rules : List (Rule E B G P A)) (hrules : ∀ rule ∈ rules, rule ∈ p.rules)
    (hdyn : ∀ rule ∈ rules, ∀ h ∈ rule.heads, dynR.contains h.rel = true)
    (s s₁ : SccSt) (hinv : LInv I L p inp dynR { s with changed := false }) (hsame : SameRows R s)
    (hpass : PassNDL I p dynR rules s s₁) : SameRows R s₁ := by
  obtain ⟨tr, htr, hhead, hlast, _⟩ := hpass
  obtain ⟨e₁, he₁, rfl⟩ := Option.map_eq_some_iff.mp hhead
  refine (htr.forall_st (Q := fun s => LInv I L p inp dynR s ∧ SameRows R s) ?_ _ hlast ⟨hinv, hsame⟩ e₁
    (List.mem_of_head? he₁)).2
  -- an instance read in a state with the rows `R` is an instance over `DBof R`: its heads are dominated and quiet
  intro rule hrule vs ρ sr s ⟨hinvr, hsamer⟩ hs hsat
  have hbf := belowF_of_view rule (hrules rule hrule) vs sr hinvr ρ hsat
  have hsat' : Sat I (FactsS sr) nAgg rule.body [] ρ :=
    SatV.toSat (fun r v t hv => view_sub_rows {} p hinvr.wf hv) hsat
  rw [FactsS_of_same hsamer] at hsat'
  exact heads_sameND hanti R rule.heads ρ hbf (hdyn rule hrule)
    (fun h hh => ⟨hcl rule (hrules rule hrule) ρ hsat' h hh, hqcl rule (hrules rule hrule) ρ hsat' h hh⟩) s hs

include hanti hcl hqcl in
/-- the rows are an invariant of the iterations, beside the loop invariant of `Proofs/LatScc.lean` -/
theorem sccNDL_same (haf : ∀ r ∈ p.rules, r.aggFree = true)
    (hh : ∀ r ∈ p.rules, ∀ h ∈ r.heads, h.rel < p.rels.length)
    (scc : List Nat) (st st' : St) (hp : LPInv I L p inp st) (hsame : ∀ r, (relSt st r).rows = R r)
    (h : SccNDL I p scc st st') : ∀ r, (relSt st' r).rows = R r := by
  have T := alongDominated I L p
  have hok := sccPassNDL_ok (tracksDominated I L p inp) haf (fun _ _ _ _ => trivial) scc st
  let J (Q : Rule E B G P A → Prop) (s : SccSt) : Prop :=
    GLoop I L p inp False (Tgt I L p inp) (fun a => nAgg a.rel) (DBLe I L p) (Dominated I L p) st (dynRels p scc)
      (sccRules p scc) Q s ∧ SameRows R s
  have step : ∀ s s1, J (hasDyn (dynRels p scc)) s → PassNDL I p (dynRels p scc) (sccRules p scc) s s1 →
      J (fun _ => True) (shift s1) :=
    fun s s1 hs hps => ⟨(hs.1.iter T hok hps).1, passNDL_same hanti R hcl hqcl (sccRules p scc) (sccRules_sub p scc)
      (dynRels_heads p scc) s s1 (LInv_reset (LInvT_tgt.mp hs.1.inv)) hs.2 hps⟩
  obtain ⟨s1, s', hpre, _, rfl⟩ := sccNDL_sccG h
  obtain ⟨s₀, hs₀, hps, hcase⟩ := hpre.last (Inv := J (hasDyn (dynRels p scc)))
    ⟨GLoop.enter T (hp.enter _ (dynRels_lt p hh scc)) nofun, fun r => by simp only [rowsOf, enterScc_rels]; exact hsame r⟩
    fun s s1 hs hps => (step s s1 hs hps).imp (·.weaken fun _ _ => trivial) id
  obtain ⟨hg, hs1⟩ := step s₀ s1 hs₀ hps
  intro r
  rcases hcase with ⟨_, rfl⟩ | ⟨_, rfl⟩
  · rw [Agg.leaveScc_rows hg.inv.wf hg.inv.dlt]; exact hs1 r
  · rw [Agg.leaveScc_rows (LInvT_shift hg.inv).wf hg.inv.dlt]; exact hs1 r

include hanti hcl hqcl in
theorem sccsNDL_same (haf : ∀ r ∈ p.rules, r.aggFree = true)
    (hh : ∀ r ∈ p.rules, ∀ h ∈ r.heads, h.rel < p.rels.length)
    {rest : SccOrder} {st st' : St} (hrun : SccsNDL I p rest st st') :
    LPInv I L p inp st → (∀ r, (relSt st r).rows = R r) → ∀ r, (relSt st' r).rows = R r := by
  induction hrun with
  | nil => intro _ hsame; exact hsame
  | @cons scc rest st st₁ st₂ hscc _ ih =>
    intro hp hsame
    obtain ⟨hp1, _, _, _⟩ := sccNDL_spec haf hh scc st st₁ hp hscc
    exact ih hp1 (sccNDL_same hanti R hcl hqcl haf hh scc st st₁ hp hsame hscc)

end Same

theorem runNDL_same_quiet {I : Interp E B G P A} {L : LatOrder I} {p : Program E B G P A}
    (hanti : ∀ r a b, L.le r a b → L.le r b a → a = b)
    (haf : ∀ r ∈ p.rules, r.aggFree = true)
    (hh : ∀ r ∈ p.rules, ∀ h ∈ r.heads, h.rel < p.rels.length)
    (o : SccOrder) (s s' : St) (hs : WFSt' p s)
    (hk : ∀ r, r < p.rels.length → (declOf p r).lat = true → ((relSt s r).rows.map keyOf).Nodup)
    (hcl : LClosedRules I L p p.rules (DBof (rowsFn s)))
    (hqcl : ClosedFor I (Quiet I p) p.rules (DBof (rowsFn s)))
    (hrun : RunNDL I p o s s') : ∀ r, (relSt s' r).rows = (relSt s r).rows := by
  obtain ⟨hp0, _⟩ := LPInv_from (I := I) (L := L) s hs hk
  exact sccsNDL_same hanti (rowsFn s) hcl hqcl haf hh hrun hp0 (fun r => by rw [relSt_updateIndices]; rfl)

/-- `Quiet` speaks of a row `[]` in a lattice relation: where the start value has none (`hne`) it holds of every fact -/
theorem runNDL_same {I : Interp E B G P A} {L : LatOrder I} {p : Program E B G P A}
    (hanti : ∀ r a b, L.le r a b → L.le r b a → a = b)
    (haf : ∀ r ∈ p.rules, r.aggFree = true)
    (hh : ∀ r ∈ p.rules, ∀ h ∈ r.heads, h.rel < p.rels.length)
    (o : SccOrder) (s s' : St) (hs : WFSt' p s)
    (hk : ∀ r, r < p.rels.length → (declOf p r).lat = true → ((relSt s r).rows.map keyOf).Nodup)
    (hne : ∀ r, (declOf p r).lat = true → [] ∉ (relSt s r).rows)
    (hcl : LClosedRules I L p p.rules (DBof (rowsFn s)))
    (hrun : RunNDL I p o s s') : ∀ r, (relSt s' r).rows = (relSt s r).rows :=
  runNDL_same_quiet (L := L) hanti haf hh o s s' hs hk hcl (fun _ _ _ _ h _ hl hm _ => absurd hm (hne h.rel hl)) hrun

/-- the deterministic engine is one such execution (`runTimeout_is_NDL`) -/
theorem run_same {I : Interp E B G P A} {L : LatOrder I} {p : Program E B G P A}
    (hanti : ∀ r a b, L.le r a b → L.le r b a → a = b)
    (haf : ∀ r ∈ p.rules, r.aggFree = true)
    (hh : ∀ r ∈ p.rules, ∀ h ∈ r.heads, h.rel < p.rels.length)
    (o : SccOrder) (dl : Deadline) (fuel : Nat) (s : St) (ps : ProgSt)
    (hs : WFSt' p s)
    (hk : ∀ r, r < p.rels.length → (declOf p r).lat = true → ((relSt s r).rows.map keyOf).Nodup)
    (hcl : LClosedRules I L p p.rules (DBof (rowsFn s)))
    (hqcl : ClosedFor I (Quiet I p) p.rules (DBof (rowsFn s)))
    (hrun : runTimeout I {} p o dl fuel s = .done ps) :
    ∀ r, (relSt ps.st r).rows = (relSt s r).rows :=
  runNDL_same_quiet (L := L) hanti haf hh o s ps.st hs hk hcl hqcl (runTimeout_is_NDL haf o dl fuel s ps hrun)

end AscentVerif.Engine
