import AscentVerif.Proofs.TrRelMapOk
/-!
`add_set_connection` and `add` as they run (the lemmas named `…_sound` are in `TrRelSimple`).

`add_set_connection(from, to)` never panics: it returns the state unchanged when the edge is stored, and `connNew`
otherwise (`addSetConnection_run`).  In `connNew` the two maps go through the same steps with the roles of `from` and `to`
exchanged — `takeEntry` before the double loop of `add_one_connection`, `putBack` after it — and every statement about
the call is read off these two and the loop: a transitive upper bound `ConnLe G` is kept (`addSetConnection_le`),
`ConnSpec` describes both maps afterwards with no assumption on the state, the maps stay duplicate-free.
`add` is its three branches, the collapse branch a function of its own (`collapseBranch`, `add_eq`); `add_run` says which
one is taken after the two `add_node_new`.
-/
namespace AscentVerif.TrRel

structure ConnLe (G : Nat → Nat → Prop) (t : TrRel) : Prop where
  conn : MapLe G t.conn
  rconn : MapLe (fun a b => G b a) t.rconn

/-- agreement on every field but the two connection maps -/
def SameCore (t t' : TrRel) : Prop := t'.sets = t.sets ∧ t'.elemIds = t.elemIds ∧ t'.subs = t.subs

theorem SameCore.refl (t : TrRel) : SameCore t t := ⟨rfl, rfl, rfl⟩
theorem SameCore.trans {a b c : TrRel} (h : SameCore a b) (h' : SameCore b c) : SameCore a c :=
  ⟨h'.1.trans h.1, h'.2.1.trans h.2.1, h'.2.2.trans h.2.2⟩

/-- before the double loop: `entry(k).or_default().insert(x)`, then `take(entry(x).or_default())`.  The map with the
entry of `x` emptied, and what was taken. -/
def takeEntry (m : NMap) (k x : Nat) : NMap × NSet :=
  (alSet (entryOrDefault (entryInsert m k x).1 x).1 x [], (entryOrDefault (entryInsert m k x).1 x).2)

/-- after the double loop: every `z ∈ news` gets `x`, `k` gets all of `s`, and `s` is put back under `x` -/
def putBack (m : NMap) (news : List Nat) (k x : Nat) (s : NSet) : NMap :=
  alSet (entryExtend (news.foldl (fun c z => (entryInsert c z x).1) m) k s) x s

theorem mem_takeEntry_snd (m : NMap) (k x c : Nat) : c ∈ (takeEntry m k x).2 ↔ rel m x c ∨ (x = k ∧ c = x) := by
  rw [takeEntry, mem_entryOrDefault_snd, rel_entryInsert]

theorem rel_takeEntry (m : NMap) (k x a c : Nat) :
    rel (takeEntry m k x).1 a c ↔ a ≠ x ∧ (rel m a c ∨ (a = k ∧ c = x)) := by
  rw [takeEntry, rel_alSet, rel_entryOrDefault, rel_entryInsert]
  by_cases h : x = a
  · simp [h]
  · simp [h, Ne.symm h]

/-- the entry that `add_set_connection` indexes after the `take` exists: it was created by the `insert` -/
theorem alGet_takeEntry_key (m : NMap) (k x : Nat) : ∃ s, alGet (takeEntry m k x).1 k = some s := by
  rw [takeEntry, alGet_alSet]
  split
  · exact ⟨_, rfl⟩
  · obtain ⟨s, hs⟩ := alGet_entryInsert_self m k x
    exact ⟨s, alGet_entryOrDefault_of_some x hs⟩

/-- the `difference` that `add_set_connection` loops over: what `x` had, minus what `k` has -/
def takeDiff (m : NMap) (k x : Nat) : NSet := nsDiff (takeEntry m k x).2 ((alGet (takeEntry m k x).1 k).getD [])

theorem takeDiff_sub (m : NMap) (k x : Nat) : ∀ y ∈ takeDiff m k x, y ∈ (takeEntry m k x).2 :=
  fun y hy => ((mem_nsDiff _ _ y).mp hy).1

theorem mem_takeDiff (m : NMap) {k x : Nat} (hne : k ≠ x) (y : Nat) :
    y ∈ takeDiff m k x ↔ rel m x y ∧ ¬ (rel m k y ∨ y = x) := by
  rw [takeDiff, mem_nsDiff, mem_takeEntry_snd, mem_alGet_getD, rel_takeEntry]
  simp only [hne, Ne.symm hne, ne_eq, not_false_eq_true, false_and, or_false, true_and]

theorem rel_putBack (m : NMap) (news : List Nat) (k x : Nat) (s : NSet) (a c : Nat) :
    rel (putBack m news k x s) a c ↔
      if x = a then c ∈ s else (rel m a c ∨ (a ∈ news ∧ c = x)) ∨ (a = k ∧ c ∈ s) := by
  unfold putBack
  rw [rel_alSet, rel_entryExtend, rel_foldl_insert]

theorem alGet_putBack_self (m : NMap) (news : List Nat) (k x : Nat) (s : NSet) : alGet (putBack m news k x s) x = some s := by
  unfold putBack
  rw [alGet_alSet, if_pos rfl]

theorem MapLe.takeEntry {G : Nat → Nat → Prop} {m : NMap} (h : MapLe G m) {k x : Nat} (hg : G k x) :
    MapLe G (takeEntry m k x).1 ∧ ∀ y ∈ (takeEntry m k x).2, G x y := by
  rw [TrRel.takeEntry]
  exact ⟨((h.insert hg).orDefault x).set (fun _ hy => nomatch hy), (h.insert hg).of_orDefault_snd x⟩

theorem MapLe.putBack {G : Nat → Nat → Prop} {m : NMap} (h : MapLe G m) {news : List Nat} {k x : Nat} {s : NSet}
    (hn : ∀ z ∈ news, G z x) (hx : ∀ y ∈ s, G x y) (hk : ∀ y ∈ s, G k y) : MapLe G (putBack m news k x s) :=
  ((h.foldl_insert_key news x hn).extend hk).set hx

/-- `add_one_connection(x, y)`: nothing happens when the pair is stored; its reverse is written only when it was not -/
theorem addOneConnection_run (t : TrRel) (x y : Nat) :
    (rel t.conn x y ∧ (t.addOneConnection x y).1 = t) ∨
      (¬ rel t.conn x y ∧ (t.addOneConnection x y).1 =
        { t with conn := (entryInsert t.conn x y).1, rconn := (entryInsert t.rconn y x).1 }) := by
  unfold TrRel.addOneConnection
  by_cases h : rel t.conn x y
  · exact Or.inl ⟨h, by simp [entryInsert_of_rel h]⟩
  · refine Or.inr ⟨h, ?_⟩
    have hnew := (entryInsert_snd t.conn x y).mpr h
    rcases hei : entryInsert t.conn x y with ⟨conn1, isNew⟩
    rw [hei] at hnew
    cases hnew
    rfl

theorem addOneConnection_rel (t : TrRel) (x y a c : Nat) :
    (rel (t.addOneConnection x y).1.conn a c ↔ rel t.conn a c ∨ (a = x ∧ c = y)) ∧
      (rel (t.addOneConnection x y).1.rconn c a ↔ rel t.rconn c a ∨ ((c = y ∧ a = x) ∧ ¬ rel t.conn a c)) := by
  rcases addOneConnection_run t x y with ⟨hold, e⟩ | ⟨hnew, e⟩
  · rw [e]
    exact ⟨⟨Or.inl, fun h => h.elim id fun ⟨e1, e2⟩ => e1 ▸ e2 ▸ hold⟩,
      Or.inl, fun h => h.elim id fun ⟨⟨e1, e2⟩, hn⟩ => absurd hold (e1 ▸ e2 ▸ hn)⟩
  · rw [e]
    refine ⟨rel_entryInsert t.conn x y a c,
      (rel_entryInsert t.rconn y x c a).trans (or_congr_right ⟨fun h => ⟨h, ?_⟩, fun h => h.1⟩)⟩
    rw [h.1, h.2]; exact hnew

theorem foldl_pairs {α : Type} (g : α → Nat → Nat → α) (xs ys : List Nat) (t : α) :
    xs.foldl (fun t x => ys.foldl (fun t y => g t x y) t) t =
      (xs.flatMap fun x => ys.map (Prod.mk x)).foldl (fun t p => g t p.1 p.2) t := by
  induction xs generalizing t with
  | nil => rfl
  | cons x rest ih => simp only [List.foldl_cons, List.flatMap_cons, List.foldl_append, List.foldl_map, ih]

theorem mem_pairs (xs ys : List Nat) (a c : Nat) : (a, c) ∈ (xs.flatMap fun x => ys.map (Prod.mk x)) ↔ a ∈ xs ∧ c ∈ ys := by
  simp only [List.mem_flatMap, List.mem_map, Prod.mk.injEq]
  exact ⟨fun ⟨_, hx, _, hy, e1, e2⟩ => ⟨e1 ▸ hx, e2 ▸ hy⟩, fun ⟨hx, hy⟩ => ⟨a, hx, c, hy, rfl, rfl⟩⟩

theorem foldl_addOne_rel (ps : List (Nat × Nat)) (t : TrRel) (a c : Nat) :
    (rel (ps.foldl (fun t p => (t.addOneConnection p.1 p.2).1) t).conn a c ↔ rel t.conn a c ∨ (a, c) ∈ ps) ∧
      (rel (ps.foldl (fun t p => (t.addOneConnection p.1 p.2).1) t).rconn c a ↔
        rel t.rconn c a ∨ ((a, c) ∈ ps ∧ ¬ rel t.conn a c)) := by
  induction ps generalizing t with
  | nil => simp
  | cons p rest ih =>
    obtain ⟨h1, h2⟩ := addOneConnection_rel t p.1 p.2 a c
    have hp : (a, c) = p ↔ a = p.1 ∧ c = p.2 := Prod.ext_iff
    rw [List.foldl_cons, (ih _).1, (ih _).2, h1, h2, List.mem_cons, hp, and_comm (a := c = p.2)]
    refine ⟨or_assoc, ?_⟩
    by_cases e : a = p.1 ∧ c = p.2
    · simp only [e, and_self, true_and, or_true, true_or, not_true_eq_false, and_false, or_false]
    · simp only [e, false_and, or_false, false_or]

theorem addOneConnection_le {G : Nat → Nat → Prop} {t : TrRel} (h : ConnLe G t) {f to : Nat} (hg : G f to) :
    ConnLe G (t.addOneConnection f to).1 ∧ SameCore t (t.addOneConnection f to).1 := by
  rcases addOneConnection_run t f to with ⟨_, e⟩ | ⟨_, e⟩
  · rw [e]; exact ⟨h, .refl t⟩
  · rw [e]; exact ⟨⟨h.conn.insert hg, h.rconn.insert (G := fun a b => G b a) hg⟩, rfl, rfl, rfl⟩

/-- `add_set_connection(f, to)` for an edge that is not stored, up to the end of the double loop -/
def connLoop (t : TrRel) (f to : Nat) : TrRel :=
  (takeDiff t.rconn to f).foldl (fun s x' => (takeDiff t.conn f to).foldl (fun s y' => (s.addOneConnection x' y').1) s)
    { t with conn := (takeEntry t.conn f to).1, rconn := (takeEntry t.rconn to f).1 }

def connNew (t : TrRel) (f to : Nat) : TrRel :=
  { connLoop t f to with
    conn := putBack (connLoop t f to).conn (takeDiff t.rconn to f) f to (takeEntry t.conn f to).2
    rconn := putBack (connLoop t f to).rconn (takeDiff t.conn f to) to f (takeEntry t.rconn to f).2 }

theorem connNew_conn (t : TrRel) (f to : Nat) : (connNew t f to).conn =
    putBack (connLoop t f to).conn (takeDiff t.rconn to f) f to (takeEntry t.conn f to).2 := by
  rw [connNew]

theorem connNew_rconn (t : TrRel) (f to : Nat) : (connNew t f to).rconn =
    putBack (connLoop t f to).rconn (takeDiff t.conn f to) to f (takeEntry t.rconn to f).2 := by
  rw [connNew]

theorem connNew_core (t : TrRel) (f to : Nat) : SameCore (connLoop t f to) (connNew t f to) := by
  simp only [SameCore, connNew, and_self]

theorem connLoop_inv {P : TrRel → Prop} {t : TrRel} {f to : Nat}
    (h : P { t with conn := (takeEntry t.conn f to).1, rconn := (takeEntry t.rconn to f).1 })
    (step : ∀ t', ∀ x' ∈ takeDiff t.rconn to f, ∀ y' ∈ takeDiff t.conn f to, P t' → P (t'.addOneConnection x' y').1) :
    P (connLoop t f to) :=
  foldl_inv (fun _ x' hx' h' => foldl_inv (fun t' y' hy' => step t' x' hx' y' hy') h') h

theorem rel_connLoop (t : TrRel) (f to a c : Nat) :
    (rel (connLoop t f to).conn a c ↔
        rel (takeEntry t.conn f to).1 a c ∨ (a ∈ takeDiff t.rconn to f ∧ c ∈ takeDiff t.conn f to)) ∧
      (rel (connLoop t f to).rconn c a ↔ rel (takeEntry t.rconn to f).1 c a ∨
        ((a ∈ takeDiff t.rconn to f ∧ c ∈ takeDiff t.conn f to) ∧ ¬ rel (takeEntry t.conn f to).1 a c)) := by
  rw [connLoop, foldl_pairs (fun (t : TrRel) x y => (t.addOneConnection x y).1), ← mem_pairs]
  exact foldl_addOne_rel _ _ a c

theorem addSetConnection_run (t : TrRel) (f to : Nat) :
    (rel t.conn f to ∧ t.addSetConnection f to = .ok (t, false)) ∨
      (¬ rel t.conn f to ∧ t.addSetConnection f to = .ok (connNew t f to, true)) := by
  by_cases h : rel t.conn f to
  · exact Or.inl ⟨h, by simp [TrRel.addSetConnection, entryInsert_of_rel h]⟩
  · refine Or.inr ⟨h, ?_⟩
    obtain ⟨cf, hcf⟩ := alGet_takeEntry_key t.conn f to
    obtain ⟨rt, hrt⟩ := alGet_takeEntry_key t.rconn to f
    have hnew := (entryInsert_snd t.conn f to).mpr h
    -- the two look-ups that the model `unwrap`s, with `takeEntry` unfolded as the text of `add_set_connection` has them
    have hcf' : alGet (alSet (entryOrDefault (entryInsert t.conn f to).1 to).1 to []) f = some cf := hcf
    have hrt' : alGet (alSet (entryOrDefault (entryInsert t.rconn to f).1 f).1 f []) to = some rt := hrt
    rw [connNew, connLoop, takeDiff, takeDiff, hcf, hrt]
    simp only [TrRel.addSetConnection, hnew, hcf', hrt', unwrap, Res.bind_ok, Res.pure_eq, Bool.not_true,
      Bool.false_eq_true, if_false, putBack, takeEntry, Option.getD_some]

theorem addSetConnection_ok (t : TrRel) (f to : Nat) : ∃ t' b, t.addSetConnection f to = .ok (t', b) := by
  rcases addSetConnection_run t f to with ⟨_, h⟩ | ⟨_, h⟩
  · exact ⟨_, _, h⟩
  · exact ⟨_, _, h⟩

theorem addSetConnection_eq_ok {t t' : TrRel} {f to : Nat} {b : Bool} (he : t.addSetConnection f to = .ok (t', b)) :
    (rel t.conn f to ∧ t' = t) ∨ (¬ rel t.conn f to ∧ t' = connNew t f to) := by
  rcases addSetConnection_run t f to with ⟨h, e⟩ | ⟨h, e⟩
  · exact Or.inl ⟨h, (Prod.mk.inj (Res.ok.inj (he.symm.trans e))).1⟩
  · exact Or.inr ⟨h, (Prod.mk.inj (Res.ok.inj (he.symm.trans e))).1⟩

theorem addSetConnection_le {G : Nat → Nat → Prop} (htrans : ∀ a b c, G a b → G b c → G a c)
    {t t' : TrRel} {f to : Nat} {b : Bool} (h : ConnLe G t) (hg : G f to)
    (he : t.addSetConnection f to = .ok (t', b)) : ConnLe G t' ∧ SameCore t t' := by
  rcases addSetConnection_eq_ok he with ⟨_, rfl⟩ | ⟨_, rfl⟩
  · exact ⟨h, .refl _⟩
  · obtain ⟨hc, hto⟩ := h.conn.takeEntry hg
    obtain ⟨hr, hfr⟩ := h.rconn.takeEntry (G := fun a b => G b a) hg
    have hnt : ∀ y ∈ takeDiff t.conn f to, G to y := fun y hy => hto y (takeDiff_sub _ _ _ y hy)
    have hnf : ∀ x ∈ takeDiff t.rconn to f, G x f := fun x hx => hfr x (takeDiff_sub _ _ _ x hx)
    -- every pair the loops add is `x' → f → to → y'` for a stored predecessor `x'` of `f` and a stored successor `y'` of `to`
    obtain ⟨ht2, c2⟩ : ConnLe G (connLoop t f to) ∧ SameCore t (connLoop t f to) :=
      connLoop_inv (P := fun t' => ConnLe G t' ∧ SameCore t t') ⟨⟨hc, hr⟩, .refl t⟩ fun _ x' hx' y' hy' h' =>
        (addOneConnection_le h'.1 (htrans _ _ _ (hnf x' hx') (htrans _ _ _ hg (hnt y' hy')))).imp_right h'.2.trans
    refine ⟨⟨?_, ?_⟩, c2.trans (connNew_core t f to)⟩
    · rw [connNew_conn]
      exact ht2.conn.putBack (fun z hz => htrans _ _ _ (hnf z hz) hg) hto fun y hy => htrans _ _ _ hg (hto y hy)
    · rw [connNew_rconn]
      exact ht2.rconn.putBack (G := fun a b => G b a) (fun z hz => htrans _ _ _ hg (hnt z hz)) hfr
        fun x hx => htrans _ _ _ (hfr x hx) hg

theorem addSetConnection_core {t t' : TrRel} {f to : Nat} {b : Bool} (he : t.addSetConnection f to = .ok (t', b)) :
    SameCore t t' :=
  (addSetConnection_le (G := fun _ _ => True) (fun _ _ _ _ _ => trivial) ⟨fun _ _ _ => trivial, fun _ _ _ => trivial⟩
    trivial he).2

/-- `new_from_reverse_connections` of `add_set_connection(f, to)`, `f ≠ to` -/
def NewFrom (t : TrRel) (f to x : Nat) : Prop := rel t.rconn f x ∧ ¬ (rel t.rconn to x ∨ x = f)

/-- `new_to_connections` of `add_set_connection(f, to)`, `f ≠ to` -/
def NewTo (t : TrRel) (f to y : Nat) : Prop := rel t.conn to y ∧ ¬ (rel t.conn f y ∨ y = to)

/-- the two maps after `add_set_connection(f, to)` for an edge that was not stored: old pairs, the edge, the new
product, the new sources to `to`, `f` to what `to` pointed to (and the same reversed, except that the reverse of a product
pair is stored only if the pair itself was not) -/
structure ConnSpec (t t' : TrRel) (f to : Nat) : Prop where
  conn_ge : ∀ a c, rel t.conn a c ∨ (a = f ∧ c = to) → rel t'.conn a c
  rconn_ge : ∀ c a, rel t.rconn c a ∨ (c = to ∧ a = f) → rel t'.rconn c a
  rconn_key : (alGet t'.rconn f).isSome = true
  conn_to : f ≠ to → ∀ c, rel t'.conn to c ↔ rel t.conn to c
  rconn_f : f ≠ to → ∀ a, rel t'.rconn f a ↔ rel t.rconn f a
  conn_iff : f ≠ to → ∀ a c, a ≠ to → (rel t'.conn a c ↔
    (((rel t.conn a c ∨ (a = f ∧ c = to)) ∨ (NewFrom t f to a ∧ NewTo t f to c)) ∨ (NewFrom t f to a ∧ c = to)) ∨
      (a = f ∧ rel t.conn to c))
  rconn_iff : f ≠ to → ∀ c a, c ≠ f → (rel t'.rconn c a ↔
    (((rel t.rconn c a ∨ (c = to ∧ a = f)) ∨ ((NewFrom t f to a ∧ NewTo t f to c) ∧ ¬ (a ≠ to ∧ rel t.conn a c))) ∨
      (NewTo t f to c ∧ a = f)) ∨ (c = to ∧ rel t.rconn f a))

theorem rel_putBack_of_takeEntry {m m2 : NMap} {k x : Nat} (news : List Nat)
    (hm : ∀ a c, rel (takeEntry m k x).1 a c → rel m2 a c) {a c : Nat} (h : rel m a c ∨ (a = k ∧ c = x)) :
    rel (putBack m2 news k x (takeEntry m k x).2) a c := by
  rw [rel_putBack]
  split
  · next e =>
    subst e
    exact (mem_takeEntry_snd m k x c).mpr h
  · next e => exact Or.inl (Or.inl (hm a c ((rel_takeEntry m k x a c).mpr ⟨Ne.symm e, h⟩)))

theorem connSpec_connNew {t : TrRel} {f to : Nat} : ConnSpec t (connNew t f to) f to := by
  have P := rel_connLoop t f to
  refine ⟨fun a c h => ?_, fun c a h => ?_, ?_, fun hne c => ?_, fun hne a => ?_, fun hne a c hat => ?_, fun hne c a hcf => ?_⟩
  · rw [connNew_conn]
    exact rel_putBack_of_takeEntry _ (fun a c h' => (P a c).1.mpr (Or.inl h')) h
  · rw [connNew_rconn]
    exact rel_putBack_of_takeEntry _ (fun c a h' => (P a c).2.mpr (Or.inl h')) h
  · rw [connNew_rconn, alGet_putBack_self]; rfl
  · rw [connNew_conn, rel_putBack, if_pos rfl, mem_takeEntry_snd]
    simp only [Ne.symm hne, false_and, or_false]
  · rw [connNew_rconn, rel_putBack, if_pos rfl, mem_takeEntry_snd]
    simp only [hne, false_and, or_false]
  · rw [connNew_conn, rel_putBack, if_neg (Ne.symm hat), (P a c).1, mem_takeDiff _ (Ne.symm hne), mem_takeDiff _ hne,
      mem_takeEntry_snd, rel_takeEntry]
    simp only [hat, Ne.symm hne, ne_eq, not_false_eq_true, true_and, false_and, or_false, NewFrom, NewTo]
  · rw [connNew_rconn, rel_putBack, if_neg (Ne.symm hcf), (P a c).2, mem_takeDiff _ (Ne.symm hne), mem_takeDiff _ hne,
      mem_takeEntry_snd, rel_takeEntry, rel_takeEntry]
    simp only [hcf, hne, ne_eq, not_false_eq_true, true_and, false_and, or_false]
    -- a new source is not `f`, so the loop's test "was `a → c` stored" does not see the edge `f → to`
    refine or_congr_left (or_congr_left (or_congr_right (and_congr_right fun hx => not_congr (and_congr_right fun _ => ?_))))
    have haf : ¬ a = f := fun e => hx.1.2 (Or.inr e)
    simp only [haf, false_and, or_false]

theorem addSetConnection_cases {t t' : TrRel} {f to : Nat} {b : Bool} (he : t.addSetConnection f to = .ok (t', b)) :
    (rel t.conn f to ∧ t'.rconn = t.rconn ∧ ∀ a c, rel t'.conn a c ↔ rel t.conn a c) ∨
      (¬ rel t.conn f to ∧ ConnSpec t t' f to) := by
  rcases addSetConnection_eq_ok he with ⟨h, rfl⟩ | ⟨h, rfl⟩
  · exact Or.inl ⟨h, rfl, fun _ _ => Iff.rfl⟩
  · exact Or.inr ⟨h, connSpec_connNew⟩

theorem addSetConnection_ge {t t' : TrRel} {f to : Nat} {b : Bool} (he : t.addSetConnection f to = .ok (t', b)) :
    (∀ a c, rel t.conn a c → rel t'.conn a c) ∧ rel t'.conn f to := by
  rcases addSetConnection_cases he with ⟨hold, _, hc⟩ | ⟨_, S⟩
  · exact ⟨fun a c h => (hc a c).mpr h, (hc f to).mpr hold⟩
  · exact ⟨fun a c h => S.conn_ge a c (Or.inl h), S.conn_ge f to (Or.inr ⟨rfl, rfl⟩)⟩

theorem addSetConnection_ge_rconn {t t' : TrRel} {f to : Nat} {b : Bool} (he : t.addSetConnection f to = .ok (t', b)) :
    (∀ a c, rel t.rconn a c → rel t'.rconn a c) ∧ (¬ rel t.conn f to → rel t'.rconn to f) := by
  rcases addSetConnection_cases he with ⟨hold, hr, _⟩ | ⟨_, S⟩
  · exact ⟨fun a c h => hr ▸ h, fun hn => absurd hold hn⟩
  · exact ⟨fun a c h => S.rconn_ge a c (Or.inl h), fun _ => S.rconn_ge to f (Or.inr ⟨rfl, rfl⟩)⟩

/-- a new edge `f → to` without a back edge, on a state that is mirrored and transitively closed OFF THE DIAGONAL: every pair
of `({f} ∪ pred f) × ({to} ∪ succ to)` off the diagonal is stored in both maps.  A pair that the `difference` shortcuts skip
is already in the old closed relation. -/
theorem ConnSpec.lower {t t' : TrRel} {f to : Nat} (S : ConnSpec t t' f to) (hne : f ≠ to)
    (M : ∀ a b, a ≠ b → (rel t.conn a b ↔ rel t.rconn b a))
    (K : ∀ a b c, a ≠ c → rel t.conn a b → rel t.conn b c → rel t.conn a c) (hback : ¬ rel t.conn to f)
    {a c : Nat} (hac : a ≠ c) (ha : a = f ∨ rel t.conn a f) (hc : c = to ∨ rel t.conn to c) :
    rel t'.conn a c ∧ rel t'.rconn c a := by
  have old : rel t.conn a c → rel t'.conn a c ∧ rel t'.rconn c a :=
    fun h => ⟨S.conn_ge a c (Or.inl h), S.rconn_ge c a (Or.inl ((M a c hac).mp h))⟩
  by_cases haf : a = f
  · subst haf
    by_cases hct : c = to
    · subst hct; exact ⟨S.conn_ge _ _ (Or.inr ⟨rfl, rfl⟩), S.rconn_ge _ _ (Or.inr ⟨rfl, rfl⟩)⟩
    · have htc : rel t.conn to c := hc.resolve_left hct
      refine ⟨(S.conn_iff hne a c hne).mpr (Or.inr ⟨rfl, htc⟩), ?_⟩
      by_cases h : rel t.conn a c
      · exact (old h).2
      · exact (S.rconn_iff hne c a (Ne.symm hac)).mpr (Or.inl (Or.inr ⟨⟨htc, not_or.mpr ⟨h, hct⟩⟩, rfl⟩))
  · have haf' : rel t.conn a f := ha.resolve_left haf
    have hfa : rel t.rconn f a := (M a f haf).mp haf'
    have hat : a ≠ to := fun e => hback (e ▸ haf')
    by_cases hct : c = to
    · subst hct
      refine ⟨?_, (S.rconn_iff hne c a (Ne.symm hne)).mpr (Or.inr ⟨rfl, hfa⟩)⟩
      by_cases h : rel t.rconn c a
      · exact S.conn_ge a c (Or.inl ((M a c hat).mpr h))
      · exact (S.conn_iff hne a c hat).mpr (Or.inl (Or.inr ⟨⟨hfa, not_or.mpr ⟨h, haf⟩⟩, rfl⟩))
    · have htc : rel t.conn to c := hc.resolve_left hct
      have hcf : c ≠ f := fun e => hback (e ▸ htc)
      by_cases h1 : rel t.rconn to a
      · exact old (K a to c hac ((M a to hat).mpr h1) htc)
      · by_cases h2 : rel t.conn f c
        · exact old (K a f c hac haf' h2)
        · have hp : NewFrom t f to a ∧ NewTo t f to c := ⟨⟨hfa, not_or.mpr ⟨h1, haf⟩⟩, htc, not_or.mpr ⟨h2, hct⟩⟩
          refine ⟨(S.conn_iff hne a c hat).mpr (Or.inl (Or.inl (Or.inr hp))), ?_⟩
          by_cases h : rel t.conn a c
          · exact (old h).2
          · exact (S.rconn_iff hne c a hcf).mpr (Or.inl (Or.inl (Or.inr ⟨hp, fun h' => h h'.2⟩)))

theorem addOneConnection_keys {t : TrRel} (h : KeysOk t) (f to : Nat) : KeysOk (t.addOneConnection f to).1 := by
  rcases addOneConnection_run t f to with ⟨_, e⟩ | ⟨_, e⟩
  · rw [e]; exact h
  · rw [e]; exact ⟨h.1.entryInsert f to, h.2.entryInsert to f⟩

theorem MapOk.takeEntry {m : NMap} (h : MapOk m) (k x : Nat) : MapOk (takeEntry m k x).1 ∧ (takeEntry m k x).2.Nodup := by
  rw [TrRel.takeEntry]
  exact ⟨((h.entryInsert k x).orDefault x).1.alSet x List.nodup_nil, ((h.entryInsert k x).orDefault x).2⟩

theorem MapOk.putBack {m : NMap} (h : MapOk m) (news : List Nat) (k x : Nat) {s : NSet} (hs : s.Nodup) :
    MapOk (putBack m news k x s) :=
  ((h.foldl_insert news x).entryExtend k s).alSet x hs

theorem addSetConnection_keys {t t' : TrRel} {f to : Nat} {b : Bool} (hk : KeysOk t)
    (he : t.addSetConnection f to = .ok (t', b)) : KeysOk t' := by
  rcases addSetConnection_eq_ok he with ⟨_, rfl⟩ | ⟨_, rfl⟩
  · exact hk
  · have hc := hk.1.takeEntry f to
    have hr := hk.2.takeEntry to f
    have PK : KeysOk (connLoop t f to) := connLoop_inv ⟨hc.1, hr.1⟩ fun _ x _ y _ h => addOneConnection_keys h x y
    refine ⟨?_, ?_⟩
    · rw [connNew_conn]; exact PK.1.putBack _ f to hc.2
    · rw [connNew_rconn]; exact PK.2.putBack _ to f hr.2

/-- every stored connection between two different ids, not touching the two temporarily emptied
entries, has its reverse stored -/
def PMirror' (t : TrRel) (f to : Nat) : Prop := ∀ a b, a ≠ b → a ≠ to → b ≠ f → rel t.conn a b → rel t.rconn b a

/-- `ConnSpec` for a new edge with `f ≠ to`, in the form the collapse branch of `add` reads it (there the state is the
de-mirrored `prepState`).  `conn_nf` / `rconn_nt`: the new sources get `to`, the new targets get `f` as reverse.
`conn_prod` / `rconn_prod`: the product of the two `difference` sets; the reverse of a product pair is only written when
the pair was new, hence the `PMirror'` premise. -/
structure ConnPost (t t' : TrRel) (f to : Nat) : Prop where
  core : SameCore t t'
  conn_mono : ∀ a c, rel t.conn a c → rel t'.conn a c
  rconn_mono : ∀ a c, rel t.rconn a c → rel t'.rconn a c
  conn_new : rel t'.conn f to
  rconn_new : rel t'.rconn to f
  conn_f : ∀ c, rel t.conn to c → rel t'.conn f c
  rconn_to : ∀ a, rel t.rconn f a → rel t'.rconn to a
  conn_to : ∀ c, rel t'.conn to c ↔ rel t.conn to c
  rconn_f : ∀ a, rel t'.rconn f a ↔ rel t.rconn f a
  conn_nf : ∀ a, rel t.rconn f a → ¬ rel t.rconn to a → a ≠ f → a ≠ to → rel t'.conn a to
  rconn_nt : ∀ c, rel t.conn to c → ¬ rel t.conn f c → c ≠ to → c ≠ f → rel t'.rconn c f
  conn_prod : ∀ a c, rel t.rconn f a → ¬ rel t.rconn to a → a ≠ f → rel t.conn to c → ¬ rel t.conn f c → c ≠ to →
    a ≠ to → rel t'.conn a c
  rconn_prod : PMirror' t f to → ∀ a c, rel t.rconn f a → ¬ rel t.rconn to a → a ≠ f → rel t.conn to c →
    ¬ rel t.conn f c → c ≠ to → a ≠ to → c ≠ f → a ≠ c → rel t'.rconn c a
  conn_key : (alGet t'.conn f).isSome = true
  rconn_key : (alGet t'.rconn f).isSome = true
  keys : KeysOk t → KeysOk t'

theorem addSetConnection_post {t t' : TrRel} {f to : Nat} {b : Bool} (hne : f ≠ to) (hnotyet : ¬ rel t.conn f to)
    (he : t.addSetConnection f to = .ok (t', b)) : ConnPost t t' f to := by
  obtain ⟨_, S⟩ := (addSetConnection_cases he).resolve_left fun h => hnotyet h.1
  have hnew := S.conn_ge f to (Or.inr ⟨rfl, rfl⟩)
  have hnf : ∀ a, rel t.rconn f a → ¬ rel t.rconn to a → a ≠ f → NewFrom t f to a := fun a h1 h2 h3 => ⟨h1, not_or.mpr ⟨h2, h3⟩⟩
  have hnt : ∀ c, rel t.conn to c → ¬ rel t.conn f c → c ≠ to → NewTo t f to c := fun c h1 h2 h3 => ⟨h1, not_or.mpr ⟨h2, h3⟩⟩
  refine ⟨addSetConnection_core he, fun a c h => S.conn_ge a c (Or.inl h), fun a c h => S.rconn_ge a c (Or.inl h), hnew,
    S.rconn_ge to f (Or.inr ⟨rfl, rfl⟩),
    fun c hc => (S.conn_iff hne f c hne).mpr (Or.inr ⟨rfl, hc⟩),
    fun a ha => (S.rconn_iff hne to a (Ne.symm hne)).mpr (Or.inr ⟨rfl, ha⟩), S.conn_to hne, S.rconn_f hne,
    fun a h1 h2 h3 h4 => (S.conn_iff hne a to h4).mpr (Or.inl (Or.inr ⟨hnf a h1 h2 h3, rfl⟩)),
    fun c h1 h2 h3 h4 => (S.rconn_iff hne c f h4).mpr (Or.inl (Or.inr ⟨hnt c h1 h2 h3, rfl⟩)),
    fun a c h1 h2 h3 h4 h5 h6 h7 => (S.conn_iff hne a c h7).mpr (Or.inl (Or.inl (Or.inr ⟨hnf a h1 h2 h3, hnt c h4 h5 h6⟩))),
    fun hpm a c h1 h2 h3 h4 h5 h6 h7 h8 h9 => ?_, ?_, S.rconn_key, fun h => addSetConnection_keys h he⟩
  · -- the reverse of a product pair is stored by the loop unless the pair was stored before, and then its reverse was
    by_cases hac : rel t.conn a c
    · exact S.rconn_ge c a (Or.inl (hpm a c h9 h7 h8 hac))
    · exact (S.rconn_iff hne c a h8).mpr (Or.inl (Or.inl (Or.inr ⟨⟨hnf a h1 h2 h3, hnt c h4 h5 h6⟩, fun h => hac h.2⟩)))
  · obtain ⟨s, hs, _⟩ := hnew
    rw [hs]; rfl

/-- the collapse branch of `add`, verbatim -/
def collapseBranch (t : TrRel) (x y : Int) (xSet ySet : Nat) : Res (TrRel × Bool) := do
  let ySetConn ← unwrap (alGet t.conn ySet)
  let xSetRev ← unwrap (alGet t.rconn xSet)
  let toBeMerged := nsInter ySetConn xSetRev
  let toBeMerged := nsRemove toBeMerged xSet
  let toBeMerged := (nsInsert toBeMerged ySet).1
  let t := { t with rconn := alSet t.rconn xSet (keepDifference xSetRev toBeMerged) }
  let t := { t with conn := alSet t.conn ySet (keepDifference ySetConn toBeMerged) }
  let ySetConn ← unwrap (alGet t.conn ySet)
  let t := { t with conn := alSet t.conn ySet (nsRemove ySetConn xSet) }
  let xSetRev ← unwrap (alGet t.rconn xSet)
  let t := { t with rconn := alSet t.rconn xSet (nsRemove xSetRev ySet) }
  let (t, _) ← t.addSetConnection xSet ySet
  let toBeMerged := nsRemove toBeMerged ySet
  let (t, merged) ← t.mergeMultiple xSet ySet toBeMerged
  if (alGet t.elemIds x).isNone then .panic
  let t := { t with elemIds := alSet t.elemIds x merged }
  if (alGet t.elemIds y).isNone then .panic
  let t := { t with elemIds := alSet t.elemIds y merged }
  return (t, true)

/-- `to_be_merged` as first computed (with `y_set`, without `x_set`) -/
def tmOf (yc xr : NSet) (X Y : Nat) : NSet := (nsInsert (nsRemove (nsInter yc xr) X) Y).1

/-- the de-mirrored state on which `add_set_connection(x_set, y_set)` is called -/
def prepState (t : TrRel) (X Y : Nat) (yc xr : NSet) : TrRel :=
  { t with rconn := alSet (alSet t.rconn X (keepDifference xr (tmOf yc xr X Y))) X (nsRemove (keepDifference xr (tmOf yc xr X Y)) Y),
           conn := alSet (alSet t.conn Y (keepDifference yc (tmOf yc xr X Y))) Y (nsRemove (keepDifference yc (tmOf yc xr X Y)) X) }

theorem collapseBranch_run (t : TrRel) (x y : Int) (X Y : Nat) :
    collapseBranch t x y X Y =
      match alGet t.conn Y, alGet t.rconn X with
      | some yc, some xr => (do
        let (t, _) ← (prepState t X Y yc xr).addSetConnection X Y
        let (t, merged) ← t.mergeMultiple X Y (nsRemove (tmOf yc xr X Y) Y)
        if (alGet t.elemIds x).isNone then .panic
        let t := { t with elemIds := alSet t.elemIds x merged }
        if (alGet t.elemIds y).isNone then .panic
        let t := { t with elemIds := alSet t.elemIds y merged }
        return (t, true))
      | _, _ => .panic := by
  unfold collapseBranch
  cases alGet t.conn Y with
  | none => rfl
  | some yc =>
    cases alGet t.rconn X with
    | none => rfl
    | some xr =>
      simp only [unwrap, Res.bind_ok, alGet_alSet, if_true]
      rfl

theorem add_eq (t : TrRel) (x y : Int) :
    t.add x y = (do
      let (t, xSet, xNew) ← t.addNodeNew x
      let (t, ySet, yNew) ← t.addNodeNew y
      if xNew || yNew then
        let (t, _) ← t.addSetConnection xSet ySet
        return (t, true)
      if xSet = ySet then return (t, false)
      if (alGet t.conn ySet).any fun s => s.contains xSet then
        collapseBranch t x y xSet ySet
      else
        let (t, _) ← t.addSetConnection xSet ySet
        return (t, true)) := rfl

/-- which branch `add` takes after its two `add_node_new`; `add_set_connection` never panics, so the result `t3` of the
first branch is named up front -/
theorem add_run {t t1 t2 : TrRel} {x y : Int} {X Y : Nat} {xNew yNew : Bool} (h1 : t.addNodeNew x = .ok (t1, X, xNew))
    (h2 : t1.addNodeNew y = .ok (t2, Y, yNew)) :
    ∃ t3 b3, t2.addSetConnection X Y = .ok (t3, b3) ∧
      ((((xNew || yNew) = true ∨ X ≠ Y ∧ ¬ rel t2.conn Y X) ∧ t.add x y = .ok (t3, true)) ∨
       ((xNew || yNew) = false ∧ X = Y ∧ t.add x y = .ok (t2, false)) ∨
       ((xNew || yNew) = false ∧ X ≠ Y ∧ rel t2.conn Y X ∧ t.add x y = collapseBranch t2 x y X Y)) := by
  obtain ⟨t3, b3, h3⟩ := addSetConnection_ok t2 X Y
  refine ⟨t3, b3, h3, ?_⟩
  rw [add_eq]
  simp only [h1, h2, h3, Res.bind_ok, Res.pure_eq]
  by_cases hnew : (xNew || yNew) = true
  · exact Or.inl ⟨Or.inl hnew, if_pos hnew⟩
  · rw [if_neg hnew]
    simp only [Bool.not_eq_true] at hnew
    by_cases hxy : X = Y
    · exact Or.inr (Or.inl ⟨hnew, hxy, if_pos hxy⟩)
    · rw [if_neg hxy]
      by_cases hback : (alGet t2.conn Y).any (fun s => s.contains X) = true
      · exact Or.inr (Or.inr ⟨hnew, hxy, (any_contains_iff_rel _ _ _).mp hback, if_pos hback⟩)
      · exact Or.inl ⟨Or.inr ⟨hxy, mt (any_contains_iff_rel _ _ _).mpr hback⟩, if_neg hback⟩

end AscentVerif.TrRel
