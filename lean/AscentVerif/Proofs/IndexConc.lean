import AscentVerif.Proofs.IndexMerge
/-!
The concurrent indices (`c_rel_*.rs`, `c_lat_index.rs`) are vectors of shards, a key living in shard `shardOf k n`.
`shardGet` is their common look-up; its laws under an update of one shard and under the shard-by-shard
`move_index_contents` (`shardGet_zip_move`) carry the sequential laws of `IndexMerge` over to the sharded indices
(`CLatIdx` / `CFullIdx.moveContents_law` here, behind `moveContents_spec` of `Props/C05Par`; the rest in `Props/C19`).
`CRelNoIndex` has one shard per rayon thread, so two shard vectors may differ in length: `ShardsWithin l m` (only the
first `m` shards of `l` are occupied) is when its zipped merge loses nothing (`noIdxMove_within`, the basis of `Props/C20`).
-/
namespace AscentVerif.Index

variable {V : Type}

section
variable {X : Type}

/-- look-up in a sharded map: in the key's shard (what `CIdx.get`, `CFullIdx.get`/`getCloned` and `CLatIdx.get` compute) -/
def shardGet (shards : List (HMap Int X)) (k : Int) : Option X :=
  HMap.get? (shards.getD (shardOf k shards.length) []) k

theorem shardGet_replicate (n : Nat) (k : Int) : shardGet (List.replicate n ([] : HMap Int X)) k = none := by
  unfold shardGet
  rw [getD_replicate_nil]
  rfl

theorem nodupKeys_getD {shards : List (HMap Int X)} (h : ∀ s ∈ shards, (HMap.keys s).Nodup) (i : Nat) :
    (HMap.keys (shards.getD i [])).Nodup :=
  getD_of_forall _ _ _ _ h List.nodup_nil

theorem shardGet_modifyNth (shards : List (HMap Int X)) (hn : 0 < shards.length) (k : Int)
    (f : HMap Int X → HMap Int X) (y : Option X)
    (hf : ∀ k', HMap.get? (f (shards.getD (shardOf k shards.length) [])) k' =
      if k' = k then y else HMap.get? (shards.getD (shardOf k shards.length) []) k') (k' : Int) :
    shardGet (modifyNth shards (shardOf k shards.length) f) k' = if k' = k then y else shardGet shards k' := by
  unfold shardGet
  rw [length_modifyNth, getD_modifyNth]
  by_cases hs : shardOf k' shards.length = shardOf k shards.length
  · rw [if_pos ⟨hs, shardOf_lt k _ hn⟩, hf, hs]
  · rw [if_neg (fun h => hs h.1), if_neg (fun e : k' = k => hs (e ▸ rfl))]

theorem Res.ok_of_ite {α : Type} {c : Prop} [Decidable c] {x r : α}
    (h : (if c then Res.panic else Res.ok x) = Res.ok r) : ¬ c ∧ x = r := by
  split at h
  · cases h
  · cases h
    exact ⟨‹_›, rfl⟩

theorem Res.ok_of_ite_ite {α : Type} {c₁ c₂ : Prop} [Decidable c₁] [Decidable c₂] {x r : α}
    (h : (if c₁ then Res.panic else if c₂ then Res.panic else Res.ok x) = Res.ok r) : ¬ c₁ ∧ ¬ c₂ ∧ x = r := by
  split at h
  · cases h
  · exact ⟨‹_›, Res.ok_of_ite h⟩

/-! Shard-wise `move_index_contents`: the shard vectors are zipped and `M` moves one pair of shards. -/

variable (M : HMap Int X → HMap Int X → HMap Int X × HMap Int X) (fs ts : List (HMap Int X))

theorem length_zip_move (hlen : fs.length = ts.length) :
    (((fs.zip ts).map fun (f, t) => M f t).map (·.2)).length = ts.length := by
  simp [List.length_zip, hlen]

theorem shardGet_zip_move (hlen : fs.length = ts.length) (hd : (M [] []).2 = []) (k : Int) :
    shardGet (((fs.zip ts).map fun (f, t) => M f t).map (·.2)) k =
      HMap.get? (M (fs.getD (shardOf k ts.length) []) (ts.getD (shardOf k ts.length) [])).2 k := by
  unfold shardGet
  rw [length_zip_move M fs ts hlen, List.map_map]
  exact congrArg (HMap.get? · k) (getD_map_zip (fun p => (M p.1 p.2).2) fs ts _ [] [] [] hlen hd)

theorem shardGet_zip_move_fst (hM : ∀ f t, (M f t).1 = []) (k : Int) :
    shardGet (((fs.zip ts).map fun (f, t) => M f t).map (·.1)) k = none := by
  unfold shardGet
  rw [getD_of_forall (· = []) _ _ _ _ rfl]
  · rfl
  · intro x hx
    simp only [List.mem_map] at hx
    obtain ⟨_, ⟨p, _, rfl⟩, rfl⟩ := hx
    exact hM _ _

end

/-! A successful `move_index_contents` of `CLatIdx` / `CFullIdx` has zipped equally long shard vectors, so the per-shard
laws (`mem_latShardMove`, `FullIdx.get?_moveContents`) lift through `shardGet_zip_move`. -/
section shardMerge
set_option linter.unusedSectionVars false
variable [DecidableEq V]

theorem CLatIdx.moveContents_shards (frm to frm' to' : CLatIdx V) (h : CLatIdx.moveContents frm to = .ok (frm', to')) :
    frm.shards.length = to.shards.length ∧
    frm'.shards = ((frm.shards.zip to.shards).map fun (f, t) => latShardMove f t).map (·.1) ∧
    to'.shards = ((frm.shards.zip to.shards).map fun (f, t) => latShardMove f t).map (·.2) := by
  unfold CLatIdx.moveContents at h
  obtain ⟨_, hlen, hr⟩ := Res.ok_of_ite_ite h
  cases hr
  exact ⟨Decidable.of_not_not hlen, rfl, rfl⟩

theorem CLatIdx.moveContents_law (frm to frm' to' : CLatIdx V) (h : CLatIdx.moveContents frm to = .ok (frm', to'))
    (hf : ∀ s ∈ frm.shards, (HMap.keys s).Nodup) (ht : ∀ s ∈ to.shards, (HMap.keys s).Nodup) :
    to'.shards.length = to.shards.length ∧ (∀ k, shardGet frm'.shards k = none) ∧
    (∀ k x, x ∈ (shardGet to'.shards k).getD [] ↔
      (x ∈ (shardGet to.shards k).getD [] ∨ x ∈ (shardGet frm.shards k).getD [])) := by
  obtain ⟨hlen, h1, h2⟩ := CLatIdx.moveContents_shards frm to frm' to' h
  rw [h1, h2]
  refine ⟨length_zip_move _ _ _ hlen, fun k => ?_, fun k x => ?_⟩
  · exact shardGet_zip_move_fst latShardMove _ _ (fun f t => by rw [latShardMove_eq]) k
  · rw [shardGet_zip_move latShardMove _ _ hlen (by rw [latShardMove_eq]; rfl), shardGet, shardGet, hlen]
    exact mem_latShardMove _ _ (nodupKeys_getD hf _) (nodupKeys_getD ht _) k x

theorem CFullIdx.moveContents_shards (frm to frm' to' : CFullIdx V) (h : CFullIdx.moveContents frm to = .ok (frm', to')) :
    frm.shards.length = to.shards.length ∧
    frm'.shards = ((frm.shards.zip to.shards).map fun (f, t) => FullIdx.moveContents f t).map (·.1) ∧
    to'.shards = ((frm.shards.zip to.shards).map fun (f, t) => FullIdx.moveContents f t).map (·.2) := by
  unfold CFullIdx.moveContents at h
  obtain ⟨_, hlen, hr⟩ := Res.ok_of_ite_ite h
  cases hr
  exact ⟨Decidable.of_not_not hlen, rfl, rfl⟩

theorem CFullIdx.moveContents_law (frm to frm' to' : CFullIdx V) (h : CFullIdx.moveContents frm to = .ok (frm', to'))
    (hf : ∀ s ∈ frm.shards, (HMap.keys s).Nodup) (ht : ∀ s ∈ to.shards, (HMap.keys s).Nodup) :
    to'.shards.length = to.shards.length ∧ (∀ k, frm'.getCloned k = none) ∧
    (∀ k, (to'.getCloned k).isSome = ((to.getCloned k).isSome || (frm.getCloned k).isSome)) ∧
    (∀ k, ¬ ((to.getCloned k).isSome ∧ (frm.getCloned k).isSome) →
      to'.getCloned k = (to.getCloned k).orElse (fun _ => frm.getCloned k)) := by
  obtain ⟨hlen, h1, h2⟩ := CFullIdx.moveContents_shards frm to frm' to' h
  have hkey := fun k => orElse_either (a := to.getCloned k) (b := frm.getCloned k) (r := to'.getCloned k) (by
    unfold CFullIdx.getCloned
    rw [hlen]
    show shardGet to'.shards k = _ ∨ shardGet to'.shards k = _
    rw [h2, shardGet_zip_move FullIdx.moveContents _ _ hlen (by rw [FullIdx.moveContents_eq]; rfl)]
    exact FullIdx.get?_moveContents _ _ (nodupKeys_getD hf _) (nodupKeys_getD ht _) k)
  refine ⟨h2 ▸ length_zip_move _ _ _ hlen, fun k => ?_, fun k => (hkey k).1, fun k => (hkey k).2⟩
  show shardGet frm'.shards k = none
  rw [h1]
  exact shardGet_zip_move_fst FullIdx.moveContents _ _ (fun f t => by rw [FullIdx.moveContents_eq]) k

end shardMerge

/-- the per-shard step of `CNoIdx.moveContents` -/
def noIdxShardMove (p : List V × List V) : List V × List V :=
  (([] : List V), if p.1.length > p.2.length then p.1 ++ p.2 else p.2 ++ p.1)

/-- the shard vectors `(from, to)` after `CNoIdx.moveContents`: the zipped prefixes moved, what is beyond left as it was -/
def noIdxMove (fs ts : List (List V)) : List (List V) × List (List V) :=
  let rs := (fs.zip ts).map noIdxShardMove
  (rs.map (·.1) ++ fs.drop rs.length, rs.map (·.2) ++ ts.drop rs.length)

theorem noIdxMove_nil (ts : List (List V)) : noIdxMove [] ts = ([], ts) := rfl

theorem noIdxMove_nil_right (fs : List (List V)) : noIdxMove fs [] = (fs, []) := by
  cases fs <;> rfl

theorem noIdxMove_cons (f : List V) (fs : List (List V)) (t : List V) (ts : List (List V)) :
    noIdxMove (f :: fs) (t :: ts) =
      ([] :: (noIdxMove fs ts).1, (noIdxShardMove (f, t)).2 :: (noIdxMove fs ts).2) := rfl

theorem noIdxShardMove_perm (f t : List V) : (noIdxShardMove (f, t)).2.Perm (t ++ f) := by
  unfold noIdxShardMove
  split
  · exact List.perm_append_comm
  · exact List.Perm.refl _

theorem CNoIdx.moveContents_eq (frm to : CNoIdx V) :
    CNoIdx.moveContents frm to =
      ({ frm with shards := (noIdxMove frm.shards to.shards).1 }, { to with shards := (noIdxMove frm.shards to.shards).2 }) := by
  have hG : (fun (x : List V × List V) => match x with
      | (f, t) => match (if f.length > t.length then (t, f) else (f, t)) with
        | (f, t) => (([] : List V), t ++ f)) = noIdxShardMove := by
    funext ⟨f, t⟩
    unfold noIdxShardMove
    by_cases h : f.length > t.length <;> simp [h]
  unfold CNoIdx.moveContents noIdxMove
  simp only [hG]

def ShardsWithin (l : List (List V)) (m : Nat) : Prop := ∀ i, m ≤ i → l.getD i [] = []

theorem ShardsWithin.of_length_le {l : List (List V)} {m : Nat} (h : l.length ≤ m) : ShardsWithin l m := by
  intro i hi
  rw [List.getD_eq_getElem?_getD, List.getElem?_eq_none (Nat.le_trans h hi)]
  rfl

theorem ShardsWithin.of_flatten_eq_nil {l : List (List V)} (h : l.flatten = []) (m : Nat) : ShardsWithin l m :=
  fun _ _ => getD_of_forall (· = []) _ _ _ (List.flatten_eq_nil_iff.1 h) rfl

theorem ShardsWithin.tail {x : List V} {l : List (List V)} {m : Nat} (h : ShardsWithin (x :: l) m) :
    ShardsWithin l (m - 1) :=
  fun i hi => h (i + 1) (by omega)

theorem ShardsWithin.cons {x : List V} {l : List (List V)} {m : Nat} (h0 : m = 0 → x = [])
    (h : ShardsWithin l (m - 1)) : ShardsWithin (x :: l) m := by
  intro i hi
  cases i with
  | zero => exact h0 (Nat.le_zero.1 hi)
  | succ i => exact h i (by omega)

theorem flatten_of_within_zero (l : List (List V)) (h : ShardsWithin l 0) : l.flatten = [] := by
  induction l with
  | nil => rfl
  | cons x xs ih =>
    have h0 : x = [] := h 0 (Nat.le_refl _)
    rw [List.flatten_cons, h0, ih h.tail]
    rfl

theorem perm_append_interchange {α : Type} (a b c d : List α) : ((a ++ b) ++ (c ++ d)).Perm ((a ++ c) ++ (b ++ d)) := by
  simp only [List.append_assoc]
  apply List.Perm.append_left
  rw [← List.append_assoc, ← List.append_assoc]
  exact List.Perm.append_right _ List.perm_append_comm

/-- `zip` stops at the shorter vector: nothing is lost as long as `from`'s content lies in shards that `to` has
(`hm`), and then nothing leaves the first `m` shards either -/
theorem noIdxMove_within (fs ts : List (List V)) (m : Nat) (hm : m ≤ ts.length)
    (hf : ShardsWithin fs m) (ht : ShardsWithin ts m) :
    (noIdxMove fs ts).1.flatten = [] ∧ (noIdxMove fs ts).2.length = ts.length ∧
    ShardsWithin (noIdxMove fs ts).2 m ∧ (noIdxMove fs ts).2.flatten.Perm (ts.flatten ++ fs.flatten) := by
  induction fs generalizing ts m with
  | nil => exact ⟨rfl, rfl, ht, by simp [noIdxMove_nil]⟩
  | cons f fs ih =>
    cases ts with
    | nil =>
      have hm0 : m = 0 := Nat.le_zero.1 hm
      subst hm0
      rw [noIdxMove_nil_right]
      exact ⟨flatten_of_within_zero _ hf, rfl, ht, by simp [flatten_of_within_zero _ hf]⟩
    | cons t ts =>
      obtain ⟨ih1, ih2, ih3, ih4⟩ := ih ts (m - 1) (by simp only [List.length_cons] at hm; omega) hf.tail ht.tail
      rw [noIdxMove_cons]
      refine ⟨ih1, congrArg (· + 1) ih2, ShardsWithin.cons (fun hm0 => ?_) ih3, ?_⟩
      · subst hm0
        have hf0 : f = [] := hf 0 (Nat.le_refl _)
        have ht0 : t = [] := ht 0 (Nat.le_refl _)
        rw [hf0, ht0]
        rfl
      · exact ((noIdxShardMove_perm f t).append ih4).trans (perm_append_interchange ..)

theorem flatten_modifyNth_append (l : List (List V)) (i : Nat) (v : V) (hi : i < l.length) :
    (modifyNth l i fun s => s ++ [v]).flatten.Perm (v :: l.flatten) := by
  induction l generalizing i with
  | nil => simp at hi
  | cons x xs ih =>
    cases i with
    | zero =>
      simp only [modifyNth, List.flatten_cons, List.append_assoc]
      exact (List.perm_append_comm (l₁ := x) (l₂ := [v] ++ xs.flatten)).trans
        (by simpa using List.Perm.cons v (List.perm_append_comm (l₁ := xs.flatten) (l₂ := x)))
    | succ i =>
      simp only [modifyNth, List.flatten_cons]
      have := ih i (by simpa using hi)
      exact (List.Perm.append_left x this).trans (List.perm_middle)

end AscentVerif.Index
