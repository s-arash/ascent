import AscentVerif.Proofs.AggStrata
/-!
# Stratified restart, specification level

Two databases `D₁`, `D₂`, each sound w.r.t. a least model (`DerA`, own aggregation view, own inputs),
each containing the inputs of the other, each closed under the rules of the first `m` classes of a
valid stratified SCC order, and such that *agreeing on an aggregated relation makes the two views
of the item interchangeable* (`AggEq`), agree on every relation all of whose defining rules lie in
the first `m` classes (`strata_agree`).  No engine state occurs here; `Proofs/AggRestart.lean` applies this to program
values, for `Props/C13Agg.lean`.
-/
namespace AscentVerif.Engine.Agg
open AscentVerif AscentVerif.Engine

variable {E B G P A : Type}

def AggEq (I : Interp E B G P A) (aggv aggv' : AggClause E A → List Tuple) (a : AggClause E A) : Prop :=
  ∀ ρ, aggEnvs I a ρ (aggv a) = aggEnvs I a ρ (aggv' a)

theorem AggEq.symm {I : Interp E B G P A} {aggv aggv' : AggClause E A → List Tuple} {a : AggClause E A}
    (h : AggEq I aggv aggv' a) : AggEq I aggv' aggv a := fun ρ => (h ρ).symm

theorem AggEq.of_eq {I : Interp E B G P A} {aggv aggv' : AggClause E A → List Tuple} {a : AggClause E A}
    (h : aggv a = aggv' a) : AggEq I aggv aggv' a := fun ρ => by rw [h]

theorem AggEq.trans {I : Interp E B G P A} {aggv aggv' aggv'' : AggClause E A → List Tuple} {a : AggClause E A}
    (h : AggEq I aggv aggv' a) (h' : AggEq I aggv' aggv'' a) : AggEq I aggv aggv'' a :=
  fun ρ => (h ρ).trans (h' ρ)

theorem SatA.congr_aggEq {I : Interp E B G P A} {aggv aggv' : AggClause E A → List Tuple} {D : DB}
    {items : List (Item E B G P A)} {ρ ρ' : Env} (hs : SatA I D aggv items ρ ρ')
    (h : ∀ a, Item.agg a ∈ items → AggEq I aggv aggv' a) : SatA I D aggv' items ρ ρ' :=
  hs.map (fun _ _ _ => id) h

theorem closedA_congr_aggEq {I : Interp E B G P A} {rules : List (Rule E B G P A)}
    {aggv aggv' : AggClause E A → List Tuple} {inp D : DB}
    (h : ∀ r ∈ rules, ∀ a, Item.agg a ∈ r.body → AggEq I aggv' aggv a)
    (hc : ClosedA I rules aggv inp D) : ClosedA I rules aggv' inp D := by
  refine ⟨hc.1, ?_⟩
  rintro f ⟨r, hr, ρ, hs, hh⟩
  exact hc.2 f ⟨r, hr, ρ, SatA.congr_aggEq hs (fun a ha => h r hr a ha), hh⟩

def InPrefix (o : SccOrder) (k i : Nat) : Prop := ∃ a, a < k ∧ i ∈ o.getD a []

def DefinedBy (p : Program E B G P A) (o : SccOrder) (k : Nat) (r : RelId) : Prop :=
  ∀ i rule, p.rules[i]? = some rule → r ∈ rule.headRels → InPrefix o k i

theorem InPrefix.mono {o : SccOrder} {k k' i : Nat} (h : InPrefix o k i) (hk : k ≤ k') : InPrefix o k' i := by
  obtain ⟨a, ha, hi⟩ := h
  exact ⟨a, Nat.lt_of_lt_of_le ha hk, hi⟩

theorem DefinedBy.mono {p : Program E B G P A} {o : SccOrder} {k k' : Nat} {r : RelId} (h : DefinedBy p o k r)
    (hk : k ≤ k') : DefinedBy p o k' r := fun i rule hr hh => (h i rule hr hh).mono hk

theorem getD_nil_lt {o : SccOrder} {a i : Nat} (h : i ∈ o.getD a []) : a < o.length :=
  Nat.lt_of_not_le fun hn => by
    rw [getD_of_ge _ _ _ hn] at h
    cases h

theorem inPrefix_all (p : Program E B G P A) (o : SccOrder) (ho : validOrder p o = true) {i : Nat}
    {rule : Rule E B G P A} (hget : p.rules[i]? = some rule) : InPrefix o o.length i := by
  obtain ⟨hi, _⟩ := List.getElem?_eq_some_iff.mp hget
  obtain ⟨scc, hscc, hiscc⟩ := validOrder_cover p o ho i hi
  obtain ⟨a, ha, rfl⟩ := List.mem_iff_getElem.mp hscc
  exact ⟨a, ha, getD_of_lt _ o a ha ▸ hiscc⟩

theorem mem_sccRules_of (p : Program E B G P A) {scc : List Nat} {i : Nat} {rule : Rule E B G P A}
    (hi : i ∈ scc) (hget : p.rules[i]? = some rule) : rule ∈ sccRules p scc :=
  (mem_sccRules p scc rule).mpr ⟨i, hi, hget⟩

section Order
variable (p : Program E B G P A) (o : SccOrder) (ho : validOrder p o = true) {i i' : Nat} {rule rule' : Rule E B G P A}
  (hget : p.rules[i]? = some rule) (hget' : p.rules[i']? = some rule')

include ho hget hget' in
theorem feeder_le {r : RelId} (hh : r ∈ rule'.headRels) (hb : r ∈ rule.bodyRels) {a : Nat} (hia : i ∈ o.getD a []) :
    ∃ a', a' ≤ a ∧ i' ∈ o.getD a' [] := by
  obtain ⟨a', ha', hia'⟩ := inPrefix_all p o ho hget'
  refine ⟨a', validOrder_feeds p o ho a' a ha' (getD_nil_lt hia) i' hia' i hia ?_, hia'⟩
  simp only [feeds, hget, hget']
  rw [List.any_eq_true]
  exact ⟨r, hh, List.contains_iff_mem.mpr hb⟩

include ho hget in
theorem body_definedBy {k : Nat} (hpre : InPrefix o k i) : ∀ b ∈ rule.bodyRels, DefinedBy p o k b := by
  intro b hb i' rule' hget' hh
  obtain ⟨a, hak, hia⟩ := hpre
  obtain ⟨a', hle, hia'⟩ := feeder_le p o ho hget hget' hh hb hia
  exact ⟨a', Nat.lt_of_le_of_lt hle hak, hia'⟩

include ho hget in
/-- the relation aggregated by a rule of class number `j` is defined strictly before class `j`: a rule of class `j` itself
with that relation among its heads would make it dynamic there -/
theorem agg_definedBy (hs : ∀ s ∈ o, aggOverDynamic p s = false) {j : Nat} (hij : i ∈ o.getD j [])
    {a : AggClause E A} (ha : Item.agg a ∈ rule.body) : DefinedBy p o j a.rel := by
  intro i' rule' hget' hh
  obtain ⟨b, hle, hib⟩ := feeder_le p o ho hget hget' hh (List.mem_filterMap.mpr ⟨Item.agg a, ha, rfl⟩) hij
  refine ⟨b, Nat.lt_of_le_of_ne hle ?_, hib⟩
  rintro rfl
  have hb := getD_nil_lt hib
  have h1 := aggOverDynamic_false p _ (hs _ (getD_of_lt _ o _ hb ▸ List.getElem_mem hb)) rule
    (mem_sccRules_of p hij hget) a ha
  rw [(dynRels_mem p _ a.rel).mpr ⟨rule', mem_sccRules_of p hib hget', List.mem_map.mp hh⟩] at h1
  cases h1

end Order

section Strata
variable (I : Interp E B G P A) (p : Program E B G P A) (o : SccOrder) (ho : validOrder p o = true)
  (hs : ∀ s ∈ o, aggOverDynamic p s = false)

include ho hs in
/-- one inclusion of one step: `D'`, sound for `aggv'`, is contained in `D`, closed for `aggv`, on the
relations defined in the first `k` classes, provided both agree on the relations defined earlier -/
theorem strata_dir (aggv aggv' : AggClause E A → List Tuple) (inp' D D' : DB) (m k : Nat) (hk : k ≤ m)
    (hsound : ∀ f, D' f → DerA I p.rules aggv' inp' f)
    (hinp : ∀ f, inp' f → D f)
    (hcl : ∀ i rule, p.rules[i]? = some rule → InPrefix o m i →
      ∀ ρ, SatA I D aggv rule.body [] ρ → ∀ h ∈ rule.heads, D (headFact I h ρ))
    (hlink : ∀ i rule a, p.rules[i]? = some rule → InPrefix o m i → Item.agg a ∈ rule.body →
      (∀ t, D ⟨a.rel, t⟩ ↔ D' ⟨a.rel, t⟩) → AggEq I aggv' aggv a)
    (IH : ∀ j, j < k → ∀ r, DefinedBy p o j r → ∀ t, D ⟨r, t⟩ ↔ D' ⟨r, t⟩) :
    ∀ r, DefinedBy p o k r → ∀ t, D' ⟨r, t⟩ → D ⟨r, t⟩ := by
  intro r hr t ht
  have hclosed : ClosedA I p.rules aggv' inp' (fun f => DefinedBy p o k f.rel → D f) := by
    refine ⟨fun f hf _ => hinp f hf, ?_⟩
    rintro f ⟨rule, hrule, ρ, hsat, h, hh, rfl⟩ hdef
    obtain ⟨i, hget⟩ := List.getElem?_of_mem hrule
    have hpre : InPrefix o k i := hdef i rule hget (List.mem_map.mpr ⟨h, hh, rfl⟩)
    have hbody := body_definedBy p o ho hget hpre
    have hsat1 : SatA I D aggv' rule.body [] ρ :=
      SatA.congr_rels hsat (fun r' hr' t' ht' => ht' (hbody r' hr'))
    have hsat2 : SatA I D aggv rule.body [] ρ := by
      refine SatA.congr_aggEq hsat1 ?_
      intro a ha
      obtain ⟨j, hj, hij⟩ := hpre
      exact hlink i rule a hget ⟨j, Nat.lt_of_lt_of_le hj hk, hij⟩ ha
        (IH j hj a.rel (agg_definedBy p o ho hget hs hij ha))
    exact hcl i rule hget (hpre.mono hk) ρ hsat2 h hh
  exact derA_least I p.rules aggv' inp' _ hclosed ⟨r, t⟩ (hsound _ ht) hr

include ho hs in
theorem strata_agree (aggv₁ aggv₂ : AggClause E A → List Tuple) (in₁ in₂ D₁ D₂ : DB) (m : Nat)
    (h1 : ∀ f, D₁ f → DerA I p.rules aggv₁ in₁ f) (h2 : ∀ f, D₂ f → DerA I p.rules aggv₂ in₂ f)
    (hin₁ : ∀ f, in₁ f → D₂ f) (hin₂ : ∀ f, in₂ f → D₁ f)
    (hc₁ : ∀ i rule, p.rules[i]? = some rule → InPrefix o m i →
      ∀ ρ, SatA I D₁ aggv₁ rule.body [] ρ → ∀ h ∈ rule.heads, D₁ (headFact I h ρ))
    (hc₂ : ∀ i rule, p.rules[i]? = some rule → InPrefix o m i →
      ∀ ρ, SatA I D₂ aggv₂ rule.body [] ρ → ∀ h ∈ rule.heads, D₂ (headFact I h ρ))
    (hlink : ∀ i rule a, p.rules[i]? = some rule → InPrefix o m i → Item.agg a ∈ rule.body →
      (∀ t, D₁ ⟨a.rel, t⟩ ↔ D₂ ⟨a.rel, t⟩) → AggEq I aggv₁ aggv₂ a) :
    ∀ k, k ≤ m → ∀ r, DefinedBy p o k r → ∀ t, D₁ ⟨r, t⟩ ↔ D₂ ⟨r, t⟩ := by
  intro k
  induction k using Nat.strongRecOn with
  | _ k IH =>
    intro hk r hr t
    have IH' : ∀ j, j < k → ∀ r, DefinedBy p o j r → ∀ t, D₁ ⟨r, t⟩ ↔ D₂ ⟨r, t⟩ :=
      fun j hj => IH j hj (Nat.le_trans (Nat.le_of_lt hj) hk)
    constructor
    · exact strata_dir I p o ho hs aggv₂ aggv₁ in₁ D₂ D₁ m k hk h1 hin₁ hc₂
        (fun i rule a hg hp ha he => hlink i rule a hg hp ha (fun t => (he t).symm))
        (fun j hj r hr t => (IH' j hj r hr t).symm) r hr t
    · exact strata_dir I p o ho hs aggv₁ aggv₂ in₂ D₁ D₂ m k hk h2 hin₂ hc₁
        (fun i rule a hg hp ha he => (hlink i rule a hg hp ha he).symm)
        IH' r hr t

end Strata

end AscentVerif.Engine.Agg
