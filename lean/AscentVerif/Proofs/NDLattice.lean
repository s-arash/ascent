import AscentVerif.Proofs.LatScc
/-!
# The nondeterministic lattice engine: any processing order, row values read at any earlier moment of the pass

`Model/Engine.lean` evaluates a rule variant against a SNAPSHOT of the state taken when the variant starts, variant after
variant in a fixed order.  The generated code does something looser: it walks the frozen `total` / `delta` indices (row
numbers) in hash order and reads the rows — whose lattice values other head updates of the same pass keep improving in
place — LIVE, when its loops reach them.  This file gives the engine as a relation that allows for this, with ONE state
read per rule instance:

* a pass is a TRACE of micro-steps; each micro-step takes some rule variant, an environment `ρ` that satisfies the body over
  the version bags with the row values of SOME state `sr` the pass has already been through (the state at pass start, at the
  start of the variant, just now, …), and applies the head updates to the current state; all clauses of the body read the
  same `sr` (an instance whose rows the loops read partly before and partly after a head update of the same pass is a
  micro-step only if some single state shows all of them: that the generated code produces no other is not proved);
* the pass is COMPLETE: every instance over the *stable* part of the final state (`PView`: rows of the version bags that were
  not re-queued, hence never changed during the pass — whenever the loops reach such an instance they see exactly it) was
  processed by some micro-step (up to the head facts it denotes);
* loops, SCCs and `run` are as in `Model/Engine.lean`.

`runNDL_spec'`: every such execution ends with one row per lattice key, closed, and — for monotone programs — below every
closed key-unique database: the least fixed point.  `runTimeout_is_NDL`: a completed run of the deterministic engine is one
such execution.  The theorems are stated for any `Tracks` (the `_spec` versions are the instance `Dominated`) and are the
loop, SCC and strata theorems of `Proofs/LatScc.lean` at `passNDL_ok`.
-/
namespace AscentVerif.Engine
open AscentVerif

variable {E B G P A : Type}

/-- one entry of a pass trace: the state reached and the (rule, environment) whose head updates produced it -/
structure EntryL (E B G P A : Type) where
  st : SccSt
  src : Option (Rule E B G P A × Env)

/-- traces of one pass, newest entry first -/
inductive TraceL (I : Interp E B G P A) (p : Program E B G P A) (dyn : List RelId) (rules : List (Rule E B G P A)) :
    List (EntryL E B G P A) → Prop where
  | start (s₀ : SccSt) : TraceL I p dyn rules [{ st := s₀, src := none }]
  | step {e : EntryL E B G P A} {hist : List (EntryL E B G P A)} (rule : Rule E B G P A) (vs : List (Option Ver))
      (sr : SccSt) (ρ : Env) :
      TraceL I p dyn rules (e :: hist) → rule ∈ rules → vs ∈ variants dyn rule →
      sr ∈ (e :: hist).map (·.st) → SatV I (viewOf {} p sr) rule.body vs [] ρ →
      TraceL I p dyn rules ({ st := rule.heads.foldl (fun s h => headUpdate I {} p s h ρ) e.st, src := some (rule, ρ) } :: e :: hist)

/-- one pass from `s` (flag reset) to `s₁`: a trace, complete on the stable part of `s₁` -/
def PassNDL (I : Interp E B G P A) (p : Program E B G P A) (dyn : List RelId) (rules : List (Rule E B G P A))
    (s s₁ : SccSt) : Prop :=
  ∃ tr : List (EntryL E B G P A), TraceL I p dyn rules tr ∧
    tr.head?.map (·.st) = some s₁ ∧ tr.getLast?.map (·.st) = some { s with changed := false } ∧
    ∀ rule ∈ rules, ∀ vs ∈ variants dyn rule, ∀ ρ, SatV I (PView s₁) rule.body vs [] ρ →
      ∃ e ∈ tr, ∃ ρ', e.src = some (rule, ρ') ∧ ∀ h ∈ rule.heads, headFact I h ρ' = headFact I h ρ

inductive LoopNDL (I : Interp E B G P A) (p : Program E B G P A) (dyn : List RelId) (rules : List (Rule E B G P A)) :
    SccSt → SccSt → Prop where
  | exit {s s₁ : SccSt} : PassNDL I p dyn rules s s₁ → s₁.changed = false → LoopNDL I p dyn rules s (shift s₁)
  | more {s s₁ s' : SccSt} : PassNDL I p dyn rules s s₁ → s₁.changed = true → LoopNDL I p dyn rules (shift s₁) s' →
      LoopNDL I p dyn rules s s'

def SccNDL (I : Interp E B G P A) (p : Program E B G P A) (scc : List Nat) (st st' : St) : Prop :=
  if isLooping p scc then
    ∃ s', LoopNDL I p (dynRels p scc) (sccRules p scc) (enterScc st (dynRels p scc)) s' ∧ st' = leaveScc s'
  else
    ∃ s₁, PassNDL I p (dynRels p scc) (sccRules p scc) (enterScc st (dynRels p scc)) s₁ ∧ st' = leaveScc (shift (shift s₁))

inductive SccsNDL (I : Interp E B G P A) (p : Program E B G P A) : SccOrder → St → St → Prop where
  | nil {st : St} : SccsNDL I p [] st st
  | cons {scc : List Nat} {rest : SccOrder} {st st₁ st₂ : St} : SccNDL I p scc st st₁ → SccsNDL I p rest st₁ st₂ →
      SccsNDL I p (scc :: rest) st st₂

def RunNDL (I : Interp E B G P A) (p : Program E B G P A) (order : SccOrder) (s s' : St) : Prop :=
  SccsNDL I p order (updateIndices s) s'

section TraceInv
variable {I : Interp E B G P A} {L : LatOrder I} {p : Program E B G P A} {inp : RelId → List Tuple}
  {dynR : List RelId} {C : HeadClause E → Prop} {Le : DB → DB → Prop} {Φ : DB → Fact → Prop}

/-- a property of states that a micro-step keeps, given it of the state the step reads (`sr`) and of the state it updates,
holds of every state of a trace -/
theorem TraceL.forall_st {rules : List (Rule E B G P A)} {Q : SccSt → Prop}
    (hstep : ∀ rule ∈ rules, ∀ vs ρ sr s, Q sr → Q s → SatV I (viewOf {} p sr) rule.body vs [] ρ →
      Q (rule.heads.foldl (fun s h => headUpdate I {} p s h ρ) s))
    {tr : List (EntryL E B G P A)} (htr : TraceL I p dynR rules tr) :
    ∀ s₀, tr.getLast?.map (·.st) = some s₀ → Q s₀ → ∀ e ∈ tr, Q e.st := by
  induction htr with
  | start s =>
    intro s₀ hlast h0 e he
    cases hlast
    cases List.mem_singleton.mp he
    exact h0
  | @step e hist rule vs sr ρ _ hrule _ hsr hsat ih =>
    intro s₀ hlast h0
    rw [List.getLast?_cons_cons] at hlast
    have hall := ih s₀ hlast h0
    obtain ⟨er, her, rfl⟩ := List.mem_map.mp hsr
    exact List.forall_mem_cons.mpr
      ⟨hstep rule hrule vs ρ er.st e.st (hall er her) (hall e List.mem_cons_self) hsat, hall⟩

variable (I L p inp dynR) in
/-- the invariant of the induction over a trace (`trace_track`): every state of the trace has `LInv`, the newest state
extends each of them, and `Φ` holds there of the heads of every micro-step taken -/
def TrOK (Le : DB → DB → Prop) (Φ : DB → Fact → Prop) (tr : List (EntryL E B G P A)) : Prop :=
  (∀ e' ∈ tr, LInv I L p inp dynR e'.st) ∧
  ∀ e, tr.head? = some e → (∀ e' ∈ tr, TExt I L p Le e'.st e.st) ∧
    ∀ e' ∈ tr, ∀ rule ρ', e'.src = some (rule, ρ') → ∀ h ∈ rule.heads, Φ (FactsS e.st) (headFact I h ρ')

variable (T : Tracks I L p inp C Le Φ) (rules : List (Rule E B G P A)) (hrules : ∀ rule ∈ rules, rule ∈ p.rules)
  (haf : ∀ rule ∈ rules, rule.aggFree = true)
  (hdyn : ∀ rule ∈ rules, ∀ h ∈ rule.heads, dynR.contains h.rel = true) (hC : ∀ rule ∈ rules, ∀ h ∈ rule.heads, C h)

include T hrules hdyn hC in
theorem trace_track {tr : List (EntryL E B G P A)} (htr : TraceL I p dynR rules tr) :
    ∀ s₀, tr.getLast?.map (·.st) = some s₀ → LInv I L p inp dynR s₀ → TrOK I L p inp dynR Le Φ tr := by
  induction htr with
  | start s =>
    intro s₀ hlast hinv
    cases hlast
    unfold TrOK
    simp only [List.forall_mem_singleton, List.head?_cons, Option.some.injEq, forall_eq']
    exact ⟨hinv, TExt.refl T.toAlong _, nofun⟩
  | @step e hist rule vs sr ρ _ hrule hvs hsr hsat ih =>
    intro s₀ hlast hinv
    rw [List.getLast?_cons_cons] at hlast
    obtain ⟨hall, hhead⟩ := ih s₀ hlast hinv
    obtain ⟨hext, hdom⟩ := hhead e rfl
    obtain ⟨er, her, rfl⟩ := List.mem_map.mp hsr
    have hbf := belowF_of_view rule (hrules rule hrule) vs er.st (hall er her) ρ hsat
    obtain ⟨h1, h2, h3⟩ := heads_track T rule.heads ρ hbf (hdyn rule hrule) (hC rule hrule) e.st (hall e (by simp))
    unfold TrOK
    simp only [List.head?_cons, Option.some.injEq, forall_eq']
    refine ⟨List.forall_mem_cons.mpr ⟨h1, hall⟩,
      List.forall_mem_cons.mpr ⟨TExt.refl T.toAlong _, fun e' he' => TExt.trans T.toAlong (hext e' he') h2⟩,
      List.forall_mem_cons.mpr ⟨?_, fun e' he' rule' ρ' hsrc h hh => T.mono (hdom e' he' rule' ρ' hsrc h hh) h2.2⟩⟩
    intro _ _ hsrc
    cases hsrc
    exact h3

include hrules hdyn in
theorem trace_inv {tr : List (EntryL E B G P A)} (htr : TraceL I p dynR rules tr) (s₀ : SccSt)
    (hlast : tr.getLast?.map (·.st) = some s₀) (hinv : LInv I L p inp dynR s₀) :
    ∀ s ∈ tr.map (·.st), LInv I L p inp dynR s :=
  List.forall_mem_map.mpr (htr.forall_st (fun rule hrule vs ρ sr s hsr hs hsat =>
    (heads_track (tracksDominated I L p inp) rule.heads ρ (belowF_of_view rule (hrules rule hrule) vs sr hsr ρ hsat)
      (hdyn rule hrule) (fun _ _ => trivial) s hs).1) s₀ hlast hinv)

include T hrules hdyn hC in
theorem passNDL_track (s s₁ : SccSt) (hinv : LInv I L p inp dynR { s with changed := false })
    (hpass : PassNDL I p dynR rules s s₁) :
    LInv I L p inp dynR s₁ ∧ TExt I L p Le { s with changed := false } s₁ ∧
      ∀ rule ∈ rules, ∀ vs ∈ variants dynR rule, DoneV I Φ rule vs s₁ := by
  obtain ⟨tr, htr, hhead, hlast, hcomp⟩ := hpass
  obtain ⟨hall, hh⟩ := trace_track T rules hrules hdyn hC htr _ hlast hinv
  obtain ⟨e₁, he₁, hst₁⟩ := Option.map_eq_some_iff.mp hhead
  obtain ⟨e₀, he₀, hst₀⟩ := Option.map_eq_some_iff.mp hlast
  have hm₁ : e₁ ∈ tr := List.mem_of_head? he₁
  have hm₀ : e₀ ∈ tr := List.mem_of_getLast? he₀
  obtain ⟨hext, hdom⟩ := hh e₁ he₁
  subst hst₁
  refine ⟨hall e₁ hm₁, ?_, ?_⟩
  · rw [← hst₀]; exact hext e₀ hm₀
  · intro rule hrule vs hvs ρ hρ h hhd
    obtain ⟨e, he, ρ', hsrc, heq⟩ := hcomp rule hrule vs hvs ρ hρ
    rw [← heq h hhd]
    exact hdom e he rule ρ' hsrc h hhd

include hrules hdyn in
theorem passNDL_spec (s s₁ : SccSt) (hinv : LInv I L p inp dynR { s with changed := false })
    (hpass : PassNDL I p dynR rules s s₁) :
    LInv I L p inp dynR s₁ ∧ LExt I L p { s with changed := false } s₁ ∧
      ∀ rule ∈ rules, ∀ vs ∈ variants dynR rule, DoneV I (Dominated I L p) rule vs s₁ :=
  have h := passNDL_track (tracksDominated I L p inp) rules hrules hdyn (fun _ _ _ _ => trivial) s s₁ hinv hpass
  ⟨h.1, h.2.1.1, h.2.2⟩

include T hrules haf hdyn hC in
theorem passNDL_ok (st : St) :
    LPassOK I L p inp False (Tgt I L p inp) (fun a => nAgg a.rel) Le Φ (PassNDL I p) st dynR rules := by
  intro s s₁ hinv _ _ hp
  obtain ⟨h1, h2, h3⟩ := passNDL_track T rules hrules hdyn hC s s₁ (LInv_reset (LInvT_tgt.mp hinv)) hp
  exact ⟨LInvT_tgt.mpr h1, h2, fun rule hr vs hvs ρ hρ => h3 rule hr vs hvs ρ (hρ.toCore (haf rule hr)), nofun⟩

theorem loopNDL_iters {dyn : List RelId} {rules : List (Rule E B G P A)} {s s' : SccSt}
    (h : LoopNDL I p dyn rules s s') :
    ∃ s₀ s₁, Agg.Iters (PassNDL I p dyn rules) s s₀ ∧ PassNDL I p dyn rules s₀ s₁ ∧ s₁.changed = false ∧
      s' = shift s₁ := by
  induction h with
  | exit hpass hch => exact ⟨_, _, .refl _, hpass, hch, rfl⟩
  | more hpass _ _ ih =>
    obtain ⟨s₀, s₁, hit, hp, hch, rfl⟩ := ih
    exact ⟨s₀, s₁, .step hpass hit, hp, hch, rfl⟩

end TraceInv

section SccNDL
variable {I : Interp E B G P A} {L : LatOrder I} {p : Program E B G P A} {inp : RelId → List Tuple}
  {C : HeadClause E → Prop} {Le : DB → DB → Prop} {Φ : DB → Fact → Prop}
  (T : Tracks I L p inp C Le Φ) (haf : ∀ r ∈ p.rules, r.aggFree = true)
  (hh : ∀ r ∈ p.rules, ∀ h ∈ r.heads, h.rel < p.rels.length) (hC : ∀ r ∈ p.rules, ∀ h ∈ r.heads, C h)

theorem sccNDL_sccG {scc : List Nat} {st st' : St} (h : SccNDL I p scc st st') :
    Agg.SccG (PassNDL I p) p scc st st' := by
  unfold SccNDL at h
  split at h
  · rename_i hlp
    obtain ⟨s', hloop, rfl⟩ := h
    obtain ⟨s₀, s₁, hit, hp, hch, rfl⟩ := loopNDL_iters hloop
    exact ⟨s₁, _, .inl ⟨hlp, s₀, hit, hp, rfl⟩, fun _ => hch, rfl⟩
  · rename_i hlp
    obtain ⟨s₁, hpass, rfl⟩ := h
    exact ⟨s₁, _, .inr ⟨by simpa using hlp, hpass, rfl⟩, fun h => absurd h hlp, rfl⟩

theorem sccsNDL_sccsG {o : SccOrder} {st st' : St} (h : SccsNDL I p o st st') : Agg.SccsG (PassNDL I p) p o st st' := by
  induction h with
  | nil => exact .nil _
  | cons hscc _ ih => exact .cons (sccNDL_sccG hscc) ih

include T haf hC in
theorem sccPassNDL_ok (scc : List Nat) (st : St) :
    LPassOK I L p inp False (Tgt I L p inp) (fun a => nAgg a.rel) Le Φ (PassNDL I p) st (dynRels p scc) (sccRules p scc) :=
  passNDL_ok T _ (sccRules_sub p scc) (fun r hr => haf r (sccRules_sub p scc r hr)) (dynRels_heads p scc)
    (fun r hr => hC r (sccRules_sub p scc r hr)) st

include haf hh in
theorem sccNDL_spec (scc : List Nat) (st st' : St)
    (hp : LPInv I L p inp st) (h : SccNDL I p scc st st') :
    LPInv I L p inp st' ∧
      (∀ r, (dynRels p scc).contains r = false → relSt st' r = relSt st r) ∧
      DBLe I L p (factsOf st) (factsOf st') ∧
      LClosedRules I L p (sccRules p scc) (factsOf st') := by
  obtain ⟨h1, h2, hcl, h3⟩ := sccG_spec' (alongDominated I L p) hh
    (sccPassNDL_ok (tracksDominated I L p inp) haf (fun _ _ _ _ => trivial) scc st) hp (sccNDL_sccG h)
  exact ⟨h1, h2, h3, closedFor_iff.mpr hcl⟩

include T haf hh hC in
theorem sccsNDL_track (o : SccOrder) (ho : validOrder p o = true) {rest : SccOrder} {st st' : St}
    (hrun : SccsNDL I p rest st st') (done : SccOrder) (hdone : done ++ rest = o) (hp : LPInv I L p inp st)
    (hcl : ∀ scc ∈ done, ClosedFor I Φ (sccRules p scc) (factsOf st)) :
    LPInv I L p inp st' ∧ (∀ scc ∈ o, ClosedFor I Φ (sccRules p scc) (factsOf st')) ∧
      Le (factsOf st) (factsOf st') := by
  have h := sccsG_track T.toAlong hh ho (fun _ _ => True) (fun _ _ _ _ => trivial) []
    (fun _ scc _ st _ _ _ _ _ => sccPassNDL_ok T haf hC scc st)
    (sccsNDL_sccsG hrun) done (by rw [List.append_nil]; exact hdone) hp
    (fun s hs => closedFor_iff.mp (hcl s hs)) trivial
  exact ⟨h.1, fun s hs => closedFor_iff.mpr (h.2.1 s (hdone ▸ hs)), h.2.2⟩

include T haf hh hC in
theorem runNDL_track (o : SccOrder) (ho : validOrder p o = true) (s s' : St) (hlen : s.length = p.rels.length)
    (hrows : ∀ r, r < p.rels.length → (relSt s r).rows = inp r)
    (hk : ∀ r, r < p.rels.length → (declOf p r).lat = true → ((inp r).map keyOf).Nodup)
    (hrun : RunNDL I p o s s') :
    LPInv I L p inp s' ∧ ClosedFor I Φ p.rules (factsOf s') ∧ Le (factsOf (updateIndices s)) (factsOf s') := by
  obtain ⟨hp0, _⟩ := LPInvT.of_rows (I := I) (L := L) (K := False) (Tg := Tgt I L p inp) (fun _ hM => hM.2.2.1) s hlen hrows hk
  obtain ⟨h1, h2, h3⟩ := sccsNDL_track T haf hh hC o ho hrun [] rfl hp0 (fun _ h => nomatch h)
  exact ⟨h1, forall_rules_of_valid p o ho h2, h3⟩

include haf hh in
theorem runNDL_spec' (o : SccOrder) (ho : validOrder p o = true) (s s' : St) (hlen : s.length = p.rels.length)
    (hrows : ∀ r, r < p.rels.length → (relSt s r).rows = inp r)
    (hk : ∀ r, r < p.rels.length → (declOf p r).lat = true → ((inp r).map keyOf).Nodup)
    (hrun : RunNDL I p o s s') :
    LPInv I L p inp s' ∧ LClosedRules I L p p.rules (factsOf s') ∧
      DBLe I L p (inDB p inp) (factsOf s') := by
  obtain ⟨h1, h2, h3⟩ := runNDL_track (tracksDominated I L p inp) haf hh (fun _ _ _ _ => trivial) o ho s s' hlen
    hrows hk hrun
  have h0 := LPInvT.of_rows (I := I) (L := L) (K := False) (Tg := Tgt I L p inp) (fun _ hM => hM.2.2.1) s hlen hrows hk
  exact ⟨h1, h2, DBLe.trans h0.2 h3⟩

end SccNDL

section Det
variable {I : Interp E B G P A} {p : Program E B G P A} {dyn : List RelId} {rules : List (Rule E B G P A)}

variable (I p dyn rules) in
def TrAt (tr : List (EntryL E B G P A)) (s : SccSt) : Prop :=
  TraceL I p dyn rules tr ∧ tr.head?.map (·.st) = some s

theorem TrAt.step {tr : List (EntryL E B G P A)} {s : SccSt} (h : TrAt I p dyn rules tr s)
    (rule : Rule E B G P A) (hrule : rule ∈ rules) (vs : List (Option Ver)) (hvs : vs ∈ variants dyn rule)
    (sr : SccSt) (hsr : sr ∈ tr.map (·.st)) (ρ : Env) (hsat : SatV I (viewOf {} p sr) rule.body vs [] ρ) :
    TrAt I p dyn rules
      ({ st := rule.heads.foldl (fun s h => headUpdate I {} p s h ρ) s, src := some (rule, ρ) } :: tr)
      (rule.heads.foldl (fun s h => headUpdate I {} p s h ρ) s) := by
  obtain ⟨htr, hh⟩ := h
  cases tr with
  | nil => simp at hh
  | cons e hist =>
    simp only [List.head?_cons, Option.map_some, Option.some.injEq] at hh
    subst hh
    exact ⟨TraceL.step rule vs sr ρ htr hrule hvs hsr hsat, rfl⟩

theorem TrAt.mem {tr : List (EntryL E B G P A)} {s : SccSt} (h : TrAt I p dyn rules tr s) : s ∈ tr.map (·.st) := by
  obtain ⟨_, hh⟩ := h
  cases tr with
  | nil => simp at hh
  | cons e hist =>
    simp only [List.head?_cons, Option.map_some, Option.some.injEq] at hh
    subst hh
    simp

/-- folding a step over a list while building a witness (a trace) for the state reached -/
theorem foldl_trackE {σ α T : Type} (f : σ → α → σ) (Inv : T → σ → Prop) (R : T → σ → T → σ → Prop)
    (Done : α → T → σ → Prop)
    (r_refl : ∀ t s, R t s t s) (r_trans : ∀ t₁ s₁ t₂ s₂ t₃ s₃, R t₁ s₁ t₂ s₂ → R t₂ s₂ t₃ s₃ → R t₁ s₁ t₃ s₃)
    (done_mono : ∀ a t s t' s', Done a t s → R t s t' s' → Done a t' s') :
    ∀ (l : List α), (∀ s t a, a ∈ l → Inv t s → ∃ t', Inv t' (f s a) ∧ R t s t' (f s a) ∧ Done a t' (f s a)) →
      ∀ s t, Inv t s → ∃ t', Inv t' (l.foldl f s) ∧ R t s t' (l.foldl f s) ∧ ∀ a ∈ l, Done a t' (l.foldl f s) := by
  intro l
  induction l with
  | nil => intro _ s t hs; exact ⟨t, hs, r_refl t s, fun a ha => by simp at ha⟩
  | cons a l ih =>
    intro step s t hs
    obtain ⟨t₁, h1, h2, h3⟩ := step s t a (by simp) hs
    obtain ⟨t₂, g1, g2, g3⟩ := ih (fun s t b hb => step s t b (List.mem_cons_of_mem _ hb)) (f s a) t₁ h1
    refine ⟨t₂, g1, r_trans _ _ _ _ _ _ h2 g2, ?_⟩
    intro b hb
    rcases List.mem_cons.mp hb with rfl | hb
    · exact done_mono _ _ _ _ _ h3 g2
    · exact g3 b hb

variable (I p dyn rules) in
/-- `f` extends every trace at `s` to a trace at `f s`, re-queueing every row it changes, such that `Done` holds of the
new trace and state -/
def Covers (f : SccSt → SccSt) (Done : List (EntryL E B G P A) → SccSt → Prop) : Prop :=
  ∀ s tr, TrAt I p dyn rules tr s → ∃ tr', TrAt I p dyn rules tr' (f s) ∧ (tr <:+ tr' ∧ PExt s (f s)) ∧ Done tr' (f s)

theorem Covers.foldl {α : Type} {f : SccSt → α → SccSt} {Done : α → List (EntryL E B G P A) → SccSt → Prop}
    (l : List α) (hstep : ∀ a ∈ l, Covers I p dyn rules (f · a) (Done a))
    (hmono : ∀ a {tr s tr' s'}, Done a tr s → tr <:+ tr' → PExt s s' → Done a tr' s') :
    Covers I p dyn rules (l.foldl f) (fun tr s => ∀ a ∈ l, Done a tr s) :=
  fun s tr hat => foldl_trackE f (fun tr s => TrAt I p dyn rules tr s) (fun tr s tr' s' => tr <:+ tr' ∧ PExt s s') Done
    (fun t s => ⟨List.suffix_refl t, PExt.refl s⟩)
    (fun _ _ _ _ _ _ h₁ h₂ => ⟨h₁.1.trans h₂.1, h₁.2.trans h₂.2⟩)
    (fun a _ _ _ _ hd hR => hmono a hd hR.1 hR.2) l (fun s t a ha hat => hstep a ha s t hat) s tr hat

variable (I) in
def DoneT (rule : Rule E B G P A) (vs : List (Option Ver)) (tr : List (EntryL E B G P A)) (s : SccSt) : Prop :=
  ∀ ρ, SatV I (PView s) rule.body vs [] ρ → ∃ e ∈ tr, e.src = some (rule, ρ)

theorem DoneT.mono {rule : Rule E B G P A} {vs : List (Option Ver)} {tr tr' : List (EntryL E B G P A)} {s s' : SccSt}
    (h : DoneT I rule vs tr s) (hsuf : tr <:+ tr') (hext : PExt s s') : DoneT I rule vs tr' s' := by
  intro ρ hρ
  obtain ⟨e, he, hsrc⟩ := h ρ (SatV.mono (fun r v t hv => PView_anti' hext hv) hρ)
  exact ⟨e, hsuf.subset he, hsrc⟩

/-- one variant: its environments are all read from the state `s` at its start, one micro-step each -/
theorem variant_trace (rule : Rule E B G P A) (hrule : rule ∈ rules) (haf : rule.aggFree = true)
    (vs : List (Option Ver)) (hvs : vs ∈ variants dyn rule) :
    Covers I p dyn rules (fun s => evalVariant I {} p s rule vs) (DoneT I rule vs) := by
  intro s tr hat
  obtain ⟨tr', ⟨h1, _⟩, hR, h4⟩ := foldl_trackE (fun s' ρ => rule.heads.foldl (fun s h => headUpdate I {} p s h ρ) s')
    (fun tr' s' => TrAt I p dyn rules tr' s' ∧ s ∈ tr'.map (·.st))
    (fun tr s tr' s' => tr <:+ tr' ∧ PExt s s')
    (fun ρ tr' _ => ∃ e ∈ tr', e.src = some (rule, ρ))
    (fun t s => ⟨List.suffix_refl t, PExt.refl s⟩)
    (fun _ _ _ _ _ _ h₁ h₂ => ⟨h₁.1.trans h₂.1, h₁.2.trans h₂.2⟩)
    (fun ρ _ _ _ _ ⟨e, he, hsrc⟩ hR => ⟨e, hR.1.subset he, hsrc⟩)
    (evalBody I {} p s rule.body vs [])
    (fun s' tr' ρ hρ ⟨hat', hsr⟩ => ⟨_,
      ⟨hat'.step rule hrule vs hvs s hsr ρ (SatV_of_evalBody I {} p s rule.body vs [] ρ haf hρ), List.mem_cons_of_mem _ hsr⟩,
      ⟨List.suffix_cons _ _, PExt_heads I p ρ rule.heads s'⟩, _, List.mem_cons_self, rfl⟩)
    s tr ⟨hat, hat.mem⟩
  refine ⟨tr', h1, hR, fun ρ hρ => h4 ρ (evalBody_of_SatV I {} p s ?_)⟩
  exact SatV.mono (fun r v t hv => PView_sub_view {} p (PView_anti' hR.2 hv)) hρ

theorem rules_trace (haf : ∀ rule ∈ rules, rule.aggFree = true) :
    Covers I p dyn rules (evalRules I {} p dyn rules)
      (fun tr s => ∀ rule ∈ rules, ∀ vs ∈ variants dyn rule, DoneT I rule vs tr s) :=
  Covers.foldl rules
    (fun rule hr => Covers.foldl (variants dyn rule) (fun vs hvs => variant_trace rule hr (haf rule hr) vs hvs)
      fun _ => DoneT.mono)
    fun _ _ _ _ _ hd hsuf hext vs hvs => (hd vs hvs).mono hsuf hext

theorem evalRules_is_pass (haf : ∀ rule ∈ rules, rule.aggFree = true) (s : SccSt) :
    PassNDL I p dyn rules s (evalRules I {} p dyn rules { s with changed := false }) := by
  have h0 : TrAt I p dyn rules [{ st := { s with changed := false }, src := none }] { s with changed := false } :=
    ⟨TraceL.start _, rfl⟩
  obtain ⟨tr', ⟨htr, hhead⟩, ⟨hsuf, _⟩, hdone⟩ := rules_trace haf _ _ h0
  refine ⟨tr', htr, hhead, ?_, ?_⟩
  · obtain ⟨pre, rfl⟩ := hsuf
    simp [List.getLast?_append]
  · intro rule hrule vs hvs ρ hρ
    obtain ⟨e, he, hsrc⟩ := hdone rule hrule vs hvs ρ hρ
    exact ⟨e, he, ρ, hsrc, fun _ _ => rfl⟩

end Det

section DetRun
variable {I : Interp E B G P A} {p : Program E B G P A}

theorem sccLoop_is_NDL {dyn : List RelId} {rules : List (Rule E B G P A)} (haf : ∀ rule ∈ rules, rule.aggFree = true)
    (dl : Deadline) (fuel : Nat) (rs rs' : RunSt) (h : sccLoop I {} p dyn rules dl fuel rs = .done rs') :
    LoopNDL I p dyn rules rs.st rs'.st := by
  obtain ⟨s, hQ, hch, hst⟩ := (sccLoop_inv (fun s => ∀ s', LoopNDL I p dyn rules s s' → LoopNDL I p dyn rules rs.st s') dl
    (fun s hQ hch s' hl => hQ s' (.more (evalRules_is_pass haf s) hch hl)) fuel rs rs' (fun _ hl => hl)).1 h
  rw [hst]
  exact hQ _ (.exit (evalRules_is_pass haf s) hch)

theorem runScc_is_NDL (haf : ∀ r ∈ p.rules, r.aggFree = true) (dl : Deadline) (fuel : Nat) (scc : List Nat)
    (ps ps' : ProgSt) (h : runScc I {} p dl fuel scc ps = .done ps') : SccNDL I p scc ps.st ps'.st := by
  have hafs : ∀ rule ∈ sccRules p scc, rule.aggFree = true := fun r hr => haf r (sccRules_sub p scc r hr)
  obtain ⟨s, hs, hst⟩ := (runScc_cases (fun s => SccNDL I p scc ps.st (leaveScc s)) (fun _ => True) dl fuel scc ps ps'
    (fun hl rs rs' h0 => ⟨fun hrs => by
      unfold SccNDL
      rw [if_pos hl, ← h0]
      exact ⟨rs'.st, sccLoop_is_NDL hafs dl fuel rs rs' hrs, rfl⟩, fun _ => trivial⟩)
    (fun hl s hs => ⟨by
      unfold SccNDL
      rw [if_neg (by simp [hl]), hs]
      exact ⟨_, evalRules_is_pass hafs (enterScc ps.st (dynRels p scc)), rfl⟩, trivial⟩)).1 h
  rw [hst]
  exact hs

theorem runSccs_is_NDL (haf : ∀ r ∈ p.rules, r.aggFree = true) (dl : Deadline) (fuel : Nat) :
    ∀ (order : SccOrder) (ps ps' : ProgSt), runSccs I {} p dl fuel order ps = .done ps' →
      SccsNDL I p order ps.st ps'.st := by
  intro order
  induction order with
  | nil =>
    intro ps ps' h
    simp only [runSccs, Outcome.done.injEq] at h
    subst h
    exact SccsNDL.nil
  | cons scc rest ih =>
    intro ps ps' h
    obtain ⟨ps1, hscc, hrest⟩ := runSccs_cons_done.mp h
    exact SccsNDL.cons (runScc_is_NDL haf dl fuel scc ps ps1 hscc) (ih ps1 ps' hrest)

/-- a completed run of the deterministic engine (snapshot at variant start, fixed order; any deadline oracle that let
it finish) is one execution -/
theorem runTimeout_is_NDL (haf : ∀ r ∈ p.rules, r.aggFree = true) (order : SccOrder) (dl : Deadline) (fuel : Nat)
    (s : St) (ps : ProgSt) (hrun : runTimeout I {} p order dl fuel s = .done ps) : RunNDL I p order s ps.st :=
  runSccs_is_NDL haf dl fuel order _ ps hrun

end DetRun

end AscentVerif.Engine
