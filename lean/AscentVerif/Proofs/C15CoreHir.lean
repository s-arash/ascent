import AscentVerif.Proofs.C15Basic
/-!
# C15: the HIR pass (`hirRules`): when it succeeds, and which errors it returns

Every function of the pass is characterised once (`Decides`): `extendGrounded` (to which `extendBinders` reduces),
`getRelation`, `hirEv`, and the loops over bodies, heads and rules.  The grounded variables are an accumulator whose
order and repetitions depend on the traversal; the conditions (`Ev.okAt`) only ask for membership, so the lemmas carry
the accumulator up to `∀ v, v ∈ g ↔ v ∈ G`.  `rulesOk_iff` restates the result in the words of `Spec/CheckSpec.lean`.
-/
namespace AscentVerif.Check
open AscentVerif AscentVerif.Engine

def Err.hirErr : Err → Bool
  | .undefRel | .arity | .shadow | .aggBoundArg => true
  | _ => false

theorem extendGrounded_decides : ∀ (vs g : List Var),
    Decides (vs.Nodup ∧ ∀ v ∈ vs, v ∉ g) Err.hirErr (· = g ++ vs) (extendGrounded g vs) := by
  intro vs
  induction vs with
  | nil => exact fun g => .ok ⟨List.nodup_nil, fun _ h => nomatch h⟩ (List.append_nil g).symm
  | cons v vs ih =>
    intro g
    rw [extendGrounded]
    by_cases hv : v ∈ g
    · rw [if_pos (List.contains_iff_mem.2 hv)]
      exact .error (fun h => h.2 v List.mem_cons_self hv) rfl
    · rw [if_neg (fun h => hv (List.contains_iff_mem.1 h))]
      refine ((ih (g ++ [v])).congr ?_).mono (fun _ => id) fun g' h => ⟨h.1, ?_⟩
      · rw [List.nodup_cons, List.forall_mem_cons]
        constructor
        · rintro ⟨hn, hf⟩
          exact ⟨⟨fun hm => hf v hm (List.mem_append_right _ (List.mem_singleton.2 rfl)), hn⟩, hv,
            fun w hw hg => hf w hw (List.mem_append_left _ hg)⟩
        · rintro ⟨⟨hnv, hn⟩, _, hf⟩
          exact ⟨hn, fun w hw hm => (List.mem_append.1 hm).elim (hf w hw) fun h => hnv (List.mem_singleton.1 h ▸ hw)⟩
      · rw [h.2, List.append_assoc]
        rfl

theorem extendGrounded_append : ∀ (vs ws g : List Var),
    extendGrounded g (vs ++ ws) = (extendGrounded g vs).bind fun g' => extendGrounded g' ws := by
  intro vs ws
  induction vs with
  | nil => exact fun g => rfl
  | cons v vs ih =>
    intro g
    rw [List.cons_append, extendGrounded, extendGrounded]
    by_cases hv : g.contains v = true
    · rw [if_pos hv, if_pos hv]
      rfl
    · rw [if_neg hv, if_neg hv]
      exact ih _

theorem extendBinders_eq : ∀ (bs : List Binder) (g : List Var),
    extendBinders g bs = extendGrounded g (bs.flatMap (·.seen)) := by
  intro bs
  induction bs with
  | nil => exact fun g => rfl
  | cons b bs ih =>
    intro g
    rw [extendBinders, List.flatMap_cons, extendGrounded_append]
    cases extendGrounded g b.seen with
    | error e => rfl
    | ok g' => exact ih g'

theorem mem_groundArgs : ∀ (args : List Arg) (g : List Var) (v : Var),
    v ∈ groundArgs g args ↔ v ∈ g ++ argVars args := by
  intro args
  induction args with
  | nil =>
    intro g v
    rw [groundArgs, argVars, List.append_nil]
  | cons a rest ih =>
    intro g v
    cases a with
    | var w =>
      rw [groundArgs, argVars]
      by_cases hw : w ∈ g
      · rw [if_pos (List.contains_iff_mem.2 hw), ih g v, List.mem_append, List.mem_append, List.mem_cons]
        exact ⟨fun h => h.elim Or.inl fun h => Or.inr (Or.inr h),
          fun h => h.elim Or.inl fun h => h.elim (fun h => Or.inl (h ▸ hw)) Or.inr⟩
      · rw [if_neg (fun h => hw (List.contains_iff_mem.1 h)), ih (g ++ [w]) v, List.append_assoc]
        rfl
    | other => exact ih g v
    | pat _ => exact ih g v

theorem getRelation_decides (ds : List Decl) (n : Name) (a : Nat) :
    Decides (∃ d, findDecl ds n = some d ∧ d.arity = a) Err.hirErr (fun _ => True) (getRelation ds n a) := by
  unfold getRelation
  cases findDecl ds n with
  | none => exact .error (fun ⟨_, h, _⟩ => nomatch h) rfl
  | some d =>
    dsimp only
    by_cases ha : d.arity = a
    · rw [if_pos (beq_iff_eq.2 ha)]
      exact .ok ⟨d, rfl, ha⟩ trivial
    · rw [if_neg (fun h => ha (beq_iff_eq.1 h))]
      exact .error (fun ⟨_, h, h'⟩ => ha (Option.some.inj h ▸ h')) rfl

/-- the conditions of the HIR pass on a body item at a position where the variables of `g` are grounded: its relation
resolves with the right arity, the aggregated variables are arguments of the aggregated relation, and its patterns and
bound arguments are fresh -/
def Ev.okAt (ds : List Decl) (g : List Var) (ev : Ev) : Prop :=
  (∀ o, ev.rel? = some o → ∃ d, findDecl ds o.1 = some d ∧ d.arity = o.2) ∧ aggBoundOk ev = true ∧
    ev.binderVars.Nodup ∧ (∀ v ∈ ev.binderVars, v ∉ g ++ ev.argIdents) ∧
      ev.boundVars.Nodup ∧ ∀ v ∈ ev.boundVars, v ∉ g

theorem Ev.okAt_congr {ds : List Decl} {g g' : List Var} {ev : Ev} (h : ∀ v, v ∈ g ↔ v ∈ g') :
    ev.okAt ds g ↔ ev.okAt ds g' := by
  unfold Ev.okAt
  simp only [List.mem_append, h]

theorem hirEv_decides (ds : List Decl) (g : List Var) : ∀ (ev : Ev),
    Decides (ev.okAt ds g) Err.hirErr (fun g' => ∀ v, v ∈ g' ↔ v ∈ g ++ ev.grounds) (hirEv ds g ev) := by
  intro ev
  cases ev with
  | clause rel args conds =>
    -- `okAt` for this constructor, in the order in which `hirEv` tests it
    have hC : (Ev.clause rel args conds).okAt ds g ↔ (∃ d, findDecl ds rel = some d ∧ d.arity = args.length) ∧
        ((patConds args ++ conds).flatMap (·.seen)).Nodup ∧
          ∀ v ∈ (patConds args ++ conds).flatMap (·.seen), v ∉ groundArgs g args :=
      ⟨fun h => ⟨h.1 _ rfl, h.2.2.1, fun v hv hm => h.2.2.2.1 v hv ((mem_groundArgs _ _ _).1 hm)⟩,
        fun h => ⟨fun o ho => Option.some.inj ho ▸ h.1, rfl, h.2.1,
          fun v hv hm => h.2.2 v hv ((mem_groundArgs _ _ _).2 hm), List.nodup_nil, fun _ h => nomatch h⟩⟩
    rw [hirEv]
    refine Decides.congr ?_ hC.symm
    cases hg : getRelation ds rel args.length with
    | error e => exact (getRelation_decides ds rel _).and_of_error hg
    | ok _ =>
      refine (getRelation_decides ds rel _).and_of_ok hg ?_
      rw [extendBinders_eq]
      refine (extendGrounded_decides _ _).mono (fun _ => id) fun g' h => ⟨h.1, fun v => ?_⟩
      rw [h.2, List.mem_append, mem_groundArgs, ← List.mem_append, List.append_assoc]
      rfl
  | binder b =>
    have hC : (Ev.binder b).okAt ds g ↔ b.seen.Nodup ∧ ∀ v ∈ b.seen, v ∉ g :=
      ⟨fun h => ⟨h.2.2.1, fun v hv hm => h.2.2.2.1 v hv (List.mem_append_left _ hm)⟩,
        fun h => ⟨fun _ h => (nomatch h), rfl, h.1, fun v hv hm => h.2 v hv (List.append_nil g ▸ hm),
          List.nodup_nil, fun _ h => nomatch h⟩⟩
    rw [hirEv]
    exact ((extendGrounded_decides b.seen g).congr hC.symm).mono (fun _ => id) fun g' h => ⟨h.1, fun v => h.2 ▸ Iff.rfl⟩
  | agg rel args pat bound =>
    have hC : (Ev.agg rel args pat bound).okAt ds g ↔ aggBoundOk (.agg rel args pat bound) = true ∧
        (bound.Nodup ∧ ∀ v ∈ bound, v ∉ g) ∧ (pat.seen.Nodup ∧ ∀ v ∈ pat.seen, v ∉ g) ∧
          ∃ d, findDecl ds rel = some d ∧ d.arity = args.length :=
      ⟨fun h => ⟨h.2.1, h.2.2.2.2, ⟨h.2.2.1, fun v hv hm => h.2.2.2.1 v hv (List.mem_append_left _ hm)⟩, h.1 _ rfl⟩,
        fun h => ⟨fun o ho => Option.some.inj ho ▸ h.2.2.2, h.1, h.2.2.1.1,
          fun v hv hm => h.2.2.1.2 v hv (List.append_nil g ▸ hm), h.2.1⟩⟩
    rw [hirEv]
    refine Decides.congr ?_ hC.symm
    refine Decides.ite rfl (fun hc h => ?_) (fun hc => ?_) ?_
    · rw [h] at hc
      cases hc
    · rw [Bool.not_eq_true', Bool.not_eq_false] at hc
      exact hc
    cases h1 : extendGrounded g bound with
    | error e => exact (extendGrounded_decides bound g).and_of_error h1
    | ok _ =>
    refine (extendGrounded_decides bound g).and_of_ok h1 ?_
    cases h2 : extendGrounded g pat.seen with
    | error e => exact (extendGrounded_decides pat.seen g).and_of_error h2
    | ok g' =>
    refine (extendGrounded_decides pat.seen g).and_of_ok h2 ?_
    cases h3 : getRelation ds rel args.length with
    | error e => exact .error ((getRelation_decides ds rel _).of_error h3).1 ((getRelation_decides ds rel _).of_error h3).2
    | ok _ =>
      exact .ok ((getRelation_decides ds rel _).of_ok h3).1 fun v => ((extendGrounded_decides pat.seen g).of_ok h2).2 ▸ Iff.rfl

theorem forall_split_cons {α : Type} {P : List α → α → Prop} {x : α} {l : List α} :
    (∀ pre y post, x :: l = pre ++ y :: post → P pre y) ↔
      P [] x ∧ ∀ pre y post, l = pre ++ y :: post → P (x :: pre) y := by
  constructor
  · intro h
    exact ⟨h [] x l rfl, fun pre y post heq => h (x :: pre) y post (heq ▸ rfl)⟩
  · rintro ⟨h1, h2⟩ pre y post heq
    cases pre with
    | nil =>
      cases heq
      exact h1
    | cons z pre =>
      cases heq
      exact h2 pre y post rfl

/-- each item is tested against what the items in front of it ground: the accumulator `g` of the loop holds the
variables of `G ++ pre.flatMap Ev.grounds`, in another order and without the repetitions -/
theorem hirBody_decides (ds : List Decl) : ∀ (evs : List Ev) (g G : List Var), (∀ v, v ∈ g ↔ v ∈ G) →
    Decides (∀ pre ev post, evs = pre ++ ev :: post → ev.okAt ds (G ++ pre.flatMap Ev.grounds)) Err.hirErr
      (fun _ => True) (hirBody ds g evs) := by
  intro evs
  induction evs with
  | nil => exact fun g G _ => .ok (fun pre _ _ h => by cases pre <;> cases h) trivial
  | cons e rest ih =>
    intro g G hg
    have he := (hirEv_decides ds g e).congr
      (Ev.okAt_congr (g' := G ++ [].flatMap Ev.grounds) fun v => by rw [List.flatMap_nil, List.append_nil]; exact hg v)
    rw [hirBody]
    refine Decides.congr ?_ forall_split_cons.symm
    cases h : hirEv ds g e with
    | error e' => exact he.and_of_error h
    | ok g1 =>
      refine he.and_of_ok h ((ih g1 (G ++ e.grounds) fun v => ?_).congr ?_)
      · rw [(he.of_ok h).2 v, List.mem_append, List.mem_append, hg v]
      · simp only [List.flatMap_cons, List.append_assoc]

theorem hirHeads_decides (ds : List Decl) : ∀ (hs : List Head),
    Decides (∀ h ∈ hs, ∃ d, findDecl ds h.rel = some d ∧ d.arity = h.nargs) Err.hirErr (fun _ => True) (hirHeads ds hs) := by
  intro hs
  induction hs with
  | nil => exact .ok (fun _ h => nomatch h) trivial
  | cons h rest ih =>
    rw [hirHeads]
    refine Decides.congr ?_ List.forall_mem_cons.symm
    cases hg : getRelation ds h.rel h.nargs with
    | error e => exact (getRelation_decides ds _ _).and_of_error hg
    | ok _ => exact (getRelation_decides ds _ _).and_of_ok hg ih

def ruleOk (ds : List Decl) (r : CoreRule) : Prop :=
  (∀ pre ev post, r.body = pre ++ ev :: post → ev.okAt ds (pre.flatMap Ev.grounds)) ∧
    ∀ h ∈ r.heads, ∃ d, findDecl ds h.rel = some d ∧ d.arity = h.nargs

theorem hirRules_decides (ds : List Decl) : ∀ (rules : List CoreRule),
    Decides (∀ r ∈ rules, ruleOk ds r) Err.hirErr (fun _ => True) (hirRules ds rules) := by
  intro rules
  induction rules with
  | nil => exact .ok (fun _ h => nomatch h) trivial
  | cons r rest ih =>
    have hb := hirBody_decides ds r.body [] [] fun _ => Iff.rfl
    rw [hirRules, hirRule]
    refine Decides.congr ?_ List.forall_mem_cons.symm
    refine Decides.congr ?_ and_assoc.symm
    cases h1 : hirBody ds [] r.body with
    | error e => exact hb.and_of_error h1
    | ok _ =>
    refine hb.and_of_ok h1 ?_
    cases h2 : hirHeads ds r.heads with
    | error e => exact (hirHeads_decides ds r.heads).and_of_error h2
    | ok _ => exact (hirHeads_decides ds r.heads).and_of_ok h2 ih

/-- in the words of the specification: the fields `declared`, `aggBound` and `fresh` of `WellFormedCore` -/
theorem rulesOk_iff (ds : List Decl) (rules : List CoreRule) :
    (∀ r ∈ rules, ruleOk ds r) ↔
      (∀ r ∈ rules, ∀ o ∈ r.occurrences, ∃ d, findDecl ds o.1 = some d ∧ d.arity = o.2) ∧
      ¬ IllFormedAggBound rules ∧
      (∀ r ∈ rules, ∀ pre ev post, r.body = pre ++ ev :: post →
        ev.binderVars.Nodup ∧ (∀ v ∈ ev.binderVars, v ∉ pre.flatMap Ev.grounds ++ ev.argIdents) ∧
          ev.boundVars.Nodup ∧ ∀ v ∈ ev.boundVars, v ∉ pre.flatMap Ev.grounds) := by
  constructor
  · intro h
    refine ⟨fun r hr o ho => ?_, ?_, fun r hr pre ev post heq => ((h r hr).1 pre ev post heq).2.2⟩
    · rcases List.mem_append.1 ho with ho | ho
      · obtain ⟨ev, hev, hevo⟩ := List.mem_filterMap.1 ho
        obtain ⟨pre, post, heq⟩ := List.append_of_mem hev
        exact ((h r hr).1 pre ev post heq).1 o hevo
      · obtain ⟨hd, hhd, rfl⟩ := List.mem_map.1 ho
        exact (h r hr).2 hd hhd
    · rintro ⟨r, hr, rel, args, pat, bound, hev, v, hv, hnv⟩
      obtain ⟨pre, post, heq⟩ := List.append_of_mem hev
      exact hnv (List.contains_iff_mem.1 (List.all_eq_true.1 ((h r hr).1 pre _ post heq).2.1 v hv))
  · rintro ⟨h1, h2, h3⟩ r hr
    refine ⟨fun pre ev post heq => ?_,
      fun hd hhd => h1 r hr (hd.rel, hd.nargs) (List.mem_append_right _ (List.mem_map.2 ⟨hd, hhd, rfl⟩))⟩
    have hev : ev ∈ r.body := heq ▸ List.mem_append_right _ List.mem_cons_self
    refine ⟨fun o ho => h1 r hr o (List.mem_append_left _ (List.mem_filterMap.2 ⟨ev, hev, ho⟩)), ?_,
      h3 r hr pre ev post heq⟩
    cases ev with
    | clause rel args conds => rfl
    | binder b => rfl
    | agg rel args pat bound =>
      refine List.all_eq_true.2 fun v hv => Decidable.byContradiction fun hn => ?_
      exact h2 ⟨r, hr, rel, args, pat, bound, hev, v, hv, fun hm => hn (List.contains_iff_mem.2 hm)⟩

end AscentVerif.Check
