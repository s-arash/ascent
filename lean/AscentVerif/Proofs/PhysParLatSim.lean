import AscentVerif.Proofs.PhysParLatBasic
/-!
# The head updates of the parallel engine with lattices against the bag engine

`headLatPar_sim`: under the invariant `PIS` the parallel lattice head update never panics and simulates `Engine.headLat`; the two
branches that file a row number go through `PhysLat.Files`, as in the serial model.  Two things are needed that the serial
update does not need: `join_mut` leaves the stored value alone whenever it reports "unchanged" (`hff`: `joinRow` writes the value
back whatever the flag says), and a non-empty `new` means `changed` is already set (`NewCh`: the update does not set `changed`
when the key was found in `new`).  `headRelPar_simP`: the head update of a plain relation is `PhysPar.headRelPar` on the plain part.
-/
namespace AscentVerif.PhysParLat
open AscentVerif AscentVerif.Engine AscentVerif.Index AscentVerif.Phys AscentVerif.PhysLat AscentVerif.PhysPar

variable {E B G P A : Type}

theorem lookupL_map (idxs : List (List Nat × Tri LCx)) (f : Tri LCx → LCx) (cols : List Nat) :
    lookupL (idxs.map fun ci => (ci.1, f ci.2)) cols = (idxs.find? (·.1 == cols)).map fun ci => f ci.2 :=
  find?_map_snd idxs f cols

theorem lookupX_map (idxs : List (List Nat × Tri LCx)) (f : Tri LCx → XIx) (cols : List Nat) :
    lookupX (idxs.map fun ci => (ci.1, f ci.2)) cols = (idxs.find? (·.1 == cols)).map fun ci => f ci.2 :=
  find?_map_snd idxs f cols

theorem keyGet_erase (x : LCx) (k : List Val) : keyGet x.erase k = x.getCloned k := by cases x <;> rfl

theorem eraseLDyn_idxs_map (ld : LCDyn) (f : Tri XIx → XIx) :
    ((eraseLDyn ld).idxs.map fun ci => (ci.1, f ci.2)) =
      ld.idxs.map fun ci => (ci.1, f ⟨ci.2.total.erase, ci.2.delta.erase, ci.2.new.erase⟩) := by
  simp only [eraseLDyn, List.map_map]
  rfl

theorem ldyn_key {p : Program E B G P A} {ix : IxSets} {r : RelId} {rows : List Tuple} {d : Dyn} {ld : LCDyn}
    (hlat : isLatRel p r = true) (har : 0 < arityOf p r)
    (tri : XTriOk p (ixP p ix) r rows d ⟨[], [], []⟩ (eraseLDyn ld).idxs) :
    ∃ c ∈ ld.idxs, ld.idxs.find? (·.1 == keyCols p r) = some c ∧
      LOk (keyCols p r) rows d.new (keyCols p r) c.2.new.erase ∧
      LOk (keyCols p r) rows d.delta (keyCols p r) c.2.delta.erase ∧
      LOk (keyCols p r) rows d.total (keyCols p r) c.2.total.erase := by
  obtain ⟨hcols, hall⟩ := (XTriOk_lat hlat).mp tri
  rw [ixOf_ixP_lat p ix r hlat har] at hcols
  obtain ⟨c, hc, hc1, hfind⟩ := find?_cols ld.idxs _ hcols (keyCols p r) (by simp [latIxOf])
  have hkcs : ∀ j ∈ c.1, j < arityOf p r - 1 := by rw [hc1]; exact fun j hj => List.mem_range.mp hj
  obtain ⟨ht, hd, hn⟩ := hall c hc
  rw [hc1] at ht hd hn hkcs
  exact ⟨c, hc, hfind, hn.1 hlat hkcs, hd.1 hlat hkcs, ht.1 hlat hkcs⟩

/-- what `updNew` does to one index (`kc`: the key columns, for the kind of `new`) -/
structure UpdNewRel (p : Program E B G P A) (r : RelId) (kc : List Nat) (row : Tuple) (i : Nat)
    (ci ci' : List Nat × Tri LCx) : Prop where
  cols : ci'.1 = ci.1
  total : ci'.2.total = ci.2.total
  delta : ci'.2.delta = ci.2.delta
  flag : ci'.2.new.Ok kc ci.1 false
  new : ci'.2.new.erase = if ci.1.length == arityOf p r then ci.2.new.erase else ci.2.new.erase.insert ci.1 row i

theorem updNew_ok (p : Program E B G P A) (r : RelId) {kc : List Nat} (idxs : List (List Nat × Tri LCx)) (row : Tuple)
    (i : Nat) (hfn : ∀ ci ∈ idxs, ci.2.new.Ok kc ci.1 false) :
    ∃ idxs', updNew p r idxs row i = .ok idxs' ∧ Rel2 (UpdNewRel p r kc row i) idxs idxs' := by
  obtain ⟨out, h1, h2⟩ := foldRes_inv
    (fun (done : List (List Nat × Tri LCx)) (ci : List Nat × Tri LCx) =>
      if ci.1.length == arityOf p r then Res.ok (done ++ [ci])
      else do
        let x ← ci.2.new.insert (Plan.proj ci.1 row) i
        pure (done ++ [(ci.1, { ci.2 with new := x })]))
    (fun done out => Rel2 (UpdNewRel p r kc row i) done out) idxs (by
      intro done out ci hci hinv
      by_cases hfull : (ci.1.length == arityOf p r) = true
      · exact ⟨out ++ [ci], by simp only [hfull, if_true],
          hinv.snoc ⟨rfl, rfl, rfl, hfn ci hci, by simp only [hfull, if_true]⟩⟩
      · obtain ⟨x', hx1, hx2⟩ := (hfn ci hci).insert (Plan.proj ci.1 row) i
        refine ⟨out ++ [(ci.1, { ci.2 with new := x' })], by simp only [hfull, Bool.false_eq_true, if_false, hx1]; rfl,
          hinv.snoc ⟨rfl, rfl, rfl, hx2, ?_⟩⟩
        simp only [hfull, Bool.false_eq_true, if_false]
        exact LCx_insert_erase _ _ _ _ _ hx1) [] .nil
  exact ⟨out, h1, h2⟩

def updL (s : PLScc) (r : RelId) (rows' : List Tuple) (ldyn' : List LCDyn) (c : Bool) : PLScc :=
  { pc := { s.pc with changed := c }, lrels := setNth s.lrels r { lrel s.lrels r with rows := rows' }, ldyn := ldyn' }

theorem headLatPar_eq (I : Interp E B G P A) (p : Program E B G P A) (s : PLScc) (r : RelId) (row : Tuple) :
    headLatPar I p s r row =
      match findLDyn s.ldyn r with
      | none => .ok s
      | some d =>
        match d.idxs.find? (·.1 == keyCols p r) with
        | none => .ok s
        | some c =>
          match (c.2.new.getCloned row.dropLast).orElse fun _ =>
              (c.2.delta.getCloned row.dropLast).orElse fun _ => c.2.total.getCloned row.dropLast with
          | some i =>
            if (lrel s.lrels r).rows.length ≤ i then .panic
            else if (I.joinMut r (valOf (rowAt (lrel s.lrels r).rows i)) (valOf row)).2 &&
                !(c.2.new.getCloned row.dropLast).isSome then
              updNew p r d.idxs row i >>= fun idxs =>
                pure (updL s r (joinRows (lrel s.lrels r).rows i (I.joinMut r (valOf (rowAt (lrel s.lrels r).rows i)) (valOf row)).1)
                  (setLDyn s.ldyn { d with idxs := idxs }) true)
            else pure (updL s r (joinRows (lrel s.lrels r).rows i (I.joinMut r (valOf (rowAt (lrel s.lrels r).rows i)) (valOf row)).1)
                  s.ldyn s.pc.changed)
          | none =>
            c.2.new.hashUsize >>= fun _ =>
            match c.2.new.getCloned row.dropLast with
            | some i =>
              if (lrel s.lrels r).rows.length ≤ i then .panic
              else pure (updL s r (joinRows (lrel s.lrels r).rows i (I.joinMut r (valOf (rowAt (lrel s.lrels r).rows i)) (valOf row)).1)
                  s.ldyn s.pc.changed)
            | none =>
              updNew p r d.idxs row (lrel s.lrels r).rows.length >>= fun idxs =>
                pure (updL s r ((lrel s.lrels r).rows ++ [row]) (setLDyn s.ldyn { d with idxs := idxs }) true) := by
  unfold headLatPar
  cases findLDyn s.ldyn r with
  | none => rfl
  | some d =>
    simp only [lookupL_map]
    cases d.idxs.find? (·.1 == keyCols p r) with
    | none => rfl
    | some c => rfl

/-- the row vector and the dynamic entries of the lattice `r` replaced, `changed` set -/
theorem PIS.setLat {p : Program E B G P A} {ix : IxSets} {N : Nat} {bo : List RelId} {a : SccSt} {s : PLScc}
    (h : PIS p ix N bo true a s) {r : RelId} (hlat : isLatRel p r = true) {d : Dyn} (hd : findDyn a.dyn r = some d)
    (hr : r < a.rels.length) (d' : Dyn) (hdrel : d'.rel = r) (rows' : List Tuple) (ldyn' : List LCDyn) (ld' : LCDyn)
    (hnd : ldyn'.map (·.rel) = s.ldyn.map (·.rel))
    (hfl : ∀ x ∈ ldyn', LDynFlags p true x ∧ bo.contains x.rel = false)
    (hfind : findLDyn ldyn' r = some ld') (hne : ∀ r', r' ≠ r → findLDyn ldyn' r' = findLDyn s.ldyn r')
    (htri : XTriOk p (ixP p ix) r rows' d' ⟨[], [], []⟩ (eraseLDyn ld').idxs)
    (htyped : ∀ t ∈ rows', t.length = arityOf p r) :
    PIS p ix N bo true (upd a r d' rows') (updL s r rows' ldyn' true) := by
  have hpl := h.wf
  have hrl : r < s.lrels.length := by
    rw [hpl.llen, ← hpl.len, ← erase_rels_length p s, ← h.sim.len]; exact hr
  have hothers : ∀ r', r' ≠ r → lrel (updL s r rows' ldyn' true).lrels r' = lrel s.lrels r' := fun r' hne' => by
    simp only [updL, lrel_setNth_ne _ _ _ _ hne']
  have hpl' : PLWf p (updL s r rows' ldyn' true) :=
    hpl.congr rfl (length_setNth _ _ _) rfl hnd (fun _ _ => rfl)
      fun r' hl' => hothers r' fun e => by rw [e, hlat] at hl'; cases hl'
  refine ⟨?_, hpl', ⟨h.pfl.dyn, h.pfl.rels⟩, hfl, ?_⟩
  · refine upd_simP h.sim hpl hpl' hd hr d' hdrel rows' ?_ ?_ rfl (eraseLDyn ld') ?_ (findLDyn_rel hfind) htri hne
      (fun _ _ => rfl) htyped
    · rw [eraseRel_lat p _ _ r hlat]
      simp only [updL, lrel_setNth_self _ _ _ hrl]
    · intro r' hr'
      simp only [eraseRel, updL, lrel_setNth_ne _ _ _ _ hr']
    · rw [findXDyn_erase_lat p _ hpl'.pdyn r hlat]
      show (findLDyn ldyn' r).map eraseLDyn = _
      rw [hfind]; rfl
  · intro r' hr' hl'
    have hr'' : r' < s.lrels.length := by simpa [updL] using hr'
    by_cases hne' : r' = r
    · subst hne'
      simp only [updL, lrel_setNth_self _ _ _ hr'']
      exact h.lfl.rels r' hr'' hl'
    · rw [hothers r' hne']
      exact h.lfl.rels r' hr'' hl'

theorem updL_self (s : PLScc) (r : RelId) (h : r < s.lrels.length) :
    updL s r (lrel s.lrels r).rows s.ldyn s.pc.changed = s := by
  unfold updL
  have : ({ lrel s.lrels r with rows := (lrel s.lrels r).rows } : LCRel) = lrel s.lrels r := rfl
  rw [this, setNth_lrel_self _ _ h]

theorem full_cols_of_mem (p : Program E B G P A) (ix : IxSets) (r : RelId) (har : 0 < arityOf p r) (cols : List Nat)
    (hm : cols ∈ latIxOf p ix r) (hl : cols.length = arityOf p r) : cols = List.range (arityOf p r) := by
  simp only [latIxOf, List.mem_cons, List.mem_filter] at hm
  rcases hm with h | h | ⟨_, h⟩
  · subst h
    simp [keyCols] at hl
    omega
  · exact h
  · simp only [Bool.and_eq_true, bne_iff_ne, ne_eq] at h
    exact absurd hl h.2

/-- `XOk` claims nothing of a lattice index over the value column, so the all-columns index, which `updNew` skips (finding F9),
needs no upkeep -/
theorem XOk_full {p : Program E B G P A} {r : RelId} (hlat : isLatRel p r = true) (har : 0 < arityOf p r)
    (rows : List Tuple) (bag : List Nat) (x : XIx) : XOk p r rows bag (List.range (arityOf p r)) x := by
  refine ⟨fun _ hc => ?_, fun hf => by rw [hlat] at hf; cases hf⟩
  have := hc (arityOf p r - 1) (List.mem_range.mpr (by omega))
  omega

theorem updNew_tri {p : Program E B G P A} {ix : IxSets} {r : RelId} (hlat : isLatRel p r = true) (har : 0 < arityOf p r)
    {rows rows' : List Tuple} {d d' : Dyn} {ld : LCDyn} {idxs' : List (List Nat × Tri LCx)} {row : Tuple} {i : Nat}
    {kc : List Nat} (tri : XTriOk p (ixP p ix) r rows d ⟨[], [], []⟩ (eraseLDyn ld).idxs)
    (hrel2 : Rel2 (UpdNewRel p r kc row i) ld.idxs idxs') (F : Files p r rows rows' d d' row i) :
    XTriOk p (ixP p ix) r rows' d' ⟨[], [], []⟩ (eraseLDyn { ld with idxs := idxs' }).idxs := by
  obtain ⟨hcols, hall⟩ := (XTriOk_lat hlat).mp tri
  refine (XTriOk_lat hlat).mpr ⟨?_, ?_⟩
  · rw [← hcols]
    exact (Rel2.map_eq _ _ (fun c c' hq => hq.cols.symm) hrel2).symm
  · intro c' hc'
    obtain ⟨c0, hc0, hq⟩ := hrel2.forall_right c' hc'
    obtain ⟨g1, g2, g3⟩ := hall c0 hc0
    rw [hq.cols, hq.total, hq.delta, hq.new]
    refine ⟨F.okT hlat g1, F.okD hlat g2, ?_⟩
    split
    · -- the all-columns index is skipped; nothing is claimed of it
      rename_i hfull
      have hm : c0.1 ∈ latIxOf p ix r := by
        rw [← ixOf_ixP_lat p ix r hlat har, ← hcols]
        exact List.mem_map.mpr ⟨c0, hc0, rfl⟩
      rw [full_cols_of_mem p ix r har c0.1 hm (by simpa using hfull)]
      exact XOk_full hlat har _ _ _
    · exact F.okN hlat g3

theorem updNew_flags {p : Program E B G P A} {r : RelId} {fz : Bool} {ld : LCDyn} {idxs' : List (List Nat × Tri LCx)}
    {row : Tuple} {i : Nat} (hfl : LDynFlags p fz ld)
    (hrel2 : Rel2 (UpdNewRel p r (keyCols p ld.rel) row i) ld.idxs idxs') : LDynFlags p fz { ld with idxs := idxs' } := by
  intro c' hc'
  obtain ⟨c0, hc0, hq⟩ := hrel2.forall_right c' hc'
  have h0 := hfl c0 hc0
  exact ⟨by rw [hq.cols, hq.total]; exact h0.total, by rw [hq.cols, hq.delta]; exact h0.delta,
    by rw [hq.cols]; exact hq.flag⟩

/-- `new` non-empty only when `changed` is set (what makes skipping `changed = true` for a key found in `new` harmless) -/
def NewCh (a : SccSt) : Prop := a.changed = false → NewEmpty a

/-- the two branches that call `update_indices(i)` -/
theorem updNew_sim {p : Program E B G P A} {ix : IxSets} {N : Nat} {a : SccSt} {s : PLScc} {bo : List RelId}
    (h : PIS p ix N bo true a s) {r : RelId} (hlat : isLatRel p r = true) (har : 0 < arityOf p r) {d : Dyn} {ld : LCDyn}
    (h1 : findDyn a.dyn r = some d) (hld : findLDyn s.ldyn r = some ld) (hr : r < a.rels.length)
    (tri : XTriOk p (ixP p ix) r (rowsOf a r) d ⟨[], [], []⟩ (eraseLDyn ld).idxs)
    {row : Tuple} {i : Nat} {rows' : List Tuple} {d' : Dyn} (F : Files p r (rowsOf a r) rows' d d' row i) :
    ∃ s', (updNew p r ld.idxs row i >>= fun idxs =>
        (pure (updL s r rows' (setLDyn s.ldyn { ld with idxs := idxs }) true) : Res PLScc)) = .ok s' ∧
      PIS p ix N bo true (upd a r d' rows') s' := by
  have hldrel : ld.rel = r := findLDyn_rel hld
  obtain ⟨hldf, hldb⟩ := h.lfl.dyn ld (findLDyn_mem hld)
  obtain ⟨idxs', hupd, hrel2⟩ := updNew_ok p r ld.idxs row i (fun ci hci => (hldf ci hci).new)
  rw [hupd]
  refine ⟨_, rfl, h.setLat hlat h1 hr d' (F.rel.trans (findDyn_rel h1)) rows' _ { ld with idxs := idxs' } (setLDyn_rels _ _)
    ?_ ?_ ?_ (updNew_tri hlat har tri hrel2 F) F.typed⟩
  · intro x hx
    rcases setLDyn_mem hx with rfl | hx
    · exact ⟨updNew_flags hldf hrel2, hldb⟩
    · exact h.lfl.dyn x hx
  · rw [findLDyn_setLDyn, if_pos hldrel.symm, hld]; rfl
  · intro r' hr'
    rw [findLDyn_setLDyn, if_neg (by rw [show ({ ld with idxs := idxs' } : LCDyn).rel = r from hldrel]; exact hr')]

theorem headLatPar_sim (I : Interp E B G P A)
    (hff : ∀ r a b, (I.joinMut r a b).2 = false → (I.joinMut r a b).1 = a)
    {p : Program E B G P A} {ix : IxSets} {dynR : List RelId} {N : Nat} {a : SccSt} {s : PLScc} {bo : List RelId}
    (h : PIS p ix N bo true a s) (hwf : WF p.rels.length dynR a)
    (hlt : ∀ r, dynR.contains r = true → r < p.rels.length) (hnc : NewCh a)
    (r : RelId) (row : Tuple) (hlat : isLatRel p r = true) (har : 0 < arityOf p r) (hlen : row.length = arityOf p r)
    (hkeys : ((rowsOf a r).map keyOf).Nodup) :
    ∃ s', headLatPar I p s r row = .ok s' ∧ PIS p ix N bo true (Engine.headLat I {} a r row) s' := by
  have hsim := h.sim
  have hpl := h.wf
  rw [headLat_eq, headLatPar_eq]
  rcases hsim.findL hpl hlat with ⟨h1, hnone⟩ | ⟨d, ld, h1, hld, tri⟩
  · rw [h1, hnone]
    exact ⟨s, rfl, h⟩
  rw [h1, hld]
  simp only []
  have hr : r < a.rels.length := dyn_lt hwf hlt h1
  have hrl : r < s.lrels.length := by rw [hpl.llen, ← hwf.len]; exact hr
  obtain ⟨c, hc, hfindc, okn, okd, okt⟩ := ldyn_key hlat har tri
  have hcfn := ((h.lfl.dyn ld (findLDyn_mem hld)).1 c hc).new.frozen
  rw [hfindc]
  simp only []
  have hxr : (lrel s.lrels r).rows = rowsOf a r := hsim.rowsL hpl hlat
  rw [hxr]
  have hcov := hwf.cover r d h1
  have hty : ∀ t ∈ rowsOf a r, t.length = arityOf p r := hsim.typed r
  -- the three key indices compute `keyRow`
  have hget : ∀ (x : LCx) (bag : List Nat), LOk (keyCols p r) (rowsOf a r) bag (keyCols p r) x.erase →
      (∀ i ∈ bag, i < (rowsOf a r).length) → x.getCloned row.dropLast = findKey (rowsOf a r) bag row.dropLast := by
    intro x bag ok hb
    rw [← keyGet_erase]
    exact keyGet_eq_findKey ok (fun i hi => proj_keyCols (hty _ (rowAt_mem _ i (hb i hi))))
      (fun i hi j hj => idx_of_key hkeys (hb i hi) (hb j hj)) row.dropLast
  obtain ⟨bT, bD, bN⟩ := WF.bag_lt hwf h1
  rw [hget _ _ okn bN, hget _ _ okd bD, hget _ _ okt bT]
  have hkr : ((findKey (rowsOf a r) d.new row.dropLast).orElse fun _ =>
      (findKey (rowsOf a r) d.delta row.dropLast).orElse fun _ => findKey (rowsOf a r) d.total row.dropLast) =
      keyRow (rowsOf a r) d (keyOf row) := rfl
  rw [hkr]
  cases hk : keyRow (rowsOf a r) d (keyOf row) with
  | none =>
    have hhash : c.2.new.hashUsize = .ok () := by simp only [LCx.hashUsize, hcfn, Bool.false_eq_true, if_false]
    simp only []
    have hnn : findKey (rowsOf a r) d.new row.dropLast = none := keyRow_none_new hk
    rw [hhash, hnn]
    simp only [bind_ok]
    rw [pushRow_eq_upd]
    exact updNew_sim h hlat har h1 hld hr tri (Files.push hcov hty hlen (keyRow_fresh hcov hk))
  | some i =>
    obtain ⟨hi, hkey⟩ := keyRow_found hcov hk
    simp only []
    rw [if_neg (Nat.not_le.mpr hi)]
    have F := Files.join hcov hty hlen har hkeys hi hkey (I.joinMut r (valOf (rowAt (rowsOf a r) i)) (valOf row)).1
    by_cases hj : (I.joinMut r (valOf (rowAt (rowsOf a r) i)) (valOf row)).2 = true
    · rw [if_pos hj, joinSt_eq_upd hwf h1]
      cases hn : findKey (rowsOf a r) d.new row.dropLast with
      | none =>
        rw [if_pos (by rw [hj]; rfl)]
        exact updNew_sim h hlat har h1 hld hr tri F
      | some i' =>
        -- the key was found in `new`: the row number is in `new` already, and `changed` is set
        obtain rfl : i' = i := Option.some.inj ((keyRow_new (d := d) hn).symm.trans hk)
        have hin : i' ∈ d.new := (findKey_some hn).1
        rw [if_neg (by simp)]
        simp only [pure_eq_ok]
        have hch : s.pc.changed = true := by
          have h0 : a.changed = s.pc.changed := hsim.changed
          rw [← h0]
          cases hc0 : a.changed with
          | true => rfl
          | false => rw [hnc hc0 r d h1] at hin; cases hin
        rw [hch]
        refine ⟨_, rfl, h.setLat hlat h1 hr (requeue d i') (F.rel.trans (findDyn_rel h1)) _ s.ldyn ld rfl h.lfl.dyn hld
          (fun _ _ => rfl) ?_ F.typed⟩
        obtain ⟨hcols, hall⟩ := (XTriOk_lat hlat).mp tri
        exact (XTriOk_lat hlat).mpr ⟨hcols, fun ci hci =>
          ⟨F.okT hlat (hall ci hci).1, F.okD hlat (hall ci hci).2.1, F.okN_same hlat hin (hall ci hci).2.2⟩⟩
    · have hj' : (I.joinMut r (valOf (rowAt (rowsOf a r) i)) (valOf row)).2 = false := by simpa using hj
      rw [if_neg hj, if_neg (by rw [hj']; simp)]
      simp only [pure_eq_ok]
      have hne : rowAt (rowsOf a r) i ≠ [] := by
        intro h0
        have := hty _ (rowAt_mem _ i hi)
        rw [h0] at this
        simp at this; omega
      rw [hff _ _ _ hj', joinRows_unchanged hi hne, ← hxr, updL_self s r hrl]
      exact ⟨s, rfl, h⟩

theorem headRelPar_simP {p : Program E B G P A} {ix : IxSets} {dynR : List RelId} {N : Nat} {bo : List RelId}
    {a : SccSt} {s : PLScc} (hN : 0 < N) (h : PIS p ix N bo true a s) (hwf : WF p.rels.length dynR a)
    (hlt : ∀ r, dynR.contains r = true → r < p.rels.length) (tid : Nat)
    (r : RelId) (row : Tuple) (hlat : isLatRel p r = false) (hlen : row.length = arityOf p r) :
    ∃ pc', headRelPar s.pc tid r row = .ok pc' ∧ PIS p ix N bo true (Engine.headRel a r row) { s with pc := pc' } := by
  have hsim := h.sim
  have hpl := h.wf
  have hfl := h.pfl
  rw [headRel_eq, headRelPar_eq]
  rcases hsim.findP hpl hlat with ⟨h1, hnone⟩ | ⟨d, cd, h1, hcd, xtri⟩
  · rw [h1, hnone]
    exact ⟨s.pc, rfl, h⟩
  rw [h1, hcd]
  obtain ⟨hdf, _⟩ := hfl.dyn cd (findPCDyn_mem hcd)
  have hcdrel : cd.rel = r := findPCDyn_rel hcd
  have hr : r < a.rels.length := dyn_lt hwf hlt h1
  have hrp : r < s.pc.rels.length := by rw [hpl.len, ← hwf.len]; exact hr
  have tri : TriOk (ixOf p (ixP p ix) r) (rowsOf a r) d cd.erase.full cd.erase.idxs := (XTriOk_plain hlat).mp xtri
  obtain ⟨hbT, hbD, hbN⟩ := WF.bag_lt hwf h1
  simp only [containsKey_frozen _ _ hdf.ft, containsKey_frozen _ _ hdf.fd, bind_ok, insertIfNotPresent_unfrozen _ _ hdf.fn]
  refine headRel_branch tri.ft tri.fd tri.fn hbN row
    (fun A X => ∃ pc', X = Res.ok pc' ∧ PIS p ix N bo true A { s with pc := pc' }) ⟨s.pc, rfl, h⟩ fun hfull => ?_
  obtain ⟨idxs, hfold, hix, hsame⟩ := pushIdxs_same hN hdf tid row
  -- the serial inserts keep the three bags (`IxOk_insert`); the shards of a `CRelNoIndex` hold the same (`IdxsSame.triOk`)
  have htri : ∀ newFull : PCFull, FullOk (rowsOf a r ++ [row]) (d.new ++ [(rowsOf a r).length]) newFull.m →
      TriOk (ixOf p (ixP p ix) r) (rowsOf a r ++ [row]) { d with new := d.new ++ [(rowsOf a r).length] }
        (eraseTriF { cd.full with new := newFull }) (idxs.map fun ci => (ci.1, eraseTri ci.2)) := fun newFull hf =>
    hsame.triOk (TriOk.of_map cd.erase.idxs (·.1) _ (FullOk_rows_append row tri.ft hbT) (FullOk_rows_append row tri.fd hbD) hf
      tri.cols fun c hc => ⟨IxOk_rows_append row (tri.it c hc) hbT, IxOk_rows_append row (tri.id c hc) hbD,
        IxOk_insert row (tri.inw c hc) hbN⟩)
  simp only [hfold, bind_ok]
  obtain ⟨nf, hnf⟩ : ∃ nf : PCFull, nf = ⟨cd.full.new.frozen, (FullIdx.insertIfNotPresent cd.full.new.m row ()).1⟩ :=
    ⟨_, rfl⟩
  rw [← hnf]
  have hfull' : FullOk (rowsOf a r ++ [row]) (d.new ++ [(rowsOf a r).length]) nf.m := hnf ▸ hfull
  have hpl' : PLWf p { s with pc := pushPC s.pc r cd row nf idxs } :=
    hpl.congr (length_setNth _ _ _) rfl (setPCDyn_rels _ _) rfl
      (fun r' hl' => by
        have hne : r' ≠ r := fun h => by rw [h, hlat] at hl'; cases hl'
        simp only [pushPC, pcrel_setNth_ne _ _ _ _ hne])
      fun _ _ => rfl
  refine ⟨_, rfl, ?_, hpl', Flags_push hfl hcd row nf idxs (hnf ▸ hdf.fn) hix, ⟨h.lfl.dyn, h.lfl.rels⟩⟩
  rw [pushRow_eq_upd]
  refine upd_simP hsim hpl hpl' h1 hr { d with new := d.new ++ [(rowsOf a r).length] } (findDyn_rel h1 :) (rowsOf a r ++ [row])
    ?_ ?_ rfl (erasePDyn { cd with full := { cd.full with new := nf }, idxs := idxs }) ?_ hcdrel
    ((XTriOk_plain hlat).mpr (htri nf hfull')) (fun _ _ => rfl) ?_ ?_
  · rw [eraseRel_plain p _ _ r hlat]
    simp only [pushPC, pcrel_setNth_self _ _ _ hrp]
    exact congrArg (· ++ [row]) (hsim.rowsP hpl hlat)
  · intro r' hr'
    simp only [eraseRel, pushPC, pcrel_setNth_ne _ _ _ _ hr']
  · rw [findXDyn_erase_plain p _ hpl'.ldyn r hlat]
    show (findPCDyn (setPCDyn s.pc.dyn _) r).map erasePDyn = _
    rw [findPCDyn_setPCDyn, if_pos hcdrel.symm, hcd]; rfl
  · intro r' hr'
    show findPCDyn (setPCDyn s.pc.dyn _) r' = _
    rw [findPCDyn_setPCDyn, if_neg (hcdrel ▸ hr')]
  · intro t ht
    rcases List.mem_append.mp ht with ht | ht
    · exact hsim.typed r t ht
    · rw [List.mem_singleton.mp ht]; exact hlen

end AscentVerif.PhysParLat
