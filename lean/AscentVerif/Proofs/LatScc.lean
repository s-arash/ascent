import AscentVerif.Proofs.LatPass
import AscentVerif.Proofs.AggScc
import AscentVerif.Proofs.Strata
/-!
# Programs with lattice relations: one iteration, one SCC, the SCCs in order (C03)

The loop, SCC and strata theory is stated once: over an arbitrary pass relation (`Agg.SccG Pass`, `Agg.SccsG Pass`), any set
`Tg` of databases to stay below (`LInvT`), any list `aggv a` an aggregation item is evaluated on (`Agg.SatA`) and any property
`Φ` of head facts kept `Along` a preorder.  An engine or a class of programs supplies `LPassOK`, what one pass establishes
(`Proofs/NDLattice.lean`, `AggLatSem`, `AggStrata`).  `GFrontierA` is the part of the loop invariant `GLoop` that speaks of
rule instances, `ClosedForA` what it yields at the end of an SCC (`ClosedFor`: no aggregation; `LClosedRules`: moreover
`Φ := Dominated`).  Between SCCs the program value satisfies `LPInvT K Tg`.
-/
namespace AscentVerif.Engine
open AscentVerif

variable {E B G P A : Type}

def LClosedRules (I : Interp E B G P A) (L : LatOrder I) (p : Program E B G P A) (rules : List (Rule E B G P A))
    (D : DB) : Prop :=
  ∀ rule ∈ rules, ∀ ρ, Sat I D nAgg rule.body [] ρ → ∀ h ∈ rule.heads, Dominated I L p D (headFact I h ρ)

def ClosedFor (I : Interp E B G P A) (Φ : DB → Fact → Prop) (rules : List (Rule E B G P A)) (D : DB) : Prop :=
  ∀ rule ∈ rules, ∀ ρ, Sat I D nAgg rule.body [] ρ → ∀ h ∈ rule.heads, Φ D (headFact I h ρ)

def ClosedForA (I : Interp E B G P A) (aggv : AggClause E A → List Tuple) (Φ : DB → Fact → Prop)
    (rules : List (Rule E B G P A)) (D : DB) : Prop :=
  ∀ rule ∈ rules, ∀ ρ, Agg.SatA I D aggv rule.body [] ρ → ∀ h ∈ rule.heads, Φ D (headFact I h ρ)

theorem closedFor_iff {I : Interp E B G P A} {Φ : DB → Fact → Prop} {rules : List (Rule E B G P A)} {D : DB} :
    ClosedFor I Φ rules D ↔ ClosedForA I (fun a => nAgg a.rel) Φ rules D :=
  ⟨fun h rule hr ρ hs => h rule hr ρ (Agg.sat_iff_satA.mpr hs), fun h rule hr ρ hs => h rule hr ρ (Agg.sat_iff_satA.mp hs)⟩

theorem PView_shift {s : SccSt} {r : RelId} {t : Tuple} (h : PView (shift s) r (some .total) t) :
    PView s r (some .totalDelta) t := by
  obtain ⟨i, hrow, hm⟩ := h
  refine ⟨i, hrow, ?_⟩
  cases hd : findDyn s.dyn r with
  | none =>
    have hd' : findDyn (shift s).dyn r = none := by rw [findDyn_shift, hd]; rfl
    exact (PMem_none hd).mpr ((PMem_none hd').mp hm)
  | some d =>
    have hd' : findDyn (shift s).dyn r = some (shiftD d) := by rw [findDyn_shift, hd]; rfl
    obtain ⟨_, hv⟩ := (PMem_some hd').mp hm
    have hv' : i ∈ d.total ++ d.delta ∧ i ∉ d.new := hv
    exact (PMem_some hd).mpr ⟨hv'.2, List.mem_append.mp hv'.1⟩

theorem facts_sub_PView {n : Nat} {dynR : List RelId} {s : SccSt} (hwf : WF n dynR s) (hs : Settled s) (f : Fact)
    (h : FactsS s f) : PView s f.rel (some .total) f.args := by
  obtain ⟨i, hi, hrow⟩ := (mem_iff_rowAt _ _).mp h
  refine ⟨i, hrow, ?_⟩
  cases hd : findDyn s.dyn f.rel with
  | none => exact (PMem_none hd).mpr ((hwf.cover_nd _ hd i).mp hi)
  | some d =>
    obtain ⟨h1, h2⟩ := hs _ d hd
    refine (PMem_some hd).mpr ⟨by rw [h2]; simp, ?_⟩
    show i ∈ d.total ∧ i ∉ d.delta
    rcases (hwf.cover _ d hd i).mp hi with h | h | h
    · exact ⟨h, by rw [h1]; simp⟩
    · rw [h1] at h; cases h
    · rw [h2] at h; cases h

theorem facts_sub_PView_nd {n : Nat} {dynR : List RelId} {s : SccSt} (hwf : WF n dynR s) (r : RelId)
    (hr : dynR.contains r = false) (t : Tuple) (h : t ∈ rowsOf s r) : PView s r (some .total) t := by
  obtain ⟨i, hi, hrow⟩ := (mem_iff_rowAt _ _).mp h
  have hd := hwf.findDyn_none hr
  exact ⟨i, hrow, (PMem_none hd).mpr ((hwf.cover_nd _ hd i).mp hi)⟩

section Iter
variable {I : Interp E B G P A} {L : LatOrder I} {p : Program E B G P A} {inp : RelId → List Tuple}
  {dynR : List RelId}

theorem LInv_reset {s : SccSt} (h : LInv I L p inp dynR s) : LInv I L p inp dynR { s with changed := false } :=
  ⟨WF_reset _ _ h.wf, h.dlt, h.keys, h.relset, h.below⟩

theorem LInv_shift {s : SccSt} (h : LInv I L p inp dynR s) : LInv I L p inp dynR (shift s) :=
  ⟨WF_shift h.wf, h.dlt, h.keys, h.relset, h.below⟩

variable (I) in
def DoneVA (aggv : AggClause E A → List Tuple) (Φ : DB → Fact → Prop) (rule : Rule E B G P A) (vs : List (Option Ver))
    (s : SccSt) : Prop :=
  ∀ ρ, Agg.SatV I (PView s) aggv rule.body vs [] ρ → ∀ h ∈ rule.heads, Φ (FactsS s) (headFact I h ρ)

variable (I) in
/-- at the top of an iteration: every instance over the `total` part of the state of a rule with `Q` has heads with `Φ` -/
def GFrontierA (aggv : AggClause E A → List Tuple) (Φ : DB → Fact → Prop) (rules : List (Rule E B G P A))
    (Q : Rule E B G P A → Prop) (s : SccSt) : Prop :=
  ∀ rule ∈ rules, Q rule → ∀ ρ, Agg.SatA I (fun f => PView s f.rel (some .total) f.args) aggv rule.body [] ρ →
    ∀ h ∈ rule.heads, Φ (FactsS s) (headFact I h ρ)

section Frontier
variable {aggv : AggClause E A → List Tuple} {Φ : DB → Fact → Prop} {rules : List (Rule E B G P A)}

theorem GFrontierA.weaken {Q Q' : Rule E B G P A → Prop} {s : SccSt} (h : GFrontierA I aggv Φ rules Q s)
    (hq : ∀ r, Q' r → Q r) : GFrontierA I aggv Φ rules Q' s :=
  fun rule hr hq' ρ hs hd hh => h rule hr (hq _ hq') ρ hs hd hh

/-- at SCC entry `total` is empty: no rule with a dynamic clause has an instance -/
theorem GFrontierA.enter (st : St) : GFrontierA I aggv Φ rules (hasDyn dynR) (enterScc st dynR) := by
  intro rule _ hq ρ hsat
  exfalso
  apply hq
  refine Agg.SatA.no_dyn dynR ?_ hsat
  intro r t hc hD
  obtain ⟨i, _, hm⟩ := hD
  have hd : findDyn (enterScc st dynR).dyn r = some ⟨r, [], (relSt st r).idx, []⟩ := by
    rw [findDyn_enter, hc]; rfl
  have h' : i ∈ ([] : List Nat) ∧ i ∉ (relSt st r).idx := ((PMem_some hd).mp hm).2
  cases h'.1

/-- One iteration: a pass from `s` (flag reset) to `s₁` that is complete on the stable part of `s₁`, then `shift`.
An instance over `total ∪ delta` of `s₁` is an instance over `total` of `s` or is covered by a variant. -/
theorem GFrontierA.iter {n : Nat} {s s₁ : SccSt}
    (hwf : WF n dynR s₁) (hext : LExt I L p { s with changed := false } s₁)
    (hmono : ∀ f, Φ (FactsS s) f → Φ (FactsS s₁) f)
    (hdone : ∀ rule ∈ rules, ∀ vs ∈ variants dynR rule, DoneVA I aggv Φ rule vs s₁)
    (hq : GFrontierA I aggv Φ rules (hasDyn dynR) s) : GFrontierA I aggv Φ rules (fun _ => True) (shift s₁) := by
  intro rule hr _ ρ hsat h hh
  show Φ (FactsS s₁) (headFact I h ρ)
  have hsat' : Agg.SatA I (fun f => PView s₁ f.rel (some .totalDelta) f.args) aggv rule.body [] ρ :=
    Agg.SatA.mono (fun f hf => PView_shift hf) hsat
  rcases Agg.seminaive_cover I (PView s₁) aggv dynR (fun r hr v v' t hv => PView_nd hwf hr v v' t hv)
      (fun r t hv => PView_split r t hv) rule hsat' with ⟨hn, htot⟩ | ⟨vs, hvs, hsv⟩
  · have htot' : Agg.SatA I (fun f => PView s f.rel (some .total) f.args) aggv rule.body [] ρ :=
      Agg.SatA.mono (fun f hf => PView_anti hext hf) htot
    exact hmono _ (hq rule hr hn ρ htot' h hh)
  · exact hdone rule hr vs hvs ρ hsv h hh

theorem GFrontierA.closed {n : Nat} {s : SccSt} (hq : GFrontierA I aggv Φ rules (fun _ => True) s) (hwf : WF n dynR s)
    (hs : Settled s) : ClosedForA I aggv Φ rules (FactsS s) :=
  fun rule hr ρ hsat => hq rule hr trivial ρ (Agg.SatA.mono (fun f hf => facts_sub_PView hwf hs f hf) hsat)

/-- the rules of a non-looping SCC read no dynamic relation -/
theorem GFrontierA.closed_nl {n : Nat} {scc : List Nat} {s : SccSt}
    (hq : GFrontierA I aggv Φ (sccRules p scc) (fun _ => True) s) (hwf : WF n (dynRels p scc) s)
    (hnl : isLooping p scc = false) : ClosedForA I aggv Φ (sccRules p scc) (FactsS s) :=
  fun rule hr ρ hsat => hq rule hr trivial ρ
    (Agg.SatA.congr_rels hsat fun r hr' t ht => facts_sub_PView_nd hwf r (notLooping p scc hnl rule hr r hr') t ht)

end Frontier

/-- the relations that are not dynamic are as the program value `st` at SCC entry had them, rows and stored index -/
def LBase (dynR : List RelId) (st : St) (s : SccSt) : Prop :=
  ∀ r, dynR.contains r = false → relSt s.rels r = relSt st r

theorem LBase_step {n : Nat} {st : St} {s s₁ : SccSt} (hwf : WF n dynR s) (hb : LBase dynR st s)
    (hext : LExt I L p { s with changed := false } s₁) : LBase dynR st (shift s₁) := fun r hr => by
  rw [shift_rels, (hext.nondyn r (hwf.findDyn_none hr)).2]
  exact hb r hr

theorem settled_of_unchanged {s s₁ : SccSt} (hn : NewEmpty s) (hext : LExt I L p { s with changed := false } s₁)
    (hch : s₁.changed = false) : Settled (shift s₁) := by
  rw [hext.unchanged hch]
  exact Settled_shift hn

end Iter

section Scc
variable (I : Interp E B G P A) (L : LatOrder I) (p : Program E B G P A) (inp : RelId → List Tuple)

def IdxNd (st : St) : Prop := ∀ r, (declOf p r).lat = false → (relSt st r).idx.Nodup

/-- the invariant of program values between SCCs: what `LInvT Tg` and, under the switch `K`, `NdB` are for SCC states -/
structure LPInvT (K : Prop) (Tg : DB → Prop) (st : St) : Prop where
  len : st.length = p.rels.length
  keys : ∀ r, (declOf p r).lat = true → ((relSt st r).rows.map keyOf).Nodup
  relset : ∀ r, r < p.rels.length → (declOf p r).lat = false → SetRows inp r (relSt st r).rows
  idxAll : ∀ r i, i < (relSt st r).rows.length ↔ i ∈ (relSt st r).idx
  below : ∀ M, Tg M → DBLe I L p (factsOf st) M
  idxNd : K → IdxNd p st

abbrev LPInv (st : St) : Prop := LPInvT I L p inp False (Tgt I L p inp) st

variable {I L p inp} {K : Prop} {Tg : DB → Prop}

theorem FactsS_enter (st : St) (dynR : List RelId) : FactsS (enterScc st dynR) = factsOf st := by
  funext f
  simp only [FactsS, factsOf, rowsOf, enterScc_rels]

theorem LPInvT.enter {st : St} (dynR : List RelId) (hlt : ∀ r, dynR.contains r = true → r < p.rels.length)
    (hp : LPInvT I L p inp K Tg st) : LInvT I L p inp dynR Tg (enterScc st dynR) := by
  refine ⟨WF_enterScc dynR hp.len hp.idxAll, hlt, ?_, ?_, ?_⟩
  · intro r hl
    simp only [rowsOf, enterScc_rels]; exact hp.keys r hl
  · intro r hr hl
    simp only [rowsOf, enterScc_rels]; exact hp.relset r hr hl
  · intro M hM
    rw [FactsS_enter]; exact hp.below M hM

theorem LPInvT.enter_nd {st : St} (dynR : List RelId) (hp : LPInvT I L p inp K Tg st) : NdB p K (enterScc st dynR) := by
  intro hk r d hd hl
  obtain ⟨_, rfl⟩ := findDyn_enter_some hd
  simpa using hp.idxNd hk r hl

theorem LBase_enter (st : St) (dynR : List RelId) : LBase dynR st (enterScc st dynR) :=
  fun r _ => by rw [enterScc_rels]

theorem LInvT_shift {dynR : List RelId} {s : SccSt} (h : LInvT I L p inp dynR Tg s) : LInvT I L p inp dynR Tg (shift s) :=
  ⟨WF_shift h.wf, h.dlt, h.keys, h.relset, h.below⟩

theorem LInvT.facts_leave {dynR : List RelId} {s : SccSt} (hinv : LInvT I L p inp dynR Tg s) :
    factsOf (leaveScc s) = FactsS s := by
  funext f
  simp only [factsOf, FactsS, Agg.leaveScc_rows hinv.wf hinv.dlt]

theorem NdB_shift {s : SccSt} (h : NdB p K s) : NdB p K (shift s) := by
  intro hk r d' hd' hl
  obtain ⟨d, hd, rfl⟩ := findDyn_shift_some hd'
  simpa [shiftD] using h hk r d hd hl

/-- `hp`, `hb`: a relation that is not dynamic keeps the stored index it had in the value `st` at SCC entry -/
theorem LPInvT.leave {dynR : List RelId} {st : St} {s : SccSt} (hp : LPInvT I L p inp K Tg st)
    (hinv : LInvT I L p inp dynR Tg s) (hnd : NdB p K s) (hs : Settled s) (hb : LBase dynR st s) :
    LPInvT I L p inp K Tg (leaveScc s) := by
  have hrows := Agg.leaveScc_rows hinv.wf hinv.dlt
  refine ⟨by rw [Agg.leaveScc_length]; exact hinv.wf.len, fun r hl => by rw [hrows]; exact hinv.keys r hl,
    fun r hr hl => by rw [hrows]; exact hinv.relset r hr hl, Agg.leaveScc_idxAll hinv.wf hinv.dlt hs,
    fun M hM => by rw [hinv.facts_leave]; exact hinv.below M hM, ?_⟩
  intro hk r hl
  cases hd : findDyn s.dyn r with
  | none =>
    rw [Agg.leaveScc_nondyn hd, hb r (hinv.wf.contains_of_none hd)]
    exact hp.idxNd hk r hl
  | some d =>
    rw [Agg.leaveScc_idx hinv.wf hinv.dlt hd]
    obtain ⟨h1, h2⟩ := hs r d hd
    have := hnd hk r d hd hl
    rw [h1, h2] at this
    simpa using this

end Scc

/-! ## one SCC of any engine that iterates passes -/
section Gen
variable {I : Interp E B G P A} {L : LatOrder I} {p : Program E B G P A} {inp : RelId → List Tuple} {K : Prop}
  {Tg : DB → Prop} {aggv : AggClause E A → List Tuple} {Le : DB → DB → Prop}
  {Φ : DB → Fact → Prop} {Pass : List RelId → List (Rule E B G P A) → SccSt → SccSt → Prop}
  {dynR : List RelId} {rules : List (Rule E B G P A)} {st : St}

variable (I L p inp K Tg aggv Le Φ Pass) in
/-- one pass from a state of the SCC entered at `st` keeps the state invariants, extends the state, and every variant
instance over the stable part of the state reached has heads with `Φ` -/
def LPassOK (st : St) (dynR : List RelId) (rules : List (Rule E B G P A)) : Prop :=
  ∀ s s1, LInvT I L p inp dynR Tg s → LBase dynR st s → NdB p K s → Pass dynR rules s s1 →
    LInvT I L p inp dynR Tg s1 ∧ TExt I L p Le { s with changed := false } s1 ∧
      (∀ rule ∈ rules, ∀ vs ∈ variants dynR rule, DoneVA I aggv Φ rule vs s1) ∧ NdB p K s1

variable (I L p inp K Tg aggv Le Φ) in
/-- the loop invariant at the top of an iteration of the SCC entered at `st` -/
structure GLoop (st : St) (dynR : List RelId) (rules : List (Rule E B G P A)) (Q : Rule E B G P A → Prop)
    (s : SccSt) : Prop where
  inv : LInvT I L p inp dynR Tg s
  newE : NewEmpty s
  front : GFrontierA I aggv Φ rules Q s
  base : LBase dynR st s
  le : Le (factsOf st) (FactsS s)
  nd : NdB p K s

theorem GLoop.weaken {Q Q' : Rule E B G P A → Prop} {s : SccSt}
    (h : GLoop I L p inp K Tg aggv Le Φ st dynR rules Q s) (hq : ∀ r, Q' r → Q r) :
    GLoop I L p inp K Tg aggv Le Φ st dynR rules Q' s :=
  ⟨h.inv, h.newE, h.front.weaken hq, h.base, h.le, h.nd⟩

theorem GLoop.enter (T : Along Le Φ) (h0 : LInvT I L p inp dynR Tg (enterScc st dynR))
    (hnd : NdB p K (enterScc st dynR)) :
    GLoop I L p inp K Tg aggv Le Φ st dynR rules (hasDyn dynR) (enterScc st dynR) :=
  ⟨h0, NewEmpty_enterScc st _, GFrontierA.enter st, LBase_enter st _, by rw [FactsS_enter]; exact T.refl _, hnd⟩

theorem GLoop.iter (T : Along Le Φ) {s s1 : SccSt}
    (hpass : LPassOK I L p inp K Tg aggv Le Φ Pass st dynR rules)
    (h : GLoop I L p inp K Tg aggv Le Φ st dynR rules (hasDyn dynR) s) (hp : Pass dynR rules s s1) :
    GLoop I L p inp K Tg aggv Le Φ st dynR rules (fun _ => True) (shift s1) ∧ LExt I L p { s with changed := false } s1 := by
  obtain ⟨h1, hext, hdone, hnd⟩ := hpass s s1 h.inv h.base h.nd hp
  exact ⟨⟨LInvT_shift h1, NewEmpty_shift s1, GFrontierA.iter h1.wf hext.1 (fun _ hf => T.mono hf hext.2) hdone h.front,
    LBase_step h.inv.wf h.base hext.1, T.trans h.le hext.2, NdB_shift hnd⟩, hext.1⟩

/-- the state in which an SCC is abandoned or (after the last pass) left: reached by whole iterations -/
theorem sccPreG_track (T : Along Le Φ) {scc : List Nat} {st : St} {s1 a' : SccSt}
    (h0 : LInvT I L p inp (dynRels p scc) Tg (enterScc st (dynRels p scc)))
    (hnd : NdB p K (enterScc st (dynRels p scc)))
    (hpass : LPassOK I L p inp K Tg aggv Le Φ Pass st (dynRels p scc) (sccRules p scc))
    (h : Agg.SccPreG Pass p scc st s1 a') :
    ∃ s₀, GLoop I L p inp K Tg aggv Le Φ st (dynRels p scc) (sccRules p scc) (hasDyn (dynRels p scc)) s₀ ∧
      GLoop I L p inp K Tg aggv Le Φ st (dynRels p scc) (sccRules p scc) (fun _ => True) (shift s1) ∧
      LExt I L p { s₀ with changed := false } s1 ∧
      ((isLooping p scc = true ∧ a' = shift s1) ∨ (isLooping p scc = false ∧ a' = shift (shift s1))) := by
  obtain ⟨s₀, hg, hps, hcase⟩ := h.last (GLoop.enter T h0 hnd) fun s s1 hs hp =>
    (hs.iter T hpass hp).1.weaken fun _ _ => trivial
  obtain ⟨hg1, hext⟩ := hg.iter T hpass hps
  exact ⟨s₀, hg, hg1, hext, hcase⟩

theorem sccG_track (T : Along Le Φ) {scc : List Nat} {st st' : St}
    (h0 : LInvT I L p inp (dynRels p scc) Tg (enterScc st (dynRels p scc)))
    (hnd : NdB p K (enterScc st (dynRels p scc)))
    (hpass : LPassOK I L p inp K Tg aggv Le Φ Pass st (dynRels p scc) (sccRules p scc))
    (h : Agg.SccG Pass p scc st st') :
    ∃ s, st' = leaveScc s ∧ LInvT I L p inp (dynRels p scc) Tg s ∧ Settled s ∧ LBase (dynRels p scc) st s ∧
      ClosedForA I aggv Φ (sccRules p scc) (FactsS s) ∧ Le (factsOf st) (FactsS s) ∧ NdB p K s := by
  obtain ⟨s1, s', hpre, hq, rfl⟩ := h
  obtain ⟨s₀, hg, hg1, hext, hcase⟩ := sccPreG_track T h0 hnd hpass hpre
  rcases hcase with ⟨hlp, rfl⟩ | ⟨hnl, rfl⟩
  · -- looping: the last pass changed nothing, so `delta` is empty as well
    have hset : Settled (shift s1) := settled_of_unchanged hg.newE hext (hq hlp)
    exact ⟨_, rfl, hg1.inv, hset, hg1.base, hg1.front.closed hg1.inv.wf hset, hg1.le, hg1.nd⟩
  · -- not looping: the body relations are not dynamic
    exact ⟨_, rfl, LInvT_shift hg1.inv, Settled_shift hg1.newE, hg1.base, hg1.front.closed_nl hg1.inv.wf hnl, hg1.le,
      NdB_shift hg1.nd⟩

theorem sccG_spec' (T : Along Le Φ) (hh : ∀ r ∈ p.rules, ∀ h ∈ r.heads, h.rel < p.rels.length)
    {scc : List Nat} {st st' : St}
    (hpass : LPassOK I L p inp K Tg aggv Le Φ Pass st (dynRels p scc) (sccRules p scc))
    (hp : LPInvT I L p inp K Tg st) (h : Agg.SccG Pass p scc st st') :
    LPInvT I L p inp K Tg st' ∧ (∀ r, (dynRels p scc).contains r = false → relSt st' r = relSt st r) ∧
      ClosedForA I aggv Φ (sccRules p scc) (factsOf st') ∧ Le (factsOf st) (factsOf st') := by
  obtain ⟨s, rfl, h2, h3, h4, h5, h6, h7⟩ := sccG_track T (hp.enter _ (dynRels_lt p hh scc)) (hp.enter_nd _) hpass h
  rw [h2.facts_leave]
  exact ⟨hp.leave h2 h7 h3 h4, fun r hr => (Agg.leaveScc_nondyn (h2.wf.findDyn_none hr)).trans (h4 r hr), h5, h6⟩

end Gen

/-! ## the SCCs in order

Closedness of the rules of an SCC that is done survives the later SCCs, which write nothing it reads; when all SCCs are
done every rule is closed.  The program-level invariant holds of any start value after `update_indices`. -/
section Strata
variable {I : Interp E B G P A} {L : LatOrder I} {p : Program E B G P A} {inp : RelId → List Tuple}
  {Φ : DB → Fact → Prop}

theorem ClosedForA.later {aggv : AggClause E A → List Tuple} {o done rest : SccOrder} {scc : List Nat}
    (ho : validOrder p o = true) (hdone : done ++ scc :: rest = o) {st st₁ : St}
    (hsame : ∀ r, (dynRels p scc).contains r = false → relSt st₁ r = relSt st r)
    (hmono : ∀ f, Φ (factsOf st) f → Φ (factsOf st₁) f)
    (hcl : ∀ scc' ∈ done, ClosedForA I aggv Φ (sccRules p scc') (factsOf st)) :
    ∀ scc' ∈ done, ClosedForA I aggv Φ (sccRules p scc') (factsOf st₁) := by
  intro scc' hscc' rule hrule ρ hsat hd hhd
  have hfw := validOrder_forward p o ho done scc rest hdone scc' hscc' rule hrule
  refine hmono _ (hcl scc' hscc' rule hrule ρ (Agg.SatA.congr_rels hsat ?_) hd hhd)
  intro r hr t ht
  show t ∈ (relSt st r).rows
  rw [← hsame r (hfw r hr)]; exact ht

/-- `rest` is run after `done`, `post` is not run.  `Fin rest st'` is whatever is assumed of the value reached (in a
stratified program the aggregation items of the SCCs that are run read their view from it). -/
theorem sccsG_track {L : LatOrder I} {inp : RelId → List Tuple} {K : Prop} {Tg : DB → Prop} {aggv : AggClause E A → List Tuple}
    {Le : DB → DB → Prop}
    {Pass : List RelId → List (Rule E B G P A) → SccSt → SccSt → Prop}
    (T : Along Le Φ) (hh : ∀ r ∈ p.rules, ∀ h ∈ r.heads, h.rel < p.rels.length)
    {o : SccOrder} (ho : validOrder p o = true) (Fin : SccOrder → St → Prop)
    (hFin : ∀ scc rest st, Fin (scc :: rest) st → Fin rest st) (post : SccOrder)
    (hpass : ∀ done scc rest st stF, done ++ scc :: (rest ++ post) = o → LPInvT I L p inp K Tg st →
      Agg.SccsG Pass p (scc :: rest) st stF → Fin (scc :: rest) stF →
      LPassOK I L p inp K Tg aggv Le Φ Pass st (dynRels p scc) (sccRules p scc))
    {rest : SccOrder} {st st' : St} (hrun : Agg.SccsG Pass p rest st st') :
    ∀ (done : SccOrder), done ++ (rest ++ post) = o → LPInvT I L p inp K Tg st →
    (∀ scc ∈ done, ClosedForA I aggv Φ (sccRules p scc) (factsOf st)) → Fin rest st' →
    LPInvT I L p inp K Tg st' ∧ (∀ scc ∈ done ++ rest, ClosedForA I aggv Φ (sccRules p scc) (factsOf st')) ∧
      Le (factsOf st) (factsOf st') := by
  induction hrun with
  | nil =>
    intro done _ hp hcl _
    rw [List.append_nil]
    exact ⟨hp, hcl, T.refl _⟩
  | @cons scc rest st st₁ st₂ hscc hrest ih =>
    intro done hdone hp hcl hfin
    have hdone' : done ++ scc :: (rest ++ post) = o := by simpa using hdone
    obtain ⟨hp1, hsame, hcl1, hle⟩ := sccG_spec' T hh (hpass done scc rest st st₂ hdone' hp (.cons hscc hrest) hfin) hp hscc
    obtain ⟨g1, g2, g3⟩ := ih (done ++ [scc]) (by rw [List.append_assoc]; exact hdone') hp1 (by
      intro scc' hscc'
      rcases List.mem_append.mp hscc' with hscc' | hscc'
      · -- an earlier SCC does not read what `scc` writes
        exact ClosedForA.later ho hdone' hsame (fun _ hf => T.mono hf hle) hcl scc' hscc'
      · cases List.mem_singleton.mp hscc'
        exact hcl1) (hFin _ _ _ hfin)
    exact ⟨g1, fun s hs => g2 s (by simpa using hs), T.trans hle g3⟩

theorem facts_of_rows {st : St} (hlen : st.length = p.rels.length)
    (hrows : ∀ r, r < p.rels.length → (relSt st r).rows = inp r) :
    (∀ M, DBLe I L p (inDB p inp) M → DBLe I L p (factsOf st) M) ∧ DBLe I L p (inDB p inp) (factsOf st) := by
  refine ⟨fun M hM f hf => ?_, fun f hf => ?_⟩
  · have hr : f.rel < p.rels.length := hlen ▸ lt_of_mem_rows _ f.rel f.args hf
    have hf' : f.args ∈ (relSt st f.rel).rows := hf
    rw [hrows _ hr] at hf'
    exact hM f ⟨hr, hf'⟩
  · apply Dominated.of_mem
    show f.args ∈ (relSt st f.rel).rows
    rw [hrows _ hf.1]; exact hf.2

theorem LPInvT.of_rows {K : Prop} {Tg : DB → Prop} (hT : ∀ M, Tg M → DBLe I L p (inDB p inp) M) (s : St)
    (hlen : s.length = p.rels.length) (hrows : ∀ r, r < p.rels.length → (relSt s r).rows = inp r)
    (hk : ∀ r, r < p.rels.length → (declOf p r).lat = true → ((inp r).map keyOf).Nodup) :
    LPInvT I L p inp K Tg (updateIndices s) ∧ DBLe I L p (inDB p inp) (factsOf (updateIndices s)) := by
  have hrows' : ∀ r, r < p.rels.length → (relSt (updateIndices s) r).rows = inp r := by
    intro r hr
    rw [relSt_updateIndices]
    exact hrows r hr
  have hlen' : (updateIndices s).length = p.rels.length := by simpa [updateIndices] using hlen
  have hf := facts_of_rows (I := I) (L := L) hlen' hrows'
  refine ⟨⟨hlen', ?_, ?_, ?_, fun M hM => hf.1 M (hT M hM), fun _ r _ => ?_⟩, hf.2⟩
  · intro r hl
    have hr := lat_lt p hl
    rw [hrows' r hr]; exact hk r hr hl
  · intro r hr _
    rw [hrows' r hr]
    exact SetRows.input inp r
  · intro r i
    rw [relSt_updateIndices]
    simp only [List.mem_range]
  · rw [relSt_updateIndices]
    exact List.nodup_range

theorem LPInv_start
    (hi1 : ∀ r, r < p.rels.length → (declOf p r).lat = true → ((inp r).map keyOf).Nodup) :
    LPInv I L p inp (updateIndices (initSt p inp)) ∧
      DBLe I L p (inDB p inp) (factsOf (updateIndices (initSt p inp))) :=
  LPInvT.of_rows (fun _ hM => hM.2.2.1) (initSt p inp) (WFSt_initSt p inp).1 (rows_initSt p inp) hi1

end Strata

end AscentVerif.Engine
