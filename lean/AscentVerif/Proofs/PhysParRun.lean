import AscentVerif.Model.EnginePhysParTimeout
import AscentVerif.Proofs.PhysParSim
import AscentVerif.Proofs.PhysAggRun
import AscentVerif.Proofs.NDAggRestart
/-!
# The parallel physical engine never panics, and is an execution of the nondeterministic engine

For stratified programs with aggregation / negation items (`ProgOk`; an aggregation-free program is one:
`ProgOk.of_relational`).  The simulation relation is `SimB` of the ERASED state together with the protocol invariant `Flags`;
rule bodies are evaluated by `Phys.evalFrom` on the erased state, over frozen indices (`iteration_relFrozen`), and one iteration
is a `PassND`.  The loop, one SCC, the SCCs in order and the whole call are treated ONCE, for `run_timeout` and every way it can
end: no panic; returned `true`: an execution of the nondeterministic engine; returned `false`: a prefix of one, the SCC it was in
abandoned (`runTimeout_sim`).  `run()` is `run_timeout` with a deadline that never passes (`run_never`, as in the generated
code), so `run_simPar` is the case `never`.
-/
namespace AscentVerif.PhysPar
open AscentVerif AscentVerif.Engine AscentVerif.Index AscentVerif.Phys

variable {E B G P A : Type}

theorem viewFrozen_ok {N : Nat} {bo : List RelId} {s : PCScc} (hfl : Flags N bo true s) (r : RelId) (v : Option Ver)
    (h : findPCDyn s.dyn r = none → bo.contains r = true ∧ r < s.rels.length) : viewFrozen s r v = true := by
  unfold viewFrozen
  cases hd : findPCDyn s.dyn r with
  | none =>
    obtain ⟨hb, hr⟩ := h hd
    obtain ⟨f1, f2⟩ := hfl.rels r hr
    rw [hb] at f1 f2
    simp only [Bool.and_eq_true, List.all_eq_true]
    exact ⟨f1, fun ci hci => (f2 ci hci).2⟩
  | some d =>
    obtain ⟨hf, _⟩ := hfl.dyn d (findPCDyn_mem hd)
    have hall : ∀ ci ∈ d.idxs, ci.2.total.isFrozen = true ∧ ci.2.delta.isFrozen = true := by
      intro ci hci
      obtain ⟨_, _, _, f1, f2, _⟩ := hf.ix ci hci
      exact ⟨f1, f2⟩
    have hT : (d.full.total.frozen && d.idxs.all fun ci => ci.2.total.isFrozen) = true := by
      simp only [Bool.and_eq_true, List.all_eq_true]
      exact ⟨hf.ft, fun ci hci => (hall ci hci).1⟩
    cases v with
    | none => exact hT
    | some v =>
      cases v with
      | total => exact hT
      | delta =>
        simp only [Bool.and_eq_true, List.all_eq_true]
        exact ⟨hf.fd, fun ci hci => (hall ci hci).2⟩
      | totalDelta =>
        simp only [Bool.and_eq_true, List.all_eq_true]
        exact ⟨⟨hf.ft, hf.fd⟩, fun ci hci => hall ci hci⟩

theorem clausesOf_rel (body : List (Item E B G P A)) : ∀ (i : Nat) (vs : List (Option Ver)),
    ∀ c ∈ clausesOf i body vs, c.2.1 ∈ body.filterMap Item.rel? := by
  induction body with
  | nil => intro i vs c hc; cases hc
  | cons it rest ih =>
    intro i vs c hc
    cases it with
    | clause r args conds =>
      rcases List.mem_cons.mp hc with rfl | hc
      · exact List.mem_cons_self
      · exact List.mem_cons_of_mem _ (ih _ _ c hc)
    | agg a => exact List.mem_cons_of_mem _ (ih _ _ c hc)
    | _ => exact ih _ _ c hc

theorem mem_aggsOf (body : List (Item E B G P A)) (r : RelId) (h : r ∈ aggsOf body) : ∃ ag, Item.agg ag ∈ body ∧ ag.rel = r := by
  induction body with
  | nil => cases h
  | cons it rest ih =>
    cases it with
    | agg a =>
      rcases List.mem_cons.mp h with rfl | h
      · exact ⟨a, List.mem_cons_self, rfl⟩
      · exact (ih h).imp fun ag hag => ⟨List.mem_cons_of_mem _ hag.1, hag.2⟩
    | _ => exact (ih h).imp fun ag hag => ⟨List.mem_cons_of_mem _ hag.1, hag.2⟩

/-- the pre-check of the parallel code skips only rules the serial pre-check skips on the erased state (`is_empty` of a
`CRelNoIndex` is constantly `false`) -/
theorem anyEmpty_of_par {p : Program E B G P A} {s : PCScc} {h : Hir.HRule} {body : List (Item E B G P A)}
    {vs : List (Option Ver)} (he : anyEmptyPar p s h body vs = true) : anyEmpty p s.erase h body vs = true := by
  simp only [anyEmptyPar, anyEmpty, Bool.and_eq_true, List.any_eq_true] at he ⊢
  obtain ⟨h12, c, hc, hemp⟩ := he
  refine ⟨h12, c, hc, ?_⟩
  unfold isEmptyPar at hemp
  split at hemp
  · cases hemp
  · exact hemp

theorem evalRulePar_rows (I : Interp E B G P A) (hI : Plan.Ext I) (cfg : Config) (V : Hir.VarsOf E B) (hS : Plan.Supp I V)
    (p : Program E B G P A) (ix : IxSets) (σ : Sched E B G P A) (n : Nat) (a : SccSt) (s : PCScc)
    (hV : ViewsOk cfg p ix a s.erase) (r : Rule E B G P A) (hr : RuleFitA V p ix r)
    (hag : AgOk I cfg p a s.erase (Hir.compileRule V r) 0 r.body) (vs : List (Option Ver))
    (hfz : ∀ x ∈ r.bodyRels, ∀ v, viewFrozen s x v = true) :
    ∃ envs, evalRulePar I p σ n s (Hir.compileRule V r) r.body vs = .ok envs ∧
      ∀ x, x ∈ envs.flatMap (headRows I r.heads) ↔ x ∈ (evalBody I cfg p a r.body vs []).flatMap (headRows I r.heads) := by
  have hall : (clausesOf 0 r.body vs).all (fun c => viewFrozen s c.2.1 c.2.2) = true :=
    List.all_eq_true.mpr fun c hc => hfz _ (clausesOf_rel r.body 0 vs c hc) _
  have halla : (aggsOf r.body).all (fun r => viewFrozen s r (some .total)) = true := by
    apply List.all_eq_true.mpr
    intro x hx
    obtain ⟨ag, h1, rfl⟩ := mem_aggsOf r.body x hx
    exact hfz _ (List.mem_filterMap.mpr ⟨.agg ag, h1, rfl⟩) _
  unfold evalRulePar
  rw [hall, halla]
  simp only [Bool.and_self, Bool.not_true, Bool.false_eq_true, if_false]
  split
  · rename_i he
    refine ⟨[], rfl, fun x => ?_⟩
    rw [anyEmpty_sound I cfg p ix a s.erase hV _ r.body vs hr.clok (anyEmpty_of_par he)]
  · exact ⟨_, rfl, fun x => evalFrom_rowsA I hI cfg V hS p ix a s.erase hV r hr.desug hr.wscoped hr.clok hag vs _
      (fun h => (Bool.and_eq_true _ _ ▸ h).1) x⟩

theorem iterTasksPar_eq (I : Interp E B G P A) (V : Hir.VarsOf E B) (p : Program E B G P A) (σ : Sched E B G P A) (n : Nat)
    (dyn : List RelId) (rules : List (Rule E B G P A)) (s : PCScc) :
    iterTasksPar I V p σ n dyn rules s =
      foldRes (fun (acc : List (Rule E B G P A × Env)) (rv : Rule E B G P A × List (Option Ver)) =>
        evalRulePar I p σ (n + acc.length) s (Hir.compileRule V rv.1) rv.1.body rv.2 >>= fun envs =>
        pure (acc ++ envs.map fun ρ => (rv.1, ρ)))
        (rules.flatMap fun r => (variants dyn r).map fun vs => (r, vs)) [] := rfl

theorem iterTasksPar_rows (I : Interp E B G P A) (hI : Plan.Ext I) (cfg : Config) (V : Hir.VarsOf E B) (hS : Plan.Supp I V)
    (p : Program E B G P A) (ix : IxSets) (σ : Sched E B G P A) (n : Nat) (dynR : List RelId) (a : SccSt) (s : PCScc)
    (hV : ViewsOk cfg p ix a s.erase) (rules : List (Rule E B G P A)) (hR : ∀ r ∈ rules, RuleFitA V p ix r)
    (hag : ∀ r ∈ rules, AgOk I cfg p a s.erase (Hir.compileRule V r) 0 r.body)
    (hfz : ∀ r ∈ rules, ∀ x ∈ r.bodyRels, ∀ v, viewFrozen s x v = true) :
    ∃ tasks, iterTasksPar I V p σ n dynR rules s = .ok tasks ∧ (∀ t ∈ tasks, t.1 ∈ rules) ∧
      ∀ x, x ∈ tasks.flatMap (fun t => headRows I t.1.heads t.2) ↔ x ∈ iterRows I cfg p dynR rules a := by
  obtain ⟨tasks, hfold, hin, hmem⟩ := foldRes_inv
    (fun (acc : List (Rule E B G P A × Env)) (rv : Rule E B G P A × List (Option Ver)) =>
      evalRulePar I p σ (n + acc.length) s (Hir.compileRule V rv.1) rv.1.body rv.2 >>= fun envs =>
      pure (acc ++ envs.map fun ρ => (rv.1, ρ)))
    (fun done acc => (∀ t ∈ acc, t.1 ∈ rules) ∧
      ∀ x, x ∈ acc.flatMap (fun t => headRows I t.1.heads t.2) ↔
        x ∈ done.flatMap fun rv => (evalBody I cfg p a rv.1.body rv.2 []).flatMap (headRows I rv.1.heads))
    (rules.flatMap fun r => (variants dynR r).map fun vs => (r, vs)) (by
      intro done acc rv hrv hinv
      have hrule : rv.1 ∈ rules := by
        obtain ⟨r, hr, hrv'⟩ := List.mem_flatMap.mp hrv
        obtain ⟨vs, _, rfl⟩ := List.mem_map.mp hrv'
        exact hr
      obtain ⟨envs, he, hrows⟩ := evalRulePar_rows I hI cfg V hS p ix σ (n + acc.length) a s hV rv.1 (hR _ hrule)
        (hag _ hrule) rv.2 (hfz _ hrule)
      refine ⟨acc ++ envs.map fun ρ => (rv.1, ρ), by rw [he]; rfl, ?_, ?_⟩
      · intro t ht
        rcases List.mem_append.mp ht with ht | ht
        · exact hinv.1 t ht
        · obtain ⟨ρ, _, rfl⟩ := List.mem_map.mp ht
          exact hrule
      · intro x
        rw [List.flatMap_append, List.mem_append, List.flatMap_append, List.mem_append, hinv.2 x, List.flatMap_map,
          List.flatMap_singleton, hrows x])
    [] ⟨fun t ht => (by cases ht), fun x => (by simp)⟩
  refine ⟨tasks, by rw [iterTasksPar_eq, hfold], hin, fun x => ?_⟩
  rw [hmem x, mem_iterRows']
  simp only [List.mem_flatMap, List.mem_map]
  constructor
  · rintro ⟨rv, ⟨r, hr, vs, hvs, rfl⟩, h⟩
    exact ⟨r, hr, vs, hvs, h⟩
  · rintro ⟨r, hr, vs, hvs, h⟩
    exact ⟨(r, vs), ⟨r, hr, vs, hvs, rfl⟩, h⟩

theorem iteration_eq (I : Interp E B G P A) (V : Hir.VarsOf E B) (p : Program E B G P A) (σ : Sched E B G P A) (k : Nat)
    (dyn : List RelId) (rules : List (Rule E B G P A)) (s : PCScc) :
    iteration I V p σ k dyn rules s =
      (iterTasksPar I V p σ (k * 1000003) dyn rules { s with dyn := s.dyn.map freezeDyn, changed := false } >>= fun tasks =>
       foldRes (fun (acc : PCScc × Nat) (t : Rule E B G P A × Env) =>
          foldRes (fun (st : PCScc) (h : HeadClause E) =>
            headRelPar st (σ.tid (k * 1000003 + acc.2)) h.rel (headRow I h t.2).2) t.1.heads acc.1 >>= fun s' =>
          pure (s', acc.2 + 1)) (σ.permTasks k tasks)
          (({ s with dyn := s.dyn.map freezeDyn, changed := false } : PCScc), 0) >>= fun s1 =>
       pure { s1.1 with dyn := s1.1.dyn.map unfreezeDyn }) := rfl

/-- what the iteration lemmas ask of an SCC with dynamic relations `dynR` and body-only relations `bo` -/
structure SccOk (I : Interp E B G P A) (V : Hir.VarsOf E B) (p : Program E B G P A) (ix : IxSets) (dynR bo : List RelId)
    (rules : List (Rule E B G P A)) : Prop extends SccFitA V p ix dynR rules where
  body : ∀ rule ∈ rules, ∀ r ∈ rule.bodyRels, dynR.contains r = false → bo.contains r = true ∧ r < p.rels.length
  perm : PermOn I rules

/-- the indices of a dynamic relation are frozen by `freezeDyn`, those of a body-only relation since `enterScc` -/
theorem iteration_relFrozen (p : Program E B G P A) (ix : IxSets) (dynR : List RelId) (N : Nat) (bo : List RelId)
    (rules : List (Rule E B G P A))
    (hbo : ∀ rule ∈ rules, ∀ r ∈ rule.bodyRels, dynR.contains r = false → bo.contains r = true ∧ r < p.rels.length)
    (a : SccSt) (s : PCScc) (hwf : WF p.rels.length dynR a) (hsim : Sim p ix a s.erase) (hfl : Flags N bo false s) :
    ∀ rule ∈ rules, ∀ r ∈ rule.bodyRels, ∀ v,
      viewFrozen { s with dyn := s.dyn.map freezeDyn, changed := false } r v = true := by
  intro rule hr r hcr v
  apply viewFrozen_ok (Flags_freezeAll hfl)
  intro hnone
  have hnd : dynR.contains r = false := by
    rw [← hwf.dyn_iff]
    rcases hsim.dyn.findR (fun _ _ hok => hok.rel) r with ⟨h1, _⟩ | ⟨d, pd, _, h2, _⟩
    · rw [h1]; rfl
    · rw [findPDyn_eraseScc, Option.map_eq_some_iff] at h2
      obtain ⟨cd, hcd, _⟩ := h2
      have : findPCDyn (s.dyn.map freezeDyn) r = some (freezeDyn cd) := by
        rw [findPCDyn, List.find?_map]
        exact (congrArg (Option.map freezeDyn) hcd)
      rw [show findPCDyn (s.dyn.map freezeDyn) r = none from hnone] at this
      cases this
  obtain ⟨hb, hlt'⟩ := hbo rule hr r hcr hnd
  refine ⟨hb, ?_⟩
  show r < s.rels.length
  rw [← hsim.len.trans (List.length_map _), hwf.len]
  exact hlt'

/-- what `evalRulePar` asks of the aggregation items (`__aggregated_rel.index_get(..)` on a `CRelIndex` / `CRelFullIndex` /
`CRelNoIndex` `unwrap_frozen()`s): the aggregated relation is body-only in the SCC -/
theorem iteration_aggFrozen (p : Program E B G P A) (ix : IxSets) (dynR : List RelId) (N : Nat) (bo : List RelId)
    (rules : List (Rule E B G P A))
    (hbo : ∀ rule ∈ rules, ∀ r ∈ rule.bodyRels, dynR.contains r = false → bo.contains r = true ∧ r < p.rels.length)
    (a : SccSt) (s : PCScc) (hwf : WF p.rels.length dynR a) (hsim : Sim p ix a s.erase) (hfl : Flags N bo false s) :
    ∀ rule ∈ rules, ∀ ag, Item.agg ag ∈ rule.body → ∀ v,
      viewFrozen { s with dyn := s.dyn.map freezeDyn, changed := false } ag.rel v = true :=
  fun rule hr ag hag => iteration_relFrozen p ix dynR N bo rules hbo a s hwf hsim hfl rule hr ag.rel
    (List.mem_filterMap.mpr ⟨.agg ag, hag, rfl⟩)

/-- the invariant of the head updates of an iteration: the pass invariant `PIM` of the serial tower on the erased state, and
the protocol state of rule evaluation -/
structure PIPar (p : Program E B G P A) (ix : IxSets) (dynR : List RelId) (N : Nat) (bo : List RelId) (a₀ a : SccSt)
    (s : PCScc) : Prop extends PIM p ix dynR a₀ a s.erase where
  fl : Flags N bo true s

theorem shiftPar_sccSim {p : Program E B G P A} {ix : IxSets} {dynR : List RelId} {N : Nat} {bo : List RelId}
    {a : SccSt} {s : PCScc} (h : SccSim p ix dynR a s.erase) (hfl : Flags N bo false s) :
    ∃ s', shiftPar s = .ok s' ∧ SccSim p ix dynR (Engine.shift a) s'.erase ∧ Flags N bo false s' := by
  obtain ⟨s', hsh, hfl', hsame⟩ := shiftPar_erase hfl
  exact ⟨s', hsh, ⟨WF_shift h.wf, hsame.simB (shift_simB h.simB)⟩, hfl'⟩

/-- how a loop that started in `a` may have ended -/
abbrev LoopOut (I : Interp E B G P A) (cfg : Config) (p : Program E B G P A) (ix : IxSets) (dynR : List RelId) (N : Nat)
    (bo : List RelId) (rules : List (Rule E B G P A)) (a : SccSt) : Outcome RunStT → Prop :=
  LoopOutG I cfg p (fun a' rs => SccSim p ix dynR a' rs.st.erase ∧ Settled a' ∧ Flags N bo false rs.st)
    (fun a' rs => Sim p ix a' rs.st.erase ∧ Flags N bo false rs.st) dynR rules a

section Pass
variable (I : Interp E B G P A) (hI : Plan.Ext I) (cfg : Config) (V : Hir.VarsOf E B) (hS : Plan.Supp I V)
  (p : Program E B G P A) (hl : ∀ d ∈ p.rels, d.lat = false) (ix : IxSets) {dynR : List RelId}
  (hlt : ∀ r, dynR.contains r = true → r < p.rels.length) (N : Nat) (hN : 0 < N) {bo : List RelId}

include hlt hN in
theorem heads_simPar (a₀ : SccSt) (heads : List (HeadClause E)) (hh : ∀ h ∈ heads, h.args.length = arityOf p h.rel) (ρ : Env)
    (tid : Nat) (a : SccSt) (s : PCScc) (h : PIPar p ix dynR N bo a₀ a s) :
    ∃ s', foldRes (fun (st : PCScc) (h : HeadClause E) => headRelPar st tid h.rel (headRow I h ρ).2) heads s = .ok s' ∧
      PIPar p ix dynR N bo a₀ (applyRows a (headRows I heads ρ)) s' := by
  refine foldRes_inv _ (fun done st => PIPar p ix dynR N bo a₀ (applyRows a (headRows I done ρ)) st) heads ?_ s h
  intro done st hd hhd hinv
  obtain ⟨st', h1, h2, h3⟩ := headRelPar_sim hN hinv.simB hinv.wf hlt hinv.fl tid hd.rel (headRow I hd ρ).2
    (by show (hd.args.map _).length = _; rw [List.length_map]; exact hh hd hhd)
  obtain ⟨w1, w2⟩ := headRel_wf_ext hlt hinv.wf hinv.ext hd.rel (headRow I hd ρ).2
  refine ⟨st', h1, ?_⟩
  rw [headRows, List.map_append, applyRows_append]
  exact ⟨⟨⟨w1, h2⟩, w2⟩, h3⟩

include hlt hN in
/-- the worker of the `j`-th task of iteration `k` is `σ.tid (k * 1000003 + j)`: the counter is threaded through the fold -/
theorem tasks_simPar (a₀ : SccSt) (σ : Sched E B G P A) (k : Nat) {rules : List (Rule E B G P A)}
    (hR : ∀ r ∈ rules, RuleFitA V p ix r) (tasks : List (Rule E B G P A × Env)) (ht : ∀ t ∈ tasks, t.1 ∈ rules)
    (a : SccSt) (s : PCScc) (h : PIPar p ix dynR N bo a₀ a s) :
    ∃ s1, foldRes (fun (acc : PCScc × Nat) (t : Rule E B G P A × Env) =>
          foldRes (fun (st : PCScc) (h : HeadClause E) =>
            headRelPar st (σ.tid (k * 1000003 + acc.2)) h.rel (headRow I h t.2).2) t.1.heads acc.1 >>= fun s' =>
          pure (s', acc.2 + 1)) tasks (s, 0) = .ok s1 ∧
      PIPar p ix dynR N bo a₀ (applyRows a (tasks.flatMap fun t => headRows I t.1.heads t.2)) s1.1 := by
  refine foldRes_inv _ (fun done (acc : PCScc × Nat) =>
    PIPar p ix dynR N bo a₀ (applyRows a (done.flatMap fun t => headRows I t.1.heads t.2)) acc.1) tasks ?_ (s, 0) h
  intro done acc t htm hinv
  obtain ⟨s', h1, hinv'⟩ := heads_simPar I p ix hlt N hN a₀ t.1.heads (hR _ (ht t htm)).heads t.2
    (σ.tid (k * 1000003 + acc.2)) _ acc.1 hinv
  refine ⟨(s', acc.2 + 1), by rw [h1]; rfl, ?_⟩
  rw [List.flatMap_append, applyRows_append]
  simpa only [List.flatMap_singleton] using hinv'

variable (σ : Sched E B G P A) {rules : List (Rule E B G P A)} (hok : SccOk I V p ix dynR bo rules)

include hI hS hl hN hok in
theorem iteration_sim (k : Nat) (a : SccSt) (s : PCScc) (h : SccSim p ix dynR a s.erase) (hfl : Flags N bo false s) :
    ∃ s1, iteration I V p σ k dynR rules s = .ok s1 ∧
      ∃ a1, PassND I cfg p dynR rules a a1 ∧ PIM p ix dynR { a with changed := false } a1 s1.erase ∧ Flags N bo false s1 := by
  have h0 : SccSim p ix dynR { a with changed := false }
      (PCScc.erase { s with dyn := s.dyn.map freezeDyn, changed := false }) := by
    rw [erase_freezeAll]; exact h.reset
  -- the aggregation items read what the filter semantics reads
  have hag : ∀ r ∈ rules, AgOk I cfg p { a with changed := false }
      (PCScc.erase { s with dyn := s.dyn.map freezeDyn, changed := false }) (Hir.compileRule V r) 0 r.body :=
    fun r hr => agOk_of_sim I cfg hl h0.simB h0.wf (hok.fit r hr) (hok.strat r hr) (hok.perm r hr)
  obtain ⟨tasks, htasks, htr, hrows⟩ := iterTasksPar_rows I hI cfg V hS p ix σ (k * 1000003) dynR _ _
    (sim_viewsOk cfg p hl ix h0.sim h0.wf) rules hok.fit hag (iteration_relFrozen p ix dynR N bo rules hok.body a s h.wf h.sim hfl)
  have hperm := σ.permTasks_perm k tasks
  obtain ⟨s1, hfold, hinv⟩ := tasks_simPar I V p ix hok.lt N hN { a with changed := false } σ k hok.fit
    (σ.permTasks k tasks) (fun t ht => htr t (hperm.mem_iff.mp ht)) _ _ ⟨⟨h0, Ext.refl _⟩, Flags_freezeAll hfl⟩
  refine ⟨{ s1.1 with dyn := s1.1.dyn.map unfreezeDyn }, by rw [iteration_eq, htasks, bind_ok, hfold]; rfl,
    _, ⟨_, fun x => ?_, rfl⟩, by rw [erase_unfreezeAll]; exact hinv.toPIM, Flags_unfreezeAll hinv.fl⟩
  rw [← hrows x]
  simp only [List.mem_flatMap, hperm.mem_iff]

include hI hS hl hN hok in
theorem step_simPar (k : Nat) (a : SccSt) (s : PCScc) (h : SccSim p ix dynR a s.erase) (hfl : Flags N bo false s) :
    ∃ s1 s2, iteration I V p σ k dynR rules s = .ok s1 ∧ shiftPar s1 = .ok s2 ∧
      ∃ a1, PassND I cfg p dynR rules a a1 ∧ a1.changed = s1.changed ∧ Ext { a with changed := false } a1 ∧
        SccSim p ix dynR (Engine.shift a1) s2.erase ∧ Flags N bo false s2 := by
  obtain ⟨s1, hit, a1, hpass, hinv, hfl1⟩ := iteration_sim I hI cfg V hS p hl ix N hN σ hok k a s h hfl
  obtain ⟨s2, hsh, hs2, hfl2⟩ := shiftPar_sccSim hinv.toSccSim hfl1
  exact ⟨s1, s2, hit, hsh, a1, hpass, hinv.sim.changed, hinv.ext, hs2, hfl2⟩

include hI hS hl hN hok in
theorem sccLoopT_sim (dl : Deadline) : ∀ (fuel : Nat) (rs : RunStT) (a : SccSt),
    SccSim p ix dynR a rs.st.erase → NewEmpty a → Flags N bo false rs.st →
    ∃ out, sccLoopT I V p σ dynR rules dl fuel rs = .ok out ∧ LoopOut I cfg p ix dynR N bo rules a out := by
  intro fuel
  induction fuel with
  | zero =>
    intro rs a _ _ _
    exact ⟨.outOfFuel, rfl, trivial⟩
  | succ fuel ih =>
    intro rs a hs hne hfl
    obtain ⟨s1, s2, hit, hsh, a1, hpass, hch, hext, hs2, hfl2⟩ := step_simPar I hI cfg V hS p hl ix N hN σ hok rs.clock a
      rs.st hs hfl
    simp only [sccLoopT, hit, hsh, bind_ok]
    cases hc : s1.changed with
    | false =>
      have hch' : a1.changed = false := by rw [hch, hc]
      exact ⟨_, rfl, _, 1, LoopND.exit hpass hch', hs2, Settled_shift (by rw [hext.unchanged hch']; exact hne), hfl2⟩
    | true =>
      cases hd : dl rs.checks with
      | true => exact ⟨_, rfl, Engine.shift a1, Agg.LoopPreND.last hpass, hs2.sim, hfl2⟩
      | false =>
        obtain ⟨out, hout, hspec⟩ := ih { st := s2, clock := rs.clock + 1, checks := rs.checks + 1, iters := rs.iters + 1 }
          (Engine.shift a1) hs2 (NewEmpty_shift a1) hfl2
        exact ⟨out, hout, .more hpass (by rw [hch, hc]) hspec⟩

end Pass

def BodyDeclared (p : Program E B G P A) : Prop := ∀ rule ∈ p.rules, ∀ r ∈ rule.bodyRels, r < p.rels.length

/-- the invariant between SCCs -/
structure SimStPar (p : Program E B G P A) (ix : IxSets) (N : Nat) (st : St) (pst : PCSt) : Prop
    extends StSim p ix st (pst.map PCRel.erase) where
  fl : StFlags N pst

/-- what the run lemmas ask of the program -/
structure ProgOk (I : Interp E B G P A) (V : Hir.VarsOf E B) (p : Program E B G P A) (ix : IxSets) : Prop where
  rel : RelationalAgg p
  decl : BodyDeclared p
  fit : ∀ r ∈ p.rules, RuleFitA V p ix r
  perm : PermOn I p.rules

/-- an aggregation-free program is one, stratified in any order (`Relational.toAgg`) -/
theorem ProgOk.of_relational {I : Interp E B G P A} {V : Hir.VarsOf E B} {p : Program E B G P A} {ix : IxSets}
    (hp : Relational p) (hb : BodyDeclared p) (hR : ∀ r ∈ p.rules, RuleFit V p ix r) (order : SccOrder) :
    ProgOk I V p ix ∧ Stratified p order := by
  obtain ⟨hpa, hst, hfit, hperm⟩ := Relational.toAgg hp hR I order
  exact ⟨⟨hpa, hb, hfit, hperm⟩, hst⟩

theorem ProgOk.of_planOk {I : Interp E B G P A} {V : Hir.VarsOf E B} {p : Program E B G P A} {ix : IxSets}
    (hperm : ∀ (fn : A) (l l' : List Tuple), l.Perm l' → I.agg fn l = I.agg fn l') (hp : RelationalAgg p)
    (hb : BodyDeclared p) (hplan : planOk V p ix = true) (hagg : aggPlanOk V p ix = true)
    (hd : ∀ r ∈ p.rules, Hir.Desugared V r = true ∧ Plan.WellScoped V r = true) : ProgOk I V p ix :=
  ⟨hp, hb, ruleFitA_of_planOk V p ix hplan hagg hd, fun _ _ ag _ => hperm ag.fn⟩

theorem ProgOk.scc {I : Interp E B G P A} {V : Hir.VarsOf E B} {p : Program E B G P A} {ix : IxSets} (h : ProgOk I V p ix)
    {scc : List Nat} (hstrat : aggOverDynamic p scc = false) :
    SccOk I V p ix (dynRels p scc) (bodyOnly p scc) (sccRules p scc) := by
  have hrules := sccRules_sub p scc
  refine ⟨sccFitA h.rel h.fit hstrat, fun rule hrule r hr hnd => ⟨?_, h.decl rule (hrules rule hrule) r hr⟩,
    fun r hr => h.perm r (hrules r hr)⟩
  exact List.contains_iff_mem.mpr (List.mem_filter.mpr ⟨List.mem_flatMap.mpr ⟨rule, hrule, hr⟩, by rw [hnd]; rfl⟩)

theorem SimStPar.enter {p : Program E B G P A} {ix : IxSets} {threads : Nat} {st : St} {pst : PCSt}
    (h : SimStPar p ix (max threads 1) st pst) (scc : List Nat)
    (hlt : ∀ r, (dynRels p scc).contains r = true → r < p.rels.length) :
    SccSim p ix (dynRels p scc) (Engine.enterScc st (dynRels p scc)) (enterScc threads p scc pst).erase ∧
      Flags (max threads 1) (bodyOnly p scc) false (enterScc threads p scc pst) :=
  ⟨by rw [erase_enterScc]; exact h.toStSim.enter hlt, Flags_enterScc threads p scc pst h.fl⟩

theorem leave_simPar {p : Program E B G P A} {ix : IxSets} {N : Nat} {scc : List Nat} {a : SccSt} {s : PCScc}
    (hlt : ∀ r, (dynRels p scc).contains r = true → r < p.rels.length) (h : SccSim p ix (dynRels p scc) a s.erase)
    (hs : Settled a) (hfl : Flags N (bodyOnly p scc) false s) : SimStPar p ix N (Engine.leaveScc a) (leaveScc p scc s) :=
  ⟨by rw [erase_leaveScc]; exact h.leave hlt hs, (Flags_leaveScc p scc s hfl).1⟩

theorem factsOf_erase (s : PCSt) : Phys.factsOf (s.map PCRel.erase) = factsOf s := by
  funext f
  simp only [Phys.factsOf, factsOf, erase_rows]

theorem wfPSt_erase (p : Program E B G P A) {s : PCSt} (hlen : s.length = p.rels.length)
    (hty : ∀ r, ∀ t ∈ (pcrel s r).rows, t.length = arityOf p r) : WFPSt p (s.map PCRel.erase) :=
  ⟨by rw [List.length_map]; exact hlen, fun r t ht => hty r t (by rw [erase_rows] at ht; exact ht)⟩

theorem SimStPar.rows_eq {p : Program E B G P A} {ix : IxSets} {N : Nat} {st : St} {pst : PCSt}
    (h : SimStPar p ix N st pst) (r : RelId) : (relSt st r).rows = (pcrel pst r).rows :=
  (h.sim.rows r).trans (erase_rows pst r)

/-- the value between SCCs is one `run()` may be called on -/
theorem SimStPar.wf {p : Program E B G P A} {ix : IxSets} {N : Nat} {st : St} {pst : PCSt} (h : SimStPar p ix N st pst)
    (hl : st.length = p.rels.length) : WFPCSt p pst :=
  ⟨by rw [← List.length_map (f := PCRel.erase), ← h.sim.len]; exact hl,
    fun r t ht => h.sim.typed r t (by rw [h.rows_eq r]; exact ht), h.fl.unfrozen⟩

/-- the value an interrupted call leaves: `abandonScc` of a physical SCC state (protocol state `Flags`, unfrozen) simulating a
state in which the nondeterministic engine may abandon SCC `scc` -/
def Abandoned (I : Interp E B G P A) (cfg : Config) (p : Program E B G P A) (ix : IxSets) (threads : Nat) (scc : List Nat)
    (st : St) (pst : PCSt) : Prop :=
  ∃ a' ph, Agg.SccPreND I cfg p scc st a' ∧ Sim p ix a' ph.erase ∧ Flags (max threads 1) (bodyOnly p scc) false ph ∧
    pst = abandonScc threads p scc ph

/-- how one SCC entered from `st` may have ended -/
def SccOut (I : Interp E B G P A) (cfg : Config) (p : Program E B G P A) (ix : IxSets) (threads : Nat) (scc : List Nat)
    (st : St) : Outcome ProgStT → Prop
  | .done ps' => ∃ st', SccND I cfg p scc st st' ∧ SimStPar p ix (max threads 1) st' ps'.st
  | .timedOut ps' => Abandoned I cfg p ix threads scc st ps'.st
  | .outOfFuel => True

/-- how the SCCs `order` from `st` on may have ended: all completed, or some completed and the next one abandoned -/
abbrev SccsOut (I : Interp E B G P A) (cfg : Config) (p : Program E B G P A) (ix : IxSets) (threads : Nat) (order : SccOrder)
    (st : St) : Outcome ProgStT → Prop :=
  SccsOutG I cfg p (fun st' ps' => SimStPar p ix (max threads 1) st' ps'.st)
    (fun scc st ps' => Abandoned I cfg p ix threads scc st ps'.st) order st

section Run
variable (I : Interp E B G P A) (hI : Plan.Ext I) (cfg : Config) (V : Hir.VarsOf E B) (hS : Plan.Supp I V)
  (p : Program E B G P A) (ix : IxSets) (hp : ProgOk I V p ix) (σ : Sched E B G P A) (threads : Nat)

include hI hS hp in
/-- the body of a non-looping SCC: one iteration and two merges (the second empties `delta`) -/
theorem once_simPar (k : Nat) (scc : List Nat) (hstrat : aggOverDynamic p scc = false) {st : St} {pst : PCSt}
    (hs : SimStPar p ix (max threads 1) st pst) :
    ∃ s1 s2 s3, iteration I V p σ k (dynRels p scc) (sccRules p scc) (enterScc threads p scc pst) = .ok s1 ∧
      shiftPar s1 = .ok s2 ∧ shiftPar s2 = .ok s3 ∧
      ∃ a1, PassND I cfg p (dynRels p scc) (sccRules p scc) (Engine.enterScc st (dynRels p scc)) a1 ∧
        SccSim p ix (dynRels p scc) (Engine.shift (Engine.shift a1)) s3.erase ∧
        Flags (max threads 1) (bodyOnly p scc) false s3 := by
  have hok := hp.scc hstrat
  obtain ⟨hs0, hfl0⟩ := hs.enter scc hok.lt
  obtain ⟨s1, s2, hit, hsh2, a1, hpass, _, _, hs2, hfl2⟩ := step_simPar I hI cfg V hS p hp.rel.1 ix (max threads 1)
    (by omega) σ hok k _ _ hs0 hfl0
  obtain ⟨s3, hsh3, hs3, hfl3⟩ := shiftPar_sccSim hs2 hfl2
  exact ⟨s1, s2, s3, hit, hsh2, hsh3, a1, hpass, hs3, hfl3⟩

include hI hS hp in
theorem runSccT_sim (dl : Deadline) (fuel : Nat) (scc : List Nat) (hstrat : aggOverDynamic p scc = false) (ps : ProgStT)
    (st : St) (hs : SimStPar p ix (max threads 1) st ps.st) :
    ∃ out, runSccT I V p σ threads dl fuel scc ps = .ok out ∧ SccOut I cfg p ix threads scc st out := by
  have hok := hp.scc hstrat
  by_cases hlp : isLooping p scc = true
  · obtain ⟨hs0, hfl0⟩ := hs.enter scc hok.lt
    obtain ⟨out, hout, hspec⟩ := sccLoopT_sim I hI cfg V hS p hp.rel.1 ix (max threads 1) (by omega) σ hok dl fuel
      { st := enterScc threads p scc ps.st, clock := ps.clock, checks := ps.checks, iters := 0 } _ hs0
      (NewEmpty_enterScc st _) hfl0
    simp only [runSccT, hlp, if_true, hout, bind_ok]
    cases out with
    | done rs =>
      obtain ⟨a', k, hnd, hs', hset', hfl'⟩ := hspec
      exact ⟨_, rfl, _, (if_pos hlp).mpr ⟨a', k, hnd, rfl⟩, leave_simPar hok.lt hs' hset' hfl'⟩
    | timedOut rs =>
      obtain ⟨a', hpre, hsim', hfl'⟩ := hspec
      exact ⟨_, rfl, a', rs.st, (if_pos hlp).mpr hpre, hsim', hfl', rfl⟩
    | outOfFuel => exact ⟨_, rfl, trivial⟩
  · obtain ⟨s1, s2, s3, hit, hsh2, hsh3, a1, hpass, hs3, hfl3⟩ := once_simPar I hI cfg V hS p ix hp σ threads ps.clock scc
      hstrat hs
    simp only [runSccT, hlp, hit, hsh2, hsh3, bind_ok]
    cases hd : dl ps.checks with
    | false =>
      exact ⟨_, rfl, _, (if_neg hlp).mpr ⟨a1, hpass, rfl⟩, leave_simPar hok.lt hs3 (Settled_shift (NewEmpty_shift a1)) hfl3⟩
    | true => exact ⟨_, rfl, _, s3, (if_neg hlp).mpr ⟨a1, hpass, rfl⟩, hs3.sim, hfl3, rfl⟩

include hI hS hp in
theorem runSccsT_sim (dl : Deadline) (fuel : Nat) : ∀ (order : SccOrder), Stratified p order → ∀ (ps : ProgStT) (st : St),
    SimStPar p ix (max threads 1) st ps.st →
    ∃ out, runSccsT I V p σ threads dl fuel order ps = .ok out ∧ SccsOut I cfg p ix threads order st out := by
  intro order
  induction order with
  | nil =>
    intro _ ps st hs
    exact ⟨.done ps, rfl, st, SccsND.nil, hs⟩
  | cons scc rest ih =>
    intro hst ps st hs
    obtain ⟨out, hout, hspec⟩ := runSccT_sim I hI cfg V hS p ix hp σ threads dl fuel scc (hst scc (by simp)) ps st hs
    cases out with
    | done ps1 =>
      obtain ⟨st1, hnd, hs1⟩ := hspec
      obtain ⟨out2, hout2, hspec2⟩ := ih (fun s hs' => hst s (List.mem_cons_of_mem _ hs')) ps1 st1 hs1
      exact ⟨out2, by simp only [runSccsT, hout]; exact hout2, .cons hnd hspec2⟩
    | timedOut x => exact ⟨.timedOut x, by simp only [runSccsT, hout], [], scc, rest, st, rfl, SccsND.nil, hspec⟩
    | outOfFuel => exact ⟨.outOfFuel, by simp only [runSccsT, hout], trivial⟩

omit I in
theorem start_simPar (s : PCSt) (hlen : s.length = p.rels.length)
    (hty : ∀ r, ∀ t ∈ (pcrel s r).rows, t.length = arityOf p r) :
    ∃ st0, updateIndices threads σ ix s = .ok st0 ∧
      SimStPar p ix (max threads 1) (Engine.updateIndices (absSt (s.map PCRel.erase))) st0 := by
  obtain ⟨st0, hupd, hfl0, hsim0⟩ := updateIndices_simSt p threads σ ix s hty
  exact ⟨st0, hupd, ⟨(StSim.start p ix _ (wfPSt_erase p hlen hty)).inv, hsim0⟩, hfl0⟩

include hI hS hp in
/-- **`run_timeout` of a parallel program, however it ends**, whatever the schedule, the pool, the deadline oracle and the fuel:
never a panic; returned `true`: an execution of the nondeterministic engine (with the same row vectors; every stored index
unfrozen at the end); returned `false`: a prefix of one, the SCC it was in abandoned -/
theorem runTimeout_sim (order : SccOrder) (hst : Stratified p order) (dl : Deadline) (fuel : Nat) (s : PCSt)
    (hlen : s.length = p.rels.length) (hty : ∀ r, ∀ t ∈ (pcrel s r).rows, t.length = arityOf p r) :
    ∃ out, runTimeout I V p ix order σ threads dl fuel s = .ok out ∧
      SccsOut I cfg p ix threads order (Engine.updateIndices (absSt (s.map PCRel.erase))) out := by
  obtain ⟨st0, hupd, hs0⟩ := start_simPar p ix σ threads s hlen hty
  obtain ⟨out, hout, hspec⟩ := runSccsT_sim I hI cfg V hS p ix hp σ threads dl fuel order hst
    { st := st0, clock := 0, checks := 0, iters := [] } _ hs0
  exact ⟨out, bind_eq_ok.mpr ⟨st0, hupd, hout⟩, hspec⟩

include hI hS hp in
theorem runTimeout_doneND (order : SccOrder) (hst : Stratified p order) (dl : Deadline) (fuel : Nat) (s : PCSt) (o : ProgStT)
    (hlen : s.length = p.rels.length) (hty : ∀ r, ∀ t ∈ (pcrel s r).rows, t.length = arityOf p r)
    (h : runTimeout I V p ix order σ threads dl fuel s = .ok (.done o)) :
    ∃ st', RunND I cfg p order (absSt (s.map PCRel.erase)) st' ∧ SimStPar p ix (max threads 1) st' o.st := by
  exact spec_of_ok (runTimeout_sim I hI cfg V hS p ix hp σ threads order hst dl fuel s hlen hty) h

end Run

/-! ## `run()` is `run_timeout` with a deadline that never passes (`Engine.never`)

`compile_mir` emits `run()` as `self.run_timeout(Duration::MAX)` (`ascent_codegen.rs` l.172-179), for which
`__check_return_conditions!()` never reads the clock. -/

/-- the value of a call that returned `true` -/
def doneOpt {α β : Type} (f : α → β) : Outcome α → Option β
  | .done a => some (f a)
  | _ => none

/-- the counter of clock readings forgotten -/
def RunStT.toRunSt (r : RunStT) : RunSt := ⟨r.st, r.clock, r.iters⟩
def ProgStT.toProgSt (o : ProgStT) : ProgSt := ⟨o.st, o.clock, o.iters⟩

section Never
variable (I : Interp E B G P A) (V : Hir.VarsOf E B) (p : Program E B G P A) (σ : Sched E B G P A)

theorem sccLoop_never (dyn : List RelId) (rules : List (Rule E B G P A)) : ∀ (fuel : Nat) (rs : RunStT),
    sccLoop I V p σ dyn rules fuel rs.toRunSt =
      (sccLoopT I V p σ dyn rules never fuel rs).map (doneOpt RunStT.toRunSt) := by
  intro fuel
  induction fuel with
  | zero => intro rs; rfl
  | succ fuel ih =>
    intro rs
    simp only [sccLoop, sccLoopT, RunStT.toRunSt]
    cases iteration I V p σ rs.clock dyn rules rs.st with
    | panic => rfl
    | ok s1 =>
      simp only [bind_ok]
      cases shiftPar s1 with
      | panic => rfl
      | ok s2 =>
        simp only [bind_ok]
        cases hc : s1.changed with
        | false => rfl
        | true => exact ih { st := s2, clock := rs.clock + 1, checks := rs.checks + 1, iters := rs.iters + 1 }

theorem runScc_never (threads fuel : Nat) (scc : List Nat) (ps : ProgStT) :
    runScc I V p σ threads fuel scc ps.toProgSt =
      (runSccT I V p σ threads never fuel scc ps).map (doneOpt ProgStT.toProgSt) := by
  have h := sccLoop_never I V p σ (dynRels p scc) (sccRules p scc) fuel
    { st := enterScc threads p scc ps.st, clock := ps.clock, checks := ps.checks, iters := 0 }
  simp only [RunStT.toRunSt] at h
  simp only [runScc, runSccT, ProgStT.toProgSt, h]
  split
  · cases sccLoopT I V p σ (dynRels p scc) (sccRules p scc) never fuel _ with
    | panic => rfl
    | ok out => cases out <;> rfl
  · cases iteration I V p σ ps.clock (dynRels p scc) (sccRules p scc) (enterScc threads p scc ps.st) with
    | panic => rfl
    | ok s1 =>
      simp only [bind_ok]
      cases shiftPar s1 with
      | panic => rfl
      | ok s2 =>
        simp only [bind_ok]
        cases shiftPar s2 with
        | panic => rfl
        | ok s3 => rfl

theorem runSccs_never (threads fuel : Nat) : ∀ (order : SccOrder) (ps : ProgStT),
    runSccs I V p σ threads fuel order ps.toProgSt =
      (runSccsT I V p σ threads never fuel order ps).map (doneOpt ProgStT.toProgSt) := by
  intro order
  induction order with
  | nil => intro ps; rfl
  | cons scc rest ih =>
    intro ps
    unfold runSccs runSccsT
    rw [runScc_never]
    cases runSccT I V p σ threads never fuel scc ps with
    | panic => rfl
    | ok out =>
      cases out with
      | done ps1 => exact ih ps1
      | _ => rfl

theorem run_never (ix : IxSets) (order : SccOrder) (threads fuel : Nat) (s : PCSt) :
    run I V p ix order σ threads fuel s =
      (runTimeout I V p ix order σ threads never fuel s).map (doneOpt ProgStT.toProgSt) := by
  unfold run runTimeout
  cases updateIndices threads σ ix s with
  | panic => rfl
  | ok s0 => exact runSccs_never I V p σ threads fuel order { st := s0, clock := 0, checks := 0, iters := [] }

end Never

/-- **`run()` never panics and is a run of the nondeterministic engine**, whatever the schedule and the pool (with the same row
vectors; every stored index unfrozen at the end) -/
theorem run_simPar (I : Interp E B G P A) (hI : Plan.Ext I) (cfg : Config) (V : Hir.VarsOf E B) (hS : Plan.Supp I V)
    (p : Program E B G P A) (ix : IxSets) (hp : ProgOk I V p ix) (σ : Sched E B G P A) (threads : Nat) (order : SccOrder)
    (hst : Stratified p order) (fuel : Nat) (s : PCSt) (hlen : s.length = p.rels.length)
    (hty : ∀ r, ∀ t ∈ (pcrel s r).rows, t.length = arityOf p r) :
    ∃ res, run I V p ix order σ threads fuel s = .ok res ∧ ∀ out, res = some out →
      ∃ st', RunND I cfg p order (absSt (s.map PCRel.erase)) st' ∧ SimStPar p ix (max threads 1) st' out.st := by
  obtain ⟨out, hout, hspec⟩ := runTimeout_sim I hI cfg V hS p ix hp σ threads order hst never fuel s hlen hty
  refine ⟨doneOpt ProgStT.toProgSt out, by rw [run_never, hout]; rfl, fun o ho => ?_⟩
  cases out with
  | done ps' => cases ho; exact hspec
  | _ => cases ho

end AscentVerif.PhysPar
