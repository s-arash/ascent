import AscentVerif.Proofs.LatHead
import AscentVerif.Proofs.Pass
/-!
# The invariants of the lattice proof (C03)

`LInv` holds of every SCC state; `LExt s s'` relates a later state `s'` of the same pass to `s`, and `PExt` is its part about
the index bags, which needs no invariant.  `LInvT T` is `LInv` with the set `T` of databases to stay below left open: `LInv`
is its case `Tgt …`, the invariant of programs with aggregation (`Proofs/AggLatSem.lean`) its case at other targets.  Both
kinds of head update (append a row, join into a row) are instances of `upd`; `LInvT_upd` / `LExt_upd` say when `upd` keeps
the invariant and is an `LExt` step.
-/
namespace AscentVerif.Engine
open AscentVerif

variable {E B G P A : Type}

theorem setDyn_self {n : Nat} {dynR : List RelId} {s : SccSt} {r : RelId} {d : Dyn} (hwf : WF n dynR s)
    (hd : findDyn s.dyn r = some d) : setDyn s.dyn d = s.dyn := by
  rw [setDyn_eq_map]
  conv => rhs; rw [← List.map_id s.dyn]
  apply List.map_congr_left
  intro x hx
  by_cases hxr : x.rel = d.rel
  · have h1 := hwf.uniq x hx
    rw [hxr, findDyn_rel hd, hd] at h1
    cases h1
    simp
  · simp [hxr]

def requeue (d : Dyn) (i : Nat) : Dyn := if d.new.contains i then d else { d with new := d.new ++ [i] }

theorem requeue_rel (d : Dyn) (i : Nat) : (requeue d i).rel = d.rel := by unfold requeue; split <;> rfl
theorem requeue_total (d : Dyn) (i : Nat) : (requeue d i).total = d.total := by unfold requeue; split <;> rfl
theorem requeue_delta (d : Dyn) (i : Nat) : (requeue d i).delta = d.delta := by unfold requeue; split <;> rfl
theorem mem_requeue_new (d : Dyn) (i j : Nat) : j ∈ (requeue d i).new ↔ j ∈ d.new ∨ j = i := by
  unfold requeue
  split
  · rename_i h
    exact ⟨.inl, fun h' => h'.elim id fun hj => hj ▸ List.contains_iff_mem.mp h⟩
  · rw [List.mem_append, List.mem_singleton]

theorem joinSt_eq_upd {n : Nat} {dynR : List RelId} {s : SccSt} {r : RelId} {d : Dyn} (hwf : WF n dynR s)
    (hd : findDyn s.dyn r = some d) (i : Nat) (x : Val) :
    joinSt s r d i x = upd s r (requeue d i) (joinRows (rowsOf s r) i x) := by
  unfold joinSt upd requeue
  by_cases hc : d.new.contains i = true
  · simp only [hc, Bool.not_true, Bool.false_eq_true, if_false, if_true]
    rw [setDyn_self hwf hd]
  · have hc' : d.new.contains i = false := by simpa using hc
    simp only [hc', Bool.not_false, if_true, Bool.false_eq_true, if_false]

def SetRows (inp : RelId → List Tuple) (r : RelId) (rows : List Tuple) : Prop :=
  ∃ derived, rows = inp r ++ derived ∧ derived.Nodup ∧ ∀ t ∈ derived, t ∉ inp r

theorem SetRows.input (inp : RelId → List Tuple) (r : RelId) : SetRows inp r (inp r) :=
  ⟨[], (List.append_nil _).symm, List.nodup_nil, nofun⟩

theorem SetRows.append {inp : RelId → List Tuple} {r : RelId} {rows : List Tuple} {t : Tuple}
    (h : SetRows inp r rows) (hn : t ∉ rows) : SetRows inp r (rows ++ [t]) :=
  ext_append h hn

/-- the relations that are not dynamic in `s` are not dynamic in `s'` and are as `s` had them: what every head update
keeps, of any program and from any state (the first clause of `PExt`) -/
def Agg.Keeps (s s' : SccSt) : Prop :=
  ∀ r, findDyn s.dyn r = none → findDyn s'.dyn r = none ∧ relSt s'.rels r = relSt s.rels r

theorem Agg.Keeps.refl (s : SccSt) : Agg.Keeps s s := fun _ h => ⟨h, rfl⟩

theorem Agg.Keeps.trans {a b c : SccSt} (h₁ : Agg.Keeps a b) (h₂ : Agg.Keeps b c) : Agg.Keeps a c := fun r h =>
  have h1 := h₁ r h
  have h2 := h₂ r h1.1
  ⟨h2.1, h2.2.trans h1.2⟩

/-- the clause the SCC theory lives on is the last one: a row whose value changed is queued in `new` -/
structure PExt (s s' : SccSt) : Prop where
  nondyn : Agg.Keeps s s'
  td : ∀ r d, findDyn s.dyn r = some d → ∃ d', findDyn s'.dyn r = some d' ∧ d'.total = d.total ∧ d'.delta = d.delta ∧
    (∀ i ∈ d.new, i ∈ d'.new) ∧
    (∀ i, rowAt (rowsOf s' r) i ≠ rowAt (rowsOf s r) i → i ∈ d'.new)

theorem PExt.refl (s : SccSt) : PExt s s :=
  ⟨.refl s, fun _ d h => ⟨d, h, rfl, rfl, fun _ hi => hi, fun _ hne => absurd rfl hne⟩⟩

theorem PExt.trans {a b c : SccSt} (h₁ : PExt a b) (h₂ : PExt b c) : PExt a c := by
  refine ⟨h₁.nondyn.trans h₂.nondyn, fun r d h => ?_⟩
  obtain ⟨d1, hd1, ht1, hdl1, hn1, hc1⟩ := h₁.td r d h
  obtain ⟨d2, hd2, ht2, hdl2, hn2, hc2⟩ := h₂.td r d1 hd1
  refine ⟨d2, hd2, ht2.trans ht1, hdl2.trans hdl1, fun i hi => hn2 i (hn1 i hi), ?_⟩
  intro i hne
  by_cases hab : rowAt (rowsOf b r) i = rowAt (rowsOf a r) i
  · rw [← hab] at hne
    exact hc2 i hne
  · exact hn2 i (hc1 i hab)

theorem PExt_gen {s : SccSt} {r : RelId} {d d' : Dyn} {rows' : List Tuple} {dyn' : List Dyn} {c : Bool}
    (hd : findDyn s.dyn r = some d) (hd' : findDyn dyn' r = some d')
    (hne : ∀ r', r' ≠ r → findDyn dyn' r' = findDyn s.dyn r')
    (ht : d'.total = d.total) (hdl : d'.delta = d.delta) (hnew : ∀ i ∈ d.new, i ∈ d'.new)
    (hchg : ∀ i, rowAt rows' i ≠ rowAt (rowsOf s r) i → i ∈ d'.new) :
    PExt s { rels := setNth s.rels r { relSt s.rels r with rows := rows' }, dyn := dyn', changed := c } := by
  refine ⟨?_, ?_⟩
  · intro r' h0
    have hner : r' ≠ r := by
      intro h; subst h; rw [hd] at h0; cases h0
    exact ⟨by rw [← h0]; exact hne r' hner, relSt_setNth_ne _ _ _ _ hner⟩
  · intro r' d₀ h0
    by_cases hner : r' = r
    · subst hner
      rw [hd] at h0; cases h0
      refine ⟨d', hd', ht, hdl, hnew, ?_⟩
      intro i hi
      by_cases hr : r' < s.rels.length
      · apply hchg
        simpa only [rowsOf, relSt_setNth_self _ _ _ hr] using hi
      · exfalso
        apply hi
        have h1 : s.rels.length ≤ r' := Nat.le_of_not_lt hr
        simp only [rowsOf]
        rw [relSt_of_ge _ _ (by rw [length_setNth]; exact h1), relSt_of_ge _ _ h1]
    · refine ⟨d₀, by show findDyn dyn' r' = some d₀; rw [hne r' hner]; exact h0, rfl, rfl, fun _ hi => hi, ?_⟩
      intro i h
      exfalso
      apply h
      simp only [rowsOf, relSt_setNth_ne _ _ _ _ hner]

theorem PExt_upd {s : SccSt} {r : RelId} {d d' : Dyn} {rows' : List Tuple} (hd : findDyn s.dyn r = some d)
    (hrel : d'.rel = r) (ht : d'.total = d.total) (hdl : d'.delta = d.delta) (hnew : ∀ i ∈ d.new, i ∈ d'.new)
    (hchg : ∀ i, rowAt rows' i ≠ rowAt (rowsOf s r) i → i ∈ d'.new) : PExt s (upd s r d' rows') :=
  PExt_gen (dyn' := setDyn s.dyn d') hd (upd_dyn_self (rows' := rows') hd hrel)
    (fun _ hne => upd_dyn_ne (rows' := rows') hrel hne) ht hdl hnew hchg

section Inv
variable (I : Interp E B G P A) (L : LatOrder I) (p : Program E B G P A) (inp : RelId → List Tuple)
  (dynR : List RelId)

/-- the databases the result must stay below (nothing, unless the program is monotone) -/
def Tgt (M : DB) : Prop := MonotoneProg I L p ∧ KeyUnique p M ∧ LClosed I L p (inDB p inp) M

def Below (s : SccSt) : Prop := ∀ M, Tgt I L p inp M → DBLe I L p (FactsS s) M

def BelowF (f : Fact) : Prop := ∀ M, Tgt I L p inp M → Dominated I L p M f

structure LInv (s : SccSt) : Prop where
  wf : WF p.rels.length dynR s
  dlt : ∀ r, dynR.contains r = true → r < p.rels.length
  keys : ∀ r, (declOf p r).lat = true → ((rowsOf s r).map keyOf).Nodup
  relset : ∀ r, r < p.rels.length → (declOf p r).lat = false → SetRows inp r (rowsOf s r)
  below : Below I L p inp s

/-- a head update keeps it for any set `T` of key-unique databases (`headUpdate_stepT`) -/
structure LInvT (T : DB → Prop) (s : SccSt) : Prop where
  wf : WF p.rels.length dynR s
  dlt : ∀ r, dynR.contains r = true → r < p.rels.length
  keys : ∀ r, (declOf p r).lat = true → ((rowsOf s r).map keyOf).Nodup
  relset : ∀ r, r < p.rels.length → (declOf p r).lat = false → SetRows inp r (rowsOf s r)
  below : ∀ M, T M → DBLe I L p (FactsS s) M

structure LExt (s s' : SccSt) : Prop where
  nondyn : ∀ r, findDyn s.dyn r = none → findDyn s'.dyn r = none ∧ relSt s'.rels r = relSt s.rels r
  td : ∀ r d, findDyn s.dyn r = some d → ∃ d', findDyn s'.dyn r = some d' ∧ d'.total = d.total ∧ d'.delta = d.delta ∧
    (∀ i ∈ d.new, i ∈ d'.new) ∧
    (∀ i, rowAt (rowsOf s' r) i ≠ rowAt (rowsOf s r) i → i ∈ d'.new)
  len : ∀ r, (rowsOf s r).length ≤ (rowsOf s' r).length
  dble : DBLe I L p (FactsS s) (FactsS s')
  unchanged : s'.changed = false → s' = s

theorem LExt.refl (s : SccSt) : LExt I L p s s :=
  ⟨(PExt.refl s).nondyn, (PExt.refl s).td, fun _ => Nat.le_refl _, DBLe.refl _, fun _ => rfl⟩

variable {I L p}

theorem LExt.pext {s s' : SccSt} (h : LExt I L p s s') : PExt s s' := ⟨h.nondyn, h.td⟩

theorem LExt.trans {a b c : SccSt} (h₁ : LExt I L p a b) (h₂ : LExt I L p b c) : LExt I L p a c := by
  have hp := h₁.pext.trans h₂.pext
  refine ⟨hp.nondyn, hp.td, fun r => Nat.le_trans (h₁.len r) (h₂.len r), DBLe.trans h₁.dble h₂.dble, ?_⟩
  intro h
  have h1 := h₂.unchanged h
  rw [h1] at h
  rw [h1]
  exact h₁.unchanged h

variable {inp dynR}

theorem LInvT_tgt {s : SccSt} : LInvT I L p inp dynR (Tgt I L p inp) s ↔ LInv I L p inp dynR s :=
  ⟨fun h => ⟨h.wf, h.dlt, h.keys, h.relset, h.below⟩, fun h => ⟨h.wf, h.dlt, h.keys, h.relset, h.below⟩⟩

theorem keyUnique_of_keys {s : SccSt} (h : ∀ r, (declOf p r).lat = true → ((rowsOf s r).map keyOf).Nodup) :
    KeyUnique p (FactsS s) :=
  fun r _ _ hl ht ht' hk => row_of_key (h r hl) ht ht' hk

theorem LInv.keyUnique {s : SccSt} (h : LInv I L p inp dynR s) : KeyUnique p (FactsS s) := keyUnique_of_keys h.keys

theorem WF.rel_lt {n : Nat} {s : SccSt} (h : WF n dynR s) {r : RelId} {t : Tuple} (ht : t ∈ rowsOf s r) : r < n :=
  h.len ▸ lt_of_mem_rows s.rels r t ht

theorem LInv.rel_lt {s : SccSt} (h : LInv I L p inp dynR s) {r : RelId} {t : Tuple} (ht : t ∈ rowsOf s r) :
    r < p.rels.length :=
  h.wf.rel_lt ht

section UpdInv
variable {s : SccSt} {r : RelId} {d d' : Dyn} {rows' : List Tuple}

theorem LExt_upd (hwf : WF p.rels.length dynR s) (hd : findDyn s.dyn r = some d) (hr : r < p.rels.length)
    (hrel : d'.rel = r) (ht : d'.total = d.total) (hdl : d'.delta = d.delta) (hnew : ∀ i ∈ d.new, i ∈ d'.new)
    (hlen : (rowsOf s r).length ≤ rows'.length)
    (hchg : ∀ i, rowAt rows' i ≠ rowAt (rowsOf s r) i → i ∈ d'.new)
    (hdom : ∀ t ∈ rowsOf s r, Dominated I L p (fun f => f.args ∈ rows') ⟨r, t⟩) :
    LExt I L p s (upd s r d' rows') := by
  have hr' : r < s.rels.length := by rw [hwf.len]; exact hr
  have hp := PExt_upd hd hrel ht hdl hnew hchg
  refine ⟨hp.nondyn, hp.td, ?_, ?_, ?_⟩
  · intro r'
    by_cases hne : r' = r
    · subst hne; rw [upd_rows_self hr']; exact hlen
    · rw [upd_rows_ne hne]; exact Nat.le_refl _
  · intro ⟨r', t⟩ hf
    by_cases hne : r' = r
    · subst hne
      refine Dominated.congr (hdom t hf) fun t ht => ?_
      show t ∈ rowsOf (upd s r' d' rows') r'
      rw [upd_rows_self hr']; exact ht
    · apply Dominated.of_mem
      show t ∈ rowsOf (upd s r d' rows') r'
      rw [upd_rows_ne hne]; exact hf
  · exact nofun

theorem LInvT_upd {T : DB → Prop} (hinv : LInvT I L p inp dynR T s) (hd : findDyn s.dyn r = some d)
    (hr : r < p.rels.length) (hrel : d'.rel = r)
    (hcov : ∀ i, i < rows'.length ↔ (i ∈ d'.total ∨ i ∈ d'.delta ∨ i ∈ d'.new))
    (hkeys : (declOf p r).lat = true → (rows'.map keyOf).Nodup)
    (hset : (declOf p r).lat = false → SetRows inp r rows')
    (hbelow : ∀ M, T M → ∀ t ∈ rows', Dominated I L p M ⟨r, t⟩) :
    LInvT I L p inp dynR T (upd s r d' rows') := by
  have hr' : r < s.rels.length := by rw [hinv.wf.len]; exact hr
  exact ⟨WF_upd hinv.wf hd hr hrel hcov, hinv.dlt,
    forall_rows_upd (Q := fun r rows => (declOf p r).lat = true → (rows.map keyOf).Nodup) hr' hinv.keys hkeys,
    forall_rows_upd (Q := fun r rows => r < p.rels.length → (declOf p r).lat = false → SetRows inp r rows) hr'
      hinv.relset fun _ => hset,
    fun M hM f => forall_rows_upd (Q := fun r rows => ∀ t ∈ rows, Dominated I L p M ⟨r, t⟩) hr'
      (fun r' t ht => hinv.below M hM ⟨r', t⟩ ht) (hbelow M hM) f.rel f.args⟩

end UpdInv

end Inv

end AscentVerif.Engine
