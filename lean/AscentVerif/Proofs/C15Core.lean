import AscentVerif.Proofs.C15CoreHir
import AscentVerif.Proofs.C15CoreStrat
import AscentVerif.Proofs.C15Expand
import AscentVerif.Proofs.C15Front
/-!
# C15: `compile` as a whole: when it succeeds, declaratively, and what its errors are

`Passes s rules` collects the success conditions of the stages behind desugaring.  `compile_decides` goes through `compile`
once, with the `Decides` lemma of each stage: `compile` succeeds iff the program desugars and passes, and every error lies
in the class of its stage.  Both directions of C15 are read off `compile_ok_iff`: a violation class contradicts a field of
`Passes` or a rule does not expand (`rejected_unless` and its two instances), a `WellFormedCore` program has all fields
(`WellFormedCore.passes`); no class of errors contains a panic (`compile_errs`, `check_errs`).
-/
namespace AscentVerif.Check
open AscentVerif AscentVerif.Engine

theorem check_of_reaches {s : Summary} (h : Reaches s) : check s = compile s := by
  unfold check
  rw [h.1]
  simp [h.2]

theorem rejected_of_not_compile {s : Summary} (h : Reaches s) (hc : compile s ≠ .ok ()) : Rejected s := by
  unfold Rejected
  rw [check_of_reaches h]
  cases hcs : compile s with
  | error e => exact ⟨e, rfl⟩
  | ok u => cases u; exact absurd hcs hc

theorem mem_rules {s : Summary} {r : Rule} (h : r ∈ s.rules) : ∃ n, Top.rule n r ∈ s.items := by
  unfold Summary.rules at h
  obtain ⟨t, ht, hf⟩ := List.mem_filterMap.1 h
  cases t with
  | rule n r' =>
    simp only [Option.some.injEq] at hf
    subst hf
    exact ⟨n, ht⟩
  | rel d => cases hf
  | mac n d => cases hf
  | incl n => cases hf

theorem not_emptyDisj_of_whole {s : Summary} (h : parseItems s.items = .ok .whole) : ¬ IllFormedEmptyDisj s := by
  rintro ⟨r, hr, it, hit, hh⟩
  obtain ⟨n, hn⟩ := mem_rules hr
  have := ((parseItems_sat s.items).of_ok h).1 n r hn
  rw [(itemsHaveEmptyDisj_iff r.body).2 ⟨it, hit, hh⟩] at this
  cases this

/-- the conditions under which every stage of `compile` behind desugaring succeeds: each violation class contradicts
one of them, and a well-formed program satisfies all of them -/
structure Passes (s : Summary) (rules : List CoreRule) : Prop where
  declared : ∀ r ∈ rules, ∀ o ∈ r.occurrences, ∃ d, findDecl s.decls o.1 = some d ∧ d.arity = o.2
  aggBound : ¬ IllFormedAggBound rules
  fresh : ∀ r ∈ rules, ∀ pre ev post, r.body = pre ++ ev :: post →
    ev.binderVars.Nodup ∧ (∀ v ∈ ev.binderVars, v ∉ pre.flatMap Ev.grounds ++ ev.argIdents) ∧
      ev.boundVars.Nodup ∧ ∀ v ∈ ev.boundVars, v ∉ pre.flatMap Ev.grounds
  pathOnly : PathOnly s.attrs "measure_rule_times" ∧ PathOnly s.attrs "generate_run_timeout" ∧
    PathOnly s.attrs "inter_rule_parallelism"
  attrsKnown : ∀ a ∈ s.attrs, a.name ∈ recognizedAttrs
  parOnly : (∃ a ∈ s.attrs, a.name = "inter_rule_parallelism") → s.kind.parallel = true
  progDs : dsOk s.attrs
  declDs : ∀ d ∈ s.effDecls, dsOk d.attrs ∧ (d.lat = true → ∀ a ∈ d.attrs, a.name ≠ "ds")
  sigOk : ¬ IllFormedSig s
  stratified : ¬ IllFormedStrat s rules

/-- the fields of `Passes`, grouped by the stage that tests them -/
theorem passes_iff (s : Summary) (rules : List CoreRule) :
    Passes s rules ↔ (∀ r ∈ rules, ruleOk s.decls r) ∧
      (PathOnly s.attrs "measure_rule_times" ∧ PathOnly s.attrs "generate_run_timeout" ∧
        PathOnly s.attrs "inter_rule_parallelism" ∧ (∀ a ∈ s.attrs, a.name ∈ recognizedAttrs) ∧
        ((∃ a ∈ s.attrs, a.name = "inter_rule_parallelism") → s.kind.parallel = true) ∧ dsOk s.attrs) ∧
      (∀ d ∈ s.effDecls, dsOk d.attrs ∧ (d.lat = true → ∀ a ∈ d.attrs, a.name ≠ "ds")) ∧
      (¬ IllFormedSig s) ∧ ¬ IllFormedStrat s rules := by
  rw [rulesOk_iff]
  constructor
  · intro p
    exact ⟨⟨p.declared, p.aggBound, p.fresh⟩, ⟨p.pathOnly.1, p.pathOnly.2.1, p.pathOnly.2.2, p.attrsKnown, p.parOnly,
      p.progDs⟩, p.declDs, p.sigOk, p.stratified⟩
  · rintro ⟨⟨h1, h2, h3⟩, ⟨p1, p2, p3, h4, h5, h6⟩, h7, h8, h9⟩
    exact ⟨h1, h2, h3, ⟨p1, p2, p3⟩, h4, h5, h6, h7, h8, h9⟩

def Err.compileErr (e : Err) : Bool := e.expandErr || e.hirErr || e.attrErr || e.sigErr || e == .strat

theorem compile_decides (s : Summary) :
    Decides (∃ rules, desugar s.macros s.rules = .ok rules ∧ Passes s rules) Err.compileErr (fun _ => True)
      (compile s) := by
  have d0 := (desugar_decides s.macros s.rules).weaken Err.compileErr fun e h => by simp [Err.compileErr, h]
  unfold compile
  cases hd : desugar s.macros s.rules with
  | error e => exact .error (fun ⟨_, h, _⟩ => nomatch h) (d0.of_error hd).2
  | ok rules =>
    have hex : Passes s rules ↔ ∃ rules', (Except.ok rules : Except Err _) = .ok rules' ∧ Passes s rules' :=
      ⟨fun hp => ⟨rules, rfl, hp⟩, fun ⟨_, h, hp⟩ => Except.ok.inj h ▸ hp⟩
    refine Decides.congr ?_ ((passes_iff s rules).symm.trans hex)
    have d1 := (hirRules_decides s.decls rules).weaken Err.compileErr fun e h => by simp [Err.compileErr, h]
    have d2 := (configCheck_decides s.attrs s.kind.parallel).weaken Err.compileErr
      fun e h => by simp [Err.compileErr, h]
    have d3 := (declsCheck_decides s.effDecls).weaken Err.compileErr fun e h => by simp [Err.compileErr, h]
    have d4 := (sigCheck_decides s.sig).weaken Err.compileErr fun e h => by simp [Err.compileErr, h]
    dsimp only
    cases h1 : hirRules s.decls rules with
    | error e => exact d1.and_of_error h1
    | ok _ =>
    refine d1.and_of_ok h1 ?_
    cases h2 : configCheck s.attrs s.kind.parallel with
    | error e => exact d2.and_of_error h2
    | ok _ =>
    refine d2.and_of_ok h2 ?_
    cases h3 : declsCheck s.effDecls with
    | error e => exact d3.and_of_error h3
    | ok _ =>
    refine d3.and_of_ok h3 ?_
    cases h4 : sigCheck s.sig with
    | error e => exact d4.and_of_error h4
    | ok _ =>
    refine d4.and_of_ok h4 ?_
    by_cases hs : stratError (skeleton s.decls rules) = true
    · rw [if_pos hs]
      exact .error (fun h => h ((stratError_iff _).1 hs)) rfl
    · rw [if_neg hs]
      exact .ok (fun h => hs ((stratError_iff _).2 h)) trivial

theorem compile_ok_iff (s : Summary) :
    compile s = .ok () ↔ ∃ rules, desugar s.macros s.rules = .ok rules ∧ Passes s rules :=
  ok_unit_iff.trans (compile_decides s).ok_iff

theorem compile_errs (s : Summary) : Errs Err.compileErr (compile s) := (compile_decides s).errs

def Err.checkErr (e : Err) : Bool := e.parseErr || e == .includeInSource || e.compileErr

theorem check_errs (s : Summary) : Errs Err.checkErr (check s) := by
  unfold check
  cases hp : parseItems s.items with
  | error e =>
    have he : e.parseErr = true := (parseItems_sat _).of_error hp
    exact show e.checkErr = true by simp [Err.checkErr, he]
  | ok p =>
    cases p with
    | deferred => exact .ite rfl fun _ => trivial
    | whole =>
      dsimp only
      by_cases hk : (s.kind == .source) = true
      · rw [if_pos hk]
        trivial
      · rw [if_neg hk]
        exact (compile_errs s).mono (fun e h => by simp [Err.checkErr, h]) fun _ _ => trivial

theorem rejected_unless {s : Summary} (hr : Reaches s)
    (h : ∀ rules, desugar s.macros s.rules = .ok rules → ¬ Passes s rules) : Rejected s :=
  rejected_of_not_compile hr fun hc =>
    let ⟨rules, hd, hp⟩ := (compile_ok_iff s).1 hc
    h rules hd hp

theorem rejected_of_desugar {s : Summary} {rules : List CoreRule} (hr : Reaches s)
    (hd : desugar s.macros s.rules = .ok rules) (h : ¬ Passes s rules) : Rejected s :=
  rejected_unless hr fun _ hd' => Except.ok.inj (hd.symm.trans hd') ▸ h

theorem rejected_of_not_expands {s : Summary} (hr : Reaches s) {r : Rule} (hmem : r ∈ s.rules)
    (h : ¬ RuleExpands s.macros r) : Rejected s :=
  rejected_unless hr fun rules hd _ => h ((desugar_decides _ _).ok_iff.1 ⟨rules, hd⟩ r hmem)

theorem not_rebind_of_fresh {rules : List CoreRule}
    (h : ∀ r ∈ rules, ∀ pre ev post, r.body = pre ++ ev :: post →
      ev.binderVars.Nodup ∧ (∀ v ∈ ev.binderVars, v ∉ pre.flatMap Ev.grounds ++ ev.argIdents) ∧
        ev.boundVars.Nodup ∧ ∀ v ∈ ev.boundVars, v ∉ pre.flatMap Ev.grounds) : ¬ IllFormedRebind rules := by
  rintro ⟨r, hr', pre, ev, post, heq, hbad⟩
  obtain ⟨h1, h2, h3, h4⟩ := h r hr' pre ev post heq
  rcases hbad with hbad | ⟨v, hv, hm⟩ | hbad | ⟨v, hv, hm⟩
  · exact hbad h1
  · exact h2 v hv hm
  · exact hbad h3
  · exact h4 v hv hm

theorem WellFormedCore.passes {s : Summary} {rules : List CoreRule} (h : WellFormedCore s rules) : Passes s rules :=
  have hp : ∀ n, n ≠ "ds" → PathOnly s.attrs n := fun n hn a hf =>
    let ⟨ha, he⟩ := firstNamed_some hf
    h.attrsPlain a ha (he ▸ hn)
  { h with pathOnly := ⟨hp _ (by decide +kernel), hp _ (by decide +kernel), hp _ (by decide +kernel)⟩ }

end AscentVerif.Check
