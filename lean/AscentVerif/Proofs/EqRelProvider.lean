import AscentVerif.Proofs.EqRelOps
/-!
# The binary `eqrel` provider (`EqRelIndCommon`, new / delta / total): reads, invariant, contract

A version `c` of the relation holds `Content c` = `combined \ old`; `Holds c S` says that it is well formed and holds `S`, and
every read is specified against that.  `Inv t T D N` describes the triple after some history and `Spec.step` is the contract's
update of `T`, `D`, `N` (`T := D; D := closure(D ∪ N); N := ∅` for a merge); Props/C10.lean shows that `ins` and `merge` keep
`Inv` along it, hence every op sequence does.
-/
namespace AscentVerif.EqRelM
open AscentVerif.TrRel (Res unwrap alGet alSet)

def Content (c : IndCommon) (x y : Int) : Prop := rel c.combined x y ∧ ¬ rel c.old x y

structure Holds (c : IndCommon) (S : Int → Int → Prop) : Prop where
  wf : WF c.combined
  wf_old : WF c.old
  content : ∀ a b, Content c a b ↔ S a b

variable {c : IndCommon} {S : Int → Int → Prop}

theorem containsKey_spec (h : Holds c S) (x y : Int) : ∃ b, c.containsKey x y = .ok b ∧ (b = true ↔ S x y) := by
  obtain ⟨b1, h1, hb1⟩ := contains_spec h.wf x y
  obtain ⟨b2, h2, hb2⟩ := contains_spec h.wf_old x y
  unfold IndCommon.containsKey
  simp only [← h.content]
  rw [h1]
  cases b1 with
  | false =>
    refine ⟨false, rfl, ?_⟩
    simp only [Content, ← hb1]; simp
  | true =>
    simp only [h2]
    refine ⟨!b2, rfl, ?_⟩
    simp only [Content, ← hb1, ← hb2]
    cases b2 <;> simp

theorem filterAdded_spec {old : EqRel} (ho : WF old) : ∀ (l : List (Int × Int)),
    ∃ r, IndCommon.filterAdded old l = .ok r ∧ ∀ a b, (a, b) ∈ r ↔ (a, b) ∈ l ∧ ¬ rel old a b := by
  intro l
  induction l with
  | nil => exact ⟨[], rfl, fun a b => by simp⟩
  | cons p rest ih =>
    obtain ⟨x, y⟩ := p
    obtain ⟨r, hr, hmem⟩ := ih
    obtain ⟨o, ho', hob⟩ := contains_spec ho x y
    refine ⟨if o then r else (x, y) :: r, by simp only [IndCommon.filterAdded, ho', hr], fun a b => ?_⟩
    cases o with
    | true =>
      have hxy : rel old x y := hob.1 rfl
      rw [if_pos rfl, hmem, List.mem_cons]
      exact ⟨fun h => ⟨.inr h.1, h.2⟩, fun h => ⟨h.1.resolve_left fun e => h.2 (by cases e; exact hxy), h.2⟩⟩
    | false =>
      have hxy : ¬ rel old x y := fun h => nomatch hob.2 h
      rw [if_neg nofun, List.mem_cons, hmem, List.mem_cons, or_and_right]
      exact or_congr_left (and_iff_left_of_imp fun e => by cases e; exact hxy).symm

/-- `iter_all_added` (= `iter_all` of the full index and of the no-column view): exactly the content -/
theorem iterAllAdded_spec (h : Holds c S) : ∃ l, c.iterAllAdded = .ok l ∧ ∀ a b, (a, b) ∈ l ↔ S a b := by
  obtain ⟨l, hl, hmem⟩ := filterAdded_spec h.wf_old c.combined.iterAll
  refine ⟨l, hl, fun a b => ?_⟩
  rw [hmem, iterAll_spec h.wf, ← h.content]; rfl

/-- `set_of_added` (= `index_get` of view [0]): `None` iff the element is unknown, else exactly its content row -/
theorem setOfAdded_spec (hS : Holds c S) (x : Int) :
    (alGet c.combined.elemIds x = none → c.setOfAdded x = .ok none) ∧
    (alGet c.combined.elemIds x ≠ none → ∃ l, c.setOfAdded x = .ok (some l) ∧ ∀ y, y ∈ l ↔ S x y) := by
  simp only [← hS.content]
  constructor
  · intro h
    unfold IndCommon.setOfAdded; rw [setOf_none h]
  · intro h
    cases hx : alGet c.combined.elemIds x with
    | none => exact absurd hx h
    | some i =>
      obtain ⟨d, hd⟩ := root_total hS.wf hx
      obtain ⟨s, hs, hsm⟩ := setOf_some hS.wf hd
      unfold IndCommon.setOfAdded
      rw [hs]
      simp only
      cases hox : alGet c.old.elemIds x with
      | none =>
        rw [setOf_none hox]
        refine ⟨_, rfl, fun y => ?_⟩
        simp only [Option.any_none, Bool.not_false, List.mem_filter, and_true, hsm, Content]
        constructor
        · intro h'; exact ⟨h', not_rel_of_unknown (not_root_of_unknown hox) y⟩
        · exact fun h' => h'.1
      | some j =>
        obtain ⟨d', hd'⟩ := root_total hS.wf_old hox
        obtain ⟨os, hos, hosm⟩ := setOf_some hS.wf_old hd'
        rw [hos]
        refine ⟨_, rfl, fun y => ?_⟩
        simp only [Option.any_some, List.mem_filter, Bool.not_eq_true', List.contains_eq_mem, decide_eq_false_iff_not, hsm, hosm,
          Content]

/-- `iter_all` of view [0] pairs every element with its whole class in `combined` — `old` is NOT subtracted:
on delta it yields total ∪ delta (an over-approximation of the contract, harmless for set semantics) -/
theorem ind0IterAll_spec {c : IndCommon} (hc : WF c.combined) (x y : Int) :
    (∃ s, (x, s) ∈ c.ind0IterAll ∧ y ∈ s) ↔ rel c.combined x y := by
  rw [rel_iff_sets hc]
  unfold IndCommon.ind0IterAll
  simp only [List.mem_flatMap, List.mem_map, Prod.mk.injEq]
  constructor
  · rintro ⟨s, ⟨s', hs', x', hx', rfl, rfl⟩, hy⟩
    exact ⟨s', hs', hx', hy⟩
  · rintro ⟨s, hs, hx, hy⟩
    exact ⟨s, ⟨s, hs, x, hx, rfl, rfl⟩, hy⟩

/-- total holds `T`; `delta.combined` holds `D` (total ∪ delta, closed), so that delta holds `D \ T` (`Inv.delta`); `new`, a
union-find like the others, holds the closure of the pairs `N` inserted since the last merge -/
structure Inv (t : Triple) (T D N : Int → Int → Prop) : Prop where
  wf_new : WF t.new.combined
  new_old : t.new.old = {}
  wf_delta : WF t.delta.combined
  delta_old : t.delta.old = t.total.combined
  wf_total : WF t.total.combined
  total_old : t.total.old = {}
  relT : ∀ a b, rel t.total.combined a b ↔ T a b
  relD : ∀ a b, rel t.delta.combined a b ↔ D a b
  relN : ∀ a b, rel t.new.combined a b ↔ EqClosure N a b
  sub : ∀ a b, T a b → D a b

def Empty : Int → Int → Prop := fun _ _ => False

theorem Inv.delta {t : Triple} {T D N : Int → Int → Prop} (h : Inv t T D N) : Holds t.delta fun a b => D a b ∧ ¬ T a b :=
  ⟨h.wf_delta, h.delta_old ▸ h.wf_total, fun a b => by rw [Content, h.delta_old, h.relT, h.relD]⟩

theorem Inv.total {t : Triple} {T D N : Int → Int → Prop} (h : Inv t T D N) : Holds t.total T :=
  ⟨h.wf_total, h.total_old ▸ wf_empty, fun a b => by rw [Content, h.total_old, h.relT]; exact and_iff_left (rel_empty a b)⟩

inductive Op where
  | ins (x y : Int)
  | merge

def runOps : List Op → Triple → Res Triple
  | [], t => .ok t
  | .ins x y :: rest, t =>
    match t.ins x y with
    | .panic => .panic
    | .ok (t', _) => runOps rest t'
  | .merge :: rest, t =>
    match t.merge with
    | .panic => .panic
    | .ok t' => runOps rest t'

structure Spec where
  T : Int → Int → Prop
  D : Int → Int → Prop
  N : Int → Int → Prop

def Spec.step (s : Spec) : Op → Spec
  | .ins x y => { s with N := fun p q => s.N p q ∨ (p = x ∧ q = y) }
  | .merge => { T := s.D, D := EqClosure fun p q => s.D p q ∨ s.N p q, N := Empty }

def Spec.run (s : Spec) (ops : List Op) : Spec := ops.foldl Spec.step s

end AscentVerif.EqRelM
