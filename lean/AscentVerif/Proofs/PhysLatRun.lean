import AscentVerif.Proofs.PhysLatScc
import AscentVerif.Proofs.NDLattice
import AscentVerif.Props.C03
import AscentVerif.Proofs.PhysSim
/-!
# The physical engine with lattices is one execution of the nondeterministic lattice engine

One pass of `PhysLat.evalRules` is a trace of `Proofs/NDLattice.lean`: every environment the physical loop nest of a rule
variant reaches its head update with has the head rows of an environment of `Engine.evalBody` over the abstract state at
variant start (which is a state of the trace), and conversely; the head updates simulate each other, carrying the invariants of
the nondeterministic engine (`LInv` along the trace gives one row per key).  Hence one iteration of the loop (`iter_simL`) and a
non-looping SCC (`once_simL`); `Proofs/PhysLatTimeout.lean` puts them together.
-/
namespace AscentVerif.PhysLat
open AscentVerif AscentVerif.Engine AscentVerif.Index AscentVerif.Phys

variable {E B G P A : Type}

/-- what the pass needs to know about a rule (from `latPlanOk`, `LatticeProg` and the hypotheses on the rules) -/
structure RuleFitL (V : Hir.VarsOf E B) (p : Program E B G P A) (ix : IxSets) (r : Rule E B G P A) : Prop where
  desug : Hir.Desugared V r = true
  wscoped : Plan.WellScoped V r = true
  clok : ClOk p (fun r => ixOf p ix r) (Hir.compileRule V r) 0 r.body
  cll : ClL p (Hir.compileRule V r) 0 r.body
  aggFree : r.aggFree = true
  heads : ∀ h ∈ r.heads, h.args.length = arityOf p h.rel

structure SccFitL (I : Interp E B G P A) (V : Hir.VarsOf E B) (p : Program E B G P A) (ix : IxSets) (dynR : List RelId)
    (rules : List (Rule E B G P A)) : Prop where
  ext : Plan.Ext I
  supp : Plan.Supp I V
  lt : ∀ r, dynR.contains r = true → r < p.rels.length
  arity : ∀ r, isLatRel p r = true → 0 < arityOf p r
  sub : ∀ rule ∈ rules, rule ∈ p.rules
  dyn : ∀ rule ∈ rules, ∀ h ∈ rule.heads, dynR.contains h.rel = true
  fit : ∀ rule ∈ rules, RuleFitL V p ix rule

theorem headRows_eq (I : Interp E B G P A) {heads : List (HeadClause E)} {ρ ρ' : Env}
    (h : Plan.headRows I heads ρ = Plan.headRows I heads ρ') :
    ∀ hd ∈ heads, (hd.args.map fun e => I.expr e ρ) = hd.args.map fun e => I.expr e ρ' := by
  intro hd hhd
  have := List.map_inj_left.mp h hd hhd
  exact (Prod.mk.inj this).2

section Pass
variable {I : Interp E B G P A} {L : LatOrder I} {V : Hir.VarsOf E B} {p : Program E B G P A} {ix : IxSets}
  {inp : RelId → List Tuple} {dynR : List RelId} {rules : List (Rule E B G P A)}
  {t t' : List (EntryL E B G P A) × SccSt}

theorem heads_simL (hF : SccFitL I V p ix dynR rules) (heads : List (HeadClause E)) (ρ ρ' : Env)
    (hh : ∀ h ∈ heads, h.args.length = arityOf p h.rel) (hd : ∀ h ∈ heads, dynR.contains h.rel = true)
    (heq : ∀ h ∈ heads, (h.args.map fun e => I.expr e ρ) = h.args.map fun e => I.expr e ρ')
    (hbf : ∀ h ∈ heads, BelowF I L p inp (headFact I h ρ')) :
    ∀ (a : SccSt) (x : XScc), LInv I L p inp dynR a → SimL p ix a x →
      SimL p ix (heads.foldl (fun s h => Engine.headUpdate I {} p s h ρ') a)
        (heads.foldl (fun s h => headUpdate I p s h ρ) x) := by
  induction heads with
  | nil => intro a x _ h; exact h
  | cons h rest ih =>
    intro a x hinv hsim
    simp only [List.foldl_cons]
    have hstep := headUpdate_step hinv h ρ' (hd h (by simp)) (hbf h (by simp))
    refine ih (fun h' hh' => hh h' (List.mem_cons_of_mem _ hh')) (fun h' hh' => hd h' (List.mem_cons_of_mem _ hh'))
      (fun h' hh' => heq h' (List.mem_cons_of_mem _ hh')) (fun h' hh' => hbf h' (List.mem_cons_of_mem _ hh')) _ _ hstep.1 ?_
    show SimL p ix
      (if (declOf p h.rel).lat then Engine.headLat I {} a h.rel (h.args.map fun e => I.expr e ρ')
        else Engine.headRel a h.rel (h.args.map fun e => I.expr e ρ'))
      (if isLatRel p h.rel then headLat I p x h.rel (h.args.map fun e => I.expr e ρ)
        else headRel x h.rel (h.args.map fun e => I.expr e ρ))
    rw [heq h (by simp)]
    exact headUpdate_simL I hsim hinv.wf hF.lt h.rel _ (hF.arity h.rel) (by rw [List.length_map]; exact hh h (by simp))
      (hinv.keys h.rel)

variable (I p ix dynR rules) in
/-- the invariant of a pass: a trace from `a₀` whose newest state simulates the physical state -/
structure PIL (a₀ : SccSt) (t : List (EntryL E B G P A) × SccSt) (x : XScc) : Prop where
  tr : TrAt I p dynR rules t.1 t.2
  last : t.1.getLast?.map (·.st) = some a₀
  sim : SimL p ix t.2 x

def Grows (t t' : List (EntryL E B G P A) × SccSt) : Prop := t.1 <:+ t'.1 ∧ PExt t.2 t'.2

theorem foldl_grows {α : Type} (f : XScc → α → XScc) (Inv : List (EntryL E B G P A) × SccSt → XScc → Prop)
    (Done : α → List (EntryL E B G P A) × SccSt → Prop) (done_mono : ∀ a t t', Done a t → Grows t t' → Done a t') :
    ∀ (l : List α), (∀ x t a, a ∈ l → Inv t x → ∃ t', Inv t' (f x a) ∧ Grows t t' ∧ Done a t') →
      ∀ x t, Inv t x → ∃ t', Inv t' (l.foldl f x) ∧ Grows t t' ∧ ∀ a ∈ l, Done a t' :=
  foldl_trackE f Inv (fun t _ t' _ => Grows t t') (fun a t _ => Done a t) (fun _ _ => ⟨List.suffix_refl _, PExt.refl _⟩)
    (fun _ _ _ _ _ _ h₁ h₂ => ⟨h₁.1.trans h₂.1, h₁.2.trans h₂.2⟩) (fun a t _ t' _ => done_mono a t t')

/-- every instance of variant `vs` of `rule` over the stable part of the newest state (`PView t.2`: the rows that were not
re-queued) was processed somewhere in the trace, up to head facts -/
def DoneL (rule : Rule E B G P A) (vs : List (Option Ver)) (t : List (EntryL E B G P A) × SccSt) : Prop :=
  ∀ ρ, SatV I (PView t.2) rule.body vs [] ρ → ∃ e ∈ t.1, ∃ ρ', e.src = some (rule, ρ') ∧
    ∀ h ∈ rule.heads, headFact I h ρ' = headFact I h ρ

variable (I) in
theorem DoneL.mono {rule : Rule E B G P A} {vs : List (Option Ver)} (h : DoneL (I := I) rule vs t) (hsuf : t.1 <:+ t'.1)
    (hext : PExt t.2 t'.2) : DoneL (I := I) rule vs t' := by
  intro ρ hρ
  obtain ⟨e, he, ρ', hsrc, hh⟩ := h ρ (SatV.mono (fun r v t hv => PView_anti' hext hv) hρ)
  exact ⟨e, hsuf.subset he, ρ', hsrc, hh⟩

variable (hF : SccFitL I V p ix dynR rules) {a₀ : SccSt} (hinv0 : LInv I L p inp dynR a₀)
include hF hinv0

theorem PIL.invs {x : XScc} (h : PIL I p ix dynR rules a₀ t x) : ∀ s ∈ t.1.map (·.st), LInv I L p inp dynR s :=
  trace_inv rules hF.sub hF.dyn h.tr.1 a₀ h.last hinv0

/-- the environments of one variant, all read from `sr`: each is one micro-step -/
theorem envs_simL (rule : Rule E B G P A) (hrule : rule ∈ rules) (vs : List (Option Ver)) (hvs : vs ∈ variants dynR rule)
    (sr : SccSt) (envs : List Env)
    (hl : ∀ ρ ∈ envs, ∃ ρ', SatV I (Engine.viewOf {} p sr) rule.body vs [] ρ' ∧
      Plan.headRows I rule.heads ρ = Plan.headRows I rule.heads ρ') :
    ∀ (x : XScc) (t : List (EntryL E B G P A) × SccSt), (PIL I p ix dynR rules a₀ t x ∧ sr ∈ t.1.map (·.st)) →
      ∃ t', (PIL I p ix dynR rules a₀ t' (envs.foldl (fun s ρ => rule.heads.foldl (fun s h => headUpdate I p s h ρ) s) x) ∧
          sr ∈ t'.1.map (·.st)) ∧ Grows t t' ∧
        ∀ ρ ∈ envs, ∃ e ∈ t'.1, ∃ ρ'', e.src = some (rule, ρ'') ∧
          Plan.headRows I rule.heads ρ'' = Plan.headRows I rule.heads ρ := by
  refine foldl_grows _ (fun t x => PIL I p ix dynR rules a₀ t x ∧ sr ∈ t.1.map (·.st))
    (fun ρ t => ∃ e ∈ t.1, ∃ ρ'', e.src = some (rule, ρ'') ∧ Plan.headRows I rule.heads ρ'' = Plan.headRows I rule.heads ρ)
    (fun ρ t t' ⟨e, he, hsrc⟩ hg => ⟨e, hg.1.subset he, hsrc⟩) envs ?_
  intro x t ρ hρ ⟨h, hsr⟩
  obtain ⟨ρ', hsat, heq⟩ := hl ρ hρ
  have hinvs := h.invs hF hinv0
  have hbf := belowF_of_view rule (hF.sub rule hrule) vs sr (hinvs _ hsr) ρ' hsat
  refine ⟨(_, _), ⟨⟨h.tr.step rule hrule vs hvs sr hsr ρ' hsat, ?_, ?_⟩, List.mem_cons_of_mem _ hsr⟩,
    ⟨List.suffix_cons _ _, PExt_heads I p ρ' rule.heads t.2⟩, _, List.mem_cons_self, ρ', rfl, heq.symm⟩
  · obtain ⟨t1, t2⟩ := t
    cases t1 with
    | nil => cases h.last
    | cons e0 hist => exact (congrArg _ List.getLast?_cons_cons).trans h.last
  · exact heads_simL hF rule.heads ρ ρ' (hF.fit rule hrule).heads (hF.dyn rule hrule) (headRows_eq I heq) hbf t.2 x
      (hinvs _ h.tr.mem) h.sim

theorem variant_simL (rule : Rule E B G P A) (hrule : rule ∈ rules) (vs : List (Option Ver)) (hvs : vs ∈ variants dynR rule)
    (x : XScc) (t : List (EntryL E B G P A) × SccSt) (h : PIL I p ix dynR rules a₀ t x) :
    ∃ t', PIL I p ix dynR rules a₀ t' (evalVariant I V p x rule vs) ∧ Grows t t' ∧ DoneL (I := I) rule vs t' := by
  have hfit := hF.fit rule hrule
  have hinv : LInv I L p inp dynR t.2 := h.invs hF hinv0 _ h.tr.mem
  obtain ⟨hphys, habs⟩ := evalRule_envs I hF.ext V hF.supp p _ t.2 x (sim_viewsOkL p ix h.sim hinv.wf hF.arity) rule hfit.desug
    hfit.wscoped hfit.clok hfit.cll hfit.aggFree vs
  obtain ⟨t', ⟨hpil, _⟩, hg, hproc⟩ := envs_simL hF hinv0 rule hrule vs hvs
    t.2 (evalRule I p x (Hir.compileRule V rule) rule.body vs)
    (by
      intro ρ hρ
      obtain ⟨ρ', hρ', heq⟩ := hphys ρ hρ
      exact ⟨ρ', SatV_of_evalBody I {} p t.2 rule.body vs [] ρ' hfit.aggFree hρ', heq⟩)
    x t ⟨h, h.tr.mem⟩
  refine ⟨t', hpil, hg, ?_⟩
  -- an instance over the stable part of the new state is one over the state at variant start (rows only leave the stable
  -- part), so the loop nest reached an environment with its head rows, and that one was processed
  intro ρ hρ
  have hρ' : SatV I (Engine.viewOf {} p t.2) rule.body vs [] ρ :=
    SatV.mono (fun r v t hv => PView_sub_view {} p (PView_anti' hg.2 hv)) hρ
  obtain ⟨ρ₁, hρ₁, heq₁⟩ := habs ρ (evalBody_of_SatV I {} p t.2 hρ')
  obtain ⟨e, he, ρ'', hsrc, heq₂⟩ := hproc ρ₁ hρ₁
  refine ⟨e, he, ρ'', hsrc, ?_⟩
  intro hd hhd
  have := headRows_eq I (heq₂.trans heq₁) hd hhd
  simp only [headFact, this]

theorem rules_simL (x : XScc) (t : List (EntryL E B G P A) × SccSt) (h : PIL I p ix dynR rules a₀ t x) :
    ∃ t', PIL I p ix dynR rules a₀ t' (evalRules I V p dynR rules x) ∧ Grows t t' ∧
      ∀ rule ∈ rules, ∀ vs ∈ variants dynR rule, DoneL (I := I) rule vs t' := by
  -- the list folded over is generalised; the `rules` of the trace stay
  have key : ∀ l : List (Rule E B G P A), (∀ rule ∈ l, rule ∈ rules) → ∀ x t, PIL I p ix dynR rules a₀ t x →
      ∃ t', PIL I p ix dynR rules a₀ t'
          (l.foldl (fun s r => (variants dynR r).foldl (fun s vs => evalVariant I V p s r vs) s) x) ∧
        Grows t t' ∧ ∀ rule ∈ l, ∀ vs ∈ variants dynR rule, DoneL (I := I) rule vs t' := by
    intro l hl
    refine foldl_grows _ _ (fun rule t => ∀ vs ∈ variants dynR rule, DoneL (I := I) rule vs t)
      (fun rule t t' hd hg vs hvs => (hd vs hvs).mono I hg.1 hg.2) l ?_
    intro x t rule hr hinv
    exact foldl_grows (fun s vs => evalVariant I V p s rule vs) _ (fun vs t => DoneL (I := I) rule vs t)
      (fun vs t t' hd hg => hd.mono I hg.1 hg.2) (variants dynR rule)
      (fun x t vs hvs hinv => variant_simL hF hinv0 rule (hl rule hr) vs hvs x t hinv) x t hinv
  exact key rules (fun _ h => h) x t h

omit hinv0

theorem pass_simL (a : SccSt) (x : XScc) (hinv : LInv I L p inp dynR { a with changed := false }) (hsim : SimL p ix a x) :
    ∃ a1, PassNDL I p dynR rules a a1 ∧ SimL p ix a1 (evalRules I V p dynR rules { x with changed := false }) := by
  have h0 : PIL I p ix dynR rules { a with changed := false }
      ([{ st := { a with changed := false }, src := none }], { a with changed := false }) { x with changed := false } :=
    ⟨⟨TraceL.start _, rfl⟩, rfl, reset_simL hsim⟩
  obtain ⟨t', h1, _, hdone⟩ := rules_simL hF hinv _ _ h0
  exact ⟨t'.2, ⟨t'.1, h1.tr.1, h1.tr.2, h1.last, hdone⟩, h1.sim⟩

theorem iter_simL {a : SccSt} {x : XScc} (hinv : LInv I L p inp dynR a) (hsim : SimL p ix a x) :
    ∃ a1, PassNDL I p dynR rules a a1 ∧ a1.changed = (evalRules I V p dynR rules { x with changed := false }).changed ∧
      SimL p ix (Engine.shift a1) (shift (evalRules I V p dynR rules { x with changed := false })) ∧
      LInv I L p inp dynR (Engine.shift a1) ∧ DBLe I L p (FactsS a) (FactsS (Engine.shift a1)) := by
  obtain ⟨a1, hpass, hsim1⟩ := pass_simL hF a x (LInv_reset hinv) hsim
  obtain ⟨hinv1, hext, _⟩ := passNDL_spec rules hF.sub hF.dyn a a1 (LInv_reset hinv) hpass
  exact ⟨a1, hpass, hsim1.changed, shift_simL hsim1 hinv1.wf hinv1.keys, LInv_shift hinv1, hext.dble⟩

/-- a non-looping SCC: one pass and two merges -/
theorem once_simL {a : SccSt} {x : XScc} (hinv : LInv I L p inp dynR a) (hsim : SimL p ix a x) :
    ∃ a1, PassNDL I p dynR rules a a1 ∧
      SimL p ix (Engine.shift (Engine.shift a1)) (shift (shift (evalRules I V p dynR rules { x with changed := false }))) ∧
      LInv I L p inp dynR (Engine.shift (Engine.shift a1)) ∧
      DBLe I L p (FactsS a) (FactsS (Engine.shift (Engine.shift a1))) := by
  obtain ⟨a1, hpass, _, hshift, hinv', hle⟩ := iter_simL hF hinv hsim
  exact ⟨a1, hpass, shift_simL hshift hinv'.wf hinv'.keys, LInv_shift hinv', hle⟩

end Pass

theorem clL_of_latPlanOk (V : Hir.VarsOf E B) (p : Program E B G P A) (r : Rule E B G P A)
    (h : ((List.range r.body.length).all fun i =>
      match r.body[i]? with
      | some (.clause rel _ _) => !isLatRel p rel || (Plan.colsAt (Hir.compileRule V r) i).all (· < arityOf p rel - 1)
      | _ => true) = true) : ClL p (Hir.compileRule V r) 0 r.body := by
  intro k it hk
  rw [Nat.zero_add]
  have ⟨hlt, _⟩ := List.getElem?_eq_some_iff.mp hk
  have hk' := List.all_eq_true.mp h k (List.mem_range.mpr hlt)
  rw [hk] at hk'
  cases it with
  | clause rel args conds =>
    intro hl c hc
    simp only [hl, Bool.not_true, Bool.false_or, List.all_eq_true, decide_eq_true_eq] at hk'
    exact hk' c hc
  | cond c => trivial
  | gen v g => trivial
  | agg a => trivial

theorem ruleFitL_of_latPlanOk (V : Hir.VarsOf E B) (p : Program E B G P A) (ix : IxSets) (hp : LatticeProg p)
    (hplan : latPlanOk V p ix = true)
    (hd : ∀ r ∈ p.rules, Hir.Desugared V r = true ∧ Plan.WellScoped V r = true) :
    ∀ r ∈ p.rules, RuleFitL V p ix r := by
  intro r hr
  simp only [latPlanOk, Bool.and_eq_true] at hplan
  obtain ⟨⟨h1, h2⟩, _⟩ := hplan
  have h := List.all_eq_true.mp h1 r hr
  simp only [Bool.and_eq_true] at h
  have h2' := List.all_eq_true.mp h2 r hr
  refine ⟨(hd r hr).1, (hd r hr).2, clOk_of_ruleOk V p _ r h.1, clL_of_latPlanOk V p r h2', hp.1 r hr, ?_⟩
  intro hc hhc
  simpa using List.all_eq_true.mp h.2 hc hhc

theorem arity_pos_of_latPlanOk (V : Hir.VarsOf E B) (p : Program E B G P A) (ix : IxSets)
    (hplan : latPlanOk V p ix = true) : ∀ r, isLatRel p r = true → 0 < arityOf p r := by
  intro r hl
  simp only [latPlanOk, Bool.and_eq_true] at hplan
  have := List.all_eq_true.mp hplan.2 r (List.mem_range.mpr (lat_lt p hl))
  simpa [hl] using this

structure ProgFitL (I : Interp E B G P A) (V : Hir.VarsOf E B) (p : Program E B G P A) (ix : IxSets) : Prop where
  ext : Plan.Ext I
  supp : Plan.Supp I V
  prog : LatticeProg p
  arity : ∀ r, isLatRel p r = true → 0 < arityOf p r
  fit : ∀ r ∈ p.rules, RuleFitL V p ix r

theorem progFitL_of_latPlanOk {I : Interp E B G P A} {V : Hir.VarsOf E B} {p : Program E B G P A} {ix : IxSets}
    (hI : Plan.Ext I) (hS : Plan.Supp I V) (hp : LatticeProg p) (hplan : latPlanOk V p ix = true)
    (hd : ∀ r ∈ p.rules, Hir.Desugared V r = true ∧ Plan.WellScoped V r = true) : ProgFitL I V p ix :=
  ⟨hI, hS, hp, arity_pos_of_latPlanOk V p ix hplan, ruleFitL_of_latPlanOk V p ix hp hplan hd⟩

section Run
variable {I : Interp E B G P A} {L : LatOrder I} {V : Hir.VarsOf E B} {p : Program E B G P A} {ix : IxSets}
  {inp : RelId → List Tuple} (hP : ProgFitL I V p ix)
include hP

theorem ProgFitL.scc (scc : List Nat) : SccFitL I V p ix (dynRels p scc) (sccRules p scc) :=
  ⟨hP.ext, hP.supp, dynRels_lt p hP.prog.2.1 scc, hP.arity, sccRules_sub p scc, dynRels_heads p scc,
    fun r hr => hP.fit r (sccRules_sub p scc r hr)⟩

theorem enter_inv_simL (scc : List Nat) {st : St} {xst : XSt} (hinv : LPInv I L p inp st) (hs : SimStL p ix st xst) :
    LInv I L p inp (dynRels p scc) (Engine.enterScc st (dynRels p scc)) ∧
    SimL p ix (Engine.enterScc st (dynRels p scc)) (enterScc xst (dynRels p scc)) :=
  ⟨LInvT_tgt.mp (hinv.enter (dynRels p scc) (hP.scc scc).lt),
    enter_simL hs _ (fun r hr => by rw [hinv.len]; exact (hP.scc scc).lt r (List.contains_iff_mem.mpr hr))⟩

omit hP in
theorem leave_simL' {dynR : List RelId} {a : SccSt} {x : XScc} (hsim : SimL p ix a x) (hinv : LInv I L p inp dynR a) :
    SimStL p ix (Engine.leaveScc a) (leaveScc x) :=
  leave_simL hsim fun d hd => dyn_lt hinv.wf hinv.dlt (hinv.wf.uniq d hd)

end Run

end AscentVerif.PhysLat
