import AscentVerif.Model.TrRelInd
/-!
# The contract of the binary `trrel` provider as a transition system on sets

`Spec` holds three sets of pairs (`N`, `D`, `T` for new, delta, total); `Op` is what generated code does with the provider
(guarded head update, merge) and `Spec.step` what the contract says it does to the sets, with `DeltaSpec` the delta a merge
must produce.  `St` is the model's triple driven by the same `Op`s and `Sim` the relation between the two
(Proofs/TrRelIndRun.lean proves it of every reachable state, Props/C11Provider.lean states it).  `SpecInv` is what the merge
proof needs of the sets (Proofs/TrRelIndMerge.lean); `InsInv` relates them to the pairs ever inserted (`spec_after_merge` of
Props/C11Provider.lean).
-/
namespace AscentVerif.TrRelInd

inductive Reach (R : Int → Int → Prop) : Int → Int → Prop where
  | one {x y : Int} : R x y → Reach R x y
  | cons {x y z : Int} : R x y → Reach R y z → Reach R x z

def Common.Has (c : Common) (x y : Int) : Prop := c.containsKey x y = true

/-- the delta a merge must produce from `T = total ∪ delta` and the freshly inserted `N` (anti-reflexive reading) -/
def DeltaSpec (T N : Int → Int → Prop) (x y : Int) : Prop :=
  (N x y ∨ (x ≠ y ∧ Reach (fun a b => T a b ∨ N a b) x y)) ∧ ¬ T x y

structure Spec where
  N : Int → Int → Prop
  D : Int → Int → Prop
  T : Int → Int → Prop

def Spec.init : Spec := ⟨fun _ _ => False, fun _ _ => False, fun _ _ => False⟩

inductive Op where
  | add (x y : Int)      -- head update: skipped if total or delta has the pair, else insert_if_not_present(new)
  | merge                -- merge_delta_to_total_new_to_delta

def Spec.step (a : Spec) : Op → Spec
  | .add x y => { a with N := fun p q => a.N p q ∨ (p = x ∧ q = y ∧ ¬ a.T x y ∧ ¬ a.D x y) }
  | .merge => { N := fun _ _ => False,
                T := fun p q => a.T p q ∨ a.D p q,
                D := DeltaSpec (fun p q => a.T p q ∨ a.D p q) a.N }

def Spec.run (a : Spec) : List Op → Spec
  | [] => a
  | o :: rest => Spec.run (a.step o) rest

structure St where
  nw : Common
  dl : Common
  tt : Common

/-- stratum entry of a fresh program value: three `Default`s, then `init` -/
def St.init : Res St :=
  match Common.init Common.default Common.default Common.default with
  | .ok (n, d, t) => .ok ⟨n, d, t⟩
  | .panic => .panic

def St.step (s : St) : Op → Res St
  | .add x y =>
    if s.tt.containsKey x y || s.dl.containsKey x y then .ok s
    else match s.nw.insertIfNotPresent x y with
      | .ok (n', _) => .ok { s with nw := n' }
      | .panic => .panic
  | .merge =>
    match Common.merge s.nw s.dl s.tt with
    | .ok (n, d, t) => .ok ⟨n, d, t⟩
    | .panic => .panic

def St.run (s : St) : List Op → Res St
  | [] => .ok s
  | o :: rest =>
    match s.step o with
    | .ok s' => St.run s' rest
    | .panic => .panic

def Sim (s : St) (a : Spec) : Prop :=
  (∀ x y, s.nw.Has x y ↔ a.N x y) ∧ (∀ x y, s.dl.Has x y ↔ a.D x y) ∧ (∀ x y, s.tt.Has x y ↔ a.T x y)

section
variable {R S : Int → Int → Prop}

theorem Reach.mono (h : ∀ a b, R a b → S a b) {x y : Int} (r : Reach R x y) : Reach S x y := by
  induction r with
  | one h1 => exact .one (h _ _ h1)
  | cons h1 _ ih => exact .cons (h _ _ h1) ih

theorem Reach.trans {x y z : Int} (r1 : Reach R x y) (r2 : Reach R y z) : Reach R x z := by
  induction r1 with
  | one h1 => exact .cons h1 r2
  | cons h1 _ ih => exact .cons h1 (ih r2)

theorem Reach.snoc {x y z : Int} (r1 : Reach R x y) (h : R y z) : Reach R x z :=
  r1.trans (.one h)

theorem Reach.flatten (h : ∀ a b, R a b → S a b ∨ Reach S a b) {x y : Int}
    (r : Reach R x y) : Reach S x y := by
  induction r with
  | one h1 =>
    rcases h _ _ h1 with h2 | h2
    · exact .one h2
    · exact h2
  | cons h1 _ ih =>
    rcases h _ _ h1 with h2 | h2
    · exact .cons h2 ih
    · exact h2.trans ih

private theorem Reach.snoc_aux {P : Int → Int → Prop}
    (h2 : ∀ x y z, Reach R x y → P x y → R y z → P x z) {y z : Int} (r : Reach R y z) :
    ∀ x, Reach R x y → P x y → P x z := by
  induction r with
  | one h1 => intro x rx px; exact h2 _ _ _ rx px h1
  | cons h1 _ ih => intro x rx px; exact ih x (rx.snoc h1) (h2 _ _ _ rx px h1)

theorem Reach.snoc_induction {P : Int → Int → Prop} (h1 : ∀ x y, R x y → P x y)
    (h2 : ∀ x y z, Reach R x y → P x y → R y z → P x z) {x y : Int} (r : Reach R x y) : P x y := by
  cases r with
  | one h => exact h1 _ _ h
  | cons h r' => exact Reach.snoc_aux h2 r' x (.one h) (h1 _ _ h)

end

theorem Spec.run_append (a : Spec) (l1 l2 : List Op) : a.run (l1 ++ l2) = (a.run l1).run l2 := by
  induction l1 generalizing a with
  | nil => rfl
  | cons o rest ih => exact ih _

structure SpecInv (a : Spec) : Prop where
  closed : ∀ x y z, (a.T x y ∨ a.D x y) → (a.T y z ∨ a.D y z) → x ≠ z → (a.T x z ∨ a.D x z)
  disjDT : ∀ x y, a.D x y → ¬ a.T x y
  disjN : ∀ x y, a.N x y → ¬ a.T x y ∧ ¬ a.D x y

theorem SpecInv.init : SpecInv Spec.init :=
  ⟨fun _ _ _ h => (by cases h <;> contradiction), fun _ _ h => (by cases h), fun _ _ h => (by cases h)⟩

theorem deltaSpec_reach {T N : Int → Int → Prop} {x y : Int} (h : T x y ∨ DeltaSpec T N x y) :
    Reach (fun a b => T a b ∨ N a b) x y := by
  rcases h with h | ⟨h | h, _⟩
  · exact .one (Or.inl h)
  · exact .one (Or.inr h)
  · exact h.2

theorem SpecInv.step {a : Spec} (h : SpecInv a) (o : Op) : SpecInv (a.step o) := by
  cases o with
  | add x y =>
    refine ⟨h.closed, h.disjDT, ?_⟩
    intro p q hn
    rcases hn with hn | ⟨rfl, rfl, h1, h2⟩
    · exact h.disjN _ _ hn
    · exact ⟨h1, h2⟩
  | merge =>
    refine ⟨?_, ?_, ?_⟩
    · intro x y z h1 h2 hne
      have r : Reach (fun p q => (a.T p q ∨ a.D p q) ∨ a.N p q) x z := (deltaSpec_reach h1).trans (deltaSpec_reach h2)
      by_cases ht : a.T x z ∨ a.D x z
      · exact Or.inl ht
      · exact Or.inr ⟨Or.inr ⟨hne, r⟩, ht⟩
    · intro x y hd; exact hd.2
    · intro x y hn; cases hn

theorem SpecInv.run {a : Spec} (h : SpecInv a) (ops : List Op) : SpecInv (a.run ops) := by
  induction ops generalizing a with
  | nil => exact h
  | cons o rest ih => exact ih (h.step o)

def Op.ins : Op → Int → Int → Prop
  | .add x y, p, q => p = x ∧ q = y
  | .merge, _, _ => False

/-- `I` = pairs inserted so far -/
structure InsInv (a : Spec) (I : Int → Int → Prop) : Prop where
  sound : ∀ x y, (a.N x y ∨ a.D x y ∨ a.T x y) → (I x y ∨ (x ≠ y ∧ Reach I x y))
  compl : ∀ x y, I x y → (a.N x y ∨ a.D x y ∨ a.T x y)

theorem InsInv.init : InsInv Spec.init (fun _ _ => False) :=
  ⟨fun _ _ h => (by rcases h with h | h | h <;> cases h), fun _ _ h => (by cases h)⟩

variable {a : Spec} {I : Int → Int → Prop}

theorem InsInv.reach (h : InsInv a I) {x y : Int}
    (r : Reach (fun p q => (a.T p q ∨ a.D p q) ∨ a.N p q) x y) : Reach I x y := by
  refine Reach.flatten (fun p q hpq => ?_) r
  have := h.sound p q
  grind

theorem InsInv.step (h : InsInv a I) (o : Op) :
    InsInv (a.step o) (fun p q => I p q ∨ o.ins p q) := by
  have lift : ∀ x y, (I x y ∨ (x ≠ y ∧ Reach I x y)) →
      ((I x y ∨ o.ins x y) ∨ (x ≠ y ∧ Reach (fun p q => I p q ∨ o.ins p q) x y)) := fun x y hh =>
    hh.imp .inl (.imp_right (Reach.mono fun _ _ => .inl))
  cases o with
  | add x y =>
    constructor
    · intro p q hh
      rcases hh with (hn | ⟨rfl, rfl, _⟩) | hh
      · exact lift _ _ (h.sound _ _ (Or.inl hn))
      · exact Or.inl (Or.inr ⟨rfl, rfl⟩)
      · exact lift _ _ (h.sound _ _ (Or.inr hh))
    · intro p q hh
      rcases hh with hh | ⟨rfl, rfl⟩
      · rcases h.compl _ _ hh with h1 | h1
        · exact Or.inl (Or.inl h1)
        · exact Or.inr h1
      · by_cases ht : a.T p q
        · exact Or.inr (Or.inr ht)
        · by_cases hd : a.D p q
          · exact Or.inr (Or.inl hd)
          · exact Or.inl (Or.inr ⟨rfl, rfl, ht, hd⟩)
  | merge =>
    constructor
    · intro p q hh
      apply lift
      rcases hh with hn | hd | ht
      · cases hn
      · rcases hd with ⟨hd | hd, _⟩
        · exact h.sound _ _ (Or.inl hd)
        · exact Or.inr ⟨hd.1, h.reach hd.2⟩
      · rcases ht with ht | ht
        · exact h.sound _ _ (Or.inr (Or.inr ht))
        · exact h.sound _ _ (Or.inr (Or.inl ht))
    · intro p q hh
      rcases hh with hh | hh
      · by_cases ht : a.T p q ∨ a.D p q
        · exact Or.inr (Or.inr ht)
        · rcases h.compl _ _ hh with h1 | h1 | h1
          · exact Or.inr (Or.inl ⟨Or.inl h1, ht⟩)
          · exact absurd (Or.inr h1) ht
          · exact absurd (Or.inl h1) ht
      · cases hh

theorem InsInv.after_merge (h : InsInv a I) (x y : Int) :
    (((a.step .merge).T x y ∨ (a.step .merge).D x y) ↔ (I x y ∨ (x ≠ y ∧ Reach I x y))) := by
  have hr : Reach I x y ↔ Reach (fun p q => (a.T p q ∨ a.D p q) ∨ a.N p q) x y :=
    ⟨Reach.mono fun p q hpq => by have := h.compl p q hpq; grind, h.reach⟩
  have := h.sound x y
  have := h.compl x y
  simp only [Spec.step, DeltaSpec, hr]
  grind

end AscentVerif.TrRelInd
