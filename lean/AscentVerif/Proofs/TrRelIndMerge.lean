import AscentVerif.Proofs.TrRelIndMaps
import AscentVerif.Proofs.TrRelIndSpec
/-!
# The merge of `TrRelIndCommon` computes `DeltaSpec`

Two layers.  On lists: `joinInto_spec` and `loopStep_spec` say which pairs a pass of the loop puts into the maps, and that
well-formedness (`RelWF`, `LoopWF`) is kept.  On sets: `LoopInv` — `dd` is the frontier found by the last pass, `dt` holds the
pairs already joined with `total` on the left and with `total ∪ new` on the right (`procL`, `procR`) — is kept by a pass
(`LoopInv.step`), and once the frontier is empty `dt` is exactly `DeltaSpec`, provided `T` is closed under composition for
distinct end points (`LoopInv.final`, by induction from the right end of a chain).  `merge_spec` puts the two together.
-/
namespace AscentVerif.TrRelInd
namespace Common

theorem mem_joinCands {r1 r2 : SetMap} (hk : KeysNodup r1) {w y : Int} :
    (w, y) ∈ joinCands r1 r2 ↔ ∃ x, smHas r1 x y = true ∧ smHas r2 x w = true := by
  simp only [joinCands, List.mem_flatMap, smHas_iff]
  constructor
  · rintro ⟨⟨x, s⟩, hm, hin⟩
    cases hg : smGet r2 x with
    | none => simp [hg] at hin
    | some ws =>
      simp only [hg, List.mem_flatMap, List.mem_map, Prod.mk.injEq] at hin
      obtain ⟨w', hw', y', hy', rfl, rfl⟩ := hin
      exact ⟨x, ⟨s, smGet_of_mem hk hm, hy'⟩, ws, hg, hw'⟩
  · rintro ⟨x, ⟨s, hs, hy⟩, ws, hg, hw⟩
    refine ⟨(x, s), smGet_mem hs, ?_⟩
    simp only [hg, List.mem_flatMap, List.mem_map, Prod.mk.injEq]
    exact ⟨w, hw, y, hy, rfl, rfl⟩

def TgtWF (t : Tgt) : Prop :=
  RelWF { map := t.map, rev := t.rev } ∧ (t.changed = false → t.map = [] ∧ t.rev = [])

theorem TgtWF.empty : TgtWF {} := ⟨RelWF.empty, fun _ => ⟨rfl, rfl⟩⟩

theorem joinInto_nil (can : Int → Int → Bool) (t : Tgt) : joinInto can t [] = t := rfl

/-- one candidate: `if can_add(w, y) && entry.insert(y) { … }` -/
def joinStep (can : Int → Int → Bool) (t : Tgt) (p : Int × Int) : Tgt :=
  if can p.1 p.2 && !smHas t.map p.1 p.2 then
    { map := smPush t.map p.1 p.2, rev := smPush t.rev p.2 p.1, changed := true } else t

theorem joinStep_spec (can : Int → Int → Bool) (t : Tgt) (ht : TgtWF t) (p : Int × Int) :
    TgtWF (joinStep can t p) ∧
    ∀ a b, smHas (joinStep can t p).map a b = true ↔ (smHas t.map a b = true ∨ ((a, b) = p ∧ can a b = true)) := by
  obtain ⟨p1, p2⟩ := p
  unfold joinStep
  split
  · rename_i hc
    rw [Bool.and_eq_true, Bool.not_eq_true'] at hc
    refine ⟨⟨ht.1.push hc.2, nofun⟩, fun a b => ?_⟩
    rw [smHas_smPush, Prod.mk.injEq]
    exact or_congr_right ⟨fun h => ⟨h, h.1 ▸ h.2 ▸ hc.1⟩, fun h => h.1⟩
  · rename_i hc
    refine ⟨ht, fun a b => ⟨.inl, fun h => h.elim id ?_⟩⟩
    -- an admissible candidate that is not added is there already
    rintro ⟨e, hcan⟩
    cases e
    cases hh : smHas t.map p1 p2 with
    | true => rfl
    | false => exact absurd (by rw [hcan, hh]; rfl) hc

theorem joinInto_spec (can : Int → Int → Bool) (cs : List (Int × Int)) (t : Tgt) (ht : TgtWF t) :
    TgtWF (joinInto can t cs) ∧
    ∀ a b, smHas (joinInto can t cs).map a b = true ↔ (smHas t.map a b = true ∨ ((a, b) ∈ cs ∧ can a b = true)) := by
  induction cs generalizing t with
  | nil => simp [joinInto_nil, ht]
  | cons p rest ih =>
    obtain ⟨h1, h2⟩ := joinStep_spec can t ht p
    obtain ⟨h3, h4⟩ := ih (joinStep can t p) h1
    refine ⟨h3, fun a b => ?_⟩
    rw [show joinInto can t (p :: rest) = joinInto can (joinStep can t p) rest from rfl, h4, h2, List.mem_cons,
      or_and_right, or_assoc]

structure LoopWF (s : Loop) : Prop where
  dd : RelWF { map := s.ddMap, rev := s.ddRev }
  dt : RelWF { map := s.dtMap, rev := s.dtRev }
  disj : ∀ a b, smHas s.ddMap a b = true → smHas s.dtMap a b = false

/-- the candidates of the three joins of a pass -/
def Cand (tot : BinaryRel) (newMap : SetMap) (s : Loop) (a b : Int) : Prop :=
  (∃ x, smHas s.ddMap x b = true ∧ smHas tot.map a x = true) ∨
  (∃ x, (smHas tot.map x b = true ∨ smHas newMap x b = true) ∧ smHas s.ddMap a x = true)

theorem loopStep_spec (tot : BinaryRel) (newMap : SetMap) (s : Loop) (htot : RelWF tot) (hnew : KeysNodup newMap)
    (hs : LoopWF s) :
    LoopWF (loopStep true tot newMap s).1 ∧
    (∀ a b, smHas (loopStep true tot newMap s).1.dtMap a b = true ↔ (smHas s.dtMap a b = true ∨ smHas s.ddMap a b = true)) ∧
    (∀ a b, smHas (loopStep true tot newMap s).1.ddMap a b = true ↔ (Cand tot newMap s a b ∧ canAdd true tot s a b = true)) ∧
    ((loopStep true tot newMap s).2 = false → (loopStep true tot newMap s).1.ddMap = []) := by
  have e1 := joinInto_spec (canAdd true tot s) (joinCands s.ddMap tot.rev) {} TgtWF.empty
  have e2 := joinInto_spec (canAdd true tot s) (joinCands tot.map s.ddRev) _ e1.1
  have e3 := joinInto_spec (canAdd true tot s) (joinCands newMap s.ddRev) _ e2.1
  have hdt : ∀ a b, smHas (smAppend s.dtMap s.ddMap) a b = true ↔ (smHas s.dtMap a b = true ∨ smHas s.ddMap a b = true) :=
    fun a b => smHas_smAppend hs.dd.km a b
  have hdd : ∀ a b, smHas (loopStep true tot newMap s).1.ddMap a b = true ↔
      (Cand tot newMap s a b ∧ canAdd true tot s a b = true) := by
    intro a b
    show smHas (joinInto _ _ _).map a b = true ↔ _
    rw [e3.2, e2.2, e1.2, mem_joinCands hs.dd.km, mem_joinCands htot.km, mem_joinCands hnew]
    simp only [smHas_nil, Cand, htot.mir, hs.dd.mir, Bool.false_eq_true, false_or, ← or_and_right, ← exists_or, or_assoc]
  refine ⟨⟨e3.1.1, ?_, ?_⟩, hdt, hdd, fun hch => (e3.1.2 hch).1⟩
  · exact RelWF.append hs.dt hs.dd hs.disj
  · intro a b hab
    have hc := ((hdd a b).mp hab).2
    show smHas (smAppend s.dtMap s.ddMap) a b = false
    rw [smHas_false_iff, hdt]
    simp only [canAdd, Bool.and_eq_true, Bool.not_eq_true'] at hc
    rintro (h | h)
    · rw [hc.1.2] at h; cases h
    · rw [hc.1.1.2] at h; cases h

structure LoopInv (T N dd dt : Int → Int → Prop) : Prop where
  sound : ∀ x y, dd x y ∨ dt x y → (N x y ∨ (x ≠ y ∧ Reach (fun a b => T a b ∨ N a b) x y)) ∧ ¬ T x y
  nsub : ∀ x y, N x y → dd x y ∨ dt x y
  procL : ∀ x y w, dt x y → T w x → w ≠ y → T w y ∨ dt w y ∨ dd w y
  procR : ∀ x y z, dt x y → T y z ∨ N y z → x ≠ z → T x z ∨ dt x z ∨ dd x z

variable {T N dd dt : Int → Int → Prop}

theorem LoopInv.start (hdis : ∀ x y, N x y → ¬ T x y) :
    LoopInv T N N (fun _ _ => False) :=
  ⟨fun _ _ h => h.elim (fun h => ⟨.inl h, hdis _ _ h⟩) False.elim, fun _ _ h => .inl h, fun _ _ _ => False.elim,
    fun _ _ _ => False.elim⟩

theorem LoopInv.reach (h : LoopInv T N dd dt) {x y : Int} (hh : dd x y ∨ dt x y) :
    Reach (fun a b => T a b ∨ N a b) x y := by
  rcases (h.sound x y hh).1 with h1 | h1
  · exact .one (Or.inr h1)
  · exact h1.2

theorem LoopInv.step {dd' dt' : Int → Int → Prop} (h : LoopInv T N dd dt)
    (hdt : ∀ a b, dt' a b ↔ (dt a b ∨ dd a b))
    (hdd : ∀ a b, dd' a b ↔ (((∃ x, dd x b ∧ T a x) ∨ (∃ x, (T x b ∨ N x b) ∧ dd a x)) ∧
      (a ≠ b ∧ ¬ dd a b ∧ ¬ dt a b ∧ ¬ T a b))) :
    LoopInv T N dd' dt' := by
  have key : ∀ a b, ((∃ x, dd x b ∧ T a x) ∨ (∃ x, (T x b ∨ N x b) ∧ dd a x)) → a ≠ b →
      T a b ∨ dt' a b ∨ dd' a b := by
    intro a b hc hne
    by_cases ht : T a b
    · exact Or.inl ht
    · by_cases h1 : dd a b
      · exact Or.inr (Or.inl ((hdt a b).mpr (Or.inr h1)))
      · by_cases h2 : dt a b
        · exact Or.inr (Or.inl ((hdt a b).mpr (Or.inl h2)))
        · exact Or.inr (Or.inr ((hdd a b).mpr ⟨hc, hne, h1, h2, ht⟩))
  have old : ∀ a b, T a b ∨ dt a b ∨ dd a b → T a b ∨ dt' a b ∨ dd' a b := by
    intro a b hh
    rcases hh with hh | hh | hh
    · exact Or.inl hh
    · exact Or.inr (Or.inl ((hdt a b).mpr (Or.inl hh)))
    · exact Or.inr (Or.inl ((hdt a b).mpr (Or.inr hh)))
  constructor
  · intro x y hh
    rcases hh with hh | hh
    · obtain ⟨hc, hne, _, _, hnt⟩ := (hdd x y).mp hh
      refine ⟨Or.inr ⟨hne, ?_⟩, hnt⟩
      rcases hc with ⟨v, h1, h2⟩ | ⟨v, h1, h2⟩
      · exact .cons (Or.inl h2) (h.reach (Or.inl h1))
      · exact (h.reach (Or.inl h2)).snoc h1
    · rcases (hdt x y).mp hh with hh | hh
      · exact h.sound x y (Or.inr hh)
      · exact h.sound x y (Or.inl hh)
  · intro x y hn
    rcases h.nsub x y hn with hh | hh
    · exact Or.inr ((hdt x y).mpr (Or.inr hh))
    · exact Or.inr ((hdt x y).mpr (Or.inl hh))
  · intro x y w hxy hw hne
    rcases (hdt x y).mp hxy with hh | hh
    · exact old _ _ (h.procL x y w hh hw hne)
    · exact key w y (Or.inl ⟨x, hh, hw⟩) hne
  · intro x y z hxy hz hne
    rcases (hdt x y).mp hxy with hh | hh
    · exact old _ _ (h.procR x y z hh hz hne)
    · exact key x z (Or.inr ⟨y, hz, hh⟩) hne

theorem LoopInv.final (h : LoopInv T N dd dt) (hdd : ∀ x y, ¬ dd x y)
    (hcl : ∀ x y z, T x y → T y z → x ≠ z → T x z) (x y : Int) : dt x y ↔ DeltaSpec T N x y := by
  constructor
  · intro hh; exact h.sound x y (Or.inr hh)
  · rintro ⟨hh, hnt⟩
    have nd : ∀ a b, N a b → dt a b := by
      intro a b hn
      rcases h.nsub a b hn with h1 | h1
      · exact absurd h1 (hdd a b)
      · exact h1
    have fin : ∀ a b, T a b ∨ dt a b ∨ dd a b → T a b ∨ dt a b := by
      intro a b h1
      rcases h1 with h1 | h1 | h1
      · exact Or.inl h1
      · exact Or.inr h1
      · exact absurd h1 (hdd a b)
    rcases hh with hh | ⟨hne, hr⟩
    · exact nd _ _ hh
    · have base : ∀ a b, (T a b ∨ N a b) → T a b ∨ dt a b := by
        intro a b hab
        rcases hab with hab | hab
        · exact Or.inl hab
        · exact Or.inr (nd _ _ hab)
      have : x ≠ y → T x y ∨ dt x y := by
        refine Reach.snoc_induction (R := fun a b => T a b ∨ N a b) (P := fun a b => a ≠ b → T a b ∨ dt a b)
          (fun a b hab _ => base a b hab) ?_ hr
        intro a v b _ ih hvb hab
        by_cases hav : a = v
        · subst hav; exact base _ _ hvb
        · rcases ih hav with h1 | h1
          · rcases hvb with h2 | h2
            · exact Or.inl (hcl _ _ _ h1 h2 hab)
            · exact fin _ _ (h.procL v b a (nd _ _ h2) h1 hab)
          · exact fin _ _ (h.procR a v b h1 hvb hab)
      rcases this hne with h1 | h1
      · exact absurd h1 hnt
      · exact h1

theorem loopRun_exit {P : Loop → Prop} {tot : BinaryRel} {newMap : SetMap}
    (hstep : ∀ s, P s → P (loopStep true tot newMap s).1) :
    ∀ (fuel : Nat) (s s' : Loop), P s → loopRun true tot newMap fuel s = .ok s' →
      ∃ s0, P s0 ∧ (loopStep true tot newMap s0).1 = s' ∧ (loopStep true tot newMap s0).2 = false := by
  intro fuel
  induction fuel with
  | zero => intro s s' _ h; simp [loopRun] at h
  | succ n ih =>
    intro s s' hp h
    simp only [loopRun] at h
    split at h
    · exact ih _ _ (hstep s hp) h
    · rename_i hc
      cases h
      exact ⟨s, hp, rfl, by simpa using hc⟩

def LoopOK (tot : BinaryRel) (newMap : SetMap) (s : Loop) : Prop :=
  LoopWF s ∧ LoopInv (fun a b => smHas tot.map a b = true) (fun a b => smHas newMap a b = true)
    (fun a b => smHas s.ddMap a b = true) (fun a b => smHas s.dtMap a b = true)

theorem LoopOK.step {tot : BinaryRel} {newMap : SetMap} (htot : RelWF tot) (hnew : KeysNodup newMap) (s : Loop)
    (h : LoopOK tot newMap s) : LoopOK tot newMap (loopStep true tot newMap s).1 := by
  obtain ⟨h1, h2, h3, _⟩ := loopStep_spec tot newMap s htot hnew h.1
  refine ⟨h1, h.2.step h2 ?_⟩
  intro a b
  rw [h3 a b]
  simp only [Cand, canAdd, Bool.true_and, Bool.and_eq_true, Bool.not_eq_true', beq_eq_false_iff_ne, ne_eq,
    smHas_false_iff, and_assoc]

theorem DeltaSpec.congr {T T' N N' : Int → Int → Prop} (hT : ∀ a b, T a b ↔ T' a b) (hN : ∀ a b, N a b ↔ N' a b)
    (x y : Int) : DeltaSpec T N x y ↔ DeltaSpec T' N' x y := by
  have hT' : T = T' := funext fun a => funext fun b => propext (hT a b)
  have hN' : N = N' := funext fun a => funext fun b => propext (hN a b)
  rw [hT', hN']

theorem merge_spec {rn rd rt : BinaryRel} {n d t : Common} {sp : Spec} (hinv : SpecInv sp)
    (hn : RelWF rn) (hd : RelWF rd) (ht : RelWF rt)
    (sN : ∀ x y, smHas rn.map x y = true ↔ sp.N x y) (sD : ∀ x y, smHas rd.map x y = true ↔ sp.D x y)
    (sT : ∀ x y, smHas rt.map x y = true ↔ sp.T x y)
    (hm : Common.merge (.new rn true) (.old rd true) (.old rt true) = .ok (n, d, t)) :
    ∃ rd' rt', n = .new {} true ∧ d = .old rd' true ∧ t = .old rt' true ∧ RelWF rd' ∧ RelWF rt' ∧
      (∀ a b, smHas rt'.map a b = true ↔ (sp.T a b ∨ sp.D a b)) ∧
      (∀ a b, smHas rd'.map a b = true ↔ DeltaSpec (fun p q => sp.T p q ∨ sp.D p q) sp.N a b) := by
  have htot : RelWF { map := smAppend rt.map rd.map, rev := smAppend rt.rev rd.rev } :=
    RelWF.append ht hd fun a b h => smHas_false_iff.mpr fun h' => hinv.disjDT a b ((sD a b).mp h) ((sT a b).mp h')
  have htotHas : ∀ a b, smHas (smAppend rt.map rd.map) a b = true ↔ (sp.T a b ∨ sp.D a b) :=
    fun a b => by rw [smHas_smAppend hd.km, sT, sD]
  simp only [Common.merge, Common.antiReflexive] at hm
  split at hm
  · cases hm
  · rename_i s hrun
    cases hm
    have hstart : LoopOK { map := smAppend rt.map rd.map, rev := smAppend rt.rev rd.rev } rn.map
        { ddMap := rn.map, ddRev := rn.rev } := by
      refine ⟨⟨hn, RelWF.empty, fun _ _ _ => rfl⟩, ?_⟩
      have := LoopInv.start (T := fun a b => smHas (smAppend rt.map rd.map) a b = true)
        (N := fun a b => smHas rn.map a b = true) (fun x y hxy => by
          rw [htotHas, not_or]
          exact hinv.disjN x y ((sN x y).mp hxy))
      simpa [smHas_nil] using this
    -- the run ended with a pass from some `s0` that added nothing: the state `s` it leaves has an empty frontier
    obtain ⟨s0, hs0, hres, hch⟩ := loopRun_exit (P := LoopOK _ rn.map) (LoopOK.step htot hn.km) _ _ _ hstart hrun
    have hfin := LoopOK.step htot hn.km s0 hs0
    rw [hres] at hfin
    obtain ⟨_, _, _, hempty⟩ := loopStep_spec _ rn.map s0 htot hn.km hs0.1
    have hdd : s.ddMap = [] := by rw [← hres]; exact hempty hch
    refine ⟨{ map := s.dtMap, rev := s.dtRev }, _, rfl, rfl, rfl, hfin.1.dt, htot, htotHas, fun a b => ?_⟩
    have hcl' : ∀ x y z, smHas (smAppend rt.map rd.map) x y = true → smHas (smAppend rt.map rd.map) y z = true → x ≠ z →
        smHas (smAppend rt.map rd.map) x z = true := by
      intro x y z
      rw [htotHas, htotHas, htotHas]
      exact hinv.closed x y z
    rw [hfin.2.final (by intro x y; rw [hdd]; exact Bool.false_ne_true) hcl' a b]
    exact DeltaSpec.congr htotHas sN a b

end Common
end AscentVerif.TrRelInd
