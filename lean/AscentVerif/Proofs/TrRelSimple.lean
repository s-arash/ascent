import AscentVerif.Proofs.TrRelSound
/-!
`TrRelUnionFind` on histories without class collapse: `set_subsumptions` is empty, every set is the singleton of its
element, and `set_connections` / `reverse_set_connections` only hold pairs justified by the added edges (`SoundFor`).
`t.subs = []` on the FINAL state characterises such histories, because `merge_multiple` always records a subsumption and
nothing ever removes one (`run_collapse_free`).  With `TrRelExact` a side line under `Props/C18`: the development for
arbitrary histories does not rest on it, and a state satisfying `SoundFor` / `ExactFor` need not satisfy the invariant
`Inv` of that development (no key or value is required to be duplicate-free; `SoundFor` alone does not make
`set_connections` closed).
-/
namespace AscentVerif

namespace TrRel

structure Simple (t : TrRel) : Prop where
  subs_nil : t.subs = []
  set_of_id : ∀ x i, alGet t.elemIds x = some i → t.sets[i]? = some [x]
  id_of_set : ∀ i s, t.sets[i]? = some s → ∃ x, s = [x] ∧ alGet t.elemIds x = some i

/-- set-level image of an element-level relation -/
def G (t : TrRel) (R : Int → Int → Prop) (a b : Nat) : Prop :=
  ∃ x y, t.sets[a]? = some [x] ∧ t.sets[b]? = some [y] ∧ R x y

theorem G.trans {t : TrRel} {R : Int → Int → Prop} (hR : ∀ a b c, R a b → R b c → R a c) (a b c : Nat)
    (h1 : G t R a b) (h2 : G t R b c) : G t R a c := by
  obtain ⟨x, y, hx, hy, hxy⟩ := h1
  obtain ⟨y', z, hy', hz, hyz⟩ := h2
  rw [hy] at hy'; cases hy'
  exact ⟨x, z, hx, hz, hR _ _ _ hxy hyz⟩

theorem G.mono {t t' : TrRel} {R R' : Int → Int → Prop} (hsets : ∀ (a : Nat) (s : List Int), t.sets[a]? = some s → t'.sets[a]? = some s)
    (hR : ∀ a b, R a b → R' a b) (a b : Nat) (h : G t R a b) : G t' R' a b := by
  obtain ⟨x, y, hx, hy, hr⟩ := h
  exact ⟨x, y, hsets _ _ hx, hsets _ _ hy, hR _ _ hr⟩

theorem simple_empty : Simple {} := by
  refine ⟨rfl, ?_, ?_⟩ <;> simp [alGet]

theorem Simple.withNew {t : TrRel} (S : Simple t) {x : Int} (hx : alGet t.elemIds x = none) : Simple (withNew t x) := by
  refine ⟨S.subs_nil, ?_, ?_⟩
  · intro x' i hi
    rw [getElem?_withNew]
    rcases alGet_alSet_some (m := t.elemIds) hi with ⟨rfl, rfl⟩ | ⟨_, hi⟩
    · rw [if_pos rfl]
    · have := S.set_of_id x' i hi
      rw [if_neg (Nat.ne_of_lt (List.getElem?_eq_some_iff.mp this).1)]; exact this
  · intro i s hs
    rw [getElem?_withNew] at hs
    show ∃ x', s = [x'] ∧ alGet (alSet t.elemIds x t.sets.length) x' = some i
    split at hs
    · next h => cases hs; exact ⟨x, rfl, by rw [alGet_alSet, if_pos rfl, h]⟩
    · obtain ⟨x', rfl, hx'⟩ := S.id_of_set i s hs
      have : x ≠ x' := by intro h; subst h; rw [hx] at hx'; cases hx'
      exact ⟨x', rfl, by rw [alGet_alSet, if_neg this]; exact hx'⟩

theorem getDominantIdMutAux_ne_nil {subs subs' : List (Nat × Nat)} {id d fuel : Nat} (h : subs ≠ [])
    (he : TrRel.getDominantIdMutAux subs id fuel = .ok (subs', d)) : subs' ≠ [] := by
  induction fuel generalizing id subs' d with
  | zero => simp [TrRel.getDominantIdMutAux] at he
  | succ fuel ih =>
    unfold TrRel.getDominantIdMutAux at he
    split at he
    · next parent _ =>
      split at he
      · cases he
      · next subs1 dom h1 =>
        simp only [Res.ok.injEq, Prod.mk.injEq] at he
        obtain ⟨rfl, _⟩ := he
        split
        · exact alSet_ne_nil _ _ _
        · exact ih h1
    · simp only [Res.ok.injEq, Prod.mk.injEq] at he
      obtain ⟨rfl, _⟩ := he; exact h

theorem addNodeNew_subs_ne_nil {t t' : TrRel} {x : Int} {id : Nat} {isNew : Bool} (h : t.subs ≠ [])
    (he : t.addNodeNew x = .ok (t', id, isNew)) : t'.subs ≠ [] := by
  rw [addNodeNew_run] at he
  split at he
  · split at he
    · cases he; exact h
    · cases he
  · split at he
    · cases he
    · next subs' dom hm =>
      split at he
      · cases he; rw [withOld_subs]; exact getDominantIdMutAux_ne_nil h hm
      · cases he

theorem mergeAbsorb_subs_ne_nil {t t' : TrRel} {frm : Nat} {l : List Nat} (h : l ≠ [] ∨ t.subs ≠ [])
    (he : t.mergeAbsorb frm l = .ok t') : t'.subs ≠ [] := by
  induction l generalizing t with
  | nil =>
    simp only [TrRel.mergeAbsorb] at he; cases he
    rcases h with h | h
    · exact absurd rfl h
    · exact h
  | cons s rest ih =>
    unfold TrRel.mergeAbsorb at he
    split at he
    · cases he
    · obtain ⟨sTaken, _, he⟩ := Res.bind_eq_ok he
      obtain ⟨fromSet, _, he⟩ := Res.bind_eq_ok he
      exact ih (Or.inr (alSet_ne_nil _ _ _)) he

theorem mergeMultiple_subs_ne_nil {t t' : TrRel} {frm to m : Nat} {ib : NSet}
    (he : t.mergeMultiple frm to ib = .ok (t', m)) : t'.subs ≠ [] := by
  unfold TrRel.mergeMultiple at he
  simp only at he
  obtain ⟨tA, hA, he⟩ := Res.bind_eq_ok he
  have hne := mergeAbsorb_subs_ne_nil (Or.inl (by simp)) hA
  obtain ⟨fromConn, _, he⟩ := Res.bind_eq_ok he
  obtain ⟨fromRev, _, he⟩ := Res.bind_eq_ok he
  split at he
  · cases he
  · cases he; exact hne

theorem collapseBranch_subs_ne_nil {t t' : TrRel} {x y : Int} {X Y : Nat} {b : Bool}
    (he : collapseBranch t x y X Y = .ok (t', b)) : t'.subs ≠ [] := by
  rw [collapseBranch_run] at he
  split at he
  · obtain ⟨⟨t3, _⟩, _, he⟩ := Res.bind_eq_ok he
    obtain ⟨⟨t4, merged⟩, h4, he⟩ := Res.bind_eq_ok he
    have hne := mergeMultiple_subs_ne_nil h4
    simp only at he
    split at he
    · cases he
    · split at he
      · cases he
      · cases he; exact hne
  · cases he

/-- a successful `add` got through its two `add_node_new`; `add_run` says what came then -/
theorem add_nodes {t t' : TrRel} {x y : Int} {b : Bool} (he : t.add x y = .ok (t', b)) :
    ∃ t1 X xNew t2 Y yNew, t.addNodeNew x = .ok (t1, X, xNew) ∧ t1.addNodeNew y = .ok (t2, Y, yNew) := by
  rw [add_eq] at he
  obtain ⟨⟨t1, X, xNew⟩, h1, he⟩ := Res.bind_eq_ok he
  obtain ⟨⟨t2, Y, yNew⟩, h2, _⟩ := Res.bind_eq_ok he
  exact ⟨t1, X, xNew, t2, Y, yNew, h1, h2⟩

theorem add_subs_ne_nil {t t' : TrRel} {x y : Int} {b : Bool} (h : t.subs ≠ []) (he : t.add x y = .ok (t', b)) :
    t'.subs ≠ [] := by
  obtain ⟨t1, X, xNew, t2, Y, yNew, h1, h2⟩ := add_nodes he
  have hs2 := addNodeNew_subs_ne_nil (addNodeNew_subs_ne_nil h h1) h2
  obtain ⟨t3, b3, h3, hc⟩ := add_run h1 h2
  rw [he] at hc
  rcases hc with ⟨_, e⟩ | ⟨_, _, e⟩ | ⟨_, _, _, hcb⟩
  · cases e; rw [(addSetConnection_core h3).2.2]; exact hs2
  · cases e; exact hs2
  · exact collapseBranch_subs_ne_nil hcb.symm

/-- the invariant of a collapse-free history `ps` -/
structure SoundFor (t : TrRel) (ps : List (Int × Int)) : Prop where
  simple : Simple t
  ids : ∀ x, (alGet t.elemIds x).isSome = true ↔ Mentioned ps x
  le : ConnLe (G t (Reach ps)) t
  /-- every added pair is stored (or is a self pair) -/
  added : ∀ p, p ∈ ps → p.1 = p.2 ∨ ∃ a b, alGet t.elemIds p.1 = some a ∧ alGet t.elemIds p.2 = some b ∧ rel t.conn a b
  disjoint : t.disjointInvariant = true

theorem soundFor_empty : SoundFor {} [] := by
  refine ⟨simple_empty, ?_, ⟨?_, ?_⟩, by simp, by decide⟩
  · intro x; simp [alGet, Mentioned]
  · intro a b h; simp [rel, alGet] at h
  · intro a b h; simp [rel, alGet] at h

theorem SoundFor.conn_lt {t : TrRel} {ps : List (Int × Int)} (S : SoundFor t ps) {a b : Nat} (h : rel t.conn a b) :
    a < t.sets.length ∧ b < t.sets.length := by
  obtain ⟨x, y, h1, h2, _⟩ := S.le.conn a b h
  exact ⟨(List.getElem?_eq_some_iff.mp h1).1, (List.getElem?_eq_some_iff.mp h2).1⟩

/-- what `add_node_new x` does to a collapse-free state: `id` is the singleton set of `x`, nothing else moves -/
structure SimpleNodePost (t t' : TrRel) (x : Int) (id : Nat) : Prop where
  simple : Simple t'
  set_id : t'.sets[id]? = some [x]
  id_x : alGet t'.elemIds x = some id
  ids : ∀ z, (alGet t'.elemIds z).isSome = true ↔ ((alGet t.elemIds z).isSome = true ∨ z = x)
  sets_keep : ∀ (a : Nat) (s : List Int), t.sets[a]? = some s → t'.sets[a]? = some s
  ids_keep : ∀ z a, alGet t.elemIds z = some a → alGet t'.elemIds z = some a
  conn_eq : t'.conn = t.conn
  rconn_eq : t'.rconn = t.rconn
  disjoint : t'.disjointInvariant = true

theorem addNodeNew_sound {t t' : TrRel} (S : Simple t) {x : Int} {id : Nat} {isNew : Bool}
    (he : t.addNodeNew x = .ok (t', id, isNew)) : SimpleNodePost t t' x id := by
  obtain ⟨hd, h⟩ := addNodeNew_nil S.subs_nil he
  rcases h with ⟨hx, _, rfl⟩ | ⟨hx, _, rfl, rfl⟩
  · refine ⟨S, S.set_of_id x id hx, hx, fun z => ⟨Or.inl, ?_⟩, fun _ _ h => h, fun _ _ h => h, rfl, rfl, hd⟩
    rintro (h | rfl)
    · exact h
    · rw [hx]; rfl
  · have S' := S.withNew hx
    have hid : alGet (withNew t x).elemIds x = some t.sets.length := by
      simp only [withNew]; rw [alGet_alSet, if_pos rfl]
    refine ⟨S', S'.set_of_id x _ hid, hid, fun z => ?_, fun a s' h => ?_, fun z a hz => ?_, rfl, rfl, hd⟩
    · simp only [withNew]
      rw [alGet_alSet]
      by_cases hz : x = z
      · subst hz; simp
      · rw [if_neg hz]; exact ⟨Or.inl, fun h => h.resolve_right (Ne.symm hz)⟩
    · rw [getElem?_withNew, if_neg (Nat.ne_of_lt (List.getElem?_eq_some_iff.mp h).1)]; exact h
    · simp only [withNew]; rw [alGet_alSet]
      have : x ≠ z := by intro h; subst h; rw [hx] at hz; cases hz
      rw [if_neg this]; exact hz

theorem SimpleNodePost.connLe {t t' : TrRel} {x : Int} {id : Nat} (N : SimpleNodePost t t' x id) {R R' : Int → Int → Prop}
    (L : ConnLe (G t R) t) (hR : ∀ a b, R a b → R' a b) : ConnLe (G t' R') t' :=
  ⟨fun a b h => G.mono N.sets_keep hR a b (L.conn a b (N.conn_eq ▸ h)),
   fun a b h => G.mono N.sets_keep hR b a (L.rconn a b (N.rconn_eq ▸ h))⟩

theorem Simple.of_core {t t' : TrRel} (c : SameCore t t') (S : Simple t) : Simple t' := by
  obtain ⟨c1, c2, c3⟩ := c
  refine ⟨by rw [c3]; exact S.subs_nil, ?_, ?_⟩
  · intro x i h; rw [c2] at h; rw [c1]; exact S.set_of_id x i h
  · intro i s' h; rw [c1] at h; rw [c2]; exact S.id_of_set i s' h

theorem connLe_of_core {t t' : TrRel} {R : Int → Int → Prop} (c : SameCore t t') (L : ConnLe (G t R) t') :
    ConnLe (G t' R) t' := by
  have e : G t' R = G t R := by unfold G; rw [c.1]
  rw [e]; exact L

theorem add_sound {t t' : TrRel} {ps : List (Int × Int)} {x y : Int} {b : Bool} (S : SoundFor t ps)
    (he : t.add x y = .ok (t', b)) (hs : t'.subs = []) : SoundFor t' (ps ++ [(x, y)]) := by
  obtain ⟨t1, xSet, xNew, t2, ySet, yNew, h1, h2⟩ := add_nodes he
  obtain ⟨t3, b3, h3, hc⟩ := add_run h1 h2
  rw [he] at hc
  have hsub : ∀ p, p ∈ ps → p ∈ ps ++ [(x, y)] := fun p hp => List.mem_append_left _ hp
  have N1 := addNodeNew_sound S.simple h1
  have N2 := addNodeNew_sound N1.simple h2
  have S2 := N2.simple
  have L2 : ConnLe (G t2 (Reach (ps ++ [(x, y)]))) t2 := N2.connLe (N1.connLe S.le fun _ _ h => h.mono hsub) fun _ _ h => h
  have hx2 := N2.sets_keep _ _ N1.set_id
  have hy2 := N2.set_id
  have ids : ∀ z, (alGet t2.elemIds z).isSome = true ↔ Mentioned (ps ++ [(x, y)]) z := by
    intro z; rw [N2.ids, N1.ids, S.ids, mentioned_append, or_assoc]
  -- the pairs added before are still stored in `t2`
  have old2 : ∀ p, p ∈ ps → p.1 = p.2 ∨ ∃ a b, alGet t2.elemIds p.1 = some a ∧ alGet t2.elemIds p.2 = some b ∧ rel t2.conn a b := by
    intro p hp
    rcases S.added p hp with h | ⟨a, b', ha, hb, hr⟩
    · exact Or.inl h
    · exact Or.inr ⟨a, b', N2.ids_keep _ _ (N1.ids_keep _ _ ha), N2.ids_keep _ _ (N1.ids_keep _ _ hb),
        by rw [N2.conn_eq, N1.conn_eq]; exact hr⟩
  rcases hc with ⟨_, e⟩ | ⟨_, hxy, e⟩ | ⟨_, _, _, hcb⟩
  · -- through `add_set_connection`: the new pair is justified by `(x, y)` itself
    cases e
    have hG : G t2 (Reach (ps ++ [(x, y)])) xSet ySet := ⟨x, y, hx2, hy2, ReflTransGen.single (by simp)⟩
    obtain ⟨L3, c3⟩ := addSetConnection_le (G.trans (reach_trans (ps ++ [(x, y)]))) L2 hG h3
    obtain ⟨hge, hnew⟩ := addSetConnection_ge h3
    refine ⟨S2.of_core c3, by intro z; rw [c3.2.1]; exact ids z, connLe_of_core c3 L3, ?_,
      by unfold TrRel.disjointInvariant; rw [c3.1]; exact N2.disjoint⟩
    intro p hp
    rw [c3.2.1]
    rcases List.mem_append.mp hp with hp | hp
    · rcases old2 p hp with h | ⟨a, b', ha, hb, hr⟩
      · exact Or.inl h
      · exact Or.inr ⟨a, b', ha, hb, hge _ _ hr⟩
    · simp at hp; subst hp
      exact Or.inr ⟨xSet, ySet, N2.ids_keep _ _ N1.id_x, N2.id_x, hnew⟩
  · -- no-op: both elements in one set, which is a singleton, so `x = y`
    cases e
    refine ⟨S2, ids, L2, ?_, N2.disjoint⟩
    intro p hp
    rcases List.mem_append.mp hp with hp | hp
    · exact old2 p hp
    · simp at hp; subst hp
      left
      rw [hxy, hy2] at hx2
      simpa using hx2.symm
  · exact absurd hs (collapseBranch_subs_ne_nil hcb.symm)

theorem run_subs_ne_nil {t t' : TrRel} {l : List (Int × Int)} (h : t.subs ≠ []) (he : run t l = .ok t') :
    t'.subs ≠ [] := by
  induction l generalizing t with
  | nil => simp only [run] at he; cases he; exact h
  | cons q l ih =>
    obtain ⟨a, c⟩ := q
    simp only [run] at he
    split at he
    · next u1 _ hq => exact ih (add_subs_ne_nil h hq) he
    · cases he

/-- a property of state and history that every non-collapsing `add` keeps holds at the end of a run that ends
without subsumptions: such a run had none at any point -/
theorem run_collapse_free {P : TrRel → List (Int × Int) → Prop}
    (step : ∀ {t t' : TrRel} {ps : List (Int × Int)} {x y : Int} {b : Bool},
      P t ps → t.add x y = .ok (t', b) → t'.subs = [] → P t' (ps ++ [(x, y)]))
    {t t' : TrRel} {ps rest : List (Int × Int)} (h : P t ps) (he : run t rest = .ok t') (hs : t'.subs = []) :
    P t' (ps ++ rest) := by
  induction rest generalizing t ps with
  | nil => simp only [run] at he; cases he; rw [List.append_nil]; exact h
  | cons p rest ih =>
    obtain ⟨x, y⟩ := p
    simp only [run] at he
    split at he
    · next t1 b1 h1 =>
      have hs1 : t1.subs = [] := Classical.byContradiction fun hne => run_subs_ne_nil hne he hs
      have := ih (step h h1 hs1) he
      rwa [List.append_assoc] at this
    · cases he

theorem run_sound {t t' : TrRel} {ps rest : List (Int × Int)} (S : SoundFor t ps)
    (he : run t rest = .ok t') (hs : t'.subs = []) : SoundFor t' (ps ++ rest) :=
  run_collapse_free add_sound S he hs

end TrRel
end AscentVerif
