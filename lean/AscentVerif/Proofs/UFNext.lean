import AscentVerif.Proofs.UFForest
/-!
The `next` pointers of `uf.rs`: one circular list per class.  `NextCycles es`: `next` stays in range
and inside the class, every node reaches the root of its class by following `next`, and the root
reaches every node of its class — so any two nodes of a class reach each other
(`NextCycles.reach`): the class is a single cycle.  Preserved by `find` (does not touch `next`) and
by `union` (swaps the `next` pointers of the two roots, splicing the two cycles into one:
`Spliced`); `push` adds a fresh self-loop (`nextCycles_of_pushPost`).
-/
namespace AscentVerif.UF

def iterNext (es : Elems) : Nat → Nat → Nat
  | 0, i => i
  | k + 1, i => nextOf es (iterNext es k i)

theorem iterNext_succ' (es : Elems) (k i : Nat) : iterNext es (k + 1) i = iterNext es k (nextOf es i) := by
  induction k with
  | zero => rfl
  | succ k ih => simp only [iterNext] at ih ⊢; rw [ih]

theorem iterNext_add (es : Elems) (a b i : Nat) : iterNext es (a + b) i = iterNext es a (iterNext es b i) := by
  induction a with
  | zero => simp [iterNext]
  | succ a ih => rw [Nat.add_right_comm]; simp only [iterNext]; rw [ih]

structure NextCycles (es : Elems) : Prop where
  next_lt : ∀ i, i < es.length → nextOf es i < es.length
  next_same : ∀ i, i < es.length → Same es i (nextOf es i)
  to_root : ∀ i r, RootOf es i r → ∃ k, iterNext es k i = r
  from_root : ∀ i r, RootOf es i r → ∃ k, iterNext es k r = i

theorem NextCycles.reach {es : Elems} (N : NextCycles es) {i j : Nat} (h : Same es i j) : ∃ k, iterNext es k i = j := by
  obtain ⟨r, hi, hj⟩ := h
  obtain ⟨k1, h1⟩ := N.to_root i r hi
  obtain ⟨k2, h2⟩ := N.from_root j r hj
  exact ⟨k2 + k1, by rw [iterNext_add, h1, h2]⟩

theorem NextCycles.both {es : Elems} (N : NextCycles es) {i r : Nat} (h : RootOf es i r) :
    (∃ k, iterNext es k i = r) ∧ ∃ k, iterNext es k r = i := ⟨N.to_root i r h, N.from_root i r h⟩

theorem NextCycles.of_both {es : Elems} (h1 : ∀ i, i < es.length → nextOf es i < es.length)
    (h2 : ∀ i, i < es.length → Same es i (nextOf es i))
    (h3 : ∀ i r, RootOf es i r → (∃ k, iterNext es k i = r) ∧ ∃ k, iterNext es k r = i) : NextCycles es :=
  ⟨h1, h2, fun i r h => (h3 i r h).1, fun i r h => (h3 i r h).2⟩

theorem nextCycles_nil : NextCycles [] :=
  .of_both (fun i h => absurd h (Nat.not_lt_zero i)) (fun i h => absurd h (Nat.not_lt_zero i))
    fun i _ h => absurd h.lt (Nat.not_lt_zero i)

theorem NextCycles.root_next {es : Elems} (N : NextCycles es) {i r : Nat} (h : RootOf es i r) :
    RootOf es (nextOf es i) r := by
  obtain ⟨q, h1, h2⟩ := N.next_same i h.lt
  rw [h.unique h1]; exact h2

theorem NextCycles.root_iter {es : Elems} (N : NextCycles es) {i r : Nat} (h : RootOf es i r) (k : Nat) :
    RootOf es (iterNext es k i) r := by
  induction k with
  | zero => exact h
  | succ k ih => exact N.root_next ih

theorem iterNext_congr {es es' : Elems} (h : ∀ j, nextOf es' j = nextOf es j) (k i : Nat) :
    iterNext es' k i = iterNext es k i := by
  induction k with
  | zero => rfl
  | succ k ih => simp only [iterNext]; rw [ih, h]

theorem nextCycles_of_findPost {es es' : Elems} (P : FindPost es es') (N : NextCycles es) : NextCycles es' := by
  refine .of_both ?_ ?_ ?_
  · intro i hi; rw [P.length_eq] at hi ⊢; rw [P.next_eq]; exact N.next_lt i hi
  · intro i hi; rw [P.length_eq] at hi; rw [P.next_eq, same_of_roots_iff P.roots]; exact N.next_same i hi
  · intro i q h
    simp only [iterNext_congr P.next_eq]
    exact N.both ((P.roots _ _).mp h)

section Splice
variable {es es' : Elems} {x y : Nat}

/-- the effect of the splice on `next`, seen from the ordered pair `(x, y)` of the two roots -/
structure Spliced (es es' : Elems) (x y : Nat) : Prop where
  ne : x ≠ y
  root_x : RootOf es x x
  root_y : RootOf es y y
  next_x : nextOf es' x = nextOf es y
  next_y : nextOf es' y = nextOf es x
  next_other : ∀ j, j ≠ x → j ≠ y → nextOf es' j = nextOf es j

theorem Spliced.symm (S : Spliced es es' x y) : Spliced es es' y x :=
  ⟨S.ne.symm, S.root_y, S.root_x, S.next_y, S.next_x, fun j h1 h2 => S.next_other j h2 h1⟩

theorem Spliced.ne_y (S : Spliced es es' x y) {i : Nat} (hi : RootOf es i x) : i ≠ y := by
  intro h; subst h
  exact S.ne (hi.unique S.root_y)

theorem Spliced.to_x (S : Spliced es es' x y) (N : NextCycles es) {i : Nat} (hi : RootOf es i x) :
    ∃ k, iterNext es' k i = x := by
  obtain ⟨k, hk⟩ := N.to_root i x hi
  induction k generalizing i with
  | zero => exact ⟨0, hk⟩
  | succ k ih =>
    by_cases hix : i = x
    · exact ⟨0, hix⟩
    · rw [iterNext_succ'] at hk
      obtain ⟨k', hk'⟩ := ih (N.root_next hi) hk
      exact ⟨k' + 1, by rw [iterNext_succ', S.next_other i hix (S.ne_y hi)]; exact hk'⟩

theorem Spliced.from_next_x (S : Spliced es es' x y) (N : NextCycles es) (k : Nat) :
    ∃ k', iterNext es' k' (nextOf es x) = iterNext es k (nextOf es x) := by
  induction k with
  | zero => exact ⟨0, rfl⟩
  | succ k ih =>
    obtain ⟨k', hk'⟩ := ih
    have hm : RootOf es (iterNext es k (nextOf es x)) x := N.root_iter (N.root_next S.root_x) k
    by_cases hmx : iterNext es k (nextOf es x) = x
    · exact ⟨0, by simp only [iterNext]; rw [hmx]⟩
    · exact ⟨k' + 1, by simp only [iterNext]; rw [hk', S.next_other _ hmx (S.ne_y hm)]⟩

/-- `y` reaches every node of the old class of `x` (through its new successor `next x`) -/
theorem Spliced.y_to_class_x (S : Spliced es es' x y) (N : NextCycles es) {i : Nat} (hi : RootOf es i x) :
    ∃ k, iterNext es' k y = i := by
  obtain ⟨k, hk⟩ := N.from_root i x hi
  cases k with
  | zero =>
    -- i = x: y → next x → … → x
    simp only [iterNext] at hk; subst hk
    obtain ⟨k1, h1⟩ := S.to_x N (N.root_next S.root_x)
    exact ⟨k1 + 1, by rw [iterNext_succ', S.next_y]; exact h1⟩
  | succ k =>
    rw [iterNext_succ'] at hk
    obtain ⟨k', hk'⟩ := S.from_next_x N k
    exact ⟨k' + 1, by rw [iterNext_succ', S.next_y, hk', hk]⟩

theorem Spliced.x_to_y (S : Spliced es es' x y) (N : NextCycles es) : ∃ k, iterNext es' k x = y :=
  S.symm.y_to_class_x N S.root_y

theorem Spliced.merged (S : Spliced es es' x y) (N : NextCycles es) {i : Nat} (hi : RootOf es i x ∨ RootOf es i y) :
    (∃ k, iterNext es' k i = x) ∧ (∃ k, iterNext es' k x = i) := by
  rcases hi with hi | hi
  · refine ⟨S.to_x N hi, ?_⟩
    obtain ⟨k1, h1⟩ := S.x_to_y N
    obtain ⟨k2, h2⟩ := S.y_to_class_x N hi
    exact ⟨k2 + k1, by rw [iterNext_add, h1, h2]⟩
  · constructor
    · obtain ⟨k1, h1⟩ := S.symm.to_x N hi
      obtain ⟨k2, h2⟩ := S.symm.x_to_y N
      exact ⟨k2 + k1, by rw [iterNext_add, h1, h2]⟩
    · exact S.symm.y_to_class_x N hi

theorem Spliced.untouched (S : Spliced es es' x y) (N : NextCycles es) {i q : Nat} (hi : RootOf es i q)
    (hqx : q ≠ x) (hqy : q ≠ y) (k : Nat) : iterNext es' k i = iterNext es k i := by
  induction k with
  | zero => rfl
  | succ k ih =>
    simp only [iterNext]; rw [ih]
    have hm := N.root_iter hi k
    apply S.next_other
    · intro h; rw [h] at hm; exact hqx (hm.unique S.root_x)
    · intro h; rw [h] at hm; exact hqy (hm.unique S.root_y)

end Splice

theorem nextCycles_of_unionPost {es es' : Elems} {a b w : Nat} (hab : a ≠ b) (ha : RootOf es a a) (hb : RootOf es b b)
    (P : UnionPost es es' a b w) (N : NextCycles es) : NextCycles es' := by
  have S : Spliced es es' a b := by
    refine ⟨hab, ha, hb, ?_, ?_, ?_⟩
    · rw [P.next_eq, if_pos rfl]
    · rw [P.next_eq, if_neg (Ne.symm hab), if_pos rfl]
    · intro j h1 h2; rw [P.next_eq, if_neg h1, if_neg h2]
  have hmono : ∀ i j, Same es i j → Same es' i j := by
    rintro i j ⟨q, h1, h2⟩
    exact ⟨_, (P.roots _ _).mpr ⟨q, h1, rfl⟩, (P.roots _ _).mpr ⟨q, h2, rfl⟩⟩
  have hwroot : ∀ i, (RootOf es i a ∨ RootOf es i b) → RootOf es' i w := by
    intro i h
    rcases h with h | h
    · exact (P.roots _ _).mpr ⟨a, h, by simp⟩
    · exact (P.roots _ _).mpr ⟨b, h, by simp⟩
  -- both roots reach each other, hence everything in the merged class reaches / is reached from w
  have hw : ∀ i, (RootOf es i a ∨ RootOf es i b) → (∃ k, iterNext es' k i = w) ∧ (∃ k, iterNext es' k w = i) := by
    intro i hi
    rcases P.winner with rfl | rfl
    · exact S.merged N hi
    · exact S.symm.merged N hi.symm
  refine .of_both ?_ ?_ ?_
  · intro i hi; rw [P.length_eq] at hi ⊢; rw [P.next_eq]
    split
    · exact N.next_lt b hb.lt
    · split
      · exact N.next_lt a ha.lt
      · exact N.next_lt i hi
  · intro i hi; rw [P.length_eq] at hi
    by_cases h1 : i = a
    · subst h1; rw [S.next_x]
      exact ⟨w, hwroot _ (Or.inl ha), hwroot _ (Or.inr (N.root_next hb))⟩
    · by_cases h2 : i = b
      · subst h2; rw [S.next_y]
        exact ⟨w, hwroot _ (Or.inr hb), hwroot _ (Or.inl (N.root_next ha))⟩
      · rw [S.next_other i h1 h2]; exact hmono _ _ (N.next_same i hi)
  · intro i q h
    obtain ⟨q0, h0, rfl⟩ := (P.roots _ _).mp h
    by_cases hq : q0 = a ∨ q0 = b
    · rw [if_pos hq]
      exact hw i (hq.elim (fun e => Or.inl (e ▸ h0)) fun e => Or.inr (e ▸ h0))
    · rw [if_neg hq]
      have hqa : q0 ≠ a := fun e => hq (Or.inl e)
      have hqb : q0 ≠ b := fun e => hq (Or.inr e)
      simp only [S.untouched N h0 hqa hqb, S.untouched N h0.self hqa hqb]
      exact N.both h0

theorem nextCycles_of_pushPost {es es' : Elems} {v : Int} (P : PushPost es es' v) (N : NextCycles es) : NextCycles es' := by
  have hiter : ∀ k i, i < es.length → iterNext es' k i = iterNext es k i ∧ iterNext es k i < es.length := by
    intro k i hi
    induction k with
    | zero => exact ⟨rfl, hi⟩
    | succ k ih =>
      simp only [iterNext]
      rw [ih.1, P.next_lt _ ih.2]
      exact ⟨rfl, N.next_lt _ ih.2⟩
  refine .of_both ?_ ?_ ?_
  · intro i hi; rw [P.length_eq] at hi ⊢
    rcases Nat.lt_succ_iff_lt_or_eq.mp hi with h | rfl
    · rw [P.next_lt i h]; exact Nat.lt_succ_of_lt (N.next_lt i h)
    · rw [P.next_new]; exact Nat.lt_succ_self _
  · intro i hi; rw [P.length_eq] at hi
    rcases Nat.lt_succ_iff_lt_or_eq.mp hi with h | rfl
    · rw [P.next_lt i h]
      obtain ⟨q, h1, h2⟩ := N.next_same i h
      exact ⟨q, (P.roots _ _).mpr (Or.inl h1), (P.roots _ _).mpr (Or.inl h2)⟩
    · rw [P.next_new]
      exact ⟨_, (P.roots _ _).mpr (Or.inr ⟨rfl, rfl⟩), (P.roots _ _).mpr (Or.inr ⟨rfl, rfl⟩)⟩
  · intro i q h
    rcases (P.roots _ _).mp h with h | ⟨rfl, rfl⟩
    · obtain ⟨⟨k, hk⟩, k', hk'⟩ := N.both h
      exact ⟨⟨k, (hiter k i h.lt).1.trans hk⟩, k', (hiter k' q h.root_lt).1.trans hk'⟩
    · exact ⟨⟨0, rfl⟩, 0, rfl⟩

end AscentVerif.UF
