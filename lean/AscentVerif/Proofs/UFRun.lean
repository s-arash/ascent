import AscentVerif.Proofs.UFNext
/-!
`UnionFind` operations on well-formed states.  `WF u` = the forest invariant of `u.elems` +
agreement between `u.items` and `u.elems`.  Every public operation is shown to succeed (no panic)
on a well-formed state, to keep `WF` and `NextCycles`, and to change the partition `Same` exactly
as intended; each result is a postcondition structure (`Keeps` for `find` / `find_item`, `AddPost`,
`UnionOpPost`) that `UFRefine` and `Props/C18.lean` read.
-/
namespace AscentVerif.UF

theorem lookup_setItem (m : List (Int × Nat)) (k : Int) (v : Nat) (k' : Int) :
    lookup (setItem m k v) k' = if k = k' then some v else lookup m k' := by
  induction m with
  | nil => simp [setItem, lookup]
  | cons a t ih =>
    obtain ⟨a1, a2⟩ := a
    simp only [setItem]
    by_cases h : a1 = k
    · subst h
      simp only [if_true, lookup]
      by_cases h' : a1 = k' <;> simp [h']
    · simp only [if_neg h, lookup, ih]
      by_cases h' : a1 = k'
      · subst h'; simp [Ne.symm h]
      · simp [h']

theorem length_setItem (m : List (Int × Nat)) (k : Int) (v : Nat) :
    (setItem m k v).length = match lookup m k with | some _ => m.length | none => m.length + 1 := by
  induction m with
  | nil => rfl
  | cons a t ih =>
    obtain ⟨a1, a2⟩ := a
    simp only [setItem, lookup]
    split
    · rfl
    · rw [List.length_cons, ih]; cases lookup t k <;> rfl

structure WF (u : UnionFind) : Prop where
  forest : Forest u.elems
  len_eq : u.elems.length = u.items.length
  /-- every element's value is an item, cached at an id of the element's class -/
  item_of_elem : ∀ i, i < u.elems.length → ∃ id, lookup u.items (valueOf u.elems i) = some id ∧ Same u.elems id i
  elem_of_item : ∀ k id, lookup u.items k = some id → ∃ i, i < u.elems.length ∧ valueOf u.elems i = k
  values_inj : ∀ i j, i < u.elems.length → j < u.elems.length → valueOf u.elems i = valueOf u.elems j → i = j

theorem WF.okCheap {u : UnionFind} (W : WF u) : u.okCheap = true := by
  simp [UnionFind.okCheap, W.len_eq]

theorem wf_empty : WF {} := by
  refine ⟨⟨?_, ?_, ?_, ?_⟩, rfl, ?_, ?_, ?_⟩ <;> simp [sumFrom, lookup]

/-- what `find` / `find_item` may change: parent links get shorter, cached ids of `items` move within their class -/
structure Keeps (u u' : UnionFind) : Prop where
  wf : WF u'
  length_eq : u'.elems.length = u.elems.length
  value_eq : ∀ j, valueOf u'.elems j = valueOf u.elems j
  roots_iff : ∀ j r, RootOf u'.elems j r ↔ RootOf u.elems j r
  keys_iff : ∀ k, (lookup u'.items k).isSome = (lookup u.items k).isSome
  next_ok : NextCycles u.elems → NextCycles u'.elems

theorem Keeps.same_iff {u u' : UnionFind} (K : Keeps u u') (i j : Nat) : Same u'.elems i j ↔ Same u.elems i j :=
  same_of_roots_iff K.roots_iff i j

theorem Keeps.refl {u : UnionFind} (W : WF u) : Keeps u u :=
  ⟨W, rfl, fun _ => rfl, fun _ _ => Iff.rfl, fun _ => rfl, fun N => N⟩

theorem Keeps.trans {u u' u'' : UnionFind} (h : Keeps u u') (h' : Keeps u' u'') : Keeps u u'' :=
  ⟨h'.wf, by rw [h'.length_eq, h.length_eq], fun j => by rw [h'.value_eq, h.value_eq],
   fun i j => by rw [h'.roots_iff, h.roots_iff], fun k => by rw [h'.keys_iff, h.keys_iff],
   fun N => h'.next_ok (h.next_ok N)⟩

theorem WF.lookup_same {u : UnionFind} (W : WF u) {x : Int} {id i : Nat} (h : lookup u.items x = some id)
    (hi : i < u.elems.length) (hv : valueOf u.elems i = x) : Same u.elems id i := by
  obtain ⟨id', h1, h2⟩ := W.item_of_elem i hi
  rw [hv, h] at h1
  cases h1; exact h2

theorem WF.of_elems {u : UnionFind} (W : WF u) {es' : Elems} (F : Forest es') (hlen : es'.length = u.elems.length)
    (hval : ∀ j, valueOf es' j = valueOf u.elems j) (hmono : ∀ i j, Same u.elems i j → Same es' i j) :
    WF { u with elems := es' } := by
  refine ⟨F, hlen.trans W.len_eq, fun i hi => ?_, fun k id' h => ?_, fun i j hi hj h => ?_⟩
  · obtain ⟨id', h1, h2⟩ := W.item_of_elem i (hlen ▸ hi)
    exact ⟨id', (hval i).symm ▸ h1, hmono _ _ h2⟩
  · obtain ⟨i, hi, hv⟩ := W.elem_of_item k id' h
    exact ⟨i, hlen.symm ▸ hi, (hval i).trans hv⟩
  · exact W.values_inj i j (hlen ▸ hi) (hlen ▸ hj) ((hval i).symm.trans (h.trans (hval j)))

theorem keeps_of_findPost {u : UnionFind} (W : WF u) {es' : Elems} (P : FindPost u.elems es') :
    Keeps u { u with elems := es' } :=
  ⟨W.of_elems P.forest P.length_eq P.value_eq fun i j => (same_of_roots_iff P.roots i j).mpr,
   P.length_eq, P.value_eq, P.roots, fun _ => rfl, nextCycles_of_findPost P⟩

theorem keeps_setItem {u : UnionFind} (W : WF u) {x : Int} {id r : Nat} (h : lookup u.items x = some id)
    (hr : Same u.elems r id) : Keeps u { u with items := setItem u.items x r } := by
  refine ⟨⟨W.forest, ?_, fun j hj => ?_, fun k id' hk => ?_, W.values_inj⟩, rfl, fun _ => rfl, fun _ _ => Iff.rfl,
    fun k => ?_, fun N => N⟩
  · show _ = (setItem u.items x r).length
    rw [length_setItem, h]; exact W.len_eq
  · show ∃ id', lookup (setItem u.items x r) (valueOf u.elems j) = some id' ∧ Same u.elems id' j
    rw [lookup_setItem]
    by_cases hx : x = valueOf u.elems j
    · rw [if_pos hx]; exact ⟨r, rfl, hr.trans (W.lookup_same h hj hx.symm)⟩
    · rw [if_neg hx]; exact W.item_of_elem j hj
  · change lookup (setItem u.items x r) k = some id' at hk
    rw [lookup_setItem] at hk
    by_cases hx : x = k
    · exact W.elem_of_item k id (hx ▸ h)
    · rw [if_neg hx] at hk; exact W.elem_of_item k id' hk
  · show (lookup (setItem u.items x r) k).isSome = (lookup u.items k).isSome
    rw [lookup_setItem]
    by_cases hx : x = k
    · rw [if_pos hx, ← hx, h]; rfl
    · rw [if_neg hx]

theorem find_ok {u : UnionFind} (W : WF u) {id : Nat} (hid : id < u.elems.length) :
    ∃ u' r, u.find id = .ok (u', r) ∧ Keeps u u' ∧ RootOf u.elems id r := by
  obtain ⟨es', r, hf, P, hr⟩ := findTop_spec W.forest hid
  refine ⟨{ u with elems := es' }, r, ?_, keeps_of_findPost W P, hr⟩
  simp [UnionFind.find, Elems.has, hid, hf]

theorem findItem_none {u : UnionFind} {x : Int} (h : lookup u.items x = none) : u.findItem x = .ok (u, none) := by
  simp [UnionFind.findItem, h]

theorem findItem_some {u : UnionFind} (W : WF u) {x : Int} {id : Nat} (h : lookup u.items x = some id) :
    ∃ u' r, u.findItem x = .ok (u', some r) ∧ Keeps u u' ∧ RootOf u.elems id r := by
  obtain ⟨i, hi, hv⟩ := W.elem_of_item x id h
  obtain ⟨es', r, hf, P, hr⟩ := findTop_spec W.forest (W.lookup_same h hi hv).lt_left
  have K := keeps_of_findPost W P
  exact ⟨_, r, by simp [UnionFind.findItem, h, hf],
    K.trans (keeps_setItem K.wf (x := x) (r := r) h ((K.same_iff _ _).mpr hr.same.symm)), hr⟩

structure AddPost (u u' : UnionFind) (x : Int) (isNew : Bool) (id : Nat) : Prop where
  wf : WF u'
  id_same : ∃ i, i < u'.elems.length ∧ valueOf u'.elems i = x ∧ Same u'.elems id i
  next_ok : NextCycles u.elems → NextCycles u'.elems
  old : isNew = false → (lookup u.items x).isSome ∧ Keeps u u'
  new : isNew = true → lookup u.items x = none ∧ PushPost u.elems u'.elems x

theorem add_ok {u : UnionFind} (W : WF u) (x : Int) :
    ∃ u' isNew id, u.add x = .ok (u', isNew, id) ∧ AddPost u u' x isNew id := by
  cases hl : lookup u.items x with
  | some id0 =>
    obtain ⟨u', r, hf, K, hr⟩ := findItem_some W hl
    refine ⟨u', false, r, by simp [UnionFind.add, W.okCheap, hf], K.wf, ?_, K.next_ok, fun _ => ⟨by simp [hl], K⟩, fun h => by simp at h⟩
    obtain ⟨i, hi, hv⟩ := W.elem_of_item x id0 hl
    refine ⟨i, by rw [K.length_eq]; exact hi, by rw [K.value_eq]; exact hv, (K.same_iff _ _).mpr ?_⟩
    exact hr.same.symm.trans (W.lookup_same hl hi hv)
  | none =>
    have P := push_spec W.forest x
    generalize hes' : (Elems.push u.elems x).1 = es' at P
    have hsame := P.same_iff
    have key : ∀ a, a < u.elems.length → x ≠ valueOf u.elems a := by
      intro a ha hax
      obtain ⟨id', h1, _⟩ := W.item_of_elem a ha
      rw [← hax, hl] at h1; cases h1
    have W' : WF { elems := es', items := setItem u.items x u.elems.length } := by
      refine ⟨P.forest, ?_, fun j hj => ?_, fun k id' hk => ?_, fun i j hi hj hv => ?_⟩
      · show es'.length = (setItem u.items x u.elems.length).length
        rw [length_setItem, hl, P.length_eq, W.len_eq]
      · have hj : j < es'.length := hj
        rw [P.length_eq] at hj
        show ∃ id', lookup (setItem u.items x u.elems.length) (valueOf es' j) = some id' ∧ Same es' id' j
        rw [lookup_setItem]
        rcases Nat.lt_succ_iff_lt_or_eq.mp hj with h | rfl
        · rw [P.value_lt j h, if_neg (key j h)]
          obtain ⟨id', h1, h2⟩ := W.item_of_elem j h
          exact ⟨id', h1, (hsame _ _).mpr (Or.inl h2)⟩
        · rw [P.value_new, if_pos rfl]
          exact ⟨_, rfl, (hsame _ _).mpr (Or.inr ⟨rfl, rfl⟩)⟩
      · change lookup (setItem u.items x u.elems.length) k = some id' at hk
        rw [lookup_setItem] at hk
        show ∃ i, i < es'.length ∧ valueOf es' i = k
        rw [P.length_eq]
        by_cases hx : x = k
        · exact ⟨_, Nat.lt_succ_self _, hx ▸ P.value_new⟩
        · rw [if_neg hx] at hk
          obtain ⟨i, hi, hv⟩ := W.elem_of_item k id' hk
          exact ⟨i, Nat.lt_succ_of_lt hi, (P.value_lt i hi).trans hv⟩
      · have hi : i < es'.length := hi
        have hj : j < es'.length := hj
        have hv : valueOf es' i = valueOf es' j := hv
        rw [P.length_eq] at hi hj
        rcases Nat.lt_succ_iff_lt_or_eq.mp hi with h1 | rfl <;> rcases Nat.lt_succ_iff_lt_or_eq.mp hj with h2 | rfl
        · rw [P.value_lt i h1, P.value_lt j h2] at hv; exact W.values_inj i j h1 h2 hv
        · rw [P.value_lt i h1, P.value_new] at hv; exact absurd hv.symm (key i h1)
        · rw [P.value_lt j h2, P.value_new] at hv; exact absurd hv (key j h2)
        · rfl
    refine ⟨{ elems := es', items := setItem u.items x u.elems.length }, true, u.elems.length, ?_, W', ?_,
      nextCycles_of_pushPost P, fun h => by simp at h, fun _ => ⟨hl, P⟩⟩
    · have hid : (Elems.push u.elems x).2 = u.elems.length := rfl
      simp [UnionFind.add, W.okCheap, findItem_none hl, UnionFind.push, hes', hid]
    · exact ⟨u.elems.length, by show u.elems.length < es'.length; rw [P.length_eq]; exact Nat.lt_succ_self _, P.value_new,
        (hsame _ _).mpr (Or.inr ⟨rfl, rfl⟩)⟩

theorem union_same {es es' : Elems} {a b ra rb w : Nat} (P : UnionPost es es' ra rb w)
    (hA : RootOf es a ra) (hB : RootOf es b rb) (i j : Nat) :
    Same es' i j ↔ (Same es i j ∨ (Same es i a ∧ Same es b j) ∨ (Same es i b ∧ Same es a j)) := by
  constructor
  · rintro ⟨q, h1, h2⟩
    obtain ⟨qi, hi, e1⟩ := (P.roots _ _).mp h1
    obtain ⟨qj, hj, e2⟩ := (P.roots _ _).mp h2
    have hw := P.winner
    by_cases ci : qi = ra ∨ qi = rb <;> by_cases cj : qj = ra ∨ qj = rb
    · rcases ci with rfl | rfl <;> rcases cj with rfl | rfl
      · left; exact ⟨_, hi, hj⟩
      · right; left; exact ⟨⟨_, hi, hA⟩, ⟨_, hB, hj⟩⟩
      · right; right; exact ⟨⟨_, hi, hB⟩, ⟨_, hA, hj⟩⟩
      · left; exact ⟨_, hi, hj⟩
    · rw [if_pos ci] at e1; rw [if_neg cj] at e2
      exfalso; apply cj; rw [← e2, e1]; exact hw
    · rw [if_neg ci] at e1; rw [if_pos cj] at e2
      exfalso; apply ci; rw [← e1, e2]; exact hw
    · rw [if_neg ci] at e1; rw [if_neg cj] at e2
      left; subst e1; subst e2; exact ⟨_, hi, hj⟩
  · rintro (⟨q, h1, h2⟩ | ⟨⟨q, h1, h2⟩, ⟨q', h3, h4⟩⟩ | ⟨⟨q, h1, h2⟩, ⟨q', h3, h4⟩⟩)
    · exact ⟨_, (P.roots _ _).mpr ⟨q, h1, rfl⟩, (P.roots _ _).mpr ⟨q, h2, rfl⟩⟩
    · have e1 := h2.unique hA; have e2 := h3.unique hB; subst e1; subst e2
      refine ⟨w, (P.roots _ _).mpr ⟨_, h1, by simp⟩, (P.roots _ _).mpr ⟨_, h4, by simp⟩⟩
    · have e1 := h2.unique hB; have e2 := h3.unique hA; subst e1; subst e2
      refine ⟨w, (P.roots _ _).mpr ⟨_, h1, by simp⟩, (P.roots _ _).mpr ⟨_, h4, by simp⟩⟩

structure UnionOpPost (u u' : UnionFind) (a b w : Nat) : Prop where
  wf : WF u'
  length_eq : u'.elems.length = u.elems.length
  value_eq : ∀ j, valueOf u'.elems j = valueOf u.elems j
  keys_iff : ∀ k, (lookup u'.items k).isSome = (lookup u.items k).isSome
  same_iff : ∀ i j, Same u'.elems i j ↔
    (Same u.elems i j ∨ (Same u.elems i a ∧ Same u.elems b j) ∨ (Same u.elems i b ∧ Same u.elems a j))
  result : Same u'.elems w a
  next_ok : NextCycles u.elems → NextCycles u'.elems

theorem same_absorb {es : Elems} {a b : Nat} (hab : Same es a b) (i j : Nat) :
    Same es i j ↔ (Same es i j ∨ (Same es i a ∧ Same es b j) ∨ (Same es i b ∧ Same es a j)) := by
  constructor
  · exact Or.inl
  · rintro (h | ⟨h1, h2⟩ | ⟨h1, h2⟩)
    · exact h
    · exact (h1.trans hab).trans h2
    · exact (h1.trans hab.symm).trans h2

/-- `a` and `b` were already in one class, that of `w`: only parent links were shortened -/
theorem UnionOpPost.of_same {u u' : UnionFind} {a b w : Nat} (K : Keeps u u') (hab : Same u.elems a b)
    (hw : Same u.elems w a) : UnionOpPost u u' a b w :=
  ⟨K.wf, K.length_eq, K.value_eq, K.keys_iff, fun i j => (K.same_iff i j).trans (same_absorb hab i j),
   (K.same_iff _ _).mpr hw, K.next_ok⟩

theorem UnionOpPost.of_keeps {u u1 u2 : UnionFind} {a b w : Nat} (K : Keeps u u1) (P : UnionOpPost u1 u2 a b w) :
    UnionOpPost u u2 a b w :=
  ⟨P.wf, P.length_eq.trans K.length_eq, fun j => (P.value_eq j).trans (K.value_eq j),
   fun k => (P.keys_iff k).trans (K.keys_iff k), fun i j => by rw [P.same_iff]; simp only [K.same_iff], P.result,
   fun N => P.next_ok (K.next_ok N)⟩

theorem UnionOpPost.of_link {u : UnionFind} (W : WF u) {es' : Elems} {a b ra rb w : Nat} (hA : RootOf u.elems a ra)
    (hB : RootOf u.elems b rb) (hne : ra ≠ rb) (P : UnionPost u.elems es' ra rb w) :
    UnionOpPost u { u with elems := es' } a b w :=
  have hs := union_same P hA hB
  have hw : RootOf es' a w := (P.roots _ _).mpr ⟨ra, hA, by simp⟩
  ⟨W.of_elems P.forest P.length_eq P.value_eq fun i j h => (hs i j).mpr (Or.inl h), P.length_eq, P.value_eq,
   fun _ => rfl, hs, hw.same.symm, nextCycles_of_unionPost hne hA.self hB.self P⟩

theorem union_ok {u : UnionFind} (W : WF u) {a b : Nat} (ha : a < u.elems.length) (hb : b < u.elems.length) :
    ∃ u' w, u.union a b = .ok (u', w) ∧ UnionOpPost u u' a b w := by
  have hha : Elems.has u.elems a = true := by simp [Elems.has, ha]
  have hhb : Elems.has u.elems b = true := by simp [Elems.has, hb]
  obtain ⟨es1, xr, hf1, P1, hr1⟩ := findTop_spec W.forest ha
  have K1 := keeps_of_findPost W P1
  by_cases hab : a = b
  · subst hab
    exact ⟨{ u with elems := es1 }, xr, by simp [UnionFind.union, UnionFind.unionInternal, hha, hf1],
      .of_same K1 (W.forest.same_refl ha) hr1.same.symm⟩
  · obtain ⟨es2, yr, hf2, P2, hr2⟩ := findTop_spec P1.forest (P1.length_eq ▸ hb)
    have K := K1.trans (keeps_of_findPost (u := { u with elems := es1 }) K1.wf P2)
    have hbr : RootOf u.elems b yr := (P1.roots _ _).mp hr2
    by_cases hxy : xr = yr
    · exact ⟨{ u with elems := es2 }, xr, by simp [UnionFind.union, UnionFind.unionInternal, hha, hhb, hab, hf1, hf2, hxy],
        .of_same K ⟨xr, hr1, hxy ▸ hbr⟩ hr1.same.symm⟩
    · have hA2 : RootOf es2 a xr := (K.roots_iff _ _).mpr hr1
      have hB2 : RootOf es2 b yr := (K.roots_iff _ _).mpr hbr
      obtain ⟨es3, w, hu, P3⟩ := unionByRank_spec P2.forest hA2.root_lt hB2.root_lt hA2.is_root hB2.is_root hxy
      have Q : UnionOpPost u { u with elems := es3 } a b w := .of_keeps K (.of_link K.wf hA2 hB2 hxy P3)
      rcases P3.winner with hw | hw
      · refine ⟨_, xr, ?_, hw ▸ Q⟩
        simp [UnionFind.union, UnionFind.unionInternal, hha, hhb, hab, hf1, hf2, hxy, hu, hw]
      · refine ⟨_, yr, ?_, hw ▸ Q⟩
        have : ¬ yr = xr := fun h => hxy h.symm
        simp [UnionFind.union, UnionFind.unionInternal, hha, hhb, hab, hf1, hf2, hxy, hu, hw, this]

end AscentVerif.UF
