import AscentVerif.Proofs.PhysParRun
import AscentVerif.Proofs.PhysAggTimeout
import AscentVerif.Props.C13Agg
/-!
# Stratified restart over the concurrent indices (`ascent_par!` with aggregation / negation), for any usable plan

By `run_simPar` of `Proofs/PhysParRun.lean` a completed call leaves, on the ERASED values, what a completed call of the serial
engine leaves (`Phys.Exec`), so the restart theorems are those of `Proofs/PhysAggTimeout.lean` (`Exec.wf_extends`,
`Exec.restart`) read through `erase`.  `Linked` is what the restart theory asks of a completed call, be it `run()` or a
`run_timeout` that returned `true`; `PCExt` is the extension order `PExt` on the row vectors of a parallel program value.
-/
namespace AscentVerif.PhysPar
open AscentVerif AscentVerif.Engine AscentVerif.Index AscentVerif.Phys

variable {E B G P A : Type}

def PCExt (p : Program E B G P A) (s t : PCSt) : Prop :=
  ∀ r, r < p.rels.length → ∃ extra : List Tuple,
    (pcrel t r).rows = (pcrel s r).rows ++ extra ∧ extra.Nodup ∧ ∀ x ∈ extra, x ∉ (pcrel s r).rows

theorem PCExt.refl (p : Program E B G P A) (s : PCSt) : PCExt p s s :=
  fun _ _ => ⟨[], by simp, List.nodup_nil, fun x hx => by simp at hx⟩

theorem PCExt.iff_erase {p : Program E B G P A} {s t : PCSt} :
    PCExt p s t ↔ PExt p (s.map PCRel.erase) (t.map PCRel.erase) := by
  simp only [PCExt, Phys.PExt, erase_rows]

theorem PCExt.erase {p : Program E B G P A} {s t : PCSt} (h : PCExt p s t) :
    PExt p (s.map PCRel.erase) (t.map PCRel.erase) := PCExt.iff_erase.mp h

theorem PCExt.facts {p : Program E B G P A} {s t : PCSt} (h : PCExt p s t) (hs : s.length = p.rels.length) :
    ∀ f, factsOf s f → factsOf t f := by
  intro f hf
  have h' := Agg.ExtSt.facts h.erase.abs (by simpa [absSt] using hs) f
  simp only [Engine.factsOf, relSt_absSt_erase] at h'
  exact h' hf

theorem PCExt.trans {p : Program E B G P A} {s t u : PCSt} (h₁ : PCExt p s t) (h₂ : PCExt p t u) : PCExt p s u :=
  PCExt.iff_erase.mpr (PExt.of_abs (relSt_absSt _) (Agg.ExtSt.append h₁.erase.abs fun r hr => by
    simpa only [relSt_absSt_erase] using h₂ r hr))

/-- what the restart theory needs of a completed call from `s` that left `o` -/
structure Linked (I : Interp E B G P A) (p : Program E B G P A) (ix : IxSets) (order : SccOrder) (s o : PCSt) : Prop where
  exec : Exec I p ix order (s.map PCRel.erase) (o.map PCRel.erase)
  wf : WFPCSt p o
  ext : PCExt p s o

section Link
variable (I : Interp E B G P A) (hI : Plan.Ext I) (V : Hir.VarsOf E B) (hS : Plan.Supp I V)
  (hperm : AggPermInvariant I)
  (p : Program E B G P A) (ix : IxSets) (order : SccOrder)
  (hp : RelationalAgg p) (ho : validOrder p order = true) (hst : Stratified p order) (hb : BodyDeclared p)
  (hplan : planOk V p ix = true) (hagg : aggPlanOk V p ix = true)
  (hd : ∀ r ∈ p.rules, Hir.Desugared V r = true ∧ Plan.WellScoped V r = true)

include hp ho hst in
theorem linked_of_RunND {N : Nat} {s o : PCSt} {st' : St} (hs : WFPCSt p s)
    (hnd : RunND I {} p order (absSt (s.map PCRel.erase)) st') (hsim : SimStPar p ix N st' o) : Linked I p ix order s o := by
  have he : Exec I p ix order (s.map PCRel.erase) (o.map PCRel.erase) := ⟨st', hnd, hsim.sim⟩
  obtain ⟨hw, hx⟩ := he.wf_extends hp ho hst (wfPSt_erase p hs.1 hs.2.1)
  exact ⟨he, hsim.wf (hsim.sim.len.trans hw.1), PCExt.iff_erase.mpr hx⟩

include hI hS hperm hp ho hst hb hplan hagg hd in
theorem runPar_linked (σ : Sched E B G P A) (threads fuel : Nat) (s : PCSt) (hs : WFPCSt p s) :
    ∃ res, run I V p ix order σ threads fuel s = .ok res ∧ ∀ out, res = some out → Linked I p ix order s out.st := by
  obtain ⟨res, hres, hspec⟩ := run_simPar I hI {} V hS p ix (.of_planOk hperm hp hb hplan hagg hd) σ threads order hst fuel s
    hs.1 hs.2.1
  refine ⟨res, hres, fun out hout => ?_⟩
  obtain ⟨st', hnd, hsim⟩ := hspec out hout
  exact linked_of_RunND I p ix order hp ho hst hs hnd hsim

include hI hS hperm hp ho hst hb hplan hagg hd in
theorem runPar_linkA (σ : Sched E B G P A) (threads fuel : Nat) (s : PCSt) (hs : WFPCSt p s) :
    ∃ res, run I V p ix order σ threads fuel s = .ok res ∧ ∀ out, res = some out →
      ∃ st', RunND I {} p order (absSt (s.map PCRel.erase)) st' ∧ (∀ r, (relSt st' r).rows = (pcrel out.st r).rows) ∧
        WFPCSt p out.st ∧ PCExt p s out.st := by
  obtain ⟨res, hres, hsp⟩ := runPar_linked I hI V hS hperm p ix order hp ho hst hb hplan hagg hd σ threads fuel s hs
  refine ⟨res, hres, fun out hout => ?_⟩
  obtain ⟨⟨st', hnd, hsim⟩, hw, hx⟩ := hsp out hout
  exact ⟨st', hnd, fun r => (hsim.rows r).trans (erase_rows _ r), hw, hx⟩

include hperm hp ho hst in
/-- **stratified restart, for any two completed calls**: `oM` completes a call from `s`, `o` one from a value `t` between `s` and
`oM` -/
theorem restart_of_linked {s t oM o : PCSt} (hs : WFPCSt p s) (ht : WFPCSt p t) (hM : Linked I p ix order s oM)
    (hext : PCExt p s t) (hsound : ∀ f, factsOf t f → factsOf oM f) (hl : Linked I p ix order t o) :
    WFPCSt p o ∧ PCExt p t o ∧ ∀ f, factsOf o f ↔ factsOf oM f := by
  refine ⟨hl.wf, hl.ext, ?_⟩
  have h := Exec.restart hp ho hst hperm hM.exec hl.exec (wfPSt_erase p hs.1 hs.2.1) (wfPSt_erase p ht.1 ht.2.1) hext.erase
    (by rw [factsOf_erase, factsOf_erase]; exact hsound)
  rwa [factsOf_erase, factsOf_erase] at h

include hI hS hperm hp ho hst hb hplan hagg hd in
/-- **stratified restart over the concurrent indices**: the reference run and the run from `t` under their own schedules, in their
own pools, with their own fuels -/
theorem restart_physParA (s t : PCSt) (σM σ : Sched E B G P A) (threadsM threads fuelM fuel : Nat) (oM : ProgSt)
    (hs : WFPCSt p s) (ht : WFPCSt p t)
    (hM : run I V p ix order σM threadsM fuelM s = .ok (some oM))
    (hext : PCExt p s t) (hsound : ∀ f, factsOf t f → factsOf oM.st f) :
    ∃ res, run I V p ix order σ threads fuel t = .ok res ∧ ∀ o, res = some o →
      WFPCSt p o.st ∧ PCExt p t o.st ∧ ∀ f, factsOf o.st f ↔ factsOf oM.st f := by
  have hlM := spec_of_ok (runPar_linked I hI V hS hperm p ix order hp ho hst hb hplan hagg hd σM threadsM fuelM s hs) hM oM rfl
  obtain ⟨res, hres, hsp⟩ := runPar_linked I hI V hS hperm p ix order hp ho hst hb hplan hagg hd σ threads fuel t ht
  exact ⟨res, hres, fun o ho' => restart_of_linked I hperm p ix order hp ho hst hs ht hlM hext hsound (hsp o ho')⟩

end Link

end AscentVerif.PhysPar
