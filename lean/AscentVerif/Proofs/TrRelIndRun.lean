import AscentVerif.Proofs.TrRelIndMerge
/-!
# The driven model (`St.run`) simulates `Spec.run`

`StWF` (the variants generated code expects, well-formed relations) and `Sim` are kept by every `Op` that returns
(`step_inv`; the merge by `Common.merge_spec`), so they hold of every state reached from `St.init` (`reachable`); since
`StWF` fixes the variants, only a merge can panic (`run_panic`).  Last, the views of a well-formed `Old` copy.
-/
namespace AscentVerif.TrRelInd

/-- the variants generated code expects, over well-formed relations; `true` is `anti_reflexive`, which no constructor of the
Rust type sets otherwise (finding F7) -/
def StWF (s : St) : Prop :=
  ∃ rn rd rt, s = ⟨.new rn true, .old rd true, .old rt true⟩ ∧ RelWF rn ∧ RelWF rd ∧ RelWF rt

theorem St.init_eq : St.init = .ok ⟨.new {} true, .old {} true, .old {} true⟩ := rfl

theorem StWF.init {s₀ : St} (h₀ : St.init = .ok s₀) : StWF s₀ := by
  rw [St.init_eq] at h₀
  cases h₀
  exact ⟨{}, {}, {}, rfl, RelWF.empty, RelWF.empty, RelWF.empty⟩

theorem Sim.init {s₀ : St} (h₀ : St.init = .ok s₀) : Sim s₀ Spec.init := by
  rw [St.init_eq] at h₀
  cases h₀
  refine ⟨fun x y => ?_, fun x y => ?_, fun x y => ?_⟩ <;>
    simp [Common.Has, Common.containsKey, Common.rel, BinaryRel.contains, smHas_nil, Spec.init]

theorem has_new (r : BinaryRel) (b : Bool) (x y : Int) : (Common.new r b).Has x y ↔ smHas r.map x y = true := Iff.rfl
theorem has_old (r : BinaryRel) (b : Bool) (x y : Int) : (Common.old r b).Has x y ↔ smHas r.map x y = true := Iff.rfl

theorem step_add (rn : BinaryRel) (a : Bool) (dl tt : Common) (x y : Int) :
    St.step ⟨.new rn a, dl, tt⟩ (.add x y) =
      .ok (if tt.containsKey x y || dl.containsKey x y then ⟨.new rn a, dl, tt⟩ else ⟨.new (rn.insert x y).1 a, dl, tt⟩) := by
  simp only [St.step]
  split <;> rfl

theorem step_merge_ok {s s' : St} (h : s.step .merge = .ok s') : Common.merge s.nw s.dl s.tt = .ok (s'.nw, s'.dl, s'.tt) := by
  simp only [St.step] at h
  split at h
  · cases h
    assumption
  · cases h

theorem step_merge_panic {s : St} (h : s.step .merge = .panic) : Common.merge s.nw s.dl s.tt = .panic := by
  simp only [St.step] at h
  split at h
  · cases h
  · assumption

theorem step_inv {s s' : St} {a : Spec} (hwf : StWF s) (hsim : Sim s a) (hinv : SpecInv a) (o : Op)
    (h : s.step o = .ok s') : StWF s' ∧ Sim s' (a.step o) := by
  obtain ⟨rn, rd, rt, rfl, hn, hd, ht⟩ := hwf
  obtain ⟨sN, sD, sT⟩ := hsim
  simp only [has_new, has_old] at sN sD sT
  cases o with
  | add x y =>
    rw [step_add] at h
    cases h
    -- `hc`: the guard of the head update, in the specification's terms
    have hc : ((Common.old rt true).containsKey x y || (Common.old rd true).containsKey x y) = true ↔ a.T x y ∨ a.D x y := by
      rw [Bool.or_eq_true, ← sT, ← sD]
      exact Iff.rfl
    split
    · rename_i hg
      refine ⟨⟨rn, rd, rt, rfl, hn, hd, ht⟩, fun p q => ?_, sD, sT⟩
      rw [has_new, sN]
      refine ⟨Or.inl, fun hh => hh.elim id ?_⟩
      rintro ⟨rfl, rfl, h1, h2⟩
      exact ((hc.mp hg).elim h1 h2).elim
    · rename_i hg
      refine ⟨⟨_, rd, rt, rfl, hn.insert x y, hd, ht⟩, fun p q => ?_, sD, sT⟩
      rw [has_new, smHas_insert, sN]
      have hg' : ¬ a.T x y ∧ ¬ a.D x y := not_or.mp fun hh => hg (hc.mpr hh)
      exact or_congr_right ⟨fun hh => ⟨hh.1, hh.2, hg'⟩, fun hh => ⟨hh.1, hh.2.1⟩⟩
  | merge =>
    obtain ⟨rd', rt', hn', hd', ht', wd', wt', hT, hD⟩ :=
      Common.merge_spec hinv hn hd ht sN sD sT (step_merge_ok h)
    obtain ⟨n', d', t'⟩ := s'
    cases hn'
    cases hd'
    cases ht'
    exact ⟨⟨{}, rd', rt', rfl, RelWF.empty, wd', wt'⟩, fun p q => ⟨fun hh => (nomatch hh), False.elim⟩, hD, hT⟩

theorem run_inv {s s' : St} {a : Spec} (hwf : StWF s) (hsim : Sim s a) (hinv : SpecInv a) (ops : List Op)
    (h : s.run ops = .ok s') : StWF s' ∧ Sim s' (a.run ops) := by
  induction ops generalizing s a with
  | nil => simp only [St.run] at h; cases h; exact ⟨hwf, hsim⟩
  | cons o rest ih =>
    simp only [St.run] at h
    split at h
    · rename_i s1 hs1
      obtain ⟨h1, h2⟩ := step_inv hwf hsim hinv o hs1
      exact ih h1 h2 (hinv.step o) h
    · cases h

theorem reachable {ops : List Op} {s₀ s : St} (h₀ : St.init = .ok s₀) (h : St.run s₀ ops = .ok s) :
    StWF s ∧ Sim s (Spec.run Spec.init ops) ∧ SpecInv (Spec.run Spec.init ops) :=
  have := run_inv (StWF.init h₀) (Sim.init h₀) SpecInv.init ops h
  ⟨this.1, this.2, SpecInv.init.run ops⟩

theorem run_panic {ops : List Op} {s : St} {a : Spec} (hwf : StWF s) (hsim : Sim s a) (hinv : SpecInv a)
    (h : St.run s ops = .panic) :
    ∃ pre nw dl tt, (∃ post, ops = pre ++ [Op.merge] ++ post) ∧ St.run s pre = .ok ⟨nw, dl, tt⟩ ∧
      Common.merge nw dl tt = .panic := by
  induction ops generalizing s a with
  | nil => cases h
  | cons o rest ih =>
    simp only [St.run] at h
    split at h
    · rename_i s1 hs1
      obtain ⟨h1, h2⟩ := step_inv hwf hsim hinv o hs1
      obtain ⟨pre, nw, dl, tt, ⟨post, hp⟩, hr, hm⟩ := ih h1 h2 (hinv.step o) h
      refine ⟨o :: pre, nw, dl, tt, ⟨post, by rw [hp]; rfl⟩, ?_, hm⟩
      simp only [St.run, hs1]
      exact hr
    · rename_i hs1
      cases o with
      | add x y =>
        -- `new` is in the `New` variant, so the head update returns
        obtain ⟨rn, rd, rt, rfl, _⟩ := hwf
        rw [step_add] at hs1
        cases hs1
      | merge => exact ⟨[], s.nw, s.dl, s.tt, ⟨rest, rfl⟩, rfl, step_merge_panic hs1⟩

theorem mem_getD_smGet (m : SetMap) (x y : Int) : y ∈ (smGet m x).getD [] ↔ smHas m x y = true := by
  unfold smHas
  cases smGet m x with
  | none => simp
  | some s => simp

theorem getD_smGet_nodup {m : SetMap} (hs : SetsNodup m) (x : Int) : ((smGet m x).getD []).Nodup := by
  cases hg : smGet m x with
  | none => simp
  | some s => exact smGet_nodup hs hg

theorem view0_old {r : BinaryRel} (hr : RelWF r) (b : Bool) (x : Int) :
    ∃ res, (Common.old r b).get0 x = .ok res ∧ (∀ y, y ∈ res.getD [] ↔ (Common.old r b).Has x y) ∧ (res.getD []).Nodup :=
  ⟨smGet r.map x, rfl, fun y => by rw [has_old]; exact mem_getD_smGet _ _ _, getD_smGet_nodup hr.sm x⟩

theorem view1_old {r : BinaryRel} (hr : RelWF r) (b : Bool) (y : Int) :
    (∀ x, x ∈ ((Common.old r b).get1 y).getD [] ↔ (Common.old r b).Has x y) ∧ (((Common.old r b).get1 y).getD []).Nodup := by
  refine ⟨fun x => ?_, getD_smGet_nodup hr.sr y⟩
  rw [has_old, ← hr.mir]
  exact mem_getD_smGet _ _ _

theorem viewNone_old {r : BinaryRel} (hr : RelWF r) (b : Bool) :
    (∀ x y, (x, y) ∈ (Common.old r b).getNone ↔ (Common.old r b).Has x y) ∧ (Common.old r b).getNone.Nodup :=
  ⟨fun x y => by rw [has_old]; exact mem_smPairs_iff hr.km, smPairs_nodup hr.km hr.sm⟩

theorem StWF.old_copy {s : St} (h : StWF s) {c : Common} (hc : c = s.dl ∨ c = s.tt) :
    ∃ r, c = .old r true ∧ RelWF r := by
  obtain ⟨rn, rd, rt, rfl, _, hd, ht⟩ := h
  rcases hc with rfl | rfl
  · exact ⟨rd, rfl, hd⟩
  · exact ⟨rt, rfl, ht⟩

end AscentVerif.TrRelInd
