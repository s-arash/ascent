import AscentVerif.Proofs.TrRelSimple
/-!
Collapse-free states whose maps are mirrored and transitively closed (`ExactFor`).  If `set_connections`
(`C a b := rel t.conn a b`) is transitively closed and mirrored by `reverse_set_connections`, `from ≠ to` and there is no
back edge `to → from`, then after `add_set_connection(from, to)` both maps hold exactly
`C ∪ ({from} ∪ pred from) × ({to} ∪ succ to)` (`Cstar`, `addSetConnection_exact`) — again closed and mirrored, so `add`
keeps `ExactFor` as long as it does not collapse (`add_exact`).  Closedness is what justifies the `difference` shortcuts
of the Rust code (`new_to_connections`, `new_from_reverse_connections`).  That histories in which no pair closes a cycle
never collapse is not proved here: it follows from the invariant for arbitrary histories (`run_acyclic`).
-/
namespace AscentVerif.TrRel

def Mirror (t : TrRel) : Prop := ∀ a b, rel t.conn a b ↔ rel t.rconn b a

def Closed (t : TrRel) : Prop := ∀ a b c, rel t.conn a b → rel t.conn b c → rel t.conn a c

/-- the relation `add_set_connection(f, to)` must produce -/
def Cstar (t : TrRel) (f to a b : Nat) : Prop :=
  rel t.conn a b ∨ ((a = f ∨ rel t.conn a f) ∧ (b = to ∨ rel t.conn to b))

theorem Cstar.trans {t : TrRel} (K : Closed t) (f to : Nat) (a b c : Nat) (h1 : Cstar t f to a b) (h2 : Cstar t f to b c) :
    Cstar t f to a c := by
  rcases h1 with h1 | ⟨ha, hb⟩ <;> rcases h2 with h2 | ⟨hb', hc⟩
  · exact Or.inl (K _ _ _ h1 h2)
  · right
    refine ⟨?_, hc⟩
    rcases hb' with rfl | hb'
    · exact Or.inr h1
    · exact Or.inr (K _ _ _ h1 hb')
  · right
    refine ⟨ha, ?_⟩
    rcases hb with rfl | hb
    · exact Or.inr h2
    · exact Or.inr (K _ _ _ hb h2)
  · exact Or.inr ⟨ha, hc⟩

theorem addSetConnection_le_cstar {t t' : TrRel} {f to : Nat} {b : Bool} (M : Mirror t) (K : Closed t)
    (he : t.addSetConnection f to = .ok (t', b)) : ConnLe (Cstar t f to) t' :=
  (addSetConnection_le (G := Cstar t f to) (Cstar.trans K f to) ⟨fun _ _ h => Or.inl h, fun a c h => Or.inl ((M c a).mpr h)⟩
    (Or.inr ⟨Or.inl rfl, Or.inl rfl⟩) he).1

theorem addSetConnection_exact {t t' : TrRel} {f to : Nat} {b : Bool} (M : Mirror t) (K : Closed t)
    (hne : f ≠ to) (hback : ¬ rel t.conn to f) (he : t.addSetConnection f to = .ok (t', b)) :
    (∀ a c, rel t'.conn a c ↔ Cstar t f to a c) ∧ (∀ a c, rel t'.rconn c a ↔ Cstar t f to a c) := by
  have hup := addSetConnection_le_cstar M K he
  suffices hlow : ∀ a c, Cstar t f to a c → rel t'.conn a c ∧ rel t'.rconn c a from
    ⟨fun a c => ⟨hup.conn a c, fun h => (hlow a c h).1⟩, fun a c => ⟨hup.rconn c a, fun h => (hlow a c h).2⟩⟩
  rcases addSetConnection_cases he with ⟨hold, hr, hc⟩ | ⟨_, S⟩
  · -- the edge was already stored: nothing changes, and `Cstar = C` by closedness
    have hC : ∀ a c, Cstar t f to a c → rel t.conn a c := by
      rintro a c (h | ⟨ha, hc⟩)
      · exact h
      · have h1 : rel t.conn a to := by
          rcases ha with rfl | ha
          · exact hold
          · exact K _ _ _ ha hold
        rcases hc with rfl | hc
        · exact h1
        · exact K _ _ _ h1 hc
    exact fun a c h => ⟨(hc a c).mpr (hC a c h), hr ▸ (M a c).mp (hC a c h)⟩
  · rintro a c (h | ⟨ha, hc⟩)
    · exact ⟨S.conn_ge a c (Or.inl h), S.rconn_ge c a (Or.inl ((M a c).mp h))⟩
    · by_cases hac : a = c
      · -- on the diagonal a product pair would close a cycle through the new edge
        subst hac
        exfalso
        rcases ha with rfl | ha <;> rcases hc with e | hc
        · exact hne e
        · exact hback hc
        · exact hback (e ▸ ha)
        · exact hback (K _ _ _ hc ha)
      · exact S.lower hne (fun a b _ => M a b) (fun a b c _ => K a b c) hback hac ha hc

/-- `add_set_connection(s, s)` on a node without any connection (a freshly created set) -/
theorem addSetConnection_exact_self {t t' : TrRel} {s : Nat} {b : Bool} (M : Mirror t) (K : Closed t)
    (hiso : ∀ a, ¬ rel t.conn s a ∧ ¬ rel t.conn a s) (he : t.addSetConnection s s = .ok (t', b)) :
    (∀ a c, rel t'.conn a c ↔ Cstar t s s a c) ∧ (∀ a c, rel t'.rconn c a ↔ Cstar t s s a c) := by
  have hup := addSetConnection_le_cstar M K he
  have hge := addSetConnection_ge he
  have hger := addSetConnection_ge_rconn he
  have hC : ∀ a c, Cstar t s s a c → rel t.conn a c ∨ (a = s ∧ c = s) := by
    rintro a c (h | ⟨ha, hc⟩)
    · exact Or.inl h
    · rcases ha with rfl | ha
      · rcases hc with rfl | hc
        · exact Or.inr ⟨rfl, rfl⟩
        · exact absurd hc (hiso c).1
      · exact absurd ha (hiso a).2
  refine ⟨fun a c => ⟨hup.conn a c, fun h => ?_⟩, fun a c => ⟨hup.rconn c a, fun h => ?_⟩⟩
  · rcases hC a c h with h | ⟨rfl, rfl⟩
    · exact hge.1 a c h
    · exact hge.2
  · rcases hC a c h with h | ⟨rfl, rfl⟩
    · exact hger.1 c a ((M a c).mp h)
    · exact hger.2 (hiso _).1

theorem mirror_closed_of_exact {t t' : TrRel} {f to : Nat} (K : Closed t)
    (h : (∀ a c, rel t'.conn a c ↔ Cstar t f to a c) ∧ (∀ a c, rel t'.rconn c a ↔ Cstar t f to a c)) :
    Mirror t' ∧ Closed t' := by
  refine ⟨fun a c => by rw [h.1, h.2], fun a c d h1 h2 => ?_⟩
  rw [h.1] at h1 h2 ⊢
  exact Cstar.trans K f to a c d h1 h2

structure ExactFor (t : TrRel) (ps : List (Int × Int)) : Prop where
  sound : SoundFor t ps
  mirror : Mirror t
  closed : Closed t

theorem exactFor_empty : ExactFor {} [] := by
  refine ⟨soundFor_empty, ?_, ?_⟩
  · intro a b; simp [rel, alGet]
  · intro a b c h; simp [rel, alGet] at h

theorem add_exact {t t' : TrRel} {ps : List (Int × Int)} {x y : Int} {b : Bool} (E : ExactFor t ps)
    (he : t.add x y = .ok (t', b)) (hs : t'.subs = []) : ExactFor t' (ps ++ [(x, y)]) := by
  suffices hmk : Mirror t' ∧ Closed t' from ⟨add_sound E.sound he hs, hmk.1, hmk.2⟩
  have S := E.sound
  obtain ⟨t1, xSet, xNew, t2, ySet, yNew, h1, h2⟩ := add_nodes he
  obtain ⟨t3, b3, h3, hc⟩ := add_run h1 h2
  rw [he] at hc
  have N1 := addNodeNew_sound S.simple h1
  have N2 := addNodeNew_sound N1.simple h2
  have hconn : t2.conn = t.conn := N2.conn_eq.trans N1.conn_eq
  have M2 : Mirror t2 := by intro a c; rw [hconn, N2.rconn_eq, N1.rconn_eq]; exact E.mirror a c
  have K2 : Closed t2 := by intro a c d; rw [hconn]; exact E.closed a c d
  have hlt : ∀ a c, rel t2.conn a c → a < t.sets.length ∧ c < t.sets.length := by
    intro a c h; rw [hconn] at h; exact S.conn_lt h
  rcases hc with ⟨hpre, e⟩ | ⟨_, _, e⟩ | ⟨_, _, _, hcb⟩
  · cases e
    suffices hpre' : (xSet ≠ ySet ∧ ¬ rel t2.conn ySet xSet) ∨
        (xSet = ySet ∧ ∀ a, ¬ rel t2.conn xSet a ∧ ¬ rel t2.conn a xSet) by
      rcases hpre' with ⟨hne, hback⟩ | ⟨heq, hiso⟩
      · exact mirror_closed_of_exact K2 (addSetConnection_exact M2 K2 hne hback h3)
      · subst heq; exact mirror_closed_of_exact K2 (addSetConnection_exact_self M2 K2 hiso h3)
    rcases hpre with hnew | hpre
    · -- one of the two sets is fresh, hence not mentioned by any stored connection
      rcases (addNodeNew_nil S.simple.subs_nil h1).2 with ⟨hx, rfl, rfl⟩ | ⟨hx, rfl, rfl, rfl⟩
      · -- x known, so y is new
        simp only [Bool.false_or] at hnew; subst hnew
        rcases (addNodeNew_nil S.simple.subs_nil h2).2 with ⟨_, h, _⟩ | ⟨hy, _, rfl, _⟩
        · cases h
        · have hxlt : xSet < t1.sets.length := (List.getElem?_eq_some_iff.mp (S.simple.set_of_id x xSet hx)).1
          left
          exact ⟨by omega, fun h => by have := (hlt _ _ h).1; omega⟩
      · -- x new: its set is the old length
        by_cases heq : t.sets.length = ySet
        · right
          exact ⟨heq, fun a => ⟨fun h => by have := (hlt _ _ h).1; omega, fun h => by have := (hlt _ _ h).2; omega⟩⟩
        · left
          exact ⟨heq, fun h => by have := (hlt _ _ h).2; omega⟩
    · exact Or.inl hpre
  · cases e; exact ⟨M2, K2⟩
  · exact absurd hs (collapseBranch_subs_ne_nil hcb.symm)

theorem run_exact {t t' : TrRel} {ps rest : List (Int × Int)} (E : ExactFor t ps)
    (he : run t rest = .ok t') (hs : t'.subs = []) : ExactFor t' (ps ++ rest) :=
  run_collapse_free add_exact E he hs

end AscentVerif.TrRel
