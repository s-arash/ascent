import AscentVerif.Proofs.TrRelCollapseInv
/-!
# The other queries under the invariant: `set_of`, `rev_set_of`, `iter_all`

On a state satisfying `Inv t ps` none of them panics.  `set_of x` is `None` exactly for unmentioned `x` and otherwise
enumerates, WITHOUT repetition, the `y` with `Closure ps x y` (`x` itself included); `rev_set_of x` likewise those with
`Closure ps y x`; `iter_all` the pairs of `Closure ps`.  Freedom from repetition relies on the duplicate-freeness part
of the invariant (keys of the three maps, members of the stored sets), which mirrors what `HashMap` / `HashSet`
guarantee by construction.
-/
namespace AscentVerif.TrRel

/-- the value of a computation that is known not to panic -/
def Res.getD {β : Type} (x : Res β) (d : β) : β :=
  match x with
  | .ok b => b
  | .panic => d

@[simp] theorem Res.getD_ok {β : Type} (b d : β) : (Res.ok b).getD d = b := rfl

theorem mapM_ok_map {α β : Type} {f : α → Res β} (d : β) (L : List α) (h : ∀ e ∈ L, ∃ r, f e = .ok r) :
    L.mapM f = .ok (L.map fun e => (f e).getD d) := by
  induction L with
  | nil => rfl
  | cons a rest ih =>
    obtain ⟨r, hr⟩ := h a (List.mem_cons_self ..)
    rw [List.mapM_cons, hr, ih fun e he => h e (List.mem_cons_of_mem _ he)]
    simp only [Res.bind_ok, Res.pure_eq, List.map_cons, hr, Res.getD_ok]

def setAt (t : TrRel) (s : Nat) : List Int := (unwrap t.sets[s]?).getD []

theorem unwrap_sets_of_lt {t : TrRel} {s : Nat} (h : s < t.sets.length) : unwrap t.sets[s]? = .ok (setAt t s) := by
  unfold setAt
  rw [List.getElem?_eq_getElem h]; rfl

theorem mem_setAt (t : TrRel) (s : Nat) (y : Int) : y ∈ setAt t s ↔ Mem t s y := by
  unfold Mem setAt
  cases h : t.sets[s]? with
  | none => simp [unwrap, Res.getD]
  | some r => simp [unwrap, Res.getD]

theorem Core.nodup_setAt {t : TrRel} {ps : List (Int × Int)} (C : Core t ps) (s : Nat) : (setAt t s).Nodup := by
  unfold setAt
  cases h : t.sets[s]? with
  | none => exact List.nodup_nil
  | some r => exact C.sets_nodup s r h

/-- the list `set_of_by_set_id` produces for the dominant id `d`: the sets connected to `d` (without `d`), then `d`'s own set -/
def setList (t : TrRel) (m : NMap) (d : Nat) : List Int :=
  ((((alGet m d).getD []).filter (· != d) ++ [d]).map (setAt t)).flatten

/-- `set_of_by_set_id` / `rev_set_of_by_set_id` on a well-formed map that mentions dominant ids only -/
theorem setOfBySetIdIn_eq {t : TrRel} {ps : List (Int × Int)} (C : Core t ps) {m : NMap} (hm : MapOk m) {id d : Nat}
    (hr : Rt t.subs id d) (hd : IsDom t d) (hdom : ∀ s, rel m d s → IsDom t s) :
    t.setOfBySetIdIn m id = .ok (setList t m d) ∧ (setList t m d).Nodup ∧
      ∀ y, y ∈ setList t m d ↔ (Mem t d y ∨ ∃ s, rel m d s ∧ Mem t s y) := by
  unfold TrRel.setOfBySetIdIn setList
  simp only [C.getDominantId_of_rt hr, Res.bind_ok]
  have hmem_ids : ∀ s, s ∈ ((alGet m d).getD []).filter (· != d) ++ [d] ↔ ((rel m d s ∧ s ≠ d) ∨ s = d) := by
    intro s
    simp only [List.mem_append, List.mem_filter, mem_alGet_getD, bne_iff_ne, ne_eq, List.mem_singleton]
  have hlt : ∀ s ∈ ((alGet m d).getD []).filter (· != d) ++ [d], ∃ r, unwrap t.sets[s]? = .ok r := by
    intro s hs
    have hs' : IsDom t s := by
      rcases (hmem_ids s).mp hs with ⟨h, _⟩ | rfl
      · exact hdom s h
      · exact hd
    exact ⟨_, unwrap_sets_of_lt hs'.1⟩
  rw [mapM_ok_map [] _ hlt]
  simp only [Res.bind_ok, Res.pure_eq]
  refine ⟨rfl, ?_, ?_⟩
  · have hids : (((alGet m d).getD []).filter (· != d) ++ [d]).Nodup := by
      apply nodup_concat
      · apply nodup_filter
        cases h : alGet m d with
        | none => exact List.nodup_nil
        | some s => exact hm.2 d s h
      · simp
    rw [← List.flatMap_def]
    exact nodup_flatMap hids (fun s _ => C.nodup_setAt s) fun a _ b _ hab u hu hv =>
      hab (C.disjoint a b u ((mem_setAt t a u).mp hu) ((mem_setAt t b u).mp hv))
  · intro y
    simp only [List.mem_flatten, List.mem_map]
    constructor
    · rintro ⟨l', ⟨s, hs, rfl⟩, hy⟩
      have hy' := (mem_setAt t s y).mp hy
      rcases (hmem_ids s).mp hs with ⟨h, _⟩ | rfl
      · exact Or.inr ⟨s, h, hy'⟩
      · exact Or.inl hy'
    · rintro (hy | ⟨s, hs, hy⟩)
      · exact ⟨_, ⟨d, (hmem_ids d).mpr (Or.inr rfl), rfl⟩, (mem_setAt t d y).mpr hy⟩
      · by_cases hsd : s = d
        · subst hsd
          exact ⟨_, ⟨s, (hmem_ids s).mpr (Or.inr rfl), rfl⟩, (mem_setAt t s y).mpr hy⟩
        · exact ⟨_, ⟨s, (hmem_ids s).mpr (Or.inl ⟨hs, hsd⟩), rfl⟩, (mem_setAt t s y).mpr hy⟩

theorem elemSet_spec {t : TrRel} {ps : List (Int × Int)} (I : Inv t ps) (x : Int) :
    (¬ Mentioned ps x ∧ t.elemSet x = .ok none) ∨
    (Mentioned ps x ∧ ∃ d, t.elemSet x = .ok (some d) ∧ Mem t d x ∧ IsDom t d) := by
  unfold TrRel.elemSet
  cases hi : alGet t.elemIds x with
  | none =>
    left
    refine ⟨fun h => ?_, rfl⟩
    have := I.core.known x h
    simp [hi] at this
  | some id =>
    right
    obtain ⟨id', d, hid, hgd, _, hm, hdom⟩ := I.core.class_of (x := x) (by simp [hi])
    rw [hi] at hid; cases hid
    exact ⟨I.mentioned x (by simp [hi]), d, by simp [hgd], hm, hdom⟩

/-- `set_of` / `rev_set_of` over the given map -/
def setOfIn (t : TrRel) (m : NMap) (x : Int) : Res (Option (List Int)) := do
  match ← t.elemSet x with
  | none => pure none
  | some id => do let r ← t.setOfBySetIdIn m id; pure (some r)

theorem setOfIn_spec {t : TrRel} {ps : List (Int × Int)} (I : Inv t ps) {m : NMap} {R : Int → Int → Prop} (hok : MapOk m)
    (hdom : ∀ a b, rel m a b → IsDom t b)
    (hlink : ∀ x y, (∃ d, Mem t d x ∧ (Mem t d y ∨ ∃ s, rel m d s ∧ Mem t s y)) ↔ R x y) (x : Int) :
    (¬ Mentioned ps x ∧ setOfIn t m x = .ok none) ∨
    (Mentioned ps x ∧ ∃ l, setOfIn t m x = .ok (some l) ∧ l.Nodup ∧ ∀ y, y ∈ l ↔ R x y) := by
  have C := I.core
  unfold setOfIn
  rcases elemSet_spec I x with ⟨hn, he⟩ | ⟨hm, d, he, hx, hd⟩
  · left; exact ⟨hn, by simp [he]⟩
  · right
    obtain ⟨hl, hnd, hmem⟩ := setOfBySetIdIn_eq C hok (rt_of_none hd.2) hd (hdom d)
    refine ⟨hm, _, by simp [he, hl], hnd, ?_⟩
    intro y
    rw [hmem, ← hlink]
    constructor
    · intro h; exact ⟨d, hx, h⟩
    · rintro ⟨d', hx', h⟩
      have := C.disjoint d' d x hx' hx; subst this; exact h

/-- C18 for `set_of` -/
theorem setOf_spec {t : TrRel} {ps : List (Int × Int)} (I : Inv t ps) (x : Int) :
    (¬ Mentioned ps x ∧ t.setOf x = .ok none) ∨
    (Mentioned ps x ∧ ∃ l, t.setOf x = .ok (some l) ∧ l.Nodup ∧ ∀ y, y ∈ l ↔ Closure ps x y) :=
  setOfIn_spec I I.core.keysOk.1 (fun a b h => (I.core.conn_dom a b h).2) (linked_iff_closure I) x

/-- C18 for `rev_set_of` -/
theorem revSetOf_spec {t : TrRel} {ps : List (Int × Int)} (I : Inv t ps) (x : Int) :
    (¬ Mentioned ps x ∧ t.revSetOf x = .ok none) ∨
    (Mentioned ps x ∧ ∃ l, t.revSetOf x = .ok (some l) ∧ l.Nodup ∧ ∀ y, y ∈ l ↔ Closure ps y x) :=
  setOfIn_spec (R := fun x y => Closure ps y x) I I.core.keysOk.2
    (fun a b h => (I.core.rconn_dom a b h).2) (rlinked_iff_closure I) x

/-- C18 for `iter_all` -/
theorem iterAll_spec {t : TrRel} {ps : List (Int × Int)} (I : Inv t ps) :
    ∃ l, t.iterAll = .ok l ∧ l.Nodup ∧ ∀ p, p ∈ l ↔ Closure ps p.1 p.2 := by
  have C := I.core
  -- one entry of `elem_ids`
  have hentry : ∀ e ∈ t.elemIds, ∃ r, (do
      let ys ← t.setOfBySetIdIn t.conn e.2
      Res.ok (ys.map fun y => (e.1, y)) : Res (List (Int × Int))) = .ok r ∧ r.Nodup ∧
        ∀ p, p ∈ r ↔ (p.1 = e.1 ∧ Closure ps p.1 p.2) := by
    rintro ⟨x, id⟩ he
    have hget := C.elem_keys.alGet_of_mem he
    obtain ⟨d, hr, hx⟩ := C.elem x id hget
    have hd := C.mem_dom hx
    obtain ⟨hl, hnd, hmem⟩ := setOfBySetIdIn_eq C C.keysOk.1 hr hd (fun s h => (C.conn_dom d s h).2)
    refine ⟨(setList t t.conn d).map fun y => (x, y), by simp only [hl, Res.bind_ok], ?_, ?_⟩
    · exact nodup_map_of_inj (fun _ _ e => (Prod.mk.inj e).2) hnd
    · rintro ⟨p1, p2⟩
      simp only [List.mem_map, Prod.mk.injEq]
      constructor
      · rintro ⟨y, hy, rfl, rfl⟩
        refine ⟨rfl, (linked_iff_closure I x y).mp ⟨d, hx, (hmem y).mp hy⟩⟩
      · rintro ⟨rfl, hc⟩
        obtain ⟨d', hx', h⟩ := (linked_iff_closure I p1 p2).mpr hc
        have := C.disjoint d' d p1 hx' hx; subst this
        exact ⟨p2, (hmem p2).mpr h, rfl, rfl⟩
  unfold TrRel.iterAll
  rw [mapM_ok_map [] t.elemIds fun e he => by obtain ⟨r, hr, _⟩ := hentry e he; exact ⟨r, hr⟩]
  simp only [Res.bind_ok, Res.pure_eq]
  refine ⟨_, rfl, ?_, ?_⟩
  · rw [← List.flatMap_def]
    refine nodup_flatMap (List.pairwise_map.mp C.elem_keys) (fun e he => ?_) fun a ha b hb hab u hu hv => ?_
    · obtain ⟨r, hr, hnd, _⟩ := hentry e he
      rw [hr]; exact hnd
    · obtain ⟨ra, hra, _, hma⟩ := hentry a ha
      obtain ⟨rb, hrb, _, hmb⟩ := hentry b hb
      rw [hra] at hu; rw [hrb] at hv
      exact hab (((hma u).mp hu).1.symm.trans ((hmb u).mp hv).1)
  · intro p
    simp only [List.mem_flatten, List.mem_map]
    constructor
    · rintro ⟨l', ⟨e, he, rfl⟩, hp⟩
      obtain ⟨r, hr, _, hm⟩ := hentry e he
      rw [hr] at hp
      exact ((hm p).mp hp).2
    · intro hc
      have hk := C.known p.1 hc.1
      cases hi : alGet t.elemIds p.1 with
      | none => simp [hi] at hk
      | some id =>
        have he := mem_of_alGet_some hi
        obtain ⟨r, hr, _, hm⟩ := hentry (p.1, id) he
        exact ⟨_, ⟨(p.1, id), he, rfl⟩, by rw [hr]; exact (hm p).mpr ⟨rfl, hc⟩⟩

end AscentVerif.TrRel
