import AscentVerif.Proofs.PhysSim
import AscentVerif.Proofs.EnvSim
import AscentVerif.Proofs.AggScc
/-!
# What an aggregation item reads over the physical indices

An aggregator sees the matching rows with their multiplicity, which `IxB` (`Proofs/PhysIdx.lean`) records per key.
`aggBag_perm_core`: the bag an aggregator receives from `index_get` on the plan's index is a permutation of the bag it receives
from the filter semantics (`aggTuples`: the stored entries, de-duplicated for a full-key item).  `aggBag_of_sim` is its instance
under the simulation relation, for a relation that is not dynamic in the SCC; a permutation-invariant aggregator then continues
with the same environments: the `AgOk` that `evalFrom_memA` (`Proofs/PhysEval.lean`) asks for (`agOk_of_sim`,
`Proofs/PhysAggRun.lean`).
-/
namespace AscentVerif.Phys
open AscentVerif AscentVerif.Engine AscentVerif.Index

variable {E B G P A : Type}

theorem keyPositions_cons (x : AggArg E) (as : List (AggArg E)) :
    keyPositions (x :: as) =
      (match x with
        | .key _ => [0]
        | _ => []) ++ (keyPositions as).map (· + 1) := by
  unfold keyPositions
  rw [List.length_cons, List.range_succ_eq_map, List.filter_cons, List.filter_map]
  simp only [Function.comp_def, Nat.succ_eq_add_one, List.getElem?_cons_succ, List.getElem?_cons_zero]
  cases x <;> simp

theorem proj_map_succ (l : List Nat) (y : Val) (ys : Tuple) : Plan.proj (l.map (· + 1)) (y :: ys) = Plan.proj l ys := by
  simp [Plan.proj, List.map_map, Function.comp_def]

theorem aggKey_cons_key (I : Interp E B G P A) (ρ : Env) (e : E) (as : List (AggArg E)) :
    aggKey I ρ (.key e :: as) = I.expr e ρ :: aggKey I ρ as := rfl

theorem aggKey_cons_wild (I : Interp E B G P A) (ρ : Env) (as : List (AggArg E)) :
    aggKey I ρ (.wild :: as) = aggKey I ρ as := rfl

theorem aggKey_cons_bound (I : Interp E B G P A) (ρ : Env) (v : Var) (as : List (AggArg E)) :
    aggKey I ρ (.bound v :: as) = aggKey I ρ as := rfl

theorem matchAggArgs_key (I : Interp E B G P A) (ρ : Env) : ∀ (args : List (AggArg E)) (t : Tuple) (acc acc' : Env),
    matchAggArgs I ρ args t acc = some acc' →
      t.length = args.length ∧ Plan.proj (keyPositions args) t = aggKey I ρ args := by
  intro args
  induction args with
  | nil =>
    intro t _ _ h
    cases t with
    | nil => exact ⟨rfl, rfl⟩
    | cons _ _ => simp [matchAggArgs] at h
  | cons a as ih =>
    intro t acc acc' h
    cases t with
    | nil => rw [matchAggArgs_cons_nil] at h; cases h
    | cons y ys =>
      -- argument by argument: only a key argument contributes to the key, and it matches the value it evaluates to
      rw [matchAggArgs_cons] at h
      obtain ⟨acc₁, h1, h2⟩ := Option.bind_eq_some_iff.mp h
      obtain ⟨g1, g2⟩ := ih ys acc₁ acc' h2
      refine ⟨congrArg (· + 1) g1, ?_⟩
      rw [keyPositions_cons]
      cases a with
      | wild => rw [aggKey_cons_wild, List.nil_append, proj_map_succ, g2]
      | bound v => rw [aggKey_cons_bound, List.nil_append, proj_map_succ, g2]
      | key e =>
        have he : I.expr e ρ = y := by
          simp only [matchAggArg, matchArg] at h1
          split at h1
          · assumption
          · cases h1
        rw [aggKey_cons_key, ← g2, he]
        exact congrArg (y :: ·) (proj_map_succ _ y ys)

theorem keyPositions_length_le (args : List (AggArg E)) : (keyPositions args).length ≤ args.length := by
  unfold keyPositions
  exact Nat.le_trans (List.length_filter_le _ _) (by simp)

theorem aggIsFull_iff (a : AggClause E A) : aggIsFull a = true ↔ (keyPositions a.args).length = a.args.length := by
  unfold aggIsFull
  generalize a.args = args
  induction args with
  | nil => simp [keyPositions]
  | cons x as ih =>
    have hle := keyPositions_length_le as
    rw [keyPositions_cons]
    cases x with
    | wild => simp; omega
    | bound v => simp; omega
    | key e =>
      simp only [List.all_cons, Bool.true_and, List.length_append, List.length_cons, List.length_nil, List.length_map]
      rw [ih]
      omega

theorem keyPositions_full (args : List (AggArg E)) (h : (keyPositions args).length = args.length) :
    keyPositions args = List.range args.length := by
  obtain ⟨q, hq⟩ : ∃ q : Nat → Bool, keyPositions args = (List.range args.length).filter q := ⟨_, rfl⟩
  rw [hq] at h ⊢
  have h' : ((List.range args.length).filter q).length = (List.range args.length).length := by rw [h]; simp
  exact List.filter_eq_self.mpr (List.length_filter_eq_length_iff.mp h')

/-- `index_get` returns, up to order, the rows of the version under the key: each stored copy for a hash index (with the
multiplicities `IxMT` records), the key itself once for the full index -/
theorem get1_perm {arity : Nat} {ts : List Tuple} {full : FIx} {idxs : List (List Nat × PIx)} {cols : List Nat}
    (key : List Val) (hty : ∀ t ∈ ts, t.length = arity) (hfull : ∀ t, FullIdx.containsKey full t = true ↔ t ∈ ts)
    (hidx : cols.length ≠ arity → IxMT ts cols (lookupIx idxs cols)) :
    (get1 arity full idxs cols key).Perm
      (if cols.length = arity then (dedupTuples ts).filter (· == key) else ts.filter fun t => Plan.proj cols t == key) := by
  unfold get1
  by_cases hl : cols.length = arity
  · rw [if_pos hl, if_pos (beq_iff_eq.mpr hl)]
    refine List.Perm.trans ?_ (filter_eq_key_perm (dedupTuples ts) (nodup_eraseDups ts) key).symm
    have hmem : key ∈ dedupTuples ts ↔ FullIdx.containsKey full key = true := by
      rw [hfull]; exact List.mem_eraseDups
    by_cases hc : FullIdx.containsKey full key = true
    · rw [if_pos hc, if_pos (hmem.mpr hc)]
    · rw [if_neg hc, if_neg (fun h => hc (hmem.mp h))]
  · rw [if_neg hl, if_neg fun h => hl (beq_iff_eq.mp h)]
    refine ((hidx hl key).map (rebuild cols arity key)).trans (List.Perm.of_eq ?_)
    rw [List.map_map]
    -- key and value of a stored row give the row back
    have : ∀ t ∈ ts.filter (fun t => Plan.proj cols t == key), (rebuild cols arity key ∘ projC cols) t = t := by
      intro t ht
      obtain ⟨h1, h2⟩ := List.mem_filter.mp ht
      show rebuild cols arity key (projC cols t) = t
      rw [← beq_iff_eq.mp h2, ← hty t h1]
      exact rebuild_proj' _ t
    rw [List.map_congr_left this, List.map_id']

/-- **the bag handed to the aggregator**: `index_get` with the evaluated key on the index over the key positions (the full
index if every argument is a key) against the filter semantics over all stored entries: only rows under the key match -/
theorem aggBag_perm_core (I : Interp E B G P A) (ag : AggClause E A) (ρ : Env) (arity : Nat) (ts : List Tuple)
    (full : FIx) (idxs : List (List Nat × PIx)) (hlen : ag.args.length = arity) (hty : ∀ t ∈ ts, t.length = arity)
    (hfull : ∀ t, FullIdx.containsKey full t = true ↔ t ∈ ts)
    (hidx : (keyPositions ag.args).length ≠ arity →
      IxMT ts (keyPositions ag.args) (lookupIx idxs (keyPositions ag.args))) :
    (aggBag I ag ρ (get1 arity full idxs (keyPositions ag.args) (aggKey I ρ ag.args))).Perm
      (aggBag I ag ρ (if aggIsFull ag then dedupTuples ts else ts)) := by
  unfold aggBag
  generalize hf : (fun t => (matchAggArgs I ρ ag.args t []).map fun acc =>
    ag.boundArgs.map fun v => (acc.get? v).getD Val.unit) = f
  have hk : ∀ t, f t ≠ none →
      t.length = ag.args.length ∧ Plan.proj (keyPositions ag.args) t = aggKey I ρ ag.args := by
    intro t ht
    cases hm : matchAggArgs I ρ ag.args t [] with
    | none => exact absurd (by rw [← hf]; simp [hm]) ht
    | some acc' => exact matchAggArgs_key I ρ ag.args t [] acc' hm
  have hp := get1_perm (aggKey I ρ ag.args) hty hfull hidx
  by_cases hl : (keyPositions ag.args).length = arity
  · -- the full index: the key is the whole row
    rw [(aggIsFull_iff ag).mpr (by rw [hl, hlen]), if_pos rfl,
      ← filterMap_filter_none f (fun t => t == aggKey I ρ ag.args) (fun t ht => ?_) (dedupTuples ts)]
    · exact (if_pos hl ▸ hp).filterMap f
    · apply Classical.byContradiction
      intro hne
      obtain ⟨h1, h2⟩ := hk t hne
      rw [keyPositions_full ag.args (by rw [hl, hlen]), ← h1, proj_range] at h2
      simp [h2] at ht
  · have hfl : aggIsFull ag = false := Bool.eq_false_iff.mpr fun h => hl (by rw [(aggIsFull_iff ag).mp h, hlen])
    rw [hfl, if_neg Bool.false_ne_true,
      ← filterMap_filter_none f _ (fun t ht => ?_) ts]
    · exact (if_neg hl ▸ hp).filterMap f
    · apply Classical.byContradiction
      intro hne
      simp [(hk t hne).2] at ht

theorem aggTuples_eq (cfg : Config) (p : Program E B G P A) (hl : ∀ d ∈ p.rels, d.lat = false) (a : SccSt)
    (ag : AggClause E A) :
    aggTuples cfg p a ag =
      if aggIsFull ag then dedupTuples (bagTuples (relSt a.rels ag.rel).rows (relSt a.rels ag.rel).idx)
      else bagTuples (relSt a.rels ag.rel).rows (relSt a.rels ag.rel).idx :=
  (Agg.aggTuples_congr cfg p ag rfl).trans (Agg.aggOf_eq cfg p hl a.rels ag)

theorem aggBag_of_sim (I : Interp E B G P A) (cfg : Config) (p : Program E B G P A) (hl : ∀ d ∈ p.rels, d.lat = false)
    (ix : IxSets) {dynR : List RelId} {a : SccSt} {ph : PScc} (hsim : SimB p ix a ph)
    (hwf : WF p.rels.length dynR a) (h : Hir.HRule) (i : Nat) (ag : AggClause E A) (hnd : dynR.contains ag.rel = false)
    (hlen : ag.args.length = arityOf p ag.rel) (hcols : aggColsAt h i = keyPositions ag.args)
    (hix : (keyPositions ag.args).length = arityOf p ag.rel ∨ keyPositions ag.args ∈ ix ag.rel) (ρ : Env) :
    (aggBag I ag ρ (aggRows I p ph h i ag ρ)).Perm (aggBag I ag ρ (aggTuples cfg p a ag)) := by
  have hd : findDyn a.dyn ag.rel = none := hwf.findDyn_none hnd
  have hpd : findPDyn ph.dyn ag.rel = none := by
    rcases hsim.dyn.findR (fun _ _ hok => hok.rel) ag.rel with ⟨_, h2⟩ | ⟨d, pd, h1, _, _⟩
    · exact h2
    · rw [hd] at h1; cases h1
  have hview : viewOf ph ag.rel (some .total) = .stored (prel ph.rels ag.rel) := by simp only [viewOf, hpd]
  unfold aggRows
  rw [hview, hcols, aggTuples_eq cfg p hl]
  show (aggBag I ag ρ (get1 (arityOf p ag.rel) (prel ph.rels ag.rel).full (prel ph.rels ag.rel).idxs
    (keyPositions ag.args) (aggKey I ρ ag.args))).Perm _
  apply aggBag_perm_core I ag ρ (arityOf p ag.rel) _ _ _ hlen
  · intro t ht
    obtain ⟨j, hj, rfl⟩ := (mem_bagTuples' _ _ _).mp ht
    exact hsim.typed ag.rel _ (rowAt_mem _ j ((hwf.cover_nd ag.rel hd j).mpr hj))
  · intro t
    by_cases hr : ag.rel < a.rels.length
    · exact (hsim.nd ag.rel hr hd).1.2 t
    · have hr' : a.rels.length ≤ ag.rel := Nat.le_of_not_lt hr
      rw [relSt_of_ge _ _ hr', prel_of_ge _ _ (by rw [← hsim.len]; exact hr')]
      simp [FullIdx.containsKey, HMap.get?_nil, bagTuples]
  · intro hne
    by_cases hr : ag.rel < a.rels.length
    · exact lookupIx_of (P := fun c m => IxMT _ c m) (hsim.nd ag.rel hr hd).2.1 (hix.resolve_left hne)
        fun ci hci => ((hsim.nd ag.rel hr hd).2.2 ci hci).vals
    · have hr' : a.rels.length ≤ ag.rel := Nat.le_of_not_lt hr
      rw [relSt_of_ge _ _ hr', prel_of_ge _ _ (by rw [← hsim.len]; exact hr')]
      exact IxMT_nil _

end AscentVerif.Phys
