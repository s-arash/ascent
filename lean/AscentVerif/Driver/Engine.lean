import AscentVerif.Model.Sexp
import AscentVerif.Model.Engine
import AscentVerif.Model.StdInterp
import AscentVerif.Model.Hir
import AscentVerif.Model.EnginePhys
import AscentVerif.Model.EnginePhysPar
import AscentVerif.Model.EnginePhysTimeout
import AscentVerif.Model.EnginePhysParTimeout
import AscentVerif.Model.EnginePhysLat
import AscentVerif.Model.EnginePhysParLat
import AscentVerif.Model.EnginePhysLatTimeout
import AscentVerif.Model.EnginePhysParLatTimeout
import AscentVerif.Model.StdOps
import AscentVerif.Proofs.PlanSwap
namespace AscentVerif.Driver
open AscentVerif AscentVerif.Std AscentVerif.Engine

abbrev SProgram := Program Ex Bx Gx Px Ax
abbrev SRule := Rule Ex Bx Gx Px Ax
abbrev SItem := Item Ex Bx Gx Px Ax

partial def parseVal : Sexp → Option Val
  | .atom "none" => some .optNone
  | .atom "unit" => some .unit
  | .atom s =>
    match s.toInt? with
    | some n => some (.int n)
    | none => if s.startsWith "\"" then some (.str s) else none
  | .list (.atom "some" :: [v]) => (parseVal v).map .optSome
  | .list (.atom "set" :: xs) => (xs.mapM Sexp.asInt?).map fun l => .set l
  | _ => none

partial def renderVal : Val → String
  | .int n => toString n
  | .str s => s
  | .set l => if l.isEmpty then "(set)" else "(set " ++ " ".intercalate (l.map toString) ++ ")"
  | .optNone => "none"
  | .optSome v => s!"(some {renderVal v})"
  | .unit => "unit"

def renderTuple (t : Tuple) : String := "(" ++ " ".intercalate (t.map renderVal) ++ ")"

def parseTuple : Sexp → Option Tuple
  | .list xs => xs.mapM parseVal
  | _ => none

partial def parseEx : Sexp → Option Ex
  | .list [.atom "var", n] => n.asNat?.map .var
  | .list [.atom "add", a, b] => do some (.add (← parseEx a) (← parseEx b))
  | .list [.atom "sub", a, b] => do some (.sub (← parseEx a) (← parseEx b))
  | .list [.atom "mul", a, b] => do some (.mul (← parseEx a) (← parseEx b))
  | .list [.atom "min", a, b] => do some (.min (← parseEx a) (← parseEx b))
  | .list [.atom "max", a, b] => do some (.max (← parseEx a) (← parseEx b))
  | .list [.atom "somex", a] => do some (.some (← parseEx a))
  | .list [.atom "single", a] => do some (.single (← parseEx a))
  | v => (parseVal v).map .const

partial def parseBx : Sexp → Option Bx
  | .atom "tt" => some .tt
  | .list [.atom "lt", a, b] => do some (.lt (← parseEx a) (← parseEx b))
  | .list [.atom "le", a, b] => do some (.le (← parseEx a) (← parseEx b))
  | .list [.atom "eq", a, b] => do some (.eq (← parseEx a) (← parseEx b))
  | .list [.atom "ne", a, b] => do some (.ne (← parseEx a) (← parseEx b))
  | .list [.atom "and", a, b] => do some (.and (← parseBx a) (← parseBx b))
  | .list [.atom "or", a, b] => do some (.or (← parseBx a) (← parseBx b))
  | .list [.atom "not", a] => do some (.not (← parseBx a))
  | _ => none

def parseGx : Sexp → Option Gx
  | .list [.atom "range", a, b] => do some (.range (← parseEx a) (← parseEx b))
  | .list (.atom "list" :: xs) => (xs.mapM parseEx).map .list
  | _ => none

def parseCond : Sexp → Option (Cond Ex Bx Px)
  | .list [.atom "if", b] => (parseBx b).map .ifc
  | .list [.atom "let", v, e] => do some (.letc (← v.asNat?) (← parseEx e))
  | .list [.atom "iflet", .atom "some", v, e] => do some (.ifLet .some [← v.asNat?] (← parseEx e))
  | _ => none

def parseArg : Sexp → Option (Arg Ex)
  | .list [.atom "v", n] => n.asNat?.map .var
  | .list [.atom "e", e] => (parseEx e).map .expr
  | _ => none

def parseAggArg : Sexp → Option (AggArg Ex)
  | .atom "_" => some .wild
  | .list [.atom "b", n] => n.asNat?.map .bound
  | .list [.atom "k", e] => (parseEx e).map .key
  | _ => none

def parseAx : Sexp → Option Ax
  | .atom "count" => some .count
  | .atom "sum" => some .sum
  | .atom "min" => some .min
  | .atom "max" => some .max
  | .atom "not" => some .not
  | .atom "argmin" => some .argmin
  | .atom "minmax" => some .minmax
  | _ => none

def parseItem : Sexp → Option SItem
  | .list (.atom "cl" :: r :: .list args :: conds) => do
    some (.clause (← r.asNat?) (← args.mapM parseArg) (← conds.mapM parseCond))
  | .list [.atom "for", v, g] => do some (.gen (← v.asNat?) (← parseGx g))
  | .list [.atom "agg", .list outs, fn, .list bound, r, .list args] => do
    some (.agg { outs := ← outs.mapM Sexp.asNat?, fn := ← parseAx fn, boundArgs := ← bound.mapM Sexp.asNat?,
                 rel := ← r.asNat?, args := ← args.mapM parseAggArg })
  | c => (parseCond c).map .cond

def parseHead : Sexp → Option (HeadClause Ex)
  | .list (r :: args) => do some { rel := ← r.asNat?, args := ← args.mapM parseEx }
  | _ => none

def parseRule : Sexp → Option SRule
  | .list [.atom "rule", .list (.atom "heads" :: hs), .list (.atom "body" :: bs)] => do
    some { heads := ← hs.mapM parseHead, body := ← bs.mapM parseItem }
  | _ => none

def parseKind : Sexp → Option LatKind
  | .atom "max" => some .maxInt
  | .atom "min" => some .minInt
  | .atom "set" => some .setUnion
  | .atom "opt" => some .optMax
  | .atom "bset" => some .bset3
  | _ => none

partial def exVars : Ex → List Var
  | .const _ => []
  | .var x => [x]
  | .add a b | .sub a b | .mul a b | .min a b | .max a b => exVars a ++ exVars b
  | .some a | .single a => exVars a

partial def bxVars : Bx → List Var
  | .tt => []
  | .lt a b | .le a b | .eq a b | .ne a b => exVars a ++ exVars b
  | .and a b | .or a b => bxVars a ++ bxVars b
  | .not a => bxVars a

def stdVars : Hir.VarsOf Ex Bx := ⟨exVars, bxVars⟩

private def sortStrs (l : List String) : List String := l.mergeSort (· ≤ ·)

/-- the compilation plan in the canonical form tie A compares with the real `mir_summary`: SCCs as a sorted list of
`looping=<b> dyn=<rels> :: <sorted MIR rule lines>` -/
def mirCanon (p : SProgram) (order : SccOrder) : String :=
  let sccs := order.map fun scc =>
    let dyn := dynRels p scc
    let lines := (sccRules p scc).flatMap (Hir.ruleLines stdVars dyn)
    s!"looping={isLooping p scc} dyn=" ++ ",".intercalate (sortStrs (dyn.map fun r => s!"r{r}")) ++ " :: " ++ " ;; ".intercalate (sortStrs lines)
  " || ".intercalate (sortStrs sccs)

structure ProgDef where
  prog : SProgram
  kinds : List LatKind
  order : SccOrder

def parseProg : Sexp → Option ProgDef
  | .list [.atom "prog", .list (.atom "rels" :: rs), .list (.atom "rules" :: rules)] => do
    let decls ← rs.mapM fun
      | .list [.atom "rel", n] => do some (({ arity := ← n.asNat?, lat := false } : RelDecl), LatKind.maxInt)
      | .list [.atom "lat", n, k] => do some (({ arity := ← n.asNat?, lat := true } : RelDecl), ← parseKind k)
      | _ => none
    let p : SProgram := { rels := decls.map (·.1), rules := ← rules.mapM parseRule }
    some { prog := p, kinds := decls.map (·.2), order := computeOrder p }
  | _ => none

structure Inst where
  pd : ProgDef
  cfg : Config
  st : St
  iters : List Nat := []

structure EngStore where
  progs : List (String × ProgDef) := []
  insts : List (String × Inst) := []

def defaultFuel : Nat := 100000

private def insertSorted (x : String) : List String → List String
  | [] => [x]
  | y :: ys => if x ≤ y then x :: y :: ys else y :: insertSorted x ys

private def countRuns : List String → List (String × Nat)
  | [] => []
  | x :: xs =>
    match countRuns xs with
    | (y, n) :: rest => if x == y then (y, n + 1) :: rest else (x, 1) :: (y, n) :: rest
    | [] => [(x, 1)]

def dumpSt (s : St) : String :=
  " | ".intercalate <| (List.range s.length).map fun r =>
    let rows := ((relSt s r).rows.map renderTuple).foldr insertSorted []
    s!"r{r}:" ++ String.join ((countRuns rows).map fun (t, n) => s!" {t}*{n}")

def kindOf (pd : ProgDef) (r : RelId) : LatKind := pd.kinds.getD r .maxInt

def doRun (s : EngStore) (inst : String) : Option (EngStore × String) := do
    let i ← (s.insts.find? (·.1 == inst)).map (·.2)
    match run (interp (kindOf i.pd)) i.cfg i.pd.prog i.pd.order defaultFuel i.st with
    | .done ps => some ({ s with insts := (inst, { i with st := ps.st, iters := ps.iters }) :: s.insts.filter (·.1 != inst) }, "ok")
    | .timedOut _ => some (s, "timedout?")
    | .outOfFuel => some (s, "nofuel")

/-- the compiler's `rule_desugar_repeated_vars` (model: `Surface.repItems`) on a core program: the physical-index models take their
rules as `compile_rule_to_ir_rule` receives them (an argument mentioning a variable first bound earlier IN THE SAME clause has been
replaced by a fresh variable plus an equality condition); the filter-level engine model matches repeated variables directly -/
def desugRepeated (p : SProgram) : SProgram :=
  let step (acc : List SRule × Nat) (r : SRule) : List SRule × Nat :=
    let flat : List (Surface.FItem Ex Bx Gx Px Ax) := r.body.map fun
      | .clause rel args conds => .clause rel (args.map fun | .var v => Surface.SArg.var v | .expr e => Surface.SArg.expr e) conds
      | .cond c => .cond c
      | .gen v g => .gen v g
      | .agg a => .agg a
    let out := Surface.repItems stdOps flat 0 [] acc.2
    match out.1.mapM Surface.FItem.toCore with
    | some body => (acc.1 ++ [{ r with body := body }], out.2)
    | none => (acc.1 ++ [r], acc.2)
  { p with rules := (p.rules.foldl step ([], 0)).1 }

/-- `run()` through the physical-index engine model (`Model/EnginePhys.lean`): relational, aggregation-free programs only -/
def doRunPhys (s : EngStore) (inst : String) : Option (EngStore × String) := do
    let i ← (s.insts.find? (·.1 == inst)).map (·.2)
    let p := desugRepeated i.pd.prog
    if p.rels.any (·.lat) then some (s, "na")
    else if !Phys.aggPlanOk stdVars p (Phys.ixSetsOfA stdVars p) then some (s, "na-plan")
    else
      let ix := Phys.ixSetsOfA stdVars p
      let s0 : Phys.PSt := (List.range i.st.length).map fun r => { rows := (relSt i.st r).rows, full := [], idxs := [] }
      match Phys.run (interp (kindOf i.pd)) stdVars p ix i.pd.order defaultFuel s0 with
      | some ps =>
        let st : St := ps.st.map fun pr => { rows := pr.rows, idx := List.range pr.rows.length }
        some ({ s with insts := (inst, { i with st := st, iters := ps.iters }) :: s.insts.filter (·.1 != inst) }, "ok")
      | none => some (s, "nofuel")

/-- `run()` through the physical-index engine model WITH lattices (`Model/EnginePhysLat.lean`): aggregation-free programs -/
def doRunPhysLat (s : EngStore) (inst : String) : Option (EngStore × String) := do
    let i ← (s.insts.find? (·.1 == inst)).map (·.2)
    let p := desugRepeated i.pd.prog
    if p.rules.any (fun r => r.body.any fun | .agg _ => true | _ => false) then some (s, "na")
    else
      let ix := Phys.ixSetsOf stdVars p
      if !PhysLat.latPlanOk stdVars p ix then some (s, "na-plan")
      else
        let s0 : PhysLat.XSt := (List.range i.st.length).map fun r => { rows := (relSt i.st r).rows, full := [], idxs := [] }
        match PhysLat.run (interp (kindOf i.pd)) stdVars p ix i.pd.order defaultFuel s0 with
        | some ps =>
          let st : St := ps.st.map fun pr => { rows := pr.rows, idx := List.range pr.rows.length }
          some ({ s with insts := (inst, { i with st := st, iters := ps.iters }) :: s.insts.filter (·.1 != inst) }, "ok")
        | none => some (s, "nofuel")

/-- `run_timeout` through the physical-index engine model: the `k`-th clock reading finds the deadline passed -/
def doRunPhysTimeout (s : EngStore) (inst : String) (k : Nat) : Option (EngStore × String) := do
    let i ← (s.insts.find? (·.1 == inst)).map (·.2)
    let p := desugRepeated i.pd.prog
    if p.rels.any (·.lat) then some (s, "na")
    else if !Phys.aggPlanOk stdVars p (Phys.ixSetsOfA stdVars p) then some (s, "na-plan")
    else
      let ix := Phys.ixSetsOfA stdVars p
      let s0 : Phys.PSt := (List.range i.st.length).map fun r => { rows := (relSt i.st r).rows, full := [], idxs := [] }
      let back (ps : Phys.ProgStT) : Inst := { i with st := ps.st.map fun pr => { rows := pr.rows, idx := [] }, iters := ps.iters }
      match Phys.runTimeout (interp (kindOf i.pd)) stdVars p ix i.pd.order (fun c => c == k) defaultFuel s0 with
      | .done ps => some ({ s with insts := (inst, back ps) :: s.insts.filter (·.1 != inst) }, "true")
      | .timedOut ps => some ({ s with insts := (inst, back ps) :: s.insts.filter (·.1 != inst) }, "false")
      | .outOfFuel => some (s, "nofuel")

/-- `run_timeout` through the physical-index engine model WITH lattices (`Model/EnginePhysLatTimeout.lean`): the `k`-th clock reading finds the deadline passed -/
def doRunPhysLatTimeout (s : EngStore) (inst : String) (k : Nat) : Option (EngStore × String) := do
    let i ← (s.insts.find? (·.1 == inst)).map (·.2)
    let p := desugRepeated i.pd.prog
    if p.rules.any (fun r => r.body.any fun | .agg _ => true | _ => false) then some (s, "na")
    else
      let ix := Phys.ixSetsOf stdVars p
      if !PhysLat.latPlanOk stdVars p ix then some (s, "na-plan")
      else
        let s0 : PhysLat.XSt := (List.range i.st.length).map fun r => { rows := (relSt i.st r).rows, full := [], idxs := [] }
        let back (ps : PhysLat.ProgStT) : Inst := { i with st := ps.st.map fun pr => { rows := pr.rows, idx := [] }, iters := ps.iters }
        match PhysLat.runTimeout (interp (kindOf i.pd)) stdVars p ix i.pd.order (fun c => c == k) defaultFuel s0 with
        | .done ps => some ({ s with insts := (inst, back ps) :: s.insts.filter (·.1 != inst) }, "true")
        | .timedOut ps => some ({ s with insts := (inst, back ps) :: s.insts.filter (·.1 != inst) }, "false")
        | .outOfFuel => some (s, "nofuel")

/-- a concrete schedule: odd-numbered steps run in reverse order, worker `n % 7` performs the `n`-th insert, every third
comparison of sampled `len_estimate`s picks the swapped copy -/
def demoSched (seed : Nat) : PhysPar.Sched Ex Bx Gx Px Ax where
  permRows k l := if (k + seed) % 2 == 1 then l.reverse else l
  permRows_perm k l := by
    by_cases h : (k + seed) % 2 == 1
    · simp only [h, if_true]; exact List.reverse_perm l
    · simp only [h]; exact List.Perm.refl l
  permTasks k l := if (k + seed) % 2 == 0 then l.reverse else l
  permTasks_perm k l := by
    by_cases h : (k + seed) % 2 == 0
    · simp only [h, if_true]; exact List.reverse_perm l
    · simp only [h]; exact List.Perm.refl l
  tid n := (n + seed) % 7
  swap n := (n + seed) % 3 == 0

/-- `run()` through the PARALLEL physical-index engine model (`Model/EnginePhysPar.lean`) in a pool of `threads` workers -/
def doRunPhysPar (s : EngStore) (inst : String) (threads : Nat) : Option (EngStore × String) := do
    let i ← (s.insts.find? (·.1 == inst)).map (·.2)
    let p := desugRepeated i.pd.prog
    if p.rels.any (·.lat) then some (s, "na")
    else if !Phys.aggPlanOk stdVars p (Phys.ixSetsOfA stdVars p) then some (s, "na-plan")
    else
      let ix := Phys.ixSetsOfA stdVars p
      let s0 : PhysPar.PCSt := PhysPar.initSt threads p ix fun r => (relSt i.st r).rows
      match PhysPar.run (interp (kindOf i.pd)) stdVars p ix i.pd.order (demoSched threads) threads defaultFuel s0 with
      | .ok (some ps) =>
        let st : St := ps.st.map fun pr => { rows := pr.rows, idx := List.range pr.rows.length }
        some ({ s with insts := (inst, { i with st := st, iters := ps.iters }) :: s.insts.filter (·.1 != inst) }, "ok")
      | .ok none => some (s, "nofuel")
      | .panic => some (s, "panic (frozen-state protocol)")

/-- `run_timeout` through the PARALLEL physical-index engine model (`Model/EnginePhysParTimeout.lean`) in a pool of `threads`
workers: the `k`-th clock reading finds the deadline passed -/
def doRunPhysParTimeout (s : EngStore) (inst : String) (k threads : Nat) : Option (EngStore × String) := do
    let i ← (s.insts.find? (·.1 == inst)).map (·.2)
    let p := desugRepeated i.pd.prog
    if p.rels.any (·.lat) then some (s, "na")
    else if !Phys.aggPlanOk stdVars p (Phys.ixSetsOfA stdVars p) then some (s, "na-plan")
    else
      let ix := Phys.ixSetsOfA stdVars p
      let s0 : PhysPar.PCSt := PhysPar.initSt threads p ix fun r => (relSt i.st r).rows
      let back (ps : PhysPar.ProgStT) : Inst := { i with st := ps.st.map fun pr => { rows := pr.rows, idx := [] }, iters := ps.iters }
      match PhysPar.runTimeout (interp (kindOf i.pd)) stdVars p ix i.pd.order (demoSched threads) threads (fun c => c == k)
          defaultFuel s0 with
      | .ok (.done ps) => some ({ s with insts := (inst, back ps) :: s.insts.filter (·.1 != inst) }, "true")
      | .ok (.timedOut ps) => some ({ s with insts := (inst, back ps) :: s.insts.filter (·.1 != inst) }, "false")
      | .ok .outOfFuel => some (s, "nofuel")
      | .panic => some (s, "panic")

/-- `run()` through the PARALLEL physical-index engine model WITH lattices (`Model/EnginePhysParLat.lean`) in a pool of `threads`
workers (rules one after the other: no `#![inter_rule_parallelism]`): aggregation-free programs -/
def doRunPhysParLat (s : EngStore) (inst : String) (threads : Nat) : Option (EngStore × String) := do
    let i ← (s.insts.find? (·.1 == inst)).map (·.2)
    let p := desugRepeated i.pd.prog
    if p.rules.any (fun r => r.body.any fun | .agg _ => true | _ => false) then some (s, "na")
    else
      let ix := Phys.ixSetsOf stdVars p
      if !PhysParLat.latPlanOk stdVars p ix then some (s, "na-plan")
      else
        let s0 : PhysParLat.PLSt := PhysParLat.initSt threads p ix fun r => (relSt i.st r).rows
        match PhysParLat.run (interp (kindOf i.pd)) stdVars p ix i.pd.order (demoSched threads) false threads defaultFuel s0 with
        | .ok (some ps) =>
          let st : St := (List.range p.rels.length).map fun r =>
            let rows := PhysParLat.xrows ps.st r
            { rows := rows, idx := List.range rows.length }
          some ({ s with insts := (inst, { i with st := st, iters := ps.iters }) :: s.insts.filter (·.1 != inst) }, "ok")
        | .ok none => some (s, "nofuel")
        | .panic => some (s, "panic (frozen-state protocol)")

/-- `run_timeout` through the PARALLEL physical-index engine model WITH lattices (`Model/EnginePhysParLatTimeout.lean`) in a pool of
`threads` workers (rules one after the other: no `#![inter_rule_parallelism]`; same state conversion and schedule as
`doRunPhysParLat`): the `k`-th clock reading finds the deadline passed; aggregation-free programs -/
def doRunPhysParLatTimeout (s : EngStore) (inst : String) (k threads : Nat) : Option (EngStore × String) := do
    let i ← (s.insts.find? (·.1 == inst)).map (·.2)
    let p := desugRepeated i.pd.prog
    if p.rules.any (fun r => r.body.any fun | .agg _ => true | _ => false) then some (s, "na")
    else
      let ix := Phys.ixSetsOf stdVars p
      if !PhysParLat.latPlanOk stdVars p ix then some (s, "na-plan")
      else
        let s0 : PhysParLat.PLSt := PhysParLat.initSt threads p ix fun r => (relSt i.st r).rows
        let back (ps : PhysParLat.ProgStT) : Inst :=
          { i with st := (List.range p.rels.length).map fun r => { rows := PhysParLat.xrows ps.st r, idx := [] }, iters := ps.iters }
        match PhysParLat.runTimeout (interp (kindOf i.pd)) stdVars p ix i.pd.order (demoSched threads) false threads
            (fun c => c == k) defaultFuel s0 with
        | .ok (.done ps) => some ({ s with insts := (inst, back ps) :: s.insts.filter (·.1 != inst) }, "true")
        | .ok (.timedOut ps) => some ({ s with insts := (inst, back ps) :: s.insts.filter (·.1 != inst) }, "false")
        | .ok .outOfFuel => some (s, "nofuel")
        | .panic => some (s, "panic")

def handleEng (s : EngStore) : List Sexp → Option (EngStore × String)
  | [.atom "prog", .atom id, p] => do
    let pd ← parseProg p
    if aggOverDynamicAny pd then some (s, "reject NotStratifiable")
    else if !validOrder pd.prog pd.order then some (s, "bad-order")
    else some ({ s with progs := (id, pd) :: s.progs.filter (·.1 != id) }, "ok")
  | .atom "new" :: .atom inst :: .atom pid :: rest => do
    let pd ← (s.progs.find? (·.1 == pid)).map (·.2)
    let par := rest.head? == some (.atom "par")
    let i : Inst := { pd := pd, cfg := { parallel := par }, st := initSt pd.prog fun _ => [] }
    some ({ s with insts := (inst, i) :: s.insts.filter (·.1 != inst) }, "ok")
  | [.atom "perturb", _] => some (s, "ok")
  | .atom "conc" :: insts => do
    -- concurrent runs of independent instances: each computes what it computes alone
    let step (st : Option EngStore) (i : Sexp) : Option EngStore := do
      let st ← st
      let (st', out) ← doRun st (← i.asAtom?)
      if out == "ok" then some st' else none
    match insts.foldl step (some s) with
    | some st => some (st, "ok")
    | none => some (s, "bad-conc")
  | .atom op :: .atom inst :: r :: tuples =>
    if op == "load" || op == "push" then do
      let i ← (s.insts.find? (·.1 == inst)).map (·.2)
      let r ← match r with
        | .atom a => (a.drop 1).toNat?
        | _ => none
      let ts ← tuples.mapM parseTuple
      let rs := relSt i.st r
      let rs' := if op == "load" then { rs with rows := ts } else { rs with rows := rs.rows ++ ts }
      let i' := { i with st := setNth i.st r rs' }
      some ({ s with insts := (inst, i') :: s.insts.filter (·.1 != inst) }, "ok")
    else if op == "runin" then doRun s inst
    else if op == "runpp" then do doRunPhysPar s inst (← r.asNat?)
    else if op == "runppl" then do doRunPhysParLat s inst (← r.asNat?)
    else if op == "runtopl" then do doRunPhysLatTimeout s inst (← r.asNat?)
    else if op == "runtop" then do doRunPhysTimeout s inst (← r.asNat?)
    else if op == "runtopp" then do doRunPhysParTimeout s inst (← r.asNat?) (← (← tuples.head?).asNat?)
    else if op == "runtoppl" then do doRunPhysParLatTimeout s inst (← r.asNat?) (← (← tuples.head?).asNat?)
    else if op == "runto" then do
      let i ← (s.insts.find? (·.1 == inst)).map (·.2)
      let k ← r.asNat?
      let dl : Deadline := fun c => c == k
      match runTimeout (interp (kindOf i.pd)) i.cfg i.pd.prog i.pd.order dl defaultFuel i.st with
      | .done ps => some ({ s with insts := (inst, { i with st := ps.st, iters := ps.iters }) :: s.insts.filter (·.1 != inst) }, "true")
      | .timedOut ps => some ({ s with insts := (inst, { i with st := ps.st, iters := ps.iters }) :: s.insts.filter (·.1 != inst) }, "false")
      | .outOfFuel => some (s, "nofuel")
    else none
  | [.atom "run", .atom inst] => doRun s inst
  | [.atom "runp", .atom inst] => doRunPhys s inst
  | [.atom "runpl", .atom inst] => doRunPhysLat s inst
  | [.atom "dump", .atom inst] => do
    let i ← (s.insts.find? (·.1 == inst)).map (·.2)
    some (s, dumpSt i.st)
  | [.atom "iters", .atom inst] => do
    let i ← (s.insts.find? (·.1 == inst)).map (·.2)
    some (s, "iters " ++ " ".intercalate (i.iters.map toString))
  | [.atom "mir", .atom pid] => do
    let pd ← (s.progs.find? (·.1 == pid)).map (·.2)
    some (s, "mir " ++ mirCanon pd.prog pd.order)
  | [.atom "planok", .atom pid] => do
    -- the hypotheses of `runPhys_eq_leastModel` (Props/C01Phys.lean) on this program: usable plan, desugared and well-scoped rules
    let pd ← (s.progs.find? (·.1 == pid)).map (·.2)
    let p := pd.prog
    some (s, s!"planok={Phys.planOk stdVars p (Phys.ixSetsOf stdVars p)} desugared={p.rules.all fun r => Hir.Desugared stdVars r} wellscoped={p.rules.all fun r => Plan.WellScoped stdVars r}")
  | [.atom "order", .atom pid] => do
    let pd ← (s.progs.find? (·.1 == pid)).map (·.2)
    some (s, "order " ++ " ".intercalate (pd.order.map fun c => "[" ++ ",".intercalate (c.map toString) ++ "]"))
  | _ => none
where
  aggOverDynamicAny (pd : ProgDef) : Bool := pd.order.any fun scc => aggOverDynamic pd.prog scc

end AscentVerif.Driver
