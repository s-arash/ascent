import AscentVerif.Proofs.PlanBody
import AscentVerif.Proofs.PlanSwap
/-!
C01 (plan) — the compilation plan preserves the rule semantics.

`Engine.evalBody` reads every index look-up as a filter over the whole relation version.  The generated code
(`ascent_codegen.rs`, `compile_mir_rule_inner`) instead follows a PLAN computed per rule by `compile_rule_to_ir_rule`
(`Hir.compileRule`): index columns per clause, a "simple join" of the first two clauses evaluated as nested
`iter_all` / `index_get` loops, and, when the MIR rule is `reorderable`, a second copy with the two clauses swapped.
`Model/Plan.lean` is the executable model of that code (`evalBodyPlan`); this file states what is proved about it.

* `idxGet_spec`, `iterAll_spec` — the two index operations;
* `clause_step`, `join_step`, `join_step_swapped` — the one-step lemmas, for an ARBITRARY environment whose domain is the
  grounded set and an arbitrary rest of the body;
* `index_selection_eq` — no simple join: `evalBodyPlan = evalBody`, as lists, for every interpretation;
* `index_selection_sound_complete` — any rule: `evalBodyPlan … false` is a permutation of `evalBody` up to `EnvEq`;
* `reordering_sound` — `reorderable`: `evalBodyPlan … true` is a permutation of `evalBodyPlan … false` (and of `evalBody`);
* `head_rows_perm`, `head_rows_perm_swapped` — consequently the bag of head tuples the rule derives is the same;
* `guard_needed` — `let z = 5, foo(x, y), bar(y, z)`: a simple join that is not reorderable, and a state on which the
  swapped evaluation derives an environment with `z = 7`;
* `desugared_needed` — why the theorems are about rules `rule_desugar_repeated_vars` has nothing left to do on.

Why `EnvEq` and not equality of environments: the simple-join code `let`-binds the join variables from the key BEFORE the
other variables of the first clause, `matchArgs` binds in argument order; the two environments give every variable the
same value but are different association lists (`env_order_differs`).  `PermEq l l'` = a permutation of `l` is pointwise
`EnvEq` to `l'`.  Interpretations are assumed to see environments only through look-up (`Ext`); for the swapped copy the
conditions of the two clauses are evaluated in environments with different domains, so expressions and tests are assumed
to depend only on the variables `VarsOf` reports for them (`Supp`).  Both hold for every real Rust expression, and are
proved for the small concrete interpretation below (`exI_ext`, `exI_supp`).

Hypotheses on the rule (decidable, `Bool`-valued, checked on an example by `decide`):
* `Desugared V r` — `rule_desugar_repeated_vars` (which runs before `compile_rule_to_ir_rule`) would not change the rule:
  no clause argument mentions a variable that the pass first met as an earlier argument of the same clause (the pass does not
  record the variables bound by conditions attached to a clause: after `foo(x) let y = 5` it rewrites `bar(y, y)` too);
* `WellScoped V r` (only for reordering) — conditions attached to a clause mention only variables in scope and bind no
  variable grounded before the clause (the front end rejects rebinding, `rustc` rejects unbound variables).
No hypothesis on the state, the relation declarations, the version vector or the configuration.
-/
namespace AscentVerif.Plan
open AscentVerif AscentVerif.Engine AscentVerif.Hir

variable {E B G P A : Type}

/-- `index_get`: exactly the rows of the version whose projection on the index columns is the key — as a filter (so in the
version's order), by membership, and with the multiplicity the version holds them -/
theorem idxGet_spec (rows : List Tuple) (bag : List Nat) (cols : List Nat) (key : List Val) :
    idxGet rows bag cols key = bag.filter (fun i => proj cols (rowAt rows i) = key) ∧
    (∀ i, i ∈ idxGet rows bag cols key ↔ i ∈ bag ∧ proj cols (rowAt rows i) = key) ∧
    (∀ i, proj cols (rowAt rows i) = key → (idxGet rows bag cols key).count i = bag.count i) := by
  refine ⟨?_, ?_, ?_⟩
  · unfold idxGet; apply List.filter_congr; intro i _
    by_cases h : proj cols (rowAt rows i) = key <;> simp [h]
  · intro i; simp [idxGet]
  · intro i hi
    unfold idxGet
    rw [List.count_filter]
    simp [hi]

/-- `iter_all`: the keys are pairwise distinct; every group is the `index_get` of its key, is not empty, and holds rows of
the version with that projection; the groups together are a permutation of the version (every row appears exactly as often
as the version holds it); every row is found under the key equal to its projection -/
theorem iterAll_spec (rows : List Tuple) (bag : List Nat) (cols : List Nat) :
    ((iterAll rows bag cols).map (·.1)).Nodup ∧
    (∀ kr ∈ iterAll rows bag cols, kr.2 = idxGet rows bag cols kr.1 ∧ kr.2 ≠ [] ∧
      ∀ i ∈ kr.2, i ∈ bag ∧ proj cols (rowAt rows i) = kr.1) ∧
    ((iterAll rows bag cols).flatMap (·.2)).Perm bag ∧
    (∀ i ∈ bag, ∃ rs, (proj cols (rowAt rows i), rs) ∈ iterAll rows bag cols ∧ i ∈ rs) :=
  iterAll_spec_aux rows bag cols

/-- `g`: the grounded variables; `ρ` binds exactly them; the index columns are the expression arguments
and the arguments that are grounded variables; the variables not yet grounded are pairwise distinct; `pre` (the code's
`pre_clause_vars`) has the members of `g`.  Then the look-up with the key evaluated before the clause, followed by the
assignments of the new variables, the conditions and ANY continuation is — as a list — the filter semantics. -/
theorem clause_step (I : Interp E B G P A) (rows : List Tuple) (bag : List Nat) (ρ : Env) (g pre : List Var)
    (hdom : DomEq ρ g) (hpre : ∀ v, v ∈ pre ↔ v ∈ g) (args : List (Arg E)) (conds : List (Cond E B P)) (cols : List Nat)
    (hcols : ∀ j, j ∈ cols ↔ ∃ a, args[j]? = some a ∧ isIdx g a = true) (hnd : (freshVars g args).Nodup)
    (k : Env → List Env) :
    clauseStep I rows bag cols pre args conds ρ k = semClause I rows bag args conds ρ k :=
  clauseStep_eq I rows bag ρ g pre hdom hpre args conds cols hcols hnd k

/-- Under `JoinCtx` (what the compiler guarantees about the two clauses of a simple join), for any
environment binding exactly the grounded variables and continuations that respect `EnvEq`: the nested
`iter_all` / `index_get` loops are a permutation, up to `EnvEq`, of the filter semantics of the two clauses. -/
theorem join_step (I : Interp E B G P A) (hI : Ext I) {gk gk1 : List Var} {a1 : List (Arg E)} {c1 : List (Cond E B P)}
    {a2 : List (Arg E)} {cols1 cols2 : List Nat} {pre2 : List Var} (ctx : JoinCtx gk gk1 a1 c1 a2 cols1 cols2 pre2)
    (c2 : List (Cond E B P)) (gk2 : List Var)
    (hgk2 : ∀ v, v ∈ gk2 ↔ v ∈ gk1 ∨ v ∈ a2.filterMap argVar? ∨ v ∈ c2.flatMap Cond.boundVars)
    (rows1 : List Tuple) (bag1 : List Nat) (rows2 : List Tuple) (bag2 : List Nat) (ρ : Env) (hdom : DomEq ρ gk)
    (k k' : Env → List Env) (hk : ∀ ρp ρs, EnvEq ρp ρs → DomEq ρs gk2 → PermEq (k ρp) (k' ρs)) :
    PermEq (joinStep I rows1 bag1 cols1 a1 c1 rows2 bag2 cols2 a2 c2 pre2 ρ k)
      (semClause I rows1 bag1 a1 c1 ρ fun ρ₂ => semClause I rows2 bag2 a2 c2 ρ₂ k') := by
  refine (PermEq.of_perm (joinStep_perm I rows1 bag1 cols1 a1 c1 rows2 bag2 cols2 a2 c2 pre2 ρ k)).trans ?_
  rw [semJoin_eq]
  exact PermEq.flatMap _ fun i1 _ => PermEq.flatMap _ fun i2 _ =>
    (pairN I hI.c ctx c2 ρ hdom _ _).optK .permEq fun a b _ hb hab =>
      hk a b hab (semPair_dom I ρ hdom c2 gk2 ctx.hgk1 hgk2 _ _ b hb)

/-- The same for the loops with the two clauses swapped, under `SwapCtx` (`JoinCtx` + the `reorderable` guard + well-scoped
conditions). -/
theorem join_step_swapped (I : Interp E B G P A) {V : VarsOf E B} (hS : Supp I V) {gk gk1 : List Var} {a1 : List (Arg E)}
    {c1 : List (Cond E B P)} {a2 : List (Arg E)} {c2 : List (Cond E B P)} {cols1 cols2 : List Nat} {pre2 preSw : List Var}
    (sc : SwapCtx V gk gk1 a1 c1 a2 c2 cols1 cols2 pre2 preSw) (gk2 : List Var)
    (hgk2 : ∀ v, v ∈ gk2 ↔ v ∈ gk1 ∨ v ∈ a2.filterMap argVar? ∨ v ∈ c2.flatMap Cond.boundVars)
    (rows1 : List Tuple) (bag1 : List Nat) (rows2 : List Tuple) (bag2 : List Nat) (ρ : Env) (hdom : DomEq ρ gk)
    (k k' : Env → List Env) (hk : ∀ ρp ρs, EnvEq ρp ρs → DomEq ρs gk2 → PermEq (k ρp) (k' ρs)) :
    PermEq (joinStep I rows2 bag2 cols2 a2 c2 rows1 bag1 cols1 a1 c1 preSw ρ k)
      (semClause I rows1 bag1 a1 c1 ρ fun ρ₂ => semClause I rows2 bag2 a2 c2 ρ₂ k') := by
  refine (PermEq.of_perm (joinStep_perm I rows2 bag2 cols2 a2 c2 rows1 bag1 cols1 a1 c1 preSw ρ k)).trans ?_
  refine (PermEq.of_perm (flatMap_comm_perm bag2 bag1 _)).trans ?_
  rw [semJoin_eq]
  exact PermEq.flatMap _ fun i1 _ => PermEq.flatMap _ fun i2 _ =>
    (pairS I hS sc ρ hdom _ _).optK .permEq fun a b _ hb hab =>
      hk a b hab (semPair_dom I ρ hdom c2 gk2 sc.base.hgk1 hgk2 _ _ b hb)

/-- For every interpretation, state, configuration and version vector, the plan evaluation of
a desugared rule compiled WITHOUT a simple join is the filter evaluation: the same environments in the same order.
(`evalFrom_eq_evalBody` is the same statement from any body position and any environment whose domain is the grounded set.) -/
theorem index_selection_eq (I : Interp E B G P A) (cfg : Config) (p : Program E B G P A) (s : SccSt) (V : VarsOf E B)
    (r : Rule E B G P A) (hd : Desugared V r = true) (hsj : (compileRule V r).simpleJoinStart = none) (swap : Bool)
    (vs : List (Option Ver)) :
    evalBodyPlan I cfg p s (compileRule V r) swap r.body vs [] = evalBody I cfg p s r.body vs [] := by
  unfold evalBodyPlan
  apply evalFrom_eq_evalBody I cfg p s V _ swap r.body 0 ([], []) vs [] gdOk_nil hd
  · intro v; simp [keys]
  · exact ⟨by rw [compile_nojoin V r hsj]; exact List.prefix_refl _, by intro v; simp [preVars],
      by rw [compile_bound]; exact List.prefix_refl _⟩
  · intro j _; rw [hsj]; exact fun h => by cases h

/-- The plan evaluation in the original clause order enumerates, up to a permutation and up to
look-up equality of the environments, exactly the environments of the filter evaluation. -/
theorem index_selection_sound_complete (I : Interp E B G P A) (hI : Ext I) (cfg : Config) (p : Program E B G P A)
    (s : SccSt) (V : VarsOf E B) (r : Rule E B G P A) (hd : Desugared V r = true) (vs : List (Option Ver)) :
    PermEq (evalBodyPlan I cfg p s (compileRule V r) false r.body vs []) (evalBody I cfg p s r.body vs []) := by
  unfold evalBodyPlan
  cases hsj : (compileRule V r).simpleJoinStart with
  | none => exact PermEq.of_eq (index_selection_eq I cfg p s V r hd hsj false vs)
  | some k =>
    obtain ⟨pre, r1, a1, c1, r2, a2, c2, rest, rfl, hb, js⟩ := compile_join V r k hd hsj
    rw [hb]
    exact join_permEq I hI cfg p s V _ false hsj (hb ▸ hd) js
      (fun rows1 bag1 rows2 bag2 ρ kp ks hdom hk =>
        join_step I hI js.ctx c2 _ js.hgk2 rows1 bag1 rows2 bag2 ρ hdom kp ks hk) vs

/-- the swapped copy against the filter evaluation -/
theorem reordering_sound_evalBody (I : Interp E B G P A) (hI : Ext I) (cfg : Config) (p : Program E B G P A) (s : SccSt)
    (V : VarsOf E B) (hS : Supp I V) (r : Rule E B G P A) (hd : Desugared V r = true) (hw : WellScoped V r = true)
    (hr : reorderable (compileRule V r) = true) (vs : List (Option Ver)) :
    PermEq (evalBodyPlan I cfg p s (compileRule V r) true r.body vs []) (evalBody I cfg p s r.body vs []) := by
  unfold evalBodyPlan
  unfold reorderable at hr
  cases hsj : (compileRule V r).simpleJoinStart with
  | none => rw [hsj] at hr; cases hr
  | some k =>
    obtain ⟨pre, r1, a1, c1, r2, a2, c2, rest, rfl, hb, js⟩ := compile_join V r k hd hsj
    have hguard : ∀ v ∈ a2.filterMap argVar? ++ c2.flatMap Cond.boundVars, v ∉ (gdFold V ([], []) pre).1 := by
      rw [hsj] at hr
      simp only [Bool.not_eq_true', List.any_eq_false] at hr
      intro v hv hg
      rw [js.bound2] at hr
      exact hr v hv (List.contains_iff_mem.2 ((js.preK v).2 hg))
    have hw' : scopedFrom V [] (pre ++ Item.clause r1 a1 c1 :: Item.clause r2 a2 c2 :: rest) = true := by
      rw [← hb]; exact hw
    have hsc := scopedFrom_append V pre _ [] hw'
    simp only [scopedFrom, clauseScoped, Bool.and_eq_true, List.nil_append] at hsc
    obtain ⟨⟨hs1, _⟩, ⟨_, hd2⟩, _⟩ := hsc
    have sc : SwapCtx V (gdFold V ([], []) pre).1
        (gdStep V (gdFold V ([], []) pre) (.clause r1 a1 c1 : Item E B G P A)).1 a1 c1 a2 c2
        (colsAt (compileRule V r) pre.length) (colsAt (compileRule V r) (pre.length + 1))
        (preVars (compileRule V r) (pre.length + 1))
        (preVars (compileRule V r) pre.length ++ (compileRule V r).bound.getD (pre.length + 1) []) := by
      refine ⟨js.ctx, fun v hv => hguard v (List.mem_append_left _ hv), fun v hv => hguard v (List.mem_append_right _ hv),
        ?_, ?_, js.conds2, js.nd2all, ?_⟩
      · intro v hv
        have := List.all_eq_true.1 hd2 v hv
        simp only [Bool.not_eq_true', itemBound] at this
        have hn : v ∉ pre.flatMap itemBound ++ (a1.filterMap argVar? ++ c1.flatMap Cond.boundVars) := fun hm => by
          rw [List.contains_iff_mem.2 hm] at this; cases this
        exact ⟨fun h => hn (List.mem_append_right _ (List.mem_append_left _ h)),
          fun h => hn (List.mem_append_right _ (List.mem_append_right _ h))⟩
      · rw [← hs1]
        apply condsIn_congr
        intro v
        simp only [List.mem_append, js.hgk v]
      · intro v
        rw [List.mem_append, js.preK v, js.bound2, List.mem_append]
    rw [hb]
    exact join_permEq I hI cfg p s V _ true hsj (hb ▸ hd) js
      (fun rows1 bag1 rows2 bag2 ρ kp ks hdom hk =>
        join_step_swapped I hS sc _ js.hgk2 rows1 bag1 rows2 bag2 ρ hdom kp ks hk) vs

/-- when the `reorderable` flag (computed as in `Hir.ruleLines` / `compile_hir_rule_to_mir_rules`)
is set, the copy with the two clauses of the simple join swapped is a permutation of the original copy -/
theorem reordering_sound (I : Interp E B G P A) (hI : Ext I) (cfg : Config) (p : Program E B G P A) (s : SccSt)
    (V : VarsOf E B) (hS : Supp I V) (r : Rule E B G P A) (hd : Desugared V r = true) (hw : WellScoped V r = true)
    (hr : reorderable (compileRule V r) = true) (vs : List (Option Ver)) :
    PermEq (evalBodyPlan I cfg p s (compileRule V r) true r.body vs [])
      (evalBodyPlan I cfg p s (compileRule V r) false r.body vs []) :=
  (reordering_sound_evalBody I hI cfg p s V hS r hd hw hr vs).trans (index_selection_sound_complete I hI cfg p s V r hd vs).symm

def headRows (I : Interp E B G P A) (heads : List (HeadClause E)) (ρ : Env) : List (RelId × Tuple) :=
  heads.map fun h => (h.rel, h.args.map fun e => I.expr e ρ)

theorem headRows_envEq (I : Interp E B G P A) (hI : Ext I) (heads : List (HeadClause E)) (a b : Env) (hab : EnvEq a b) :
    headRows I heads a = headRows I heads b :=
  List.map_congr_left fun _ _ => congrArg _ (List.map_congr_left fun e _ => hI.expr e a b hab)

/-- the generated code derives the same bag of head tuples as the filter evaluation -/
theorem head_rows_perm (I : Interp E B G P A) (hI : Ext I) (cfg : Config) (p : Program E B G P A) (s : SccSt)
    (V : VarsOf E B) (r : Rule E B G P A) (hd : Desugared V r = true) (vs : List (Option Ver)) :
    ((evalBodyPlan I cfg p s (compileRule V r) false r.body vs []).map (headRows I r.heads)).Perm
      ((evalBody I cfg p s r.body vs []).map (headRows I r.heads)) :=
  (index_selection_sound_complete I hI cfg p s V r hd vs).map_perm _ (headRows_envEq I hI r.heads)

/-- … and so does the swapped copy of a reorderable rule -/
theorem head_rows_perm_swapped (I : Interp E B G P A) (hI : Ext I) (cfg : Config) (p : Program E B G P A) (s : SccSt)
    (V : VarsOf E B) (hS : Supp I V) (r : Rule E B G P A) (hd : Desugared V r = true) (hw : WellScoped V r = true)
    (hr : reorderable (compileRule V r) = true) (vs : List (Option Ver)) :
    ((evalBodyPlan I cfg p s (compileRule V r) true r.body vs []).map (headRows I r.heads)).Perm
      ((evalBody I cfg p s r.body vs []).map (headRows I r.heads)) :=
  (reordering_sound_evalBody I hI cfg p s V hS r hd hw hr vs).map_perm _ (headRows_envEq I hI r.heads)

def clauseSimple (V : VarsOf E B) (args : List (Arg E)) : Bool :=
  decide (args.filterMap argVar?).Nodup && args.all fun
    | .expr e => (V.e e).all fun v => !(args.filterMap argVar?).contains v
    | .var _ => true

/-- every clause of the rule has pairwise distinct variable arguments, none of them mentioned by an expression argument
of the same clause (stronger than `Desugared`, which allows a variable grounded by an EARLIER body item to repeat) -/
def SimpleArgs (V : VarsOf E B) (r : Rule E B G P A) : Bool :=
  r.body.all fun
    | .clause _ args _ => clauseSimple V args
    | _ => true

theorem argsOk_of_simple (V : VarsOf E B) (dg U : List Var) (as : List (Arg E)) (here : List Var)
    (h1 : ∀ v ∈ here, v ∈ U) (h2 : ∀ v ∈ as.filterMap argVar?, v ∈ U ∧ v ∉ here) (h3 : (as.filterMap argVar?).Nodup)
    (h4 : ∀ e, Arg.expr e ∈ as → ∀ v ∈ V.e e, v ∉ U) : argsOk V dg as here = true := by
  induction as generalizing here with
  | nil => rfl
  | cons a as ih =>
    cases a with
    | var v =>
      simp only [argsOk, Bool.and_eq_true, Bool.not_eq_true']
      simp only [List.filterMap_cons, argVar?, List.forall_mem_cons, List.nodup_cons] at h2 h3
      refine ⟨contains_false_of_not_mem h2.1.2, ih _ (fun w hw => ?_) (fun w hw => ⟨(h2.2 w hw).1, fun hh => ?_⟩) h3.2
        fun e he => h4 e (List.mem_cons_of_mem _ he)⟩
      · exact (mem_hereStep hw).elim (h1 w) fun e => e ▸ h2.1.1
      · exact (mem_hereStep hh).elim (h2.2 w hw).2 fun e => h3.1 (e ▸ hw)
    | expr e =>
      simp only [argsOk, Bool.and_eq_true, Bool.not_eq_true']
      refine ⟨?_, ih here h1 h2 h3 fun e' he => h4 e' (List.mem_cons_of_mem _ he)⟩
      cases hc : (V.e e).any here.contains with
      | false => rfl
      | true =>
        obtain ⟨w, hw, hwh⟩ := List.any_eq_true.1 hc
        exact absurd (h1 w (List.contains_iff_mem.1 hwh)) (h4 e List.mem_cons_self w hw)

theorem desugFrom_of_simple (V : VarsOf E B) (body : List (Item E B G P A)) (gd : List Var × List Var)
    (h : (body.all fun
      | .clause _ args _ => clauseSimple V args
      | _ => true) = true) : desugFrom V gd body = true := by
  induction body generalizing gd with
  | nil => rfl
  | cons it rest ih =>
    simp only [List.all_cons, Bool.and_eq_true] at h
    simp only [desugFrom, Bool.and_eq_true]
    refine ⟨?_, ih _ h.2⟩
    cases it with
    | clause r args conds =>
      have hc := h.1
      simp only [clauseSimple, Bool.and_eq_true, decide_eq_true_eq, List.all_eq_true] at hc
      apply argsOk_of_simple V gd.2 (args.filterMap argVar?) args [] (fun _ h => by cases h)
        (fun v hv => ⟨hv, fun h => by cases h⟩) hc.1
      intro e he w hw hU
      have := hc.2 _ he
      simp only [List.all_eq_true, Bool.not_eq_true'] at this
      have h2 := this w hw
      rw [List.contains_iff_mem.2 hU] at h2; cases h2
    | cond _ | gen _ _ | agg _ => rfl

theorem desugared_of_simpleArgs (V : VarsOf E B) (r : Rule E B G P A) (h : SimpleArgs V r = true) : Desugared V r = true :=
  desugFrom_of_simple V r.body ([], []) h

deriving instance DecidableEq for Hir.HItem

inductive Ex where
  | const (n : Int)
  | var (v : Var)
  | add (a b : Ex)
deriving DecidableEq, Repr

inductive Bx where
  | lt (a b : Ex)
  | eq (a b : Ex)
deriving DecidableEq, Repr

def Ex.vars : Ex → List Var
  | .const _ => []
  | .var v => [v]
  | .add a b => a.vars ++ b.vars

def Bx.vars : Bx → List Var
  | .lt a b | .eq a b => a.vars ++ b.vars

def Ex.eval (ρ : Env) : Ex → Int
  | .const n => n
  | .var v => match Env.get? ρ v with | some (.int n) => n | _ => 0
  | .add a b => a.eval ρ + b.eval ρ

def Bx.eval (ρ : Env) : Bx → Bool
  | .lt a b => a.eval ρ < b.eval ρ
  | .eq a b => a.eval ρ == b.eval ρ

/-- expressions are integer terms, generators `for v in 0..e`, no patterns, the identity aggregator -/
def exI : Interp Ex Bx Ex Unit Unit where
  expr e ρ := .int (e.eval ρ)
  test b ρ := b.eval ρ
  gen g ρ := (List.range (g.eval ρ).toNat).map fun n => .int (Int.ofNat n)
  pat _ _ := none
  agg _ l := l
  joinMut _ a _ := (a, false)

def exV : VarsOf Ex Bx := ⟨Ex.vars, Bx.vars⟩

theorem Ex.eval_congr (ρ ρ' : Env) : ∀ e : Ex, (∀ v ∈ e.vars, Env.get? ρ v = Env.get? ρ' v) → e.eval ρ = e.eval ρ' := by
  intro e
  induction e with
  | const _ => exact fun _ => rfl
  | var v => intro h; simp only [Ex.eval]; rw [h v (by simp [Ex.vars])]
  | add a b iha ihb =>
    intro h
    simp only [Ex.eval]
    rw [iha fun v hv => h v (by simp [Ex.vars, hv]), ihb fun v hv => h v (by simp [Ex.vars, hv])]

theorem Bx.eval_congr (ρ ρ' : Env) (b : Bx) (h : ∀ v ∈ b.vars, Env.get? ρ v = Env.get? ρ' v) : b.eval ρ = b.eval ρ' := by
  cases b with
  | lt x y | eq x y =>
    simp only [Bx.eval]
    rw [Ex.eval_congr ρ ρ' x fun v hv => h v (by simp [Bx.vars, hv]),
      Ex.eval_congr ρ ρ' y fun v hv => h v (by simp [Bx.vars, hv])]

theorem exI_supp : Supp exI exV where
  expr e ρ ρ' h := by
    show Val.int (e.eval ρ) = Val.int (e.eval ρ')
    rw [Ex.eval_congr ρ ρ' e h]
  test b ρ ρ' h := Bx.eval_congr ρ ρ' b h

theorem exI_ext : Ext exI where
  expr := exI_supp.c.expr
  test := exI_supp.c.test
  gen g ρ ρ' h := by
    show (List.range (g.eval ρ).toNat).map _ = (List.range (g.eval ρ').toNat).map _
    rw [Ex.eval_congr ρ ρ' g fun v _ => h v]

/-- `for w in 0..2, foo(x, y) if x < y + w, bar(y, z) let u = z + x if u < 9, baz(u, x + 1, z)`
(`w = 3, x = 0, y = 1, z = 2, u = 4`): a generator before a reorderable simple join whose two clauses carry conditions,
followed by a clause with two grounded variables and an expression argument -/
def rGood : Rule Ex Bx Ex Unit Unit :=
  { heads := [⟨3, [.var 0, .add (.var 4) (.var 3)]⟩]
    body := [.gen 3 (.const 2),
      .clause 0 [.var 0, .var 1] [.ifc (.lt (.var 0) (.add (.var 1) (.var 3)))],
      .clause 1 [.var 1, .var 2] [.letc 4 (.add (.var 2) (.var 1)), .ifc (.lt (.var 4) (.const 9))],
      .clause 2 [.var 4, .expr (.add (.var 0) (.const 1)), .var 2] []] }

/-- the example rule satisfies the hypotheses of all the theorems, is compiled with a simple join, and is reorderable -/
example : Desugared exV rGood = true ∧ WellScoped exV rGood = true ∧
    (compileRule exV rGood).simpleJoinStart = some 1 ∧ reorderable (compileRule exV rGood) = true ∧
    (compileRule exV rGood).items =
      [.gen 3, .clause 0 [1] false, .clause 1 [0] false, .clause 2 [0, 1, 2] false] := by decide +kernel

def pGood : Program Ex Bx Ex Unit Unit :=
  { rels := [⟨2, false⟩, ⟨2, false⟩, ⟨3, false⟩, ⟨2, false⟩], rules := [rGood] }

def sGood : SccSt :=
  { rels := [⟨[[.int 1, .int 2], [.int 0, .int 7], [.int 0, .int 2]], [0, 1, 2]⟩,
             ⟨[[.int 2, .int 3], [.int 2, .int 4], [.int 7, .int 1]], [0, 1, 2]⟩,
             ⟨[[.int 5, .int 2, .int 3], [.int 6, .int 2, .int 4], [.int 8, .int 1, .int 1], [.int 5, .int 1, .int 3]], [0, 1, 2, 3]⟩,
             ⟨[], []⟩]
    dyn := [], changed := false }

/-- the three evaluations of the example on a small state: the same bag of head tuples in three different orders, and
environments whose bindings are listed in three different orders (the reason for `EnvEq`): `evalBody` binds `x, y` in
argument order, the simple join binds the join variable `y` first, the swapped copy binds `x` last -/
theorem env_order_differs :
    (evalBody exI {} pGood sGood rGood.body [none, none, none, none] []).map keys = List.replicate 8 [4, 2, 1, 0, 3] ∧
    (evalBodyPlan exI {} pGood sGood (compileRule exV rGood) false rGood.body [none, none, none, none] []).map keys =
      List.replicate 8 [4, 2, 0, 1, 3] ∧
    (evalBodyPlan exI {} pGood sGood (compileRule exV rGood) true rGood.body [none, none, none, none] []).map keys =
      List.replicate 8 [0, 4, 2, 1, 3] ∧
    (evalBody exI {} pGood sGood rGood.body [none, none, none, none] []).map (headRows exI rGood.heads) =
      [[(3, [.int 1, .int 5])], [(3, [.int 1, .int 6])], [(3, [.int 0, .int 8])], [(3, [.int 0, .int 5])],
       [(3, [.int 1, .int 6])], [(3, [.int 1, .int 7])], [(3, [.int 0, .int 9])], [(3, [.int 0, .int 6])]] ∧
    (evalBodyPlan exI {} pGood sGood (compileRule exV rGood) false rGood.body [none, none, none, none] []).map
        (headRows exI rGood.heads) =
      [[(3, [.int 1, .int 5])], [(3, [.int 1, .int 6])], [(3, [.int 0, .int 5])], [(3, [.int 0, .int 8])],
       [(3, [.int 1, .int 6])], [(3, [.int 1, .int 7])], [(3, [.int 0, .int 6])], [(3, [.int 0, .int 9])]] ∧
    (evalBodyPlan exI {} pGood sGood (compileRule exV rGood) true rGood.body [none, none, none, none] []).map
        (headRows exI rGood.heads) =
      [[(3, [.int 1, .int 5])], [(3, [.int 0, .int 5])], [(3, [.int 1, .int 6])], [(3, [.int 0, .int 8])],
       [(3, [.int 1, .int 6])], [(3, [.int 0, .int 6])], [(3, [.int 1, .int 7])], [(3, [.int 0, .int 9])]] := by decide +kernel

/-- `let z = 5, foo(x, y), bar(y, z)` (`x = 0, y = 1, z = 2`): the example of `ascent_mir.rs` -/
def rBad : Rule Ex Bx Ex Unit Unit :=
  { heads := [⟨2, [.var 0, .var 2]⟩]
    body := [.cond (.letc 2 (.const 5)), .clause 0 [.var 0, .var 1] [], .clause 1 [.var 1, .var 2] []] }

def pBad : Program Ex Bx Ex Unit Unit := { rels := [⟨2, false⟩, ⟨2, false⟩, ⟨2, false⟩], rules := [rBad] }

/-- `foo = {(1, 2)}`, `bar = {(2, 5), (2, 7)}` -/
def sBad : SccSt :=
  { rels := [⟨[[.int 1, .int 2]], [0]⟩, ⟨[[.int 2, .int 5], [.int 2, .int 7]], [0, 1]⟩, ⟨[], []⟩], dyn := [], changed := false }

/-- The rule is desugared and well scoped and is compiled with a simple join (`bar` indexed on both
columns), but `z` is bound before the join, so it is NOT reorderable.  In the swapped copy `let z = key.1` shadows `z = 5`:
on this state it reaches the head with `z = 7` as well, and derives `(1, 7)` which is not a consequence of the rule. -/
theorem guard_needed :
    Desugared exV rBad = true ∧ WellScoped exV rBad = true ∧
    (compileRule exV rBad).simpleJoinStart = some 1 ∧
    (compileRule exV rBad).items = [.letc, .clause 0 [1] false, .clause 1 [0, 1] false] ∧
    reorderable (compileRule exV rBad) = false ∧
    evalBody exI {} pBad sBad rBad.body [none, none, none] [] = [[(1, .int 2), (0, .int 1), (2, .int 5)]] ∧
    evalBodyPlan exI {} pBad sBad (compileRule exV rBad) false rBad.body [none, none, none] [] =
      [[(0, .int 1), (1, .int 2), (2, .int 5)]] ∧
    evalBodyPlan exI {} pBad sBad (compileRule exV rBad) true rBad.body [none, none, none] [] =
      [[(0, .int 1), (2, .int 5), (1, .int 2), (2, .int 5)], [(0, .int 1), (2, .int 7), (1, .int 2), (2, .int 5)]] ∧
    (evalBodyPlan exI {} pBad sBad (compileRule exV rBad) true rBad.body [none, none, none] []).map (headRows exI rBad.heads) =
      [[(2, [.int 1, .int 5])], [(2, [.int 1, .int 7])]] := by decide +kernel

/-- on the two example rules `Hir.ruleLines` (the format tie A compares with the real `mir_summary`) prints
`[NOT REORDERABLE]` exactly where `Plan.reorderable` is `false`; the two definitions spell out the same expression -/
theorem reorderable_as_printed :
    Hir.ruleLines exV [] rBad =
      ["r2 <-- let ⋯, r0_indices_1_total, r1_indices_0_1_total [SIMPLE JOIN] [NOT REORDERABLE]"] ∧
    Hir.ruleLines exV [] rGood =
      ["r3 <-- for_v3, r0_indices_1_total, r1_indices_0_total, r2_indices_0_1_2_total [SIMPLE JOIN]"] ∧
    SimpleArgs exV rGood = true ∧ SimpleArgs exV rBad = true := by decide +kernel

/-- … so the swapped copy is not a permutation of the original one, for any notion of equality of environments -/
theorem guard_needed_not_perm :
    ¬ PermEq (evalBodyPlan exI {} pBad sBad (compileRule exV rBad) true rBad.body [none, none, none] [])
      (evalBodyPlan exI {} pBad sBad (compileRule exV rBad) false rBad.body [none, none, none] []) := by
  intro h
  have := h.length_eq
  revert this
  decide +kernel

/-- `foo(x, x)` with `x` new: `rule_desugar_repeated_vars` turns it into `foo(x, x_) if x_ == x` before the rule is
compiled; `Hir.compileRule` mimics the plan of the result (no index column), but the equality test lives in the added
condition, which the un-desugared core rule does not have: on `foo = {(1, 2)}` the plan model binds `x` twice and goes on,
`evalBody` filters the row out.  The theorems are therefore about `Desugared` rules. -/
def rRep : Rule Ex Bx Ex Unit Unit := { heads := [], body := [.clause 0 [.var 0, .var 0] []] }

theorem desugared_needed :
    Desugared exV rRep = false ∧ (compileRule exV rRep).simpleJoinStart = none ∧
    evalBody exI {} pBad sBad rRep.body [none] [] = [] ∧
    evalBodyPlan exI {} pBad sBad (compileRule exV rRep) false rRep.body [none] [] = [[(0, .int 2), (0, .int 1)]] := by decide +kernel

#print axioms idxGet_spec
#print axioms iterAll_spec
#print axioms clause_step
#print axioms join_step
#print axioms join_step_swapped
#print axioms evalFrom_eq_evalBody
#print axioms index_selection_eq
#print axioms index_selection_sound_complete
#print axioms reordering_sound_evalBody
#print axioms reordering_sound
#print axioms head_rows_perm
#print axioms head_rows_perm_swapped
#print axioms exI_supp
#print axioms exI_ext
#print axioms env_order_differs
#print axioms guard_needed
#print axioms guard_needed_not_perm
#print axioms desugared_needed
#print axioms desugared_of_simpleArgs
#print axioms reorderable_as_printed
#print axioms compile_join
#print axioms compile_nojoin

end AscentVerif.Plan
