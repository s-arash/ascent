import AscentVerif.Props.C04Phys
import AscentVerif.Props.C01PhysPlan
/-!
C04 over the physical indices: the plan the compiler computes for aggregation items is always usable.

`Props/C04Phys.lean` assumes `planOk` and `aggPlanOk` (decidable; the driver evaluates them on every program of the tie).  This file
PROVES them for the plan `Hir.compileRule` computes and the index sets `ixSetsOfA` the compiler allocates, from conditions on the
PROGRAM TEXT alone: one argument per column in every body clause, head clause and aggregated clause (`arityOk`, `aggArityOk`), no
aggregated variable twice among the arguments of its aggregation, every aggregated variable among them (the macro rejects a missing
one since fix 5862f99; a repeated one it accepts).  Hence `runPhys_agg_compiled_eq_model`: the theorem of `Props/C04Phys.lean` without any hypothesis on the plan.
-/
namespace AscentVerif.Hir
open AscentVerif AscentVerif.Engine
variable {E B G P A : Type}

/-- for ANY rule: the re-indexing of the first clause of a simple join touches a clause position only -/
theorem compile_agg_item (V : VarsOf E B) (r : Rule E B G P A) (i : Nat) (a : AggClause E A)
    (h : r.body[i]? = some (.agg a)) :
    (compileRule V r).items[i]? = some (.agg a.rel (Phys.keyPositions a.args)) := by
  rcases compile_item V r i _ h with ⟨gd, hg⟩ | ⟨_, _, _, _, e, _⟩
  · exact hg
  · cases e

end AscentVerif.Hir

namespace AscentVerif.Phys
open AscentVerif AscentVerif.Engine AscentVerif.Index
variable {E B G P A : Type}

theorem mem_ixSetsOfA {V : Hir.VarsOf E B} {p : Program E B G P A} {r : Rule E B G P A} (hr : r ∈ p.rules) {it : Hir.HItem}
    (hit : it ∈ (Hir.compileRule V r).items) {rel : RelId} {cols : List Nat}
    (hc : (∃ dp, it = .clause rel cols dp) ∨ it = .agg rel cols) (hne : cols.length ≠ arityOf p rel) :
    cols ∈ ixSetsOfA V p rel := by
  unfold ixSetsOfA
  simp only
  rw [List.mem_eraseDups, List.mem_flatMap]
  refine ⟨r, hr, List.mem_filterMap.2 ⟨it, hit, ?_⟩⟩
  rcases hc with ⟨dp, rfl⟩ | rfl <;> simp [hne]

theorem ixSetsOfA_covers_clause (V : Hir.VarsOf E B) (p : Program E B G P A) (r : Rule E B G P A) (hr : r ∈ p.rules)
    (i : Nat) (rel : RelId) (cols : List Nat) (dp : Bool)
    (h : (Hir.compileRule V r).items[i]? = some (.clause rel cols dp)) (hne : cols.length ≠ arityOf p rel) :
    cols ∈ ixSetsOfA V p rel :=
  mem_ixSetsOfA hr (List.mem_of_getElem? h) (.inl ⟨dp, rfl⟩) hne

theorem aggRuleOk_ixSetsOfA (V : Hir.VarsOf E B) (p : Program E B G P A) (r : Rule E B G P A) (hr : r ∈ p.rules)
    (ha : ∀ a, Item.agg a ∈ r.body → a.args.length = arityOf p a.rel ∧ (boundOcc a.args).Nodup ∧
      a.boundArgs.all (boundOcc a.args).contains = true) :
    aggRuleOk V p (ixSetsOfA V p) r = true := by
  unfold aggRuleOk
  dsimp only
  rw [List.all_eq_true]
  intro i _
  split
  · rename_i a rel' cols hb hc
    have hc' := Hir.compile_agg_item V r i a hb
    rw [hc] at hc'
    cases hc'
    obtain ⟨hlen, hnd, hall⟩ := ha a (List.mem_of_getElem? hb)
    simp only [Bool.and_eq_true, Bool.or_eq_true, beq_iff_eq, decide_eq_true_eq]
    refine ⟨⟨⟨⟨⟨trivial, hlen⟩, trivial⟩, ?_⟩, hnd⟩, hall⟩
    by_cases hne : (keyPositions a.args).length = arityOf p a.rel
    · exact .inl hne
    · exact .inr (List.contains_iff_mem.2 (mem_ixSetsOfA hr (List.mem_of_getElem? hc) (.inr rfl) hne))
  · rename_i a hb hno
    exfalso
    exact hno _ _ (Hir.compile_agg_item V r i a hb)
  · rfl

/-- conditions on the program text for aggregated clauses: one argument per column; no aggregated variable occurs twice among
the arguments; every aggregated variable occurs -/
def aggArityOk (p : Program E B G P A) : Bool :=
  p.rules.all fun r => r.body.all fun
    | .agg a => a.args.length == arityOf p a.rel && decide (boundOcc a.args).Nodup && a.boundArgs.all (boundOcc a.args).contains
    | _ => true

/-- the plan of the aggregations computed by the compiler model is usable with the index sets the compiler allocates -/
theorem aggPlanOk_ixSetsOfA (V : Hir.VarsOf E B) (p : Program E B G P A) (h : aggArityOk p = true) :
    aggPlanOk V p (ixSetsOfA V p) = true := by
  unfold aggPlanOk
  rw [List.all_eq_true]
  intro r hr
  refine aggRuleOk_ixSetsOfA V p r hr fun a hm => ?_
  have ha := List.all_eq_true.1 (List.all_eq_true.1 h r hr) _ hm
  simp only [Bool.and_eq_true, decide_eq_true_eq] at ha
  exact ⟨eq_of_beq ha.1.1, ha.1.2, ha.2⟩

/-- … and so is the plan of the ordinary clauses (the index sets `ixSetsOfA` contain those of `ixSetsOf`) -/
theorem planOk_ixSetsOfA (V : Hir.VarsOf E B) (p : Program E B G P A) (h : arityOk p = true) :
    planOk V p (ixSetsOfA V p) = true :=
  planOk_of_covers V p _ (ixSetsOfA_covers_clause V p) h

/-- the generated code over its physical indices computes the stratified model, for the plan and the index sets the compiler
computes: no hypothesis on the plan -/
theorem runPhys_agg_compiled_eq_model (I : Interp E B G P A) (hI : Plan.Ext I) (V : Hir.VarsOf E B) (hS : Plan.Supp I V)
    (hperm : AggPermInvariant I)
    (p : Program E B G P A) (order : SccOrder) (s : PSt) (fuel : Nat) (out : ProgSt)
    (hp : RelationalAgg p) (ho : validOrder p order = true) (hst : Stratified p order)
    (ha : arityOk p = true) (haa : aggArityOk p = true)
    (hd : ∀ r ∈ p.rules, Hir.Desugared V r = true ∧ Plan.WellScoped V r = true)
    (hs : WFPSt p s) (hnd : ∀ r, (prel s r).rows.Nodup)
    (hrun : run I V p (ixSetsOfA V p) order fuel s = some out) :
    WFPSt p out.st ∧
    (∀ r, (prel out.st r).rows.Nodup) ∧
    (∀ f, factsOf out.st f ↔
      Derivable I p.rules (fun r => (prel out.st r).rows) (fun g => g.rel < p.rels.length ∧ factsOf s g) f) ∧
    (∀ r, r < p.rels.length → ∃ derived, (prel out.st r).rows = (prel s r).rows ++ derived ∧
      derived.Nodup ∧ ∀ t ∈ derived, t ∉ (prel s r).rows) :=
  runPhys_agg_eq_model I hI V hS hperm p (ixSetsOfA V p) order s fuel out hp ho hst (planOk_ixSetsOfA V p ha)
    (aggPlanOk_ixSetsOfA V p haa) hd hs hnd hrun

example : arityOk pNeg = true ∧ aggArityOk pNeg = true := by decide

#print axioms aggPlanOk_ixSetsOfA
#print axioms planOk_ixSetsOfA
#print axioms runPhys_agg_compiled_eq_model

end AscentVerif.Phys
