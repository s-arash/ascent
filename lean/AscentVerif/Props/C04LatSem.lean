import AscentVerif.Props.C04Lat
import AscentVerif.Spec.LatticeLfpAgg
import AscentVerif.Proofs.AggLatSem
/-!
# C04 over lattices, semantics — the final database of a stratified program with BOTH lattices and
aggregation / negation is closed under the rules, aggregates evaluated on the FINAL rows, and (for
monotone programs) the least such database

Abstract engine `Model/Engine.lean`, serial mode (`Config = {}`).  The aggregation view of the
stratified semantics is `finalAggView p ps.st`: for a lattice relation the list `latAggView` an
aggregation item over it is handed from the final value (one row per key, a permutation of its final
rows: `finalAggView_lattice`), for an ordinary relation its `aggView` (C04).

Two layers (helper development `Proofs/AggLatInv.lean`, `AggLatSem.lean`: the C03 proof with the
aggregation view as a parameter and the extra invariant "non-head relations are untouched"):

* ITEM-wise (`run_mixed_closed_items`, `run_mixed_least_items`): every aggregation item `a` is
  evaluated on `Agg.aggOf {} p ps.st a`, literally what the item reads from the final value
  (`Agg.SatA`).  No side condition.
* RELATION-wise, the spec of `Spec/LatticeLfpAgg.lean` (`run_mixed_closed`, `run_mixed_least`):
  `LClosedA` / `MonotoneProgA` w.r.t. `finalAggView p ps.st`.  A FULL-KEY aggregation item (all
  arguments bound, e.g. a negation `!r(x, y)`) over a NON-lattice relation deduplicates what it reads,
  so it reads the per-relation view only if that view is duplicate-free (`ViewOK`).  `ViewOK` holds
  when the caller's NON-lattice inputs are duplicate-free (`RelInputsNodup`, the hypothesis `hnd` of
  `Props/C04.lean`; `run_mixed_viewOK`, via `ALS.run_spec'` with the switch on: stored indices of non-lattice
  relations stay duplicate-free), and is vacuous when all aggregations range over lattices
  (`viewOK_of_aggsOverLattices`).  The `…_of_viewOK` versions take `ViewOK` instead of `RelInputsNodup`.
-/
namespace AscentVerif.Engine
open AscentVerif

variable {E B G P A : Type}

/-- the aggregation view of the stratified semantics, read from the final program value -/
def finalAggView (p : Program E B G P A) (st : St) (r : RelId) : List Tuple :=
  if (declOf p r).lat then latAggView p st r else aggView st r

/-- full-key items over non-lattice relations read a duplicate-free view -/
def ViewOK (p : Program E B G P A) (st : St) : Prop :=
  ∀ rule ∈ p.rules, ∀ a, Item.agg a ∈ rule.body → (declOf p a.rel).lat = false → aggIsFull a = true →
    (aggView st a.rel).Nodup

def aggsOverLattices (p : Program E B G P A) : Bool :=
  p.rules.all fun rule => rule.body.all fun
    | .agg a => (declOf p a.rel).lat
    | _ => true

theorem viewOK_of_aggsOverLattices (p : Program E B G P A) (st : St) (h : aggsOverLattices p = true) :
    ViewOK p st := by
  intro rule hrule a ha hlat
  simp only [aggsOverLattices, List.all_eq_true] at h
  have := h rule hrule _ ha
  simp only [] at this
  rw [hlat] at this; cases this

theorem aggOf_eq_finalAggView (p : Program E B G P A) (st : St) (a : AggClause E A)
    (h : (declOf p a.rel).lat = false → aggIsFull a = true → (aggView st a.rel).Nodup) :
    Agg.aggOf {} p st a = finalAggView p st a.rel := by
  cases hlat : (declOf p a.rel).lat with
  | true => simp [Agg.aggOf, aggTuples, finalAggView, latAggView, hlat]
  | false =>
    have hv : Agg.aggOf {} p st a = if aggIsFull a then dedupTuples (aggView st a.rel) else aggView st a.rel := by
      simp [Agg.aggOf, aggTuples, aggView, readBag, setLike, hlat]
    rw [hv]
    simp only [finalAggView, hlat, Bool.false_eq_true, if_false]
    cases hf : aggIsFull a with
    | false => simp
    | true => simpa [dedupTuples] using eraseDups_of_nodup _ (h hlat hf)

theorem finalAggView_lattice (I : Interp E B G P A) (p : Program E B G P A) (order : SccOrder)
    (inp : RelId → List Tuple) (fuel : Nat) (ps : ProgSt)
    (hp : MixedProg p) (hi : LatInputKeys p inp)
    (hrun : run I {} p order fuel (initSt p inp) = .done ps) (r : RelId) (hl : (declOf p r).lat = true) :
    ((finalAggView p ps.st r).map keyOf).Nodup ∧ (finalAggView p ps.st r).Perm (relSt ps.st r).rows := by
  have h := run_mixed_lattice_view_once I p order inp fuel ps hp hi hrun r hl
  simpa [finalAggView, hl] using h

/-- **closed, item-wise**: the input is dominated, and every rule instance whose body is satisfied in
the FINAL database — each aggregation item evaluated on what it reads from the FINAL value — has its
head present (relation head) resp. dominated by the stored value of its key (lattice head) -/
theorem run_mixed_closed_items (I : Interp E B G P A) (L : LatOrder I) (p : Program E B G P A) (order : SccOrder)
    (inp : RelId → List Tuple) (fuel : Nat) (ps : ProgSt)
    (hp : MixedProg p) (ho : validOrder p order = true) (hs : Stratified p order) (hi : LatInputKeys p inp)
    (hrun : run I {} p order fuel (initSt p inp) = .done ps) :
    ALS.LClosedI I L p (Agg.aggOf {} p ps.st) (inputDB p inp) (factsOf ps.st) :=
  have h := ALS.run_spec' (L := L) (K := True) hp hi order ho hs fuel ps hrun
  ⟨h.2.2, h.2.1⟩

private theorem satA_iff_sat (I : Interp E B G P A) (p : Program E B G P A) (st : St) (hv : ViewOK p st)
    (M : DB) (rule : Rule E B G P A) (hrule : rule ∈ p.rules) (ρ : Env) :
    Agg.SatA I M (Agg.aggOf {} p st) rule.body [] ρ ↔ Sat I M (finalAggView p st) rule.body [] ρ := by
  have hc : ∀ a, Item.agg a ∈ rule.body → Agg.aggOf {} p st a = finalAggView p st a.rel :=
    fun a ha => aggOf_eq_finalAggView p st a (hv rule hrule a ha)
  rw [Agg.sat_iff_satA]
  exact ⟨fun h => h.congr_agg hc, fun h => h.congr_agg fun a ha => (hc a ha).symm⟩

theorem LClosedI_iff_LClosedA (I : Interp E B G P A) (L : LatOrder I) (p : Program E B G P A) (st : St)
    (hv : ViewOK p st) (inp M : DB) :
    ALS.LClosedI I L p (Agg.aggOf {} p st) inp M ↔ LClosedA I L p (finalAggView p st) inp M := by
  constructor
  · rintro ⟨h1, h2⟩
    exact ⟨h1, fun rule hr ρ hsat => h2 rule hr ρ ((satA_iff_sat I p st hv M rule hr ρ).mpr hsat)⟩
  · rintro ⟨h1, h2⟩
    exact ⟨h1, fun rule hr ρ hsat => h2 rule hr ρ ((satA_iff_sat I p st hv M rule hr ρ).mp hsat)⟩

theorem MonoI_iff_MonotoneProgA (I : Interp E B G P A) (L : LatOrder I) (p : Program E B G P A) (st : St)
    (hv : ViewOK p st) :
    ALS.MonoI I L p (Agg.aggOf {} p st) ↔ MonotoneProgA I L p (finalAggView p st) := by
  constructor
  · intro h M M' hk hk' hle rule hr ρ hsat
    obtain ⟨ρ', hs', hd⟩ := h M M' hk hk' hle rule hr ρ ((satA_iff_sat I p st hv M rule hr ρ).mpr hsat)
    exact ⟨ρ', (satA_iff_sat I p st hv M' rule hr ρ').mp hs', hd⟩
  · intro h M M' hk hk' hle rule hr ρ hsat
    obtain ⟨ρ', hs', hd⟩ := h M M' hk hk' hle rule hr ρ ((satA_iff_sat I p st hv M rule hr ρ).mp hsat)
    exact ⟨ρ', (satA_iff_sat I p st hv M' rule hr ρ').mpr hs', hd⟩

/-- the caller put no tuple twice into a non-lattice relation (as `hnd` in `Props/C04.lean`) -/
def RelInputsNodup (p : Program E B G P A) (inp : RelId → List Tuple) : Prop :=
  ∀ r, r < p.rels.length → (declOf p r).lat = false → (inp r).Nodup

section
variable (I : Interp E B G P A) (L : LatOrder I) (p : Program E B G P A) (order : SccOrder)
  (inp : RelId → List Tuple) (fuel : Nat) (ps : ProgSt)
  (hp : MixedProg p) (ho : validOrder p order = true) (hs : Stratified p order) (hi : LatInputKeys p inp)
  (hrun : run I {} p order fuel (initSt p inp) = .done ps)
include L hp ho hs hi hrun

/-- **least, item-wise**: below every key-unique database closed for the same item views -/
theorem run_mixed_least_items (hm : ALS.MonoI I L p (Agg.aggOf {} p ps.st))
    (M : DB) (hMk : KeyUnique p M) (hM : ALS.LClosedI I L p (Agg.aggOf {} p ps.st) (inputDB p inp) M) :
    DBLe I L p (factsOf ps.st) M :=
  (ALS.run_spec' (L := L) (K := True) hp hi order ho hs fuel ps hrun).1.below M ⟨hm, hMk, hM⟩

/-- with duplicate-free non-lattice inputs, the view of every non-lattice relation after `run()` is
duplicate-free: full-key items read the per-relation view -/
theorem run_mixed_viewOK (hnd : RelInputsNodup p inp) : ViewOK p ps.st := by
  intro rule _ a _ hlat _
  have hk := (ALS.run_spec' (L := L) (K := True) hp hi order ho hs fuel ps hrun).1
  have hrows : (relSt ps.st a.rel).rows.Nodup := by
    by_cases hr : a.rel < p.rels.length
    · obtain ⟨derived, e, hd1, hd2⟩ := hk.relset a.rel hr hlat
      rw [e, List.nodup_append]
      exact ⟨hnd a.rel hr hlat, hd1, fun x hx y hy e' => hd2 y hy (e' ▸ hx)⟩
    · rw [relSt_of_ge _ _ (by rw [hk.len]; exact Nat.le_of_not_lt hr)]; exact List.nodup_nil
  exact (Agg.view_perm _ _ (hk.idxNd trivial a.rel hlat) (hk.idxAll a.rel)).nodup_iff.mpr hrows

/-- **the final database of a stratified mixed program is closed** (`LClosedA`, aggregation view =
the final rows: `finalAggView p ps.st`): it dominates the input, and every rule instance whose body
is satisfied in the final database — aggregates evaluated on the FINAL rows — has its head facts
present (relation heads) resp. dominated by the stored value of their key (lattice heads) -/
theorem run_mixed_closed_of_viewOK (hv : ViewOK p ps.st) :
    LClosedA I L p (finalAggView p ps.st) (inputDB p inp) (factsOf ps.st) :=
  (LClosedI_iff_LClosedA I L p ps.st hv _ _).mp (run_mixed_closed_items I L p order inp fuel ps hp ho hs hi hrun)

/-- **… and the least one**: for programs monotone w.r.t. the final aggregation view, the final
database is below every key-unique database that is `LClosedA` for that same view and the input -/
theorem run_mixed_least_of_viewOK (hv : ViewOK p ps.st) (hm : MonotoneProgA I L p (finalAggView p ps.st))
    (M : DB) (hMk : KeyUnique p M) (hM : LClosedA I L p (finalAggView p ps.st) (inputDB p inp) M) :
    DBLe I L p (factsOf ps.st) M :=
  run_mixed_least_items I L p order inp fuel ps hp ho hs hi hrun
    ((MonoI_iff_MonotoneProgA I L p ps.st hv).mpr hm) M hMk ((LClosedI_iff_LClosedA I L p ps.st hv _ _).mpr hM)

end

/-- **closed** — hypotheses on program and input only -/
theorem run_mixed_closed (I : Interp E B G P A) (L : LatOrder I) (p : Program E B G P A) (order : SccOrder)
    (inp : RelId → List Tuple) (fuel : Nat) (ps : ProgSt)
    (hp : MixedProg p) (ho : validOrder p order = true) (hs : Stratified p order) (hi : LatInputKeys p inp)
    (hnd : RelInputsNodup p inp)
    (hrun : run I {} p order fuel (initSt p inp) = .done ps) :
    LClosedA I L p (finalAggView p ps.st) (inputDB p inp) (factsOf ps.st) :=
  run_mixed_closed_of_viewOK I L p order inp fuel ps hp ho hs hi hrun
    (run_mixed_viewOK I L p order inp fuel ps hp ho hs hi hrun hnd)

/-- **least** — hypotheses on program and input only -/
theorem run_mixed_least (I : Interp E B G P A) (L : LatOrder I) (p : Program E B G P A) (order : SccOrder)
    (inp : RelId → List Tuple) (fuel : Nat) (ps : ProgSt)
    (hp : MixedProg p) (ho : validOrder p order = true) (hs : Stratified p order) (hi : LatInputKeys p inp)
    (hnd : RelInputsNodup p inp)
    (hrun : run I {} p order fuel (initSt p inp) = .done ps)
    (hm : MonotoneProgA I L p (finalAggView p ps.st))
    (M : DB) (hMk : KeyUnique p M) (hM : LClosedA I L p (finalAggView p ps.st) (inputDB p inp) M) :
    DBLe I L p (factsOf ps.st) M :=
  run_mixed_least_of_viewOK I L p order inp fuel ps hp ho hs hi hrun
    (run_mixed_viewOK I L p order inp fuel ps hp ho hs hi hrun hnd) hm M hMk hM

/-- one row per lattice key in the final database (restating `run_mixed_lattice_key_unique` as `KeyUnique`) -/
theorem run_mixed_keyUnique (I : Interp E B G P A) (p : Program E B G P A) (order : SccOrder)
    (inp : RelId → List Tuple) (fuel : Nat) (ps : ProgSt)
    (hp : MixedProg p) (hi : LatInputKeys p inp)
    (hrun : run I {} p order fuel (initSt p inp) = .done ps) : KeyUnique p (factsOf ps.st) := by
  intro r t t' hl ht ht' hk
  have hl' : (declOf p r).lat = true := hl
  exact row_of_key (run_mixed_lattice_key_unique I p order inp fuel ps hp hi hrun r (lat_lt p hl') hl') ht ht' hk

/-! ## non-vacuity: `pDistAgg` (shortest distances, then `count` / `max` over them) -/

theorem distAgg_aggsOverLattices : aggsOverLattices pDistAgg = true := by decide

theorem distAgg_relInputsNodup : RelInputsNodup pDistAgg inpDistAgg := by
  have h : ∀ r, r < 4 → (declOf pDistAgg r).lat = false → (inpDistAgg r).Nodup := by decide
  exact h

theorem distAgg_done :
    ∃ ps, run distAggI {} pDistAgg [[0], [1], [2]] 10 (initSt pDistAgg inpDistAgg) = .done ps := by
  have h := distAgg_final
  cases hr : run distAggI {} pDistAgg [[0], [1], [2]] 10 (initSt pDistAgg inpDistAgg) with
  | done ps => exact ⟨ps, rfl⟩
  | timedOut x => rw [hr] at h; cases h
  | outOfFuel => rw [hr] at h; cases h

/-- the aggregation view of the semantics is the three final `dist` rows (7, not the
intermediate 9), for `far` / `maxd` their own final rows -/
theorem distAgg_finalAggView :
    (distAggDoneSt (run distAggI {} pDistAgg [[0], [1], [2]] 10 (initSt pDistAgg inpDistAgg))).map
        (fun st => (finalAggView pDistAgg st 1, finalAggView pDistAgg st 2, finalAggView pDistAgg st 3)) =
      some ([[.int 1, .int 0], [.int 3, .int 7], [.int 2, .int 3]], [[.int 3]], [[.int 7]]) := by
  rw [distAgg_final]
  rfl

/-- the theorems apply to the example, for every `LatOrder` of its interpretation (one exists:
`std_latOrder_maxmin`) -/
example (L : LatOrder distAggI) (ps : ProgSt)
    (h : run distAggI {} pDistAgg [[0], [1], [2]] 10 (initSt pDistAgg inpDistAgg) = .done ps) :
    KeyUnique pDistAgg (factsOf ps.st) ∧
    LClosedA distAggI L pDistAgg (finalAggView pDistAgg ps.st) (inputDB pDistAgg inpDistAgg) (factsOf ps.st) ∧
    (MonotoneProgA distAggI L pDistAgg (finalAggView pDistAgg ps.st) → ∀ M, KeyUnique pDistAgg M →
      LClosedA distAggI L pDistAgg (finalAggView pDistAgg ps.st) (inputDB pDistAgg inpDistAgg) M →
      DBLe distAggI L pDistAgg (factsOf ps.st) M) :=
  ⟨run_mixed_keyUnique distAggI pDistAgg _ inpDistAgg 10 ps distAgg_hyps.1 distAgg_inputKeys h,
   run_mixed_closed distAggI L pDistAgg _ inpDistAgg 10 ps distAgg_hyps.1 distAgg_hyps.2.1 distAgg_hyps.2.2.1
     distAgg_inputKeys distAgg_relInputsNodup h,
   fun hm M hMk hM => run_mixed_least distAggI L pDistAgg _ inpDistAgg 10 ps distAgg_hyps.1 distAgg_hyps.2.1
     distAgg_hyps.2.2.1 distAgg_inputKeys distAgg_relInputsNodup h hm M hMk hM⟩

/-- … and the `ViewOK` route applies as well (all aggregations of the example range over `dist`) -/
example (L : LatOrder distAggI) (ps : ProgSt)
    (h : run distAggI {} pDistAgg [[0], [1], [2]] 10 (initSt pDistAgg inpDistAgg) = .done ps) :
    LClosedA distAggI L pDistAgg (finalAggView pDistAgg ps.st) (inputDB pDistAgg inpDistAgg) (factsOf ps.st) :=
  run_mixed_closed_of_viewOK distAggI L pDistAgg _ inpDistAgg 10 ps distAgg_hyps.1 distAgg_hyps.2.1
    distAgg_hyps.2.2.1 distAgg_inputKeys h (viewOK_of_aggsOverLattices pDistAgg ps.st distAgg_aggsOverLattices)

example : ∃ L : LatOrder distAggI, L.le = stdLe fun _ => .minInt :=
  std_latOrder_maxmin (fun _ => .minInt) (fun _ => .inr rfl)

#print axioms LClosedA_iff_of_aggFree
#print axioms MonotoneProgA_iff_of_aggFree
#print axioms aggOf_eq_finalAggView
#print axioms finalAggView_lattice
#print axioms run_mixed_closed_items
#print axioms run_mixed_least_items
#print axioms LClosedI_iff_LClosedA
#print axioms MonoI_iff_MonotoneProgA
#print axioms run_mixed_viewOK
#print axioms run_mixed_closed_of_viewOK
#print axioms run_mixed_least_of_viewOK
#print axioms run_mixed_closed
#print axioms run_mixed_least
#print axioms run_mixed_keyUnique
#print axioms viewOK_of_aggsOverLattices
#print axioms distAgg_relInputsNodup
#print axioms distAgg_done
#print axioms distAgg_finalAggView

end AscentVerif.Engine
