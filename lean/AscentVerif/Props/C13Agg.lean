import AscentVerif.Props.C04
import AscentVerif.Props.C14
import AscentVerif.Props.C17
import AscentVerif.Model.StdInterp
import AscentVerif.Proofs.AggRestart
/-!
# C13 / C14 for stratified programs WITH aggregation and negation

The restart lemma of `Props/C13.lean` (`derivable_between`) is about monotone programs.  For a
stratified program the same holds stratum by stratum: a run started from ANY program value lying
between the inputs and the stratified model (the value left by a completed run, by an interrupted
`run_timeout`, …) ends in exactly the stratified model.  Consequences: `run()` is idempotent for
every stratified program (first sentence of C13, all programs), an interrupted `run_timeout` holds
only tuples of the stratified model, and resumption completes to it (C14 for programs with
aggregation).

The stratified model is referred to through a *reference run*: a completed `run()` from the inputs
(`Props/C04.lean` characterises what it computes).

Helper development: `Proofs/AggRestartSpec.lean` (specification-level strata induction `Agg.strata_agree`),
`Proofs/AggRestartLink.lean` (equal tuple sets + `Extends` + permutation-invariant aggregators give
interchangeable aggregation views), `Proofs/AggRestart.lean` (`Agg.restart_of_spec`, `Agg.timeoutG_sound`, for every
engine of the shape `Agg.SccsG`).  `timeout_false_sound_agg_from` is `timeout_false_sound_agg` for any start value between the inputs and the
reference result (what `resume_complete_agg` needs).
-/
namespace AscentVerif.Engine
open AscentVerif

variable {E B G P A : Type}

/-- aggregators do not depend on the order in which the matching tuples are handed to them (the
enumeration order of an index is arbitrary in the real code; the library aggregators satisfy this:
`Props/C17.lean`) -/
def AggPermInvariant (I : Interp E B G P A) : Prop :=
  ∀ (fn : A) (l l' : List Tuple), l.Perm l' → I.agg fn l = I.agg fn l'

/-- `t` extends `s`: same declared relations, every row vector of `s` is a prefix of the one of `t`, and the
rows added are pairwise distinct and not among the rows of `s` (what `run` / `run_timeout` do to a value) -/
def Extends (p : Program E B G P A) (s t : St) : Prop :=
  ∀ r, r < p.rels.length → ∃ extra : List Tuple,
    (relSt t r).rows = (relSt s r).rows ++ extra ∧ extra.Nodup ∧ ∀ x ∈ extra, x ∉ (relSt s r).rows

private theorem run_result (I : Interp E B G P A) (cfg : Config) (p : Program E B G P A) (order : SccOrder)
    (dl : Deadline) (s : St) (fuel : Nat) (ps : ProgSt)
    (hp : RelationalAgg p) (ho : validOrder p order = true) (hs : Stratified p order) (hs0 : WFSt p s)
    (h : runTimeout I cfg p order dl fuel s = .done ps) :
    Agg.PInv I p (fun r => (relSt s r).rows) (Agg.aggOf cfg p ps.st) True p.rels.length ps.st ∧
      Agg.ClosedRules I (Agg.aggOf cfg p ps.st) p.rules (factsOf ps.st) :=
  Agg.run_spec I cfg p _ True hp.1 hp.2 order ho hs dl fuel s ps hs0 (fun _ _ => rfl) h

/-- **stratified restart**: `psM` is a completed reference run from `s`; `t` extends `s` and holds only
facts of the reference result.  Then ANY completed run from `t` (any deadline oracle) ends with exactly
the facts of the reference result. -/
theorem restart_agg (I : Interp E B G P A) (cfg : Config) (p : Program E B G P A) (order : SccOrder)
    (s t : St) (dl : Deadline) (fuelM fuel : Nat) (psM ps : ProgSt)
    (hp : RelationalAgg p) (ho : validOrder p order = true) (hs : Stratified p order) (hperm : AggPermInvariant I)
    (hs0 : WFSt p s) (ht0 : WFSt p t)
    (hM : run I cfg p order fuelM s = .done psM)
    (hext : Extends p s t) (hsound : ∀ f, factsOf t f → factsOf psM.st f)
    (hrun : runTimeout I cfg p order dl fuel t = .done ps) :
    ∀ f, factsOf ps.st f ↔ factsOf psM.st f :=
  Agg.restart_of_spec hp.1 ho hs hperm hs0.1 (run_result I cfg p order never s fuelM psM hp ho hs hs0 hM) hext hsound
    (run_result I cfg p order dl t fuel ps hp ho hs ht0 hrun)

private theorem run_wf_extends (I : Interp E B G P A) (cfg : Config) (p : Program E B G P A) (order : SccOrder)
    (s : St) (fuel : Nat) (ps : ProgSt)
    (hp : RelationalAgg p) (ho : validOrder p order = true) (hs : Stratified p order) (hs0 : WFSt p s)
    (h : run I cfg p order fuel s = .done ps) :
    WFSt p ps.st ∧ Extends p s ps.st ∧ (∀ f, factsOf s f → factsOf ps.st f) :=
  (run_result I cfg p order never s fuel ps hp ho hs hs0 h).1.wf_extends hs0.1

/-- **run() is idempotent for every stratified program** (aggregation, negation included): a second
`run()` on an unmodified program value appends nothing -/
theorem rerun_idempotent_agg (I : Interp E B G P A) (cfg : Config) (p : Program E B G P A) (order : SccOrder)
    (s : St) (fuel₁ fuel₂ : Nat) (ps₁ ps₂ : ProgSt)
    (hp : RelationalAgg p) (ho : validOrder p order = true) (hs : Stratified p order) (hperm : AggPermInvariant I)
    (hs0 : WFSt p s)
    (h₁ : run I cfg p order fuel₁ s = .done ps₁) (h₂ : run I cfg p order fuel₂ ps₁.st = .done ps₂) :
    (∀ r, r < p.rels.length → (relSt ps₂.st r).rows = (relSt ps₁.st r).rows) ∧
    (∀ f, factsOf ps₂.st f ↔ factsOf ps₁.st f) := by
  obtain ⟨hw₁, hext₁, _⟩ := run_wf_extends I cfg p order s fuel₁ ps₁ hp ho hs hs0 h₁
  have hfacts := restart_agg I cfg p order s ps₁.st never fuel₁ fuel₂ ps₁ ps₂ hp ho hs hperm hs0 hw₁ h₁ hext₁
    (fun _ hf => hf) h₂
  have hrows : ∀ r, r < p.rels.length → (relSt ps₂.st r).rows = (relSt ps₁.st r).rows := by
    intro r hr
    obtain ⟨derived, hd, _, hnot⟩ := (run_wf_extends I cfg p order ps₁.st fuel₂ ps₂ hp ho hs hw₁ h₂).2.1 r hr
    cases derived with
    | nil => simpa using hd
    | cons t ts =>
      exfalso
      have hin : factsOf ps₂.st ⟨r, t⟩ := by show t ∈ (relSt ps₂.st r).rows; rw [hd]; simp
      exact hnot t (by simp) ((hfacts ⟨r, t⟩).mp hin)
  exact ⟨hrows, hfacts⟩

/-- **run_timeout returned `false`, from any value between the inputs and the stratified model**
(`t` extends `s` and holds only facts of the reference result; so does the value left by the interrupted call) -/
theorem timeout_false_sound_agg_from (I : Interp E B G P A) (cfg : Config) (p : Program E B G P A) (order : SccOrder)
    (dl : Deadline) (s t : St) (fuelM fuel : Nat) (psM ps : ProgSt)
    (hp : RelationalAgg p) (ho : validOrder p order = true) (hs : Stratified p order) (hperm : AggPermInvariant I)
    (hs0 : WFSt p s) (ht0 : WFSt p t)
    (hM : run I cfg p order fuelM s = .done psM)
    (hext : Extends p s t) (hsound : ∀ f, factsOf t f → factsOf psM.st f)
    (hrun : runTimeout I cfg p order dl fuel t = .timedOut ps) :
    WFSt p ps.st ∧ Extends p s ps.st ∧ (∀ f, factsOf ps.st f → factsOf psM.st f) := by
  -- a completed prefix of the order, then one SCC abandoned after whole iterations (only its row vectors survive)
  obtain ⟨done, scc, rest, psMid, e, hdone, hto⟩ := Agg.runSccs_timedOut_split I cfg p hrun
  obtain ⟨s1, a', hpre, hst⟩ := Agg.runScc_sccPreG I cfg p hto
  obtain ⟨hwf, hx, hsub⟩ := Agg.timeoutG_sound hp.1 hp.2 ho hs hperm (Agg.detPass_frame I cfg p hp.1)
    (fun _ _ => Agg.detPass_ok hp.1) hs0.1 (run_result I cfg p order never s fuelM psM hp ho hs hs0 hM) hext hsound e ht0
    (Agg.runSccs_sccsG I cfg p hdone) hpre
  rw [hst]
  refine ⟨Agg.abandon_wfSt hwf, fun r hr => ?_, fun f hf => hsub f ?_⟩
  · rw [Agg.abandon_rows]; exact hx r hr
  · show f.args ∈ (relSt a'.rels f.rel).rows
    rw [← rowsOf, ← Agg.abandon_rows p scc a']; exact hf

/-- **run_timeout returned `false`** on a stratified program, at whatever point the deadline struck:
the value is well-formed, extends the start value (no input lost, nothing duplicated) and holds only
tuples of the stratified model (the result of an uninterrupted run) -/
theorem timeout_false_sound_agg (I : Interp E B G P A) (cfg : Config) (p : Program E B G P A) (order : SccOrder)
    (dl : Deadline) (s : St) (fuelM fuel : Nat) (psM ps : ProgSt)
    (hp : RelationalAgg p) (ho : validOrder p order = true) (hs : Stratified p order) (hperm : AggPermInvariant I)
    (hs0 : WFSt p s)
    (hM : run I cfg p order fuelM s = .done psM)
    (hrun : runTimeout I cfg p order dl fuel s = .timedOut ps) :
    WFSt p ps.st ∧ Extends p s ps.st ∧ (∀ f, factsOf ps.st f → factsOf psM.st f) :=
  timeout_false_sound_agg_from I cfg p order dl s s fuelM fuel psM ps hp ho hs hperm hs0 hs0 hM
    (Agg.ExtSt.refl p s) (run_wf_extends I cfg p order s fuelM psM hp ho hs hs0 hM).2.2 hrun

inductive InterruptedA (I : Interp E B G P A) (cfg : Config) (p : Program E B G P A) (order : SccOrder) : St → St → Prop where
  | refl (s : St) : InterruptedA I cfg p order s s
  | step {s t u : St} (dl : Deadline) (fuel : Nat) (ps : ProgSt) :
      InterruptedA I cfg p order s t → runTimeout I cfg p order dl fuel t = .timedOut ps → u = ps.st →
      InterruptedA I cfg p order s u

/-- after any number of interruptions at any points the value is well-formed, extends the original value
and holds only facts of the reference result -/
theorem interrupted_between_agg (I : Interp E B G P A) (cfg : Config) (p : Program E B G P A) (order : SccOrder)
    (hp : RelationalAgg p) (ho : validOrder p order = true) (hs : Stratified p order) (hperm : AggPermInvariant I)
    {s t : St} (hs0 : WFSt p s) (fuelM : Nat) (psM : ProgSt)
    (hM : run I cfg p order fuelM s = .done psM)
    (h : InterruptedA I cfg p order s t) :
    WFSt p t ∧ Extends p s t ∧ (∀ f, factsOf t f → factsOf psM.st f) := by
  induction h with
  | refl => exact ⟨hs0, Agg.ExtSt.refl p s, (run_wf_extends I cfg p order s fuelM psM hp ho hs hs0 hM).2.2⟩
  | step dl fuel ps _ hrun hu ih =>
    obtain ⟨hw, hext, hsound⟩ := ih
    subst hu
    exact timeout_false_sound_agg_from I cfg p order dl s _ fuelM fuel psM ps hp ho hs hperm hs0 hw hM hext hsound hrun

/-- **resumption completes to exactly the uninterrupted result**, for stratified programs: after any
sequence of interrupted `run_timeout` calls, a call that runs to completion leaves exactly the facts
of an uninterrupted `run()` from the original value -/
theorem resume_complete_agg (I : Interp E B G P A) (cfg : Config) (p : Program E B G P A) (order : SccOrder)
    (hp : RelationalAgg p) (ho : validOrder p order = true) (hs : Stratified p order) (hperm : AggPermInvariant I)
    {s t : St} (hs0 : WFSt p s) (fuelM : Nat) (psM : ProgSt)
    (hM : run I cfg p order fuelM s = .done psM)
    (h : InterruptedA I cfg p order s t) (dl : Deadline) (fuel : Nat) (ps : ProgSt)
    (hrun : runTimeout I cfg p order dl fuel t = .done ps) :
    ∀ f, factsOf ps.st f ↔ factsOf psM.st f := by
  obtain ⟨hw, hext, hsound⟩ := interrupted_between_agg I cfg p order hp ho hs hperm hs0 fuelM psM hM h
  exact restart_agg I cfg p order s t dl fuelM fuel psM ps hp ho hs hperm hs0 hw hM hext hsound hrun

/-- `r1(n) <-- agg n = count() in r0(_)` -/
def exP : Program Unit Unit Unit Unit Unit :=
  { rels := [⟨1, false⟩, ⟨1, false⟩]
    rules := [⟨[⟨1, [()]⟩], [.agg ⟨[0], (), [], 0, [.wild]⟩]⟩] }

/-- the only expression is "variable 0"; the only aggregator is `count` -/
def exI : Interp Unit Unit Unit Unit Unit :=
  ⟨fun _ ρ => (Env.get? ρ 0).getD .unit, fun _ _ => true, fun _ _ => [], fun _ _ => none,
   fun _ l => [[.int l.length]], fun _ a _ => (a, false)⟩

def exS : St := initSt exP fun r => if r = 0 then [[.int 7], [.int 8]] else []

/-- all hypotheses of the theorems above hold together on `exP`: a reference run, a `run_timeout`
interrupted at the first reading of the clock, and a completed resumption, which ends with `r1 = {2}` -/
example : RelationalAgg exP ∧ validOrder exP [[0]] = true ∧ Stratified exP [[0]] ∧ AggPermInvariant exI ∧
    WFSt exP exS ∧
    ∃ psM psT ps, run exI {} exP [[0]] 5 exS = .done psM ∧
      runTimeout exI {} exP [[0]] (fun k => k == 0) 5 exS = .timedOut psT ∧
      InterruptedA exI {} exP [[0]] exS psT.st ∧
      runTimeout exI {} exP [[0]] never 5 psT.st = .done ps ∧
      (relSt psM.st 1).rows = [[.int 2]] ∧ (relSt psT.st 1).rows = [[.int 2]] ∧ (relSt ps.st 1).rows = [[.int 2]] := by
  refine ⟨⟨by decide, by decide⟩, by decide, by unfold Stratified; decide, ?_, wfSt_initSt _ _, _, _, _, rfl, rfl, ?_, rfl, ?_, ?_, ?_⟩
  · intro fn l l' h
    show [[Val.int l.length]] = [[Val.int l'.length]]
    rw [h.length_eq]
  · exact .step (fun k => k == 0) 5 _ (.refl _) rfl rfl
  all_goals decide

/-- the hypothesis is met by the interpretation the ties execute: the library aggregators `count`, `sum`,
`min`, `max`, `not` do not depend on the order of their input (`Props/C17.lean`) -/
theorem std_aggPermInvariant (kinds : RelId → Std.LatKind) : AggPermInvariant (Std.interp kinds) := by
  intro fn l l' h
  have hmap : (l.map fun t => Std.intOf (t.headD .unit)).Perm (l'.map fun t => Std.intOf (t.headD .unit)) := h.map _
  show Std.evalAx fn l = Std.evalAx fn l'
  cases fn
  case argmin =>
    simp only [Std.evalAx]
    rw [Agg.aggMin_perm hmap]
    cases Agg.aggMin (l'.map fun t => Std.intOf (t.headD .unit)) with
    | none => rfl
    | some m =>
      simp only
      rw [Agg.aggMin_perm (((h.filter _).map _))]
  -- the others are functions of the length, the sum, the minimum and the maximum of the aggregated column
  all_goals simp only [Std.evalAx, h.length_eq, Agg.aggSum_perm hmap, Agg.aggMin_perm hmap, Agg.aggMax_perm hmap]

#print axioms restart_agg
#print axioms rerun_idempotent_agg
#print axioms timeout_false_sound_agg_from
#print axioms timeout_false_sound_agg
#print axioms resume_complete_agg

end AscentVerif.Engine
#print axioms AscentVerif.Engine.std_aggPermInvariant
