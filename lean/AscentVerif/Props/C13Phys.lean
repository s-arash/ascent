import AscentVerif.Model.EnginePhysTimeout
import AscentVerif.Props.C01PhysPlan
import AscentVerif.Props.C13
import AscentVerif.Proofs.PhysAggTimeout
/-!
# C13 / C14 at the level of the physical indices: re-runs, pushes and `run_timeout`

Histories over the physical-index engine (`Model/EnginePhys.lean`, `Model/EnginePhysTimeout.lean`), for desugared,
well-scoped, arity-correct relational programs with the compiler's own index sets (`ixSetsOf`), from any typed program
value (whatever its stored indices hold: `update_indices` rebuilds them):

* `rerun_idempotent_phys` — a second `run()` on an unmodified value appends nothing;
* `monotone_rerun_phys` — run; push rows into any relations; run: exactly the least model of the union of all inputs;
* `timeout_sound_phys` — whatever the deadline oracle, after `run_timeout` (returned `true` or `false`) every row is derivable
  from the start value's rows, the old rows are a prefix of the new ones, and the value is again a typed program value;
* `timeout_true_complete_phys` — if `run_timeout` returns `true` the relations hold exactly the least model;
* `resume_complete_phys` — after ANY number of interrupted calls (any deadline oracles, any fuels), a completing `run()`
  ends with exactly the least model of the ORIGINAL rows: the indices dropped by the early returns are rebuilt.
-/
namespace AscentVerif.Phys
open AscentVerif AscentVerif.Engine AscentVerif.Index

variable {E B G P A : Type}

def stDB (p : Program E B G P A) (s : PSt) : DB := fun g => g.rel < p.rels.length ∧ factsOf s g

structure Ctx (I : Interp E B G P A) (V : Hir.VarsOf E B) (p : Program E B G P A) (order : SccOrder) : Prop where
  ext : Plan.Ext I
  supp : Plan.Supp I V
  rel : Relational p
  order : validOrder p order = true
  arity : arityOk p = true
  rules : ∀ r ∈ p.rules, Hir.Desugared V r = true ∧ Plan.WellScoped V r = true

theorem facts_lt {p : Program E B G P A} {s : PSt} (hs : WFPSt p s) {f : Fact} (hf : factsOf s f) :
    f.rel < p.rels.length :=
  hs.1 ▸ lt_of_mem_prel s f.rel f.args hf

theorem prel_pushRows (s : PSt) (extra : RelId → List Tuple) (r : RelId) (hr : r < s.length) :
    prel (pushRows s extra) r = { prel s r with rows := (prel s r).rows ++ extra r } := by
  simp only [pushRows, prel_rangeMap _ _ _ hr]

theorem wfPSt_pushRows (p : Program E B G P A) (s : PSt) (extra : RelId → List Tuple) (hs : WFPSt p s)
    (hex : ∀ r, ∀ t ∈ extra r, t.length = arityOf p r) : WFPSt p (pushRows s extra) := by
  refine ⟨by simp [pushRows, hs.1], ?_⟩
  intro r t ht
  by_cases hr : r < s.length
  · rw [prel_pushRows _ _ _ hr] at ht
    rcases List.mem_append.mp ht with h | h
    · exact hs.2 r t h
    · exact hex r t h
  · have hr' : s.length ≤ r := Nat.le_of_not_lt hr
    simp only [pushRows, prel_rangeMap_ge _ _ _ hr'] at ht
    cases ht

theorem stDB_pushRows (p : Program E B G P A) (s : PSt) (extra : RelId → List Tuple) (hl : s.length = p.rels.length)
    (g : Fact) : stDB p (pushRows s extra) g ↔ (stDB p s g ∨ (g.rel < p.rels.length ∧ g.args ∈ extra g.rel)) := by
  refine Iff.trans (and_congr_right fun hr => ?_) and_or_left
  show g.args ∈ (prel (pushRows s extra) g.rel).rows ↔ _
  rw [prel_pushRows _ _ _ (hl ▸ hr)]
  exact List.mem_append

/-- a call of `run_timeout` that returned `true`, under whatever deadline, in terms of the row vectors -/
theorem runTimeoutPhys_ran (I : Interp E B G P A) (V : Hir.VarsOf E B) (p : Program E B G P A) (order : SccOrder)
    (c : Ctx I V p order) (dl : Deadline) (s : PSt) (fuel : Nat) (o : ProgStT) (hs : WFPSt p s)
    (h : runTimeout I V p (ixSetsOf V p) order dl fuel s = .done o) :
    WFPSt p o.st ∧ Rows.Ran I p.rules p.rels.length (fun r => (prel s r).rows) (fun r => (prel o.st r).rows) := by
  obtain ⟨hw, hm, hr⟩ := (runTimeoutPhys_exec I c.ext V c.supp p _ order dl s fuel o c.rel (planOk_ixSetsOf V p c.arity)
    c.rules hs h).leastModel c.rel c.order hs
  exact ⟨hw, fun _ => facts_lt hw, hm, hr⟩

/-- a returned `run()`: the deadline that never passes -/
theorem runPhys_ran (I : Interp E B G P A) (V : Hir.VarsOf E B) (p : Program E B G P A) (order : SccOrder)
    (c : Ctx I V p order) (s : PSt) (fuel : Nat) (o : ProgSt) (hs : WFPSt p s)
    (h : run I V p (ixSetsOf V p) order fuel s = some o) :
    WFPSt p o.st ∧ Rows.Ran I p.rules p.rels.length (fun r => (prel s r).rows) (fun r => (prel o.st r).rows) :=
  let ⟨_, hk⟩ := run_never h
  runTimeoutPhys_ran I V p order c never s fuel _ hs hk

/-- the value an interrupted `run_timeout` leaves, in the form of `timeout_sound_phys` -/
theorem sound_of_goodRows (I : Interp E B G P A) (p : Program E B G P A) (s st' : PSt) (hw : WFPSt p st')
    (hgood : ∀ r, r < p.rels.length → GoodRows I p (fun r => (prel s r).rows) r (prel st' r).rows) :
    WFPSt p st' ∧
    (∀ f, factsOf st' f → Derivable I p.rules noAgg (stDB p s) f) ∧
    (∀ r, r < p.rels.length → ∃ derived, (prel st' r).rows = (prel s r).rows ++ derived) := by
  refine ⟨hw, ?_, ?_⟩
  · intro f hf
    have := (hgood f.rel (facts_lt hw hf)).1 f.args hf
    cases f
    exact this
  · intro r hr
    obtain ⟨_, derived, hd, _, _⟩ := hgood r hr
    exact ⟨derived, hd⟩

/-- **run() is idempotent** on the physical engine: the row vectors are literally unchanged -/
theorem rerun_idempotent_phys (I : Interp E B G P A) (V : Hir.VarsOf E B) (p : Program E B G P A) (order : SccOrder)
    (c : Ctx I V p order) (s : PSt) (fuel₁ fuel₂ : Nat) (o₁ o₂ : ProgSt) (hs : WFPSt p s)
    (h₁ : run I V p (ixSetsOf V p) order fuel₁ s = some o₁)
    (h₂ : run I V p (ixSetsOf V p) order fuel₂ o₁.st = some o₂) :
    (∀ r, r < p.rels.length → (prel o₂.st r).rows = (prel o₁.st r).rows) ∧ (∀ f, factsOf o₂.st f ↔ factsOf o₁.st f) := by
  obtain ⟨hw₁, hr₁⟩ := runPhys_ran I V p order c s fuel₁ o₁ hs h₁
  exact hr₁.rerun (runPhys_ran I V p order c o₁.st fuel₂ o₂ hw₁ h₂).2

/-- **monotone re-run = fresh run on the union** -/
theorem monotone_rerun_phys (I : Interp E B G P A) (V : Hir.VarsOf E B) (p : Program E B G P A) (order : SccOrder)
    (c : Ctx I V p order) (s : PSt) (extra : RelId → List Tuple) (fuel₁ fuel₂ : Nat) (o₁ o₂ : ProgSt) (hs : WFPSt p s)
    (hex : ∀ r, ∀ t ∈ extra r, t.length = arityOf p r)
    (h₁ : run I V p (ixSetsOf V p) order fuel₁ s = some o₁)
    (h₂ : run I V p (ixSetsOf V p) order fuel₂ (pushRows o₁.st extra) = some o₂) :
    ∀ f, factsOf o₂.st f ↔
      Derivable I p.rules noAgg (fun g => stDB p s g ∨ (g.rel < p.rels.length ∧ g.args ∈ extra g.rel)) f := by
  obtain ⟨hw₁, hr₁⟩ := runPhys_ran I V p order c s fuel₁ o₁ hs h₁
  exact hr₁.push (runPhys_ran I V p order c _ fuel₂ o₂ (wfPSt_pushRows p _ extra hw₁ hex) h₂).2 extra
    (stDB_pushRows p o₁.st extra hw₁.1)

def OutcomeSt : Outcome ProgStT → Option PSt
  | .done o => some o.st
  | .timedOut o => some o.st
  | .outOfFuel => none

/-- **`run_timeout` stops only in a sound state**: typed, old rows kept as a prefix, every row derivable -/
theorem timeout_sound_phys (I : Interp E B G P A) (V : Hir.VarsOf E B) (p : Program E B G P A) (order : SccOrder)
    (c : Ctx I V p order) (dl : Deadline) (s : PSt) (fuel : Nat) (st' : PSt) (hs : WFPSt p s)
    (h : OutcomeSt (runTimeout I V p (ixSetsOf V p) order dl fuel s) = some st') :
    WFPSt p st' ∧
    (∀ f, factsOf st' f → Derivable I p.rules noAgg (stDB p s) f) ∧
    (∀ r, r < p.rels.length → ∃ derived, (prel st' r).rows = (prel s r).rows ++ derived) := by
  cases hr : runTimeout I V p (ixSetsOf V p) order dl fuel s with
  | done o =>
    rw [hr] at h
    simp only [OutcomeSt, Option.some.injEq] at h
    subst h
    obtain ⟨hw, hran⟩ := runTimeoutPhys_ran I V p order c dl s fuel o hs hr
    exact ⟨hw, fun f => (hran.facts f).mp, fun r hr' => (hran.ext r hr').imp fun _ hd => hd.1⟩
  | timedOut o =>
    rw [hr] at h
    simp only [OutcomeSt, Option.some.injEq] at h
    subst h
    obtain ⟨hw, hgood⟩ := runTimeout_timedOut I c.ext V c.supp p _ order dl s fuel o c.rel (planOk_ixSetsOf V p c.arity)
      c.rules hs hr
    exact sound_of_goodRows I p s o.st hw hgood
  | outOfFuel =>
    rw [hr] at h
    cases h

/-- **`true` means complete** -/
theorem timeout_true_complete_phys (I : Interp E B G P A) (V : Hir.VarsOf E B) (p : Program E B G P A) (order : SccOrder)
    (c : Ctx I V p order) (dl : Deadline) (s : PSt) (fuel : Nat) (o : ProgStT) (hs : WFPSt p s)
    (h : runTimeout I V p (ixSetsOf V p) order dl fuel s = .done o) :
    ∀ f, factsOf o.st f ↔ Derivable I p.rules noAgg (stDB p s) f :=
  (runTimeoutPhys_ran I V p order c dl s fuel o hs h).2.facts

/-- a history of interrupted calls: each starts from the value the previous one left -/
inductive Interrupted (I : Interp E B G P A) (V : Hir.VarsOf E B) (p : Program E B G P A) (order : SccOrder) : PSt → PSt → Prop where
  | refl (s : PSt) : Interrupted I V p order s s
  | step {s s₁ s₂ : PSt} (dl : Deadline) (fuel : Nat) (o : ProgStT) :
      Interrupted I V p order s s₁ → runTimeout I V p (ixSetsOf V p) order dl fuel s₁ = .timedOut o → s₂ = o.st →
      Interrupted I V p order s s₂

/-- after any number of interruptions the value is typed and lies between the original rows and their least model -/
theorem interrupted_between_phys (I : Interp E B G P A) (V : Hir.VarsOf E B) (p : Program E B G P A) (order : SccOrder)
    (c : Ctx I V p order) {s s' : PSt} (hs : WFPSt p s) (hi : Interrupted I V p order s s') :
    WFPSt p s' ∧ Rows.Between I p.rules noAgg (stDB p s) (stDB p s') := by
  induction hi with
  | refl => exact ⟨hs, .refl⟩
  | @step s₁ s₂ dl fuel o _ hrun hu ih =>
    subst hu
    obtain ⟨hw', hsound', hrows'⟩ := timeout_sound_phys I V p order c dl s₁ fuel o.st ih.1 (by rw [hrun]; rfl)
    exact ⟨hw', ih.2.trans (.of_rows hsound' hrows')⟩

/-- **resumable**: after any number of interruptions a completing run ends with the least model of the original rows -/
theorem resume_complete_phys (I : Interp E B G P A) (V : Hir.VarsOf E B) (p : Program E B G P A) (order : SccOrder)
    (c : Ctx I V p order) (s s' : PSt) (fuel : Nat) (o : ProgSt) (hs : WFPSt p s)
    (hi : Interrupted I V p order s s')
    (h : run I V p (ixSetsOf V p) order fuel s' = some o) :
    ∀ f, factsOf o.st f ↔ Derivable I p.rules noAgg (stDB p s) f :=
  have hb := interrupted_between_phys I V p order c hs hi
  (runPhys_ran I V p order c s' fuel o hb.1 h).2.resume hb.2

/-! ## non-vacuity: transitive closure (`pTC`, `sTC` of `Props/C01Phys.lean`), the deadline passed at the first reading -/

theorem tc_ctx : Ctx Plan.exI Plan.exV pTC [[0], [1]] :=
  ⟨Plan.exI_ext, Plan.exI_supp, tc_hyps.1, tc_hyps.2.1, by decide +kernel, tc_hyps.2.2.2.1⟩

/-- how the call ended (`true` = `.done`) and the row vectors it left -/
def outcomeRows : Outcome ProgStT → Option (Bool × List (List Tuple))
  | .done o => some (true, o.st.map (·.rows))
  | .timedOut o => some (false, o.st.map (·.rows))
  | .outOfFuel => none

/-- `run_timeout` with the deadline already passed at the first clock reading (the end of the non-looping SCC of
`path(x, y) <-- edge(x, y)`) returns `false` with two `path` rows — the complete run has three — and every index of `edge`
and `path` emptied; a following `run()` rebuilds the indices and ends with the full closure -/
example :
    outcomeRows (runTimeout Plan.exI Plan.exV pTC (ixSetsOf Plan.exV pTC) [[0], [1]] (fun k => k == 0) 10 sTC) =
      some (false, [[[.int 1, .int 2], [.int 2, .int 3]], [[.int 1, .int 2], [.int 2, .int 3]]]) ∧
    (OutcomeSt (runTimeout Plan.exI Plan.exV pTC (ixSetsOf Plan.exV pTC) [[0], [1]] (fun k => k == 0) 10 sTC)).map
        (fun st => st.map fun pr => (pr.full.length, pr.idxs.map (·.2.length))) = some [(0, [0, 0]), (0, [0])] ∧
    ((OutcomeSt (runTimeout Plan.exI Plan.exV pTC (ixSetsOf Plan.exV pTC) [[0], [1]] (fun k => k == 0) 10 sTC)).bind
        fun st => run Plan.exI Plan.exV pTC (ixSetsOf Plan.exV pTC) [[0], [1]] 10 st).map (fun o => (o.st.map (·.rows), o.iters)) =
      some ([[[.int 1, .int 2], [.int 2, .int 3]], [[.int 1, .int 2], [.int 2, .int 3], [.int 1, .int 3]]], [1, 2]) ∧
    outcomeRows (runTimeout Plan.exI Plan.exV pTC (ixSetsOf Plan.exV pTC) [[0], [1]] (fun k => k == 1) 10 sTC) =
      some (false, [[[.int 1, .int 2], [.int 2, .int 3]], [[.int 1, .int 2], [.int 2, .int 3], [.int 1, .int 3]]]) ∧
    outcomeRows (runTimeout Plan.exI Plan.exV pTC (ixSetsOf Plan.exV pTC) [[0], [1]] (fun _ => false) 10 sTC) =
      some (true, [[[.int 1, .int 2], [.int 2, .int 3]], [[.int 1, .int 2], [.int 2, .int 3], [.int 1, .int 3]]]) :=
  by decide_conj

/-- the theorems apply to that history: interrupted once, then completed -/
example (o' : ProgStT) (o : ProgSt)
    (h₁ : runTimeout Plan.exI Plan.exV pTC (ixSetsOf Plan.exV pTC) [[0], [1]] (fun k => k == 0) 10 sTC = .timedOut o')
    (h₂ : run Plan.exI Plan.exV pTC (ixSetsOf Plan.exV pTC) [[0], [1]] 10 o'.st = some o) :
    ∀ f, factsOf o.st f ↔ Derivable Plan.exI pTC.rules noAgg (stDB pTC sTC) f :=
  resume_complete_phys Plan.exI Plan.exV pTC _ tc_ctx sTC o'.st 10 o wf_sTC (.step _ 10 o' (.refl _) h₁ rfl) h₂

#print axioms rerun_idempotent_phys
#print axioms monotone_rerun_phys
#print axioms timeout_sound_phys
#print axioms timeout_true_complete_phys
#print axioms resume_complete_phys

end AscentVerif.Phys
