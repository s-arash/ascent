import AscentVerif.Props.C03
/-!
# C03 — every processing order and every moment of reading reaches the least fixed point

`Props/C03.lean` is about the deterministic engine model: rule variants in a fixed order, each evaluated against a SNAPSHOT
of the state taken when it starts.  The generated code walks the frozen `total` / `delta` indices in hash order and reads the
rows LIVE, while other head updates of the same pass improve their lattice values in place.  `Proofs/NDLattice.lean` gives the
engine as a relation that covers both (and everything in between): a pass is a trace of micro-steps, each processing some
rule-variant instance whose row values are read in ANY state the pass has already been through (one state per instance: all
clauses of its body read the same one), complete on the stable part of its final state (instances over rows that were not
re-queued, hence did not change during the pass).

* `ndl_least_fixed_point` — every execution of the nondeterministic lattice engine ends with one row per lattice key,
  closed under the rules over the FINAL values, below every closed key-unique database if the program uses lattice values
  monotonically, and with the relation rows a set (inputs first);
* `deterministic_is_ndl` — the deterministic engine is one such execution.
-/
namespace AscentVerif.Engine
open AscentVerif

variable {E B G P A : Type}

/-- **every execution of the nondeterministic lattice engine reaches the least fixed point** -/
theorem runNDL_spec (I : Interp E B G P A) (L : LatOrder I) (p : Program E B G P A) (order : SccOrder)
    (inp : RelId → List Tuple) (s' : St)
    (hp : LatticeProg p) (ho : validOrder p order = true) (hi : InputOK p inp)
    (hrun : RunNDL I p order (initSt p inp) s') :
    (∀ r, r < p.rels.length → (declOf p r).lat = true → ((relSt s' r).rows.map keyOf).Nodup) ∧
    LClosed I L p (inputDB p inp) (factsOf s') ∧
    (MonotoneProg I L p → ∀ M : DB, KeyUnique p M → LClosed I L p (inputDB p inp) M → DBLe I L p (factsOf s') M) ∧
    (∀ r, r < p.rels.length → (declOf p r).lat = false → ∃ derived : List Tuple,
      (relSt s' r).rows = inp r ++ derived ∧ derived.Nodup ∧ ∀ t ∈ derived, t ∉ inp r) := by
  have h := runNDL_spec' (L := L) hp.1 hp.2.1 order ho _ s' (WFSt_initSt p inp).1 (rows_initSt p inp) hi.2 hrun
  exact ⟨fun r _ hl => h.1.keys r hl, ⟨h.2.2, h.2.1⟩, fun hm M hMk hM => h.1.below M ⟨hm, hMk, hM⟩,
    fun r hr hl => h.1.relset r hr hl⟩

/-- the deterministic engine (snapshot at variant start, fixed order) is one execution -/
theorem run_is_NDL (I : Interp E B G P A) (p : Program E B G P A) (order : SccOrder) (inp : RelId → List Tuple)
    (fuel : Nat) (ps : ProgSt) (hp : LatticeProg p)
    (hrun : run I {} p order fuel (initSt p inp) = .done ps) : RunNDL I p order (initSt p inp) ps.st :=
  runTimeout_is_NDL hp.1 order never fuel _ ps hrun

/-- **any order, any reading moment: the least fixed point** -/
theorem ndl_least_fixed_point (I : Interp E B G P A) (L : LatOrder I) (p : Program E B G P A) (order : SccOrder)
    (inp : RelId → List Tuple) (s' : St)
    (hp : LatticeProg p) (ho : validOrder p order = true) (hi : InputOK p inp)
    (hrun : RunNDL I p order (initSt p inp) s') :
    (∀ r, r < p.rels.length → (declOf p r).lat = true → ((relSt s' r).rows.map keyOf).Nodup) ∧
    LClosed I L p (inputDB p inp) (factsOf s') ∧
    (MonotoneProg I L p → ∀ M : DB, KeyUnique p M → LClosed I L p (inputDB p inp) M → DBLe I L p (factsOf s') M) ∧
    (∀ r, r < p.rels.length → (declOf p r).lat = false → ∃ derived : List Tuple,
      (relSt s' r).rows = inp r ++ derived ∧ derived.Nodup ∧ ∀ t ∈ derived, t ∉ inp r) :=
  runNDL_spec I L p order inp s' hp ho hi hrun

/-- the deterministic engine (snapshot at variant start, fixed order) is one execution of the nondeterministic one -/
theorem deterministic_is_ndl (I : Interp E B G P A) (p : Program E B G P A) (order : SccOrder) (inp : RelId → List Tuple)
    (fuel : Nat) (ps : ProgSt) (hp : LatticeProg p)
    (hrun : run I {} p order fuel (initSt p inp) = .done ps) : RunNDL I p order (initSt p inp) ps.st :=
  run_is_NDL I p order inp fuel ps hp hrun

#print axioms runNDL_spec
#print axioms run_is_NDL
#print axioms ndl_least_fixed_point
#print axioms deterministic_is_ndl

end AscentVerif.Engine
