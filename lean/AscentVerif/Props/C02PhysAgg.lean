import AscentVerif.Props.C02Phys
import AscentVerif.Props.C04PhysPlan
import AscentVerif.Proofs.PhysParAggLink
import AscentVerif.Proofs.PhysAggTimeout
import AscentVerif.Proofs.NDAggRestart
/-!
# C02 + C04 at the level of the physical indices: `ascent_par!` on stratified programs with aggregation / negation

`Model/EnginePhysPar.lean` evaluates rule bodies through `Phys.evalFrom` of the serial physical engine (`Model/EnginePhys.lean`,
`Props/C04Phys.lean`) on the erased state, hence aggregation / negation items as the generated code does: `c_index_get` / `index_get` with the evaluated key
arguments on the FROZEN concurrent index the plan chose for the aggregated relation (a relation of an earlier stratum: frozen when the
stratum took it out of the struct).

`runPhysPar_agg_eq_model`: for EVERY schedule, pool size and fuel, from every typed program value with duplicate-free row vectors,
the parallel run on a stratified program never panics and, if it returns, holds exactly the stratified model (every aggregation over
the final rows of its relation, each tuple once); the result is again a value `run()` may be called on.
-/
namespace AscentVerif.PhysPar
open AscentVerif AscentVerif.Engine AscentVerif.Index AscentVerif.Phys

variable {E B G P A : Type}

/-- what an execution of the nondeterministic engine simulated by the parallel physical engine ends with, from duplicate-free
row vectors: a value `run()` may be called on, duplicate-free, holding exactly the stratified model (every aggregation over the
final rows of its relation), old rows a prefix -/
theorem aggModel_of_RunND (I : Interp E B G P A) (hperm : AggPermInvariant I) (p : Program E B G P A) (ix : IxSets)
    (order : SccOrder) (N : Nat) (hp : RelationalAgg p) (ho : validOrder p order = true) (hst : Stratified p order)
    {s o : PCSt} {st' : St} (hs : WFPCSt p s) (hnd : ∀ r, (pcrel s r).rows.Nodup)
    (hrun' : RunND I {} p order (absSt (s.map PCRel.erase)) st') (hsim : SimStPar p ix N st' o) :
    WFPCSt p o ∧
      (∀ r, (pcrel o r).rows.Nodup) ∧
      (∀ f, factsOf o f ↔
        Derivable I p.rules (fun r => (pcrel o r).rows) (fun g => g.rel < p.rels.length ∧ factsOf s g) f) ∧
      (∀ r, r < p.rels.length → ∃ derived, (pcrel o r).rows = (pcrel s r).rows ++ derived ∧
        derived.Nodup ∧ ∀ t ∈ derived, t ∉ (pcrel s r).rows) := by
  -- on the erased values, the model theorem of the serial engine's executions
  obtain ⟨hw, h1, h2, h3⟩ := Exec.aggModel (ix := ix) ⟨st', hrun', hsim.sim⟩ hperm hp ho hst (wfPSt_erase p hs.1 hs.2.1)
    (fun r => by rw [erase_rows]; exact hnd r)
  simp only [factsOf_erase, erase_rows] at h1 h2 h3
  exact ⟨hsim.wf (hsim.sim.len.trans hw.1), h1, h2, h3⟩

/-- **every schedule, every pool: no panic, and the stratified model** -/
theorem runPhysPar_agg_eq_model (I : Interp E B G P A) (hI : Plan.Ext I) (V : Hir.VarsOf E B) (hS : Plan.Supp I V)
    (hperm : AggPermInvariant I)
    (p : Program E B G P A) (order : SccOrder) (σ : Sched E B G P A) (threads fuel : Nat) (s : PCSt)
    (hp : RelationalAgg p) (ho : validOrder p order = true) (hst : Stratified p order)
    (ha : arityOk p = true) (haa : aggArityOk p = true) (hb : bodyDeclared p = true)
    (hd : ∀ r ∈ p.rules, Hir.Desugared V r = true ∧ Plan.WellScoped V r = true)
    (hs : WFPCSt p s) (hnd : ∀ r, (pcrel s r).rows.Nodup) :
    ∃ res, run I V p (ixSetsOfA V p) order σ threads fuel s = .ok res ∧
      ∀ out, res = some out →
        WFPCSt p out.st ∧
        (∀ r, (pcrel out.st r).rows.Nodup) ∧
        (∀ f, factsOf out.st f ↔
          Derivable I p.rules (fun r => (pcrel out.st r).rows) (fun g => g.rel < p.rels.length ∧ factsOf s g) f) ∧
        (∀ r, r < p.rels.length → ∃ derived, (pcrel out.st r).rows = (pcrel s r).rows ++ derived ∧
          derived.Nodup ∧ ∀ t ∈ derived, t ∉ (pcrel s r).rows) := by
  obtain ⟨res, hres, hspec⟩ := run_simPar I hI {} V hS p (ixSetsOfA V p) (.of_planOk hperm hp (bodyDeclared_of_check hb)
    (planOk_ixSetsOfA V p ha) (aggPlanOk_ixSetsOfA V p haa) hd) σ threads order hst fuel s hs.1 hs.2.1
  refine ⟨res, hres, fun out hout => ?_⟩
  obtain ⟨st', hrun', hsim⟩ := hspec out hout
  exact aggModel_of_RunND I hperm p _ order _ hp ho hst hs hnd hrun' hsim

/-- two parallel runs of the same value under different schedules and pool sizes hold the same facts -/
theorem runPhysPar_agg_schedule_pool_independent (I : Interp E B G P A) (hI : Plan.Ext I) (V : Hir.VarsOf E B) (hS : Plan.Supp I V)
    (hperm : AggPermInvariant I)
    (p : Program E B G P A) (order : SccOrder) (σ σ' : Sched E B G P A) (threads threads' fuel fuel' : Nat) (s : PCSt)
    (out out' : ProgSt)
    (hp : RelationalAgg p) (ho : validOrder p order = true) (hst : Stratified p order)
    (ha : arityOk p = true) (haa : aggArityOk p = true) (hb : bodyDeclared p = true)
    (hd : ∀ r ∈ p.rules, Hir.Desugared V r = true ∧ Plan.WellScoped V r = true)
    (hs : WFPCSt p s)
    (h : run I V p (ixSetsOfA V p) order σ threads fuel s = .ok (some out))
    (h' : run I V p (ixSetsOfA V p) order σ' threads' fuel' s = .ok (some out')) :
    ∀ f, factsOf out.st f ↔ factsOf out'.st f := by
  have hbd := bodyDeclared_of_check hb
  have hpl := planOk_ixSetsOfA V p ha
  have hag := aggPlanOk_ixSetsOfA V p haa
  -- the run under `σ'` is a restart of the run under `σ` from the start value itself
  obtain ⟨_, _, _, _, hext⟩ :=
    spec_of_ok (runPar_linkA I hI V hS hperm p _ order hp ho hst hbd hpl hag hd σ threads fuel s hs) h out rfl
  have hsp' := spec_of_ok (restart_physParA I hI V hS hperm p _ order hp ho hst hbd hpl hag hd s s σ σ' threads threads'
    fuel fuel' out hs hs h (PCExt.refl p s) (PCExt.facts hext hs.1)) h' out' rfl
  exact fun f => (hsp'.2.2 f).symm

#print axioms runPhysPar_agg_eq_model
#print axioms runPhysPar_agg_schedule_pool_independent

end AscentVerif.PhysPar
