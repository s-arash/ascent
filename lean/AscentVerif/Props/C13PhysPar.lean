import AscentVerif.Props.C14PhysPar
/-!
# C13 at the level of the concurrent indices: re-runs and pushes of an `ascent_par!` program

Histories `run(); run()` and `run(); push rows; run()` over the engine generated by `ascent_par!`
(`Model/EnginePhysPar.lean`), where the two runs may use DIFFERENT schedules, DIFFERENT pool sizes and different fuels.
For desugared, well-scoped, arity-correct, aggregation-free relational programs whose rule bodies mention declared relations
only (`CtxPar` of `Props/C14PhysPar.lean`), with the compiler's own index sets (`ixSetsOf`), from every program value `run()`
may be called on (`WFPCSt`):

* `pushRowsPar`, `wfPCSt_pushRows` — a push appends rows to the relation vectors and leaves the stored indices stale; the value
  is again one `run()` may be called on;
* `rerun_idempotent_physPar` — the second `run()` does not panic and changes no row vector;
* `monotone_rerun_physPar`, `monotone_rerun_eq_fresh_physPar` — run; push; run: no panic, and exactly the least model of the
  union of all inputs, which is what a fresh run on the union computes;
* `rerun_pool_irrelevant_physPar`, `history_pool_irrelevant_physPar` — as a set of facts the result depends on no schedule and
  no pool size of the history.

The stale indices the first run left (built in the pool of the FIRST run: a `CRelNoIndex` with `threads₁` shards) do not
matter: the model's `update_indices` rebuilds every index from `Default` in the pool of the second run.
-/
namespace AscentVerif.PhysPar
open AscentVerif AscentVerif.Engine AscentVerif.Index AscentVerif.Phys

variable {E B G P A : Type}

/-- `prog.rel.extend(extra)` for every relation of a parallel program value: the rows are appended to the relation vectors,
the stored indices are untouched (whatever they hold is rebuilt by the next run's `update_indices`) -/
def pushRowsPar (s : PCSt) (extra : RelId → List Tuple) : PCSt :=
  (List.range s.length).map fun r => { pcrel s r with rows := (pcrel s r).rows ++ extra r }

theorem length_pushRowsPar (s : PCSt) (extra : RelId → List Tuple) : (pushRowsPar s extra).length = s.length := by
  simp [pushRowsPar]

theorem pcrel_pushRowsPar (s : PCSt) (extra : RelId → List Tuple) (r : RelId) (hr : r < s.length) :
    pcrel (pushRowsPar s extra) r = { pcrel s r with rows := (pcrel s r).rows ++ extra r } := by
  simp only [pushRowsPar, pcrel_rangeMap _ _ _ hr]

theorem pushRowsPar_indices (s : PCSt) (extra : RelId → List Tuple) :
    (pushRowsPar s extra).map (fun pr => (pr.full, pr.idxs)) = s.map (fun pr => (pr.full, pr.idxs)) := by
  apply List.ext_getElem
  · simp [pushRowsPar]
  · intro i h1 h2
    have hi : i < s.length := by simpa using h2
    simp [pushRowsPar, pcrel_eq_getElem s i hi]

theorem factsOf_pushRowsPar (s : PCSt) (extra : RelId → List Tuple) (g : Fact) :
    factsOf (pushRowsPar s extra) g ↔ (factsOf s g ∨ (g.rel < s.length ∧ g.args ∈ extra g.rel)) := by
  by_cases hr : g.rel < s.length
  · show g.args ∈ (pcrel (pushRowsPar s extra) g.rel).rows ↔ _
    rw [pcrel_pushRowsPar _ _ _ hr]
    simp only [List.mem_append]
    exact ⟨fun h => h.elim Or.inl fun h => Or.inr ⟨hr, h⟩, fun h => h.elim Or.inl fun h => Or.inr h.2⟩
  · have hge : s.length ≤ g.rel := Nat.le_of_not_lt hr
    show g.args ∈ (pcrel (pushRowsPar s extra) g.rel).rows ↔ g.args ∈ (pcrel s g.rel).rows ∨ _
    rw [pcrel_of_ge _ _ (by rw [length_pushRowsPar]; exact hge), pcrel_of_ge _ _ hge]
    exact ⟨fun h => Or.inl h, fun h => h.elim id fun h => absurd h.1 hr⟩

theorem stDB_pushRowsPar (p : Program E B G P A) (s : PCSt) (extra : RelId → List Tuple) (hl : s.length = p.rels.length)
    (g : Fact) : stDB p (pushRowsPar s extra) g ↔ (stDB p s g ∨ (g.rel < p.rels.length ∧ g.args ∈ extra g.rel)) := by
  show (g.rel < p.rels.length ∧ factsOf (pushRowsPar s extra) g) ↔ ((g.rel < p.rels.length ∧ factsOf s g) ∨ _)
  rw [factsOf_pushRowsPar, hl]
  constructor
  · rintro ⟨hr, h | h⟩
    · exact Or.inl ⟨hr, h⟩
    · exact Or.inr h
  · rintro (⟨hr, h⟩ | ⟨hr, h⟩)
    · exact ⟨hr, Or.inl h⟩
    · exact ⟨hr, Or.inr ⟨hr, h⟩⟩

/-- only the arity of the rows pushed into DECLARED relations matters (rows pushed "into" an undeclared relation identifier
are dropped by `pushRowsPar`) -/
theorem wfPCSt_pushRows' (p : Program E B G P A) (s : PCSt) (extra : RelId → List Tuple) (hs : WFPCSt p s)
    (hex : ∀ r, r < p.rels.length → ∀ t ∈ extra r, t.length = arityOf p r) : WFPCSt p (pushRowsPar s extra) := by
  refine ⟨by rw [length_pushRowsPar]; exact hs.1, ?_, ?_⟩
  · intro r t ht
    by_cases hr : r < s.length
    · rw [pcrel_pushRowsPar _ _ _ hr] at ht
      rcases List.mem_append.mp ht with h | h
      · exact hs.2.1 r t h
      · exact hex r (by rw [← hs.1]; exact hr) t h
    · have hr' : s.length ≤ r := Nat.le_of_not_lt hr
      rw [pcrel_of_ge _ _ (by rw [length_pushRowsPar]; exact hr')] at ht
      cases ht
  · intro pr hpr
    simp only [pushRowsPar, List.mem_map, List.mem_range] at hpr
    obtain ⟨r, hr, rfl⟩ := hpr
    exact hs.2.2 (pcrel s r) (pcrel_mem s r hr)

/-- **a push keeps the value runnable**: it keeps the number of entries and the stored indices, hence their flags -/
theorem wfPCSt_pushRows (p : Program E B G P A) (s : PCSt) (extra : RelId → List Tuple) (hs : WFPCSt p s)
    (hex : ∀ r, ∀ t ∈ extra r, t.length = arityOf p r) : WFPCSt p (pushRowsPar s extra) :=
  wfPCSt_pushRows' p s extra hs fun r _ => hex r

/-- `runPhysPar_eq_leastModel` for a run known to have returned -/
theorem runPhysPar_spec (I : Interp E B G P A) (V : Hir.VarsOf E B) (p : Program E B G P A) (order : SccOrder)
    (c : CtxPar I V p order) (σ : Sched E B G P A) (threads fuel : Nat) (s : PCSt) (o : ProgSt) (hs : WFPCSt p s)
    (h : run I V p (ixSetsOf V p) order σ threads fuel s = .ok (some o)) :
    WFPCSt p o.st ∧ (∀ f, factsOf o.st f ↔ Derivable I p.rules noAgg (stDB p s) f) ∧
    (∀ r, r < p.rels.length → ∃ derived, (pcrel o.st r).rows = (pcrel s r).rows ++ derived ∧
      derived.Nodup ∧ ∀ t ∈ derived, t ∉ (pcrel s r).rows) :=
  spec_of_ok (runPhysPar_eq_leastModel I c.ext V c.supp p order σ threads fuel s c.rel c.order c.arity c.decl c.rules hs) h o rfl

theorem rows_eq_of_lt {p : Program E B G P A} {s s' : PCSt} (hl : s.length = p.rels.length) (hl' : s'.length = p.rels.length)
    (h : ∀ r, r < p.rels.length → (pcrel s' r).rows = (pcrel s r).rows) :
    (∀ r, (pcrel s' r).rows = (pcrel s r).rows) ∧ s'.map (·.rows) = s.map (·.rows) := by
  refine ⟨fun r => ?_, ?_⟩
  · rcases Nat.lt_or_ge r p.rels.length with hr | hr
    · exact h r hr
    · rw [pcrel_of_ge s r (by rw [hl]; exact hr), pcrel_of_ge s' r (by rw [hl']; exact hr)]
  · apply List.ext_getElem
    · simp [hl, hl']
    · intro i h1 h2
      have hi' : i < s'.length := by simpa using h1
      have hi : i < s.length := by simpa using h2
      have := h i (by rw [← hl]; exact hi)
      rw [pcrel_eq_getElem s i hi, pcrel_eq_getElem s' i hi'] at this
      simpa using this

theorem rows_eq_of_ext_sound {p : Program E B G P A} {s s' : PCSt}
    (hext : ∀ r, r < p.rels.length → ∃ derived, (pcrel s' r).rows = (pcrel s r).rows ++ derived ∧
      derived.Nodup ∧ ∀ t ∈ derived, t ∉ (pcrel s r).rows)
    (hback : ∀ f, factsOf s' f → factsOf s f) : ∀ r, r < p.rels.length → (pcrel s' r).rows = (pcrel s r).rows :=
  fun r hr => Rows.eq_of_ext_of_subset (hext r hr) fun t ht => hback ⟨r, t⟩ ht

/-- **`run()` is idempotent across schedules and pools**: after a run under `σ₁` in a pool of `threads₁` workers, a second
run under ANY schedule `σ₂` in a pool of ANY size `threads₂` with any fuel does not panic, and if it returns, the value is
again one `run()` may be called on, every relation's row vector is literally unchanged and the facts are the same -/
theorem rerun_idempotent_physPar (I : Interp E B G P A) (V : Hir.VarsOf E B) (p : Program E B G P A) (order : SccOrder)
    (c : CtxPar I V p order) (s : PCSt) (σ₁ σ₂ : Sched E B G P A) (threads₁ threads₂ fuel₁ fuel₂ : Nat) (o₁ : ProgSt)
    (hs : WFPCSt p s)
    (h₁ : run I V p (ixSetsOf V p) order σ₁ threads₁ fuel₁ s = .ok (some o₁)) :
    ∃ res, run I V p (ixSetsOf V p) order σ₂ threads₂ fuel₂ o₁.st = .ok res ∧
      ∀ o₂, res = some o₂ →
        WFPCSt p o₂.st ∧
        (∀ r, (pcrel o₂.st r).rows = (pcrel o₁.st r).rows) ∧
        o₂.st.map (·.rows) = o₁.st.map (·.rows) ∧
        (∀ f, factsOf o₂.st f ↔ factsOf o₁.st f) := by
  obtain ⟨hw₁, hr₁⟩ := spec_of_ok (runPhysPar_ran I V p order c σ₁ threads₁ fuel₁ s hs) h₁ o₁ rfl
  refine (runPhysPar_ran I V p order c σ₂ threads₂ fuel₂ o₁.st hw₁).imp fun res h => ⟨h.1, fun o₂ ho₂ => ?_⟩
  obtain ⟨hw₂, hr₂⟩ := h.2 o₂ ho₂
  obtain ⟨hrows, hfacts⟩ := hr₁.rerun hr₂
  obtain ⟨hall, hmap⟩ := rows_eq_of_lt hw₁.1 hw₂.1 hrows
  exact ⟨hw₂, hall, hmap, hfacts⟩

/-- the same for a second run known to have returned -/
theorem rerun_idempotent_physPar' (I : Interp E B G P A) (V : Hir.VarsOf E B) (p : Program E B G P A) (order : SccOrder)
    (c : CtxPar I V p order) (s : PCSt) (σ₁ σ₂ : Sched E B G P A) (threads₁ threads₂ fuel₁ fuel₂ : Nat) (o₁ o₂ : ProgSt)
    (hs : WFPCSt p s)
    (h₁ : run I V p (ixSetsOf V p) order σ₁ threads₁ fuel₁ s = .ok (some o₁))
    (h₂ : run I V p (ixSetsOf V p) order σ₂ threads₂ fuel₂ o₁.st = .ok (some o₂)) :
    (∀ r, (pcrel o₂.st r).rows = (pcrel o₁.st r).rows) ∧ o₂.st.map (·.rows) = o₁.st.map (·.rows) ∧
    (∀ f, factsOf o₂.st f ↔ factsOf o₁.st f) :=
  (spec_of_ok (rerun_idempotent_physPar I V p order c s σ₁ σ₂ threads₁ threads₂ fuel₁ fuel₂ o₁ hs h₁) h₂ o₂ rfl).2

/-- the second run is never a panic (finding F4 was one; in this model the rebuilding of every index by `update_indices`
already suffices, without the unfreeze at SCC exit: `leaveSccBad_witness` of `Props/C02Phys.lean`) -/
theorem rerun_ne_panic_physPar (I : Interp E B G P A) (V : Hir.VarsOf E B) (p : Program E B G P A) (order : SccOrder)
    (c : CtxPar I V p order) (s : PCSt) (σ₁ σ₂ : Sched E B G P A) (threads₁ threads₂ fuel₁ fuel₂ : Nat) (o₁ : ProgSt)
    (extra : RelId → List Tuple) (hs : WFPCSt p s) (hex : ∀ r, ∀ t ∈ extra r, t.length = arityOf p r)
    (h₁ : run I V p (ixSetsOf V p) order σ₁ threads₁ fuel₁ s = .ok (some o₁)) :
    run I V p (ixSetsOf V p) order σ₂ threads₂ fuel₂ o₁.st ≠ .panic ∧
    run I V p (ixSetsOf V p) order σ₂ threads₂ fuel₂ (pushRowsPar o₁.st extra) ≠ .panic := by
  obtain ⟨hw₁, _⟩ := spec_of_ok (runPhysPar_ran I V p order c σ₁ threads₁ fuel₁ s hs) h₁ o₁ rfl
  obtain ⟨res, hres, _⟩ := runPhysPar_ran I V p order c σ₂ threads₂ fuel₂ o₁.st hw₁
  obtain ⟨res', hres', _⟩ := runPhysPar_ran I V p order c σ₂ threads₂ fuel₂ (pushRowsPar o₁.st extra)
    (wfPCSt_pushRows p _ extra hw₁ hex)
  rw [hres, hres']
  exact ⟨fun h => (by cases h), fun h => (by cases h)⟩

/-- the union of the start value's facts and the pushed rows (of declared relations) -/
def unionDB (p : Program E B G P A) (s : PCSt) (extra : RelId → List Tuple) : DB :=
  fun g => stDB p s g ∨ (g.rel < p.rels.length ∧ g.args ∈ extra g.rel)

/-- **monotone re-run = fresh run on the union**, across schedules and pools: run under `σ₁` in a pool of `threads₁`; push
rows (of the right arity) into any relations; run under ANY schedule `σ₂` in a pool of ANY size `threads₂`: no panic, and if
the run returns, the value is again one `run()` may be called on, the pushed vectors are a prefix of the final ones, and the
facts are exactly the least model of the union of the original rows and the pushed rows -/
theorem monotone_rerun_physPar (I : Interp E B G P A) (V : Hir.VarsOf E B) (p : Program E B G P A) (order : SccOrder)
    (c : CtxPar I V p order) (s : PCSt) (extra : RelId → List Tuple) (σ₁ σ₂ : Sched E B G P A)
    (threads₁ threads₂ fuel₁ fuel₂ : Nat) (o₁ : ProgSt) (hs : WFPCSt p s)
    (hex : ∀ r, ∀ t ∈ extra r, t.length = arityOf p r)
    (h₁ : run I V p (ixSetsOf V p) order σ₁ threads₁ fuel₁ s = .ok (some o₁)) :
    ∃ res, run I V p (ixSetsOf V p) order σ₂ threads₂ fuel₂ (pushRowsPar o₁.st extra) = .ok res ∧
      ∀ o₂, res = some o₂ →
        WFPCSt p o₂.st ∧
        (∀ r, r < p.rels.length → ∃ derived, (pcrel o₂.st r).rows = ((pcrel o₁.st r).rows ++ extra r) ++ derived ∧
          derived.Nodup ∧ ∀ t ∈ derived, t ∉ (pcrel o₁.st r).rows ++ extra r) ∧
        ∀ f, factsOf o₂.st f ↔
          Derivable I p.rules noAgg (fun g => stDB p s g ∨ (g.rel < p.rels.length ∧ g.args ∈ extra g.rel)) f := by
  obtain ⟨hw₁, hr₁⟩ := spec_of_ok (runPhysPar_ran I V p order c σ₁ threads₁ fuel₁ s hs) h₁ o₁ rfl
  refine (runPhysPar_ran I V p order c σ₂ threads₂ fuel₂ _ (wfPCSt_pushRows p _ extra hw₁ hex)).imp fun res h =>
    ⟨h.1, fun o₂ ho₂ => ?_⟩
  obtain ⟨hw₂, hr₂⟩ := h.2 o₂ ho₂
  refine ⟨hw₂, fun r hr => ?_, hr₁.push hr₂ extra (stDB_pushRowsPar p o₁.st extra hw₁.1)⟩
  have hext := hr₂.ext r hr
  rw [pcrel_pushRowsPar _ _ _ (hw₁.1 ▸ hr)] at hext
  exact hext

/-- the same for a second run known to have returned -/
theorem monotone_rerun_physPar' (I : Interp E B G P A) (V : Hir.VarsOf E B) (p : Program E B G P A) (order : SccOrder)
    (c : CtxPar I V p order) (s : PCSt) (extra : RelId → List Tuple) (σ₁ σ₂ : Sched E B G P A)
    (threads₁ threads₂ fuel₁ fuel₂ : Nat) (o₁ o₂ : ProgSt) (hs : WFPCSt p s)
    (hex : ∀ r, ∀ t ∈ extra r, t.length = arityOf p r)
    (h₁ : run I V p (ixSetsOf V p) order σ₁ threads₁ fuel₁ s = .ok (some o₁))
    (h₂ : run I V p (ixSetsOf V p) order σ₂ threads₂ fuel₂ (pushRowsPar o₁.st extra) = .ok (some o₂)) :
    ∀ f, factsOf o₂.st f ↔
      Derivable I p.rules noAgg (fun g => stDB p s g ∨ (g.rel < p.rels.length ∧ g.args ∈ extra g.rel)) f :=
  (spec_of_ok (monotone_rerun_physPar I V p order c s extra σ₁ σ₂ threads₁ threads₂ fuel₁ fuel₂ o₁ hs hex h₁) h₂ o₂ rfl).2.2

/-- ... and that IS what a fresh run on the union computes: any run (schedule `σ₃`, pool `threads₃`) of the START value with
the rows pushed into it returns the same facts as the history run; push; run -/
theorem monotone_rerun_eq_fresh_physPar (I : Interp E B G P A) (V : Hir.VarsOf E B) (p : Program E B G P A) (order : SccOrder)
    (c : CtxPar I V p order) (s : PCSt) (extra : RelId → List Tuple) (σ₁ σ₂ σ₃ : Sched E B G P A)
    (threads₁ threads₂ threads₃ fuel₁ fuel₂ fuel₃ : Nat) (o₁ o₂ o₃ : ProgSt) (hs : WFPCSt p s)
    (hex : ∀ r, ∀ t ∈ extra r, t.length = arityOf p r)
    (h₁ : run I V p (ixSetsOf V p) order σ₁ threads₁ fuel₁ s = .ok (some o₁))
    (h₂ : run I V p (ixSetsOf V p) order σ₂ threads₂ fuel₂ (pushRowsPar o₁.st extra) = .ok (some o₂))
    (h₃ : run I V p (ixSetsOf V p) order σ₃ threads₃ fuel₃ (pushRowsPar s extra) = .ok (some o₃)) :
    ∀ f, factsOf o₂.st f ↔ factsOf o₃.st f := by
  intro f
  rw [monotone_rerun_physPar' I V p order c s extra σ₁ σ₂ threads₁ threads₂ fuel₁ fuel₂ o₁ o₂ hs hex h₁ h₂ f,
    (runPhysPar_spec I V p order c σ₃ threads₃ fuel₃ _ o₃ (wfPCSt_pushRows p s extra hs hex) h₃).2.1 f]
  exact (derivable_congr_input (stDB_pushRowsPar p s extra hs.1) f).symm

/-- **the pool and the schedule of the second run are irrelevant**: two second runs of the pushed value, each under its own
schedule in its own pool with its own fuel, return the same facts -/
theorem rerun_pool_irrelevant_physPar (I : Interp E B G P A) (V : Hir.VarsOf E B) (p : Program E B G P A) (order : SccOrder)
    (c : CtxPar I V p order) (s : PCSt) (extra : RelId → List Tuple) (σ₁ σ₂ σ₂' : Sched E B G P A)
    (threads₁ threads₂ threads₂' fuel₁ fuel₂ fuel₂' : Nat) (o₁ o₂ o₂' : ProgSt) (hs : WFPCSt p s)
    (hex : ∀ r, ∀ t ∈ extra r, t.length = arityOf p r)
    (h₁ : run I V p (ixSetsOf V p) order σ₁ threads₁ fuel₁ s = .ok (some o₁))
    (h₂ : run I V p (ixSetsOf V p) order σ₂ threads₂ fuel₂ (pushRowsPar o₁.st extra) = .ok (some o₂))
    (h₂' : run I V p (ixSetsOf V p) order σ₂' threads₂' fuel₂' (pushRowsPar o₁.st extra) = .ok (some o₂')) :
    ∀ f, factsOf o₂.st f ↔ factsOf o₂'.st f := by
  intro f
  rw [monotone_rerun_physPar' I V p order c s extra σ₁ σ₂ threads₁ threads₂ fuel₁ fuel₂ o₁ o₂ hs hex h₁ h₂ f,
    monotone_rerun_physPar' I V p order c s extra σ₁ σ₂' threads₁ threads₂' fuel₁ fuel₂' o₁ o₂' hs hex h₁ h₂' f]

/-- the whole history is schedule- and pool-independent: two histories run; push the same rows; run from the same start value,
ALL FOUR runs under their own schedules in their own pools, end with the same facts (the intermediate values `o₁`, `o₁'` may
differ in the order of their rows and in their stored indices) -/
theorem history_pool_irrelevant_physPar (I : Interp E B G P A) (V : Hir.VarsOf E B) (p : Program E B G P A) (order : SccOrder)
    (c : CtxPar I V p order) (s : PCSt) (extra : RelId → List Tuple) (σ₁ σ₂ σ₁' σ₂' : Sched E B G P A)
    (threads₁ threads₂ threads₁' threads₂' fuel₁ fuel₂ fuel₁' fuel₂' : Nat) (o₁ o₂ o₁' o₂' : ProgSt) (hs : WFPCSt p s)
    (hex : ∀ r, ∀ t ∈ extra r, t.length = arityOf p r)
    (h₁ : run I V p (ixSetsOf V p) order σ₁ threads₁ fuel₁ s = .ok (some o₁))
    (h₂ : run I V p (ixSetsOf V p) order σ₂ threads₂ fuel₂ (pushRowsPar o₁.st extra) = .ok (some o₂))
    (h₁' : run I V p (ixSetsOf V p) order σ₁' threads₁' fuel₁' s = .ok (some o₁'))
    (h₂' : run I V p (ixSetsOf V p) order σ₂' threads₂' fuel₂' (pushRowsPar o₁'.st extra) = .ok (some o₂')) :
    ∀ f, factsOf o₂.st f ↔ factsOf o₂'.st f := by
  intro f
  rw [monotone_rerun_physPar' I V p order c s extra σ₁ σ₂ threads₁ threads₂ fuel₁ fuel₂ o₁ o₂ hs hex h₁ h₂ f,
    monotone_rerun_physPar' I V p order c s extra σ₁' σ₂' threads₁' threads₂' fuel₁' fuel₂' o₁' o₂' hs hex h₁' h₂' f]

/-! ## non-vacuity: transitive closure (`pTC`, `sTCpar`, `σTC` of `Props/C02Phys.lean`, `tc_ctxPar` of `Props/C14PhysPar.lean`)

First run under `σTC` (rows and head updates in reverse order, the `n`-th insert by worker `n % 3`, the swapped join copy on
even evaluations) in a pool of 3 workers; then `edge(3, 4)` is pushed; the second run is under ANOTHER schedule `σTC2` (rows
and head updates in program order, the `n`-th insert by worker `(n + 1) % 2`, the swapped copy on odd evaluations) in a pool
of 2 workers. -/

def σTC2 : Sched Plan.Ex Plan.Bx Plan.Ex Unit Unit :=
  { permRows := fun _ l => l, permRows_perm := fun _ l => List.Perm.refl l
    permTasks := fun _ l => l, permTasks_perm := fun _ l => List.Perm.refl l
    tid := fun n => (n + 1) % 2, swap := fun n => n % 2 == 1 }

/-- the value the first run (pool of 3) returns -/
def sTC1 : PCSt :=
  match run Plan.exI Plan.exV pTC (ixSetsOf Plan.exV pTC) [[0], [1]] σTC 3 10 sTCpar with
  | .ok (some ps) => ps.st
  | _ => []

/-- the push: one more `edge` row -/
def extraTC : RelId → List Tuple := fun r => if r = 0 then [[.int 3, .int 4]] else []

/-- the value the history run (pool of 3); push; run (pool of 2) returns -/
def sTC2 : PCSt :=
  match run Plan.exI Plan.exV pTC (ixSetsOf Plan.exV pTC) [[0], [1]] σTC2 2 10 (pushRowsPar sTC1 extraTC) with
  | .ok (some ps) => ps.st
  | _ => []

theorem extraTC_typed : ∀ r, ∀ t ∈ extraTC r, t.length = arityOf pTC r := by
  intro r t ht
  unfold extraTC at ht
  split at ht
  · subst r
    simp only [List.mem_cons, List.not_mem_nil, or_false] at ht
    subst ht
    rfl
  · cases ht

/-- what the runs of the example return (`indexShape`: per relation (full index frozen?, its size, per index (frozen?, number
of keys, number of `CRelNoIndex` shards))):

* the first run returns the closure of `1 → 2 → 3` with every stored index unfrozen; the `CRelNoIndex` of `edge`, constructed
  in a pool of 2 in the start value, now has the 3 shards of the first run's pool;
* the push leaves these indices as they are — STALE: `edge` has 3 rows, its full index 2 entries;
* a second run on the unpushed value under `σTC2` in a pool of 2: the row vectors are literally unchanged, one iteration in
  each SCC;
* the second run on the pushed value under `σTC2` in a pool of 2: the closure of `1 → 2 → 3 → 4`, the new `path` rows appended
  after the old ones, three iterations in the looping SCC; the indices are rebuilt (`edge`: 3 entries, a `CRelNoIndex` of 2
  shards) and unfrozen;
* the second run on the pushed value under `σTC` in a pool of 3 instead: the same value;
* a fresh run on the union (the start value with the row pushed into it, under `σTC` in a pool of 5): the same rows, the `path`
  vector in ANOTHER order (`path(3, 4)` before `path(1, 3)`) — the same set of facts. -/
theorem tcPar_rerun :
    indexShape sTC1 = [(false, 2, [(false, 1, 3), (false, 2, 0)]), (false, 3, [(false, 2, 0)])] ∧
    indexShape (pushRowsPar sTC1 extraTC) = [(false, 2, [(false, 1, 3), (false, 2, 0)]), (false, 3, [(false, 2, 0)])] ∧
    (pushRowsPar sTC1 extraTC).map (·.rows) =
      [[[.int 1, .int 2], [.int 2, .int 3], [.int 3, .int 4]], [[.int 1, .int 2], [.int 2, .int 3], [.int 1, .int 3]]] ∧
    obs (run Plan.exI Plan.exV pTC (ixSetsOf Plan.exV pTC) [[0], [1]] σTC2 2 10 sTC1) =
      .ok (some ([[[.int 1, .int 2], [.int 2, .int 3]], [[.int 1, .int 2], [.int 2, .int 3], [.int 1, .int 3]]], [1, 1])) ∧
    obs (run Plan.exI Plan.exV pTC (ixSetsOf Plan.exV pTC) [[0], [1]] σTC2 2 10 (pushRowsPar sTC1 extraTC)) =
      .ok (some ([[[.int 1, .int 2], [.int 2, .int 3], [.int 3, .int 4]],
        [[.int 1, .int 2], [.int 2, .int 3], [.int 1, .int 3], [.int 3, .int 4], [.int 2, .int 4], [.int 1, .int 4]]], [1, 3])) ∧
    indexShape sTC2 = [(false, 3, [(false, 1, 2), (false, 3, 0)]), (false, 6, [(false, 3, 0)])] ∧
    obs (run Plan.exI Plan.exV pTC (ixSetsOf Plan.exV pTC) [[0], [1]] σTC 3 10 (pushRowsPar sTC1 extraTC)) =
      .ok (some ([[[.int 1, .int 2], [.int 2, .int 3], [.int 3, .int 4]],
        [[.int 1, .int 2], [.int 2, .int 3], [.int 1, .int 3], [.int 3, .int 4], [.int 2, .int 4], [.int 1, .int 4]]], [1, 3])) ∧
    obs (run Plan.exI Plan.exV pTC (ixSetsOf Plan.exV pTC) [[0], [1]] σTC 5 10 (pushRowsPar sTCpar extraTC)) =
      .ok (some ([[[.int 1, .int 2], [.int 2, .int 3], [.int 3, .int 4]],
        [[.int 1, .int 2], [.int 2, .int 3], [.int 3, .int 4], [.int 1, .int 3], [.int 2, .int 4], [.int 1, .int 4]]], [1, 3])) := by
  decide_conj

theorem run_of_obs {r : Res (Option ProgSt)} {x : List (List Tuple) × List Nat} (h : obs r = .ok (some x)) :
    ∃ o, r = .ok (some o) := by
  cases r with
  | panic => cases h
  | ok res =>
    cases res with
    | none => simp [obs, Res.map] at h
    | some o => exact ⟨o, rfl⟩

theorem tcPar_first_run :
    ∃ o₁, run Plan.exI Plan.exV pTC (ixSetsOf Plan.exV pTC) [[0], [1]] σTC 3 10 sTCpar = .ok (some o₁) ∧ o₁.st = sTC1 := by
  obtain ⟨o, ho⟩ := run_of_obs tcPar_hyps.2.2
  exact ⟨o, ho, by rw [sTC1, ho]⟩

theorem tcPar_second_run :
    ∃ o₂, run Plan.exI Plan.exV pTC (ixSetsOf Plan.exV pTC) [[0], [1]] σTC2 2 10 (pushRowsPar sTC1 extraTC) = .ok (some o₂) ∧
      o₂.st = sTC2 := by
  obtain ⟨o, ho⟩ := run_of_obs tcPar_rerun.2.2.2.2.1
  exact ⟨o, ho, by rw [sTC2, ho]⟩

/-- the theorems apply to that history: every hypothesis holds (`tc_ctxPar`, `wf_sTCpar`, `extraTC_typed`, the first run
returns `sTC1`), so

* a second run of `sTC1` under ANY schedule in ANY pool does not panic and, if it returns, leaves every row vector unchanged;
* a run of the pushed value under ANY schedule in ANY pool does not panic and, if it returns, holds exactly the least model of
  `edge = {(1, 2), (2, 3)} ∪ {(3, 4)}`;
* in particular the value `sTC2` the pool-of-2 run returns does. -/
theorem tcPar_rerun_applies (σ : Sched Plan.Ex Plan.Bx Plan.Ex Unit Unit) (threads fuel : Nat) :
    WFPCSt pTC sTC1 ∧ WFPCSt pTC (pushRowsPar sTC1 extraTC) ∧
    (∃ res, run Plan.exI Plan.exV pTC (ixSetsOf Plan.exV pTC) [[0], [1]] σ threads fuel sTC1 = .ok res ∧
      ∀ o₂, res = some o₂ → o₂.st.map (·.rows) = sTC1.map (·.rows)) ∧
    (∃ res, run Plan.exI Plan.exV pTC (ixSetsOf Plan.exV pTC) [[0], [1]] σ threads fuel (pushRowsPar sTC1 extraTC) = .ok res ∧
      ∀ o₂, res = some o₂ → ∀ f, factsOf o₂.st f ↔ Derivable Plan.exI pTC.rules noAgg (unionDB pTC sTCpar extraTC) f) ∧
    (∀ f, factsOf sTC2 f ↔ Derivable Plan.exI pTC.rules noAgg (unionDB pTC sTCpar extraTC) f) := by
  obtain ⟨o₁, h₁, e₁⟩ := tcPar_first_run
  obtain ⟨o₂, h₂, e₂⟩ := tcPar_second_run
  have hw₁ := (runPhysPar_spec Plan.exI Plan.exV pTC _ tc_ctxPar σTC 3 10 sTCpar o₁ wf_sTCpar h₁).1
  obtain ⟨r1, hr1, hs1⟩ := rerun_idempotent_physPar Plan.exI Plan.exV pTC _ tc_ctxPar sTCpar σTC σ 3 threads 10 fuel o₁
    wf_sTCpar h₁
  obtain ⟨r2, hr2, hs2⟩ := monotone_rerun_physPar Plan.exI Plan.exV pTC _ tc_ctxPar sTCpar extraTC σTC σ 3 threads 10 fuel o₁
    wf_sTCpar extraTC_typed h₁
  have h3 := monotone_rerun_physPar' Plan.exI Plan.exV pTC _ tc_ctxPar sTCpar extraTC σTC σTC2 3 2 10 10 o₁ o₂
    wf_sTCpar extraTC_typed h₁ (by rw [e₁]; exact h₂)
  rw [e₁] at hw₁ hr1 hs1 hr2
  rw [e₂] at h3
  exact ⟨hw₁, wfPCSt_pushRows pTC _ extraTC hw₁ extraTC_typed, ⟨r1, hr1, fun o ho => (hs1 o ho).2.2.1⟩,
    ⟨r2, hr2, fun o ho => (hs2 o ho).2.2⟩, h3⟩

#print axioms wfPCSt_pushRows'
#print axioms wfPCSt_pushRows
#print axioms pushRowsPar_indices
#print axioms factsOf_pushRowsPar
#print axioms runPhysPar_spec
#print axioms rerun_idempotent_physPar
#print axioms rerun_idempotent_physPar'
#print axioms rerun_ne_panic_physPar
#print axioms monotone_rerun_physPar
#print axioms monotone_rerun_physPar'
#print axioms monotone_rerun_eq_fresh_physPar
#print axioms rerun_pool_irrelevant_physPar
#print axioms history_pool_irrelevant_physPar
#print axioms extraTC_typed
#print axioms tcPar_rerun
#print axioms tcPar_first_run
#print axioms tcPar_second_run
#print axioms tcPar_rerun_applies

end AscentVerif.PhysPar
