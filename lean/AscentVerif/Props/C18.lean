import AscentVerif.Proofs.UFRefine
import AscentVerif.Proofs.TrRelExact
import AscentVerif.Proofs.TrRelCollapseAdd
import AscentVerif.Proofs.TrRelCollapseCount
/-!
# C18 — public union-find structures agree with a reference closure after any history

## Part (a): `UnionFind` (uf.rs) — full strength

For **every** finite history of `add`, `find_item`, `find(Id)`, `union(Id, Id)` and `union_add`
that stays inside the contract of the `unsafe fn`s (ids passed to `find` / `union` exist), run on
the model `Model/UnionFind.lean` from the empty structure:

* no operation panics (`uf_run_ok`): no failed `debug_assert!`, no index out of range, and the
  fuel of `find` (= number of elements) is never exhausted, i.e. the Rust recursion terminates;
* the invariant `WF` holds after every operation (`uf_run_ok`, and per operation `uf_add_ok`,
  `uf_find_ok`, `uf_findItem_ok`, `uf_union_ok`): parents in range, rank strictly increasing
  along parent links (acyclic), ranks below the number of elements, `items` and `elems` agree;
  and so does `NextCycles` (`uf_run_ok`, `uf_next_one_cycle`, `uf_union_next`): the `next`
  pointers stay inside the class and form one cycle per class;
* `find` returns the root of its argument and changes neither partition nor roots (`uf_find_ok`);
* `union x y` merges exactly the classes of `x` and `y` (`uf_union_ok`);
* two items are placed in the same class — `find_item` returns the same id for both — exactly
  when they are connected by the unions performed (`uf_same_class_iff`, `EqvGen` of the united
  pairs); unknown items are reported unknown (`uf_findItem_unknown`); `len` is the number of
  distinct items (`uf_len`).

Not proved (covered by tie C only, see `tools/vlib/c18.py`): that the O(n²) self-check `ok()`
itself returns `true` on every such state (everything it inspects is covered by `WF` and
`NextCycles`, but the check's own loops — cycle detection with a `prev` set, the bounded walk
around the class list, the count by classes — are not verified).  The full-strength statement
would be
`theorem uf_ok_true (W : WF u) (N : NextCycles u.elems) : ∃ u', u.ok = .ok (u', true)`.
-/
namespace AscentVerif.UF

theorem uf_wf_init : WF {} := wf_empty

/-- `add` never panics on a well-formed state, keeps it well formed, reports `new` exactly for
unknown items, and returns an id in the class of the item's element; existing classes are not split -/
theorem uf_add_ok {u : UnionFind} (W : WF u) (x : Int) :
    ∃ u' isNew id, u.add x = .ok (u', isNew, id) ∧ WF u' ∧
      (isNew = true ↔ lookup u.items x = none) ∧
      (∃ i, i < u'.elems.length ∧ valueOf u'.elems i = x ∧ Same u'.elems id i) ∧
      (∀ i j, i < u.elems.length → j < u.elems.length → (Same u'.elems i j ↔ Same u.elems i j)) := by
  obtain ⟨u', isNew, id, h, P⟩ := add_ok W x
  refine ⟨u', isNew, id, h, P.wf, ?_, P.id_same, fun i j hi hj => ?_⟩
  · cases isNew with
    | false => exact ⟨Bool.noConfusion, fun h => by have := (P.old rfl).1; simp [h] at this⟩
    | true => exact ⟨fun _ => (P.new rfl).1, fun _ => rfl⟩
  · cases isNew with
    | false => exact (P.old rfl).2.same_iff i j
    | true =>
      rw [(P.new rfl).2.same_iff]
      exact ⟨fun h => h.resolve_right fun e => Nat.ne_of_lt hi e.1, Or.inl⟩

/-- `find(id)` on an existing id never panics, returns the root of `id`, and changes neither
the roots nor the partition -/
theorem uf_find_ok {u : UnionFind} (W : WF u) {id : Nat} (hid : id < u.elems.length) :
    ∃ u' r, u.find id = .ok (u', r) ∧ WF u' ∧ RootOf u.elems id r ∧
      (∀ j q, RootOf u'.elems j q ↔ RootOf u.elems j q) ∧ (∀ i j, Same u'.elems i j ↔ Same u.elems i j) := by
  obtain ⟨u', r, h, K, hr⟩ := find_ok W hid
  exact ⟨u', r, h, K.wf, hr, K.roots_iff, K.same_iff⟩

/-- `find_item` of a present item never panics, returns the root of the item's class and keeps
roots and partition -/
theorem uf_findItem_ok {u : UnionFind} (W : WF u) {x : Int} {i : Nat} (hi : i < u.elems.length)
    (hx : valueOf u.elems i = x) :
    ∃ u' r, u.findItem x = .ok (u', some r) ∧ WF u' ∧ RootOf u.elems i r ∧
      (∀ j q, RootOf u'.elems j q ↔ RootOf u.elems j q) := by
  obtain ⟨id, hl, hs⟩ := W.item_of_elem i hi
  rw [hx] at hl
  obtain ⟨u', r, h, K, hr⟩ := findItem_some W hl
  obtain ⟨q, h1, h2⟩ := hs
  have := h1.unique hr; subst this
  exact ⟨u', _, h, K.wf, h2, K.roots_iff⟩

/-- `find_item` of an item that was never added answers `None` and changes nothing -/
theorem uf_findItem_unknown {u : UnionFind} (W : WF u) {x : Int}
    (hx : ∀ i, i < u.elems.length → valueOf u.elems i ≠ x) : u.findItem x = .ok (u, none) := by
  cases hl : lookup u.items x with
  | none => exact findItem_none hl
  | some id =>
    obtain ⟨i, hi, hv⟩ := W.elem_of_item x id hl
    exact absurd hv (hx i hi)

/-- `union(a, b)` on existing ids (roots or not) never panics, keeps the state well formed, and
merges exactly the classes of `a` and `b`; the returned id is in the merged class -/
theorem uf_union_ok {u : UnionFind} (W : WF u) {a b : Nat} (ha : a < u.elems.length) (hb : b < u.elems.length) :
    ∃ u' w, u.union a b = .ok (u', w) ∧ WF u' ∧ Same u'.elems w a ∧
      ∀ i j, Same u'.elems i j ↔
        (Same u.elems i j ∨ (Same u.elems i a ∧ Same u.elems b j) ∨ (Same u.elems i b ∧ Same u.elems a j)) := by
  obtain ⟨u', w, h, P⟩ := union_ok W ha hb
  exact ⟨u', w, h, P.wf, P.result, P.same_iff⟩

/-- every history inside the contract runs to completion without panic, and the final state is
well formed, with the `next` pointers forming one cycle per class -/
theorem uf_run_ok {ops : List Op} {s : Spec} (h : Spec.run {} ops = some s) :
    ∃ u, run {} ops = .ok u ∧ WF u ∧ NextCycles u.elems ∧ u.elems.map (·.value) = s.items := by
  obtain ⟨u, hr, R⟩ := run_refines refines_empty ops h
  refine ⟨u, hr, R.wf, R.next, ?_⟩
  apply List.ext_getElem?
  intro i
  by_cases hi : i < u.elems.length
  · rw [R.val i hi]; simp [valueOf, List.getElem?_eq_getElem hi]
  · have h1 : u.elems.length ≤ i := by omega
    rw [List.getElem?_eq_none (by simpa using h1), List.getElem?_eq_none (by rw [R.len]; exact h1)]

/-- "`next` pointers form one cycle per class": after any history inside the contract, any two
nodes of one class reach each other by following `next` -/
theorem uf_next_one_cycle {ops : List Op} {s : Spec} (h : Spec.run {} ops = some s) :
    ∃ u, run {} ops = .ok u ∧ ∀ i j, Same u.elems i j → ∃ k, iterNext u.elems k i = j := by
  obtain ⟨u, hr, R⟩ := run_refines refines_empty ops h
  exact ⟨u, hr, fun _ _ hs => R.next.reach hs⟩

/-- every single operation keeps the `next` cycles (here: `union`, the only one that rewires them) -/
theorem uf_union_next {u : UnionFind} (W : WF u) (N : NextCycles u.elems) {a b : Nat} (ha : a < u.elems.length)
    (hb : b < u.elems.length) : ∃ u' w, u.union a b = .ok (u', w) ∧ NextCycles u'.elems := by
  obtain ⟨u', w, h, P⟩ := union_ok W ha hb
  exact ⟨u', w, h, P.next_ok N⟩

/-- `len` = number of distinct items added -/
theorem uf_len {ops : List Op} {s : Spec} (h : Spec.run {} ops = some s) :
    ∃ u, run {} ops = .ok u ∧ u.len = .ok s.items.length := by
  obtain ⟨u, hr, R⟩ := run_refines refines_empty ops h
  exact ⟨u, hr, by simp [UnionFind.len, R.wf.okCheap, R.len]⟩

/-- **Main theorem for `UnionFind`.**  After any history inside the contract, for any two items
that were added, the two `find_item` calls succeed and return the same id exactly when the
items are connected by the unions performed. -/
theorem uf_same_class_iff {ops : List Op} {s : Spec} (h : Spec.run {} ops = some s) :
    ∃ u, run {} ops = .ok u ∧ ∀ x y, x ∈ s.items → y ∈ s.items →
      ∃ u1 u2 r1 r2, u.findItem x = .ok (u1, some r1) ∧ u1.findItem y = .ok (u2, some r2) ∧
        (r1 = r2 ↔ s.Conn x y) := by
  obtain ⟨u, hr, R⟩ := run_refines refines_empty ops h
  refine ⟨u, hr, ?_⟩
  intro x y hx hy
  obtain ⟨ix, hix, hvx⟩ := (R.mem_iff x).mp hx
  obtain ⟨iy, hiy, hvy⟩ := (R.mem_iff y).mp hy
  obtain ⟨idx, hlx, hsx⟩ := R.wf.item_of_elem ix hix
  obtain ⟨u1, r1, hf1, K, hr1⟩ := findItem_some R.wf (hvx ▸ hlx)
  obtain ⟨idy, hly, hsy⟩ := K.wf.item_of_elem iy (K.length_eq ▸ hiy)
  obtain ⟨u2, r2, hf2, _, hr2⟩ := findItem_some K.wf ((K.value_eq iy).trans hvy ▸ hly)
  refine ⟨u1, u2, r1, r2, hf1, hf2, ?_⟩
  -- `r1`, `r2` are the roots of `ix`, `iy` in `u`
  have hx1 : Same u.elems r1 ix := hr1.same.symm.trans hsx
  have hy2 : Same u.elems r2 iy := (K.same_iff _ _).mp (hr2.same.symm.trans hsy)
  have hc := R.same_iff ix iy hix hiy
  rw [hvx, hvy] at hc
  rw [← hc]
  constructor
  · intro e; exact hx1.symm.trans (e ▸ hy2)
  · intro h
    obtain ⟨q, h1, h2⟩ := (hx1.trans h).trans hy2.symm
    exact (h1.unique hr1.self).symm.trans (h2.unique ((K.roots_iff _ _).mp hr2.self))

/-! ### non-vacuity: the theorems apply to concrete histories, and the closure is non-trivial -/

/-- the corpus witness `a=add(1), b=add(2), c=add(3); union(a,b); union(c,b)` (union on a non-root id) -/
def witnessOps : List Op := [.add 1, .add 2, .add 3, .union 0 1, .union 2 1]

theorem witness_spec : Spec.run {} witnessOps = some { items := [1, 2, 3], pairs := [(3, 2), (1, 2)] } := by decide

example : Spec.run {} witnessOps = some { items := [1, 2, 3], pairs := [(3, 2), (1, 2)] } := witness_spec

example : ∃ u, run {} witnessOps = .ok u ∧ WF u ∧ NextCycles u.elems ∧ u.elems.map (·.value) = [1, 2, 3] :=
  uf_run_ok witness_spec

example : ∃ u, run {} witnessOps = .ok u ∧ ∀ i j, Same u.elems i j → ∃ k, iterNext u.elems k i = j :=
  uf_next_one_cycle witness_spec

/-- on the witness the three nodes really form one cycle 0 → 2 → 1 → 0 -/
example : (match run {} witnessOps with | .ok u => (List.range 3).map (nextOf u.elems) | .panic => []) = [2, 0, 1] := by decide

example : ∃ u, run {} witnessOps = .ok u ∧ u.len = .ok 3 :=
  uf_len witness_spec

/-- … and on it items 1 and 3 end up in one class -/
example : ∃ u, run {} witnessOps = .ok u ∧
    ∃ u1 u2 r1 r2, u.findItem 1 = .ok (u1, some r1) ∧ u1.findItem 3 = .ok (u2, some r2) ∧ r1 = r2 := by
  obtain ⟨u, hr, h⟩ := uf_same_class_iff witness_spec
  obtain ⟨u1, u2, r1, r2, h1, h2, hiff⟩ := h 1 3 (by decide) (by decide)
  refine ⟨u, hr, u1, u2, r1, r2, h1, h2, hiff.mpr ?_⟩
  exact (EqvGen.rel (show ((1 : Int), (2 : Int)) ∈ [((3 : Int), (2 : Int)), (1, 2)] by decide)).trans
    (EqvGen.rel (show ((3 : Int), (2 : Int)) ∈ [((3 : Int), (2 : Int)), (1, 2)] by decide)).symm

/-- the closure is not the full relation: with `add 1; add 2` nothing is connected -/
example : ¬ (Spec.Conn { items := [1, 2], pairs := [] } 1 2) := by
  intro h
  have := EqvGen.isolated (r := fun x y => (x, y) ∈ ([] : List (Int × Int))) (x := 1) (by simp) h (Or.inl rfl)
  omega

/-- the model agrees on the witness (executable check of the same facts) -/
example : (match run {} witnessOps with
    | .ok u => (match u.findItem 1 with
      | .ok (u1, some r1) => (match u1.findItem 3 with
        | .ok (_, some r2) => r1 == r2
        | _ => false)
      | _ => false)
    | .panic => false) = true := by decide

example : WF {} := uf_wf_init

example : ∃ u' isNew id, ({} : UnionFind).add 5 = .ok (u', isNew, id) ∧ WF u' ∧ isNew = true := by
  obtain ⟨u', n, id, h, W, hn, _⟩ := uf_add_ok uf_wf_init 5
  exact ⟨u', n, id, h, W, hn.mpr rfl⟩

/-- a well-formed three-element state with a non-trivial tree (1 and 2 below 0), for the per-operation theorems -/
def sample : UnionFind := match run {} witnessOps with | .ok u => u | .panic => {}

theorem sample_ok : WF sample ∧ NextCycles sample.elems := by
  obtain ⟨u, hr, W, N, _⟩ := uf_run_ok witness_spec
  have : sample = u := by simp [sample, hr]
  rw [this]; exact ⟨W, N⟩

theorem sample_wf : WF sample := sample_ok.1

example : sample.elems.length = 3 := by decide

example : ∃ u' r, sample.find 2 = .ok (u', r) ∧ WF u' ∧ RootOf sample.elems 2 r := by
  obtain ⟨u', r, h, W, hr, _⟩ := uf_find_ok sample_wf (id := 2) (by decide)
  exact ⟨u', r, h, W, hr⟩

example : ∃ u' r, sample.findItem 2 = .ok (u', some r) ∧ WF u' ∧ RootOf sample.elems 1 r := by
  obtain ⟨u', r, h, W, hr, _⟩ := uf_findItem_ok sample_wf (i := 1) (x := 2) (by decide) (by decide)
  exact ⟨u', r, h, W, hr⟩

example : sample.findItem 9 = .ok (sample, none) :=
  uf_findItem_unknown sample_wf (by decide)

theorem sample_next : NextCycles sample.elems := sample_ok.2

example : ∃ u' w, sample.union 1 2 = .ok (u', w) ∧ NextCycles u'.elems :=
  uf_union_next sample_wf sample_next (by decide) (by decide)

example : ∃ u' w, sample.union 1 2 = .ok (u', w) ∧ WF u' ∧ Same u'.elems w 1 := by
  obtain ⟨u', w, h, W, hs, _⟩ := uf_union_ok sample_wf (a := 1) (b := 2) (by decide) (by decide)
  exact ⟨u', w, h, W, hs⟩

end AscentVerif.UF

/-!
## Part (b): `TrRelUnionFind` (trrel_union_find.rs) — full strength

**Main theorem `tr_contains_iff`** (all histories, including back-edge collapses through
`merge_multiple` and adds after collapses): for every list `ps` of added pairs, the model runs the
whole history from the empty structure without panic (no failed `unwrap`, no `assert!(from != s)`,
no failing `assert_disjoint_invariant`, no index out of range, and the fuel of
`get_dominant_id{,_mut}` — i.e. the Rust recursion through `set_subsumptions` — always suffices),
the final state passes `assert_disjoint_invariant` and `assert_set_connections_dominant_sets`, and
`contains x y` evaluates without panic to `true` exactly when `(x, y)` is in the reflexive
transitive closure of the added pairs on mentioned elements, and to `false` exactly when it is not.

The proof goes through the invariant `Inv t ps` (`Proofs/TrRelCollapseInv.lean`), which speaks
about DOMINANT set ids: `set_subsumptions` is a forest whose depth is covered by the fuel, dominated
sets are empty and appear in no connection map, every element's `elem_ids` entry leads to the
dominant set that contains it, the sets are pairwise disjoint, the classes are exactly the strongly
connected components of the added pairs, and OFF THE DIAGONAL `set_connections` holds exactly the
pairs of distinct dominant ids whose elements are connected, `reverse_set_connections` being its
mirror image.  ON THE DIAGONAL both maps may hold junk: `s ∈ set_connections[s]` is created by
`add(x, x)` on a new element and by `merge_multiple` (second `for s in [from, to]` round, `z = from`),
and it is NOT always mirrored (e.g. after `add(1,2); add(2,1)`: `set_connections = {1: {1}}`,
`reverse_set_connections = {1: {}}`).  This is harmless: the enumerating queries skip the diagonal, and
`contains`, which does not, only looks once more into the set it has already searched.

* `tr_inv_empty`, `tr_addNodeNew_inv`, `tr_add_inv`, `tr_run_inv`: the invariant holds initially and
  is preserved (with panic-freedom) by `add_node_new`, by `add` in every branch, and by whole histories;
* `tr_collapse_run`: the collapse branch never panics, with its intermediate states described
  (`PrepPost`: the deliberately de-mirrored state after the four `keep_difference` / `remove`
  statements; `ConnPost`: after `add_set_connection` on it; `MergePost`: after `merge_multiple`,
  whose four fixing loops, absorbing loop and final clean-up are characterised exactly in
  `Proofs/TrRelCollapseMerge.lean`); `x_set` and the sets in `to_be_merged` are exactly the dominant ids
  on a cycle through the new edge (`CollapseCtx.cyc_reach`, `CollapseCtx.cyc_of_reach`);
* `tr_contains_of_inv`: on any state satisfying the invariant `contains` decides the closure.

The statements for collapse-free histories (`…_partial`, `tr_acyclic_…`,
`tr_addSetConnection_exact`) come first; they are special cases.

The derived queries are proved for all histories too, INCLUDING multiplicities (the invariant also
records that all maps have pairwise different keys and all stored sets pairwise different members —
what `HashMap` / `HashSet` guarantee by construction but the list model does not):

* `tr_set_of` / `tr_rev_set_of`: `set_of x` / `rev_set_of x` never panic; they answer `None` exactly
  for unmentioned `x`, and otherwise enumerate — each element exactly once — the successors /
  predecessors of `x` in the closure, `x` included;
* `tr_iter_all`: `iter_all` never panics and enumerates exactly the pairs of the closure, each
  exactly once (so as a multiset it IS the closure; only the order is unspecified — in Rust it is
  the hash-map iteration order, in the model insertion order);
* `tr_count_exact`: `count_exact` never panics and returns the number of closure pairs (the length
  of any duplicate-free enumeration of them, in particular of the `iter_all` result:
  `tr_count_exact_eq_iter_all`).

Nothing of part (b) is left unproved.  Model-fidelity remarks: hash maps / sets are lists in
insertion order, so statements are up to order; `Itertools::dedup` in `get_set_connections` (drops
only CONSECUTIVE duplicates) is harmless because the stored sets are duplicate-free and mention
dominant ids only (`dedupConsecutive_of_nodup`).
-/
namespace AscentVerif.TrRel

/-- the empty structure satisfies the collapse-free invariant for the empty history -/
theorem tr_inv_init : SoundFor {} [] := soundFor_empty

/-- `add_node_new` preserves the collapse-free invariant (for any extension `ps'` of the history)
and returns the singleton set of the element -/
theorem tr_addNodeNew_inv_partial {t t' : TrRel} {ps ps' : List (Int × Int)} (S : SoundFor t ps)
    {x : Int} {id : Nat} {isNew : Bool} (he : t.addNodeNew x = .ok (t', id, isNew))
    (hps : ∀ p, p ∈ ps → p ∈ ps') :
    Simple t' ∧ ConnLe (G t' (Reach ps')) t' ∧ t'.sets[id]? = some [x] ∧
      (isNew = true ↔ alGet t.elemIds x = none) := by
  have N := addNodeNew_sound S.simple he
  refine ⟨N.simple, N.connLe S.le fun _ _ h => h.mono hps, N.set_id, ?_⟩
  rcases (addNodeNew_nil S.simple.subs_nil he).2 with ⟨hx, rfl, _⟩ | ⟨hx, rfl, _, _⟩
  · simp [hx]
  · simp [hx]

/-- `add` preserves the collapse-free invariant whenever it does not collapse classes -/
theorem tr_add_inv_partial {t t' : TrRel} {ps : List (Int × Int)} {x y : Int} {b : Bool} (S : SoundFor t ps)
    (he : t.add x y = .ok (t', b)) (hs : t'.subs = []) : SoundFor t' (ps ++ [(x, y)]) :=
  add_sound S he hs

/-- the back-edge collapse (`merge_multiple`) always records a subsumption … -/
theorem tr_collapse_records_subsumption {t t' : TrRel} {frm to m : Nat} {ib : NSet}
    (he : t.mergeMultiple frm to ib = .ok (t', m)) : t'.subs ≠ [] :=
  mergeMultiple_subs_ne_nil he

/-- … and subsumptions are never removed, so `t.subs = []` at the end of a history means that no
collapse happened anywhere in it -/
theorem tr_subsumptions_persist {t t' : TrRel} {x y : Int} {b : Bool} (h : t.subs ≠ [])
    (he : t.add x y = .ok (t', b)) : t'.subs ≠ [] :=
  add_subs_ne_nil h he

/-- collapse-free histories: every mentioned element is related to itself -/
theorem tr_contains_refl_partial {ps : List (Int × Int)} {t : TrRel} (hr : run {} ps = .ok t) (hs : t.subs = [])
    {x : Int} (hx : Mentioned ps x) : t.contains x x = .ok true :=
  (contains_iff_of_inv (inv_of_run hr) x x).1.mpr ⟨hx, hx, .refl _⟩

/-- collapse-free histories: every added pair is contained at the end of the history -/
theorem tr_contains_added_partial {ps : List (Int × Int)} {t : TrRel} (hr : run {} ps = .ok t) (hs : t.subs = [])
    {x y : Int} (hp : (x, y) ∈ ps) : t.contains x y = .ok true :=
  (contains_iff_of_inv (inv_of_run hr) x y).1.mpr ⟨⟨_, hp, Or.inl rfl⟩, ⟨_, hp, Or.inr rfl⟩, .single hp⟩

/-- collapse-free histories: `contains` is sound with respect to the reference closure -/
theorem tr_contains_sound_partial {ps : List (Int × Int)} {t : TrRel} (hr : run {} ps = .ok t) (hs : t.subs = [])
    {x y : Int} (h : t.contains x y = .ok true) : Closure ps x y :=
  (contains_iff_of_inv (inv_of_run hr) x y).1.mp h

/-- `add` also preserves mirror and transitive closedness of the connection maps -/
theorem tr_add_exact_partial {t t' : TrRel} {ps : List (Int × Int)} {x y : Int} {b : Bool} (E : ExactFor t ps)
    (he : t.add x y = .ok (t', b)) (hs : t'.subs = []) : ExactFor t' (ps ++ [(x, y)]) :=
  add_exact E he hs

/-- the exact effect of `add_set_connection(f, to)` (no back edge `to → f`, `f ≠ to`) on a closed, mirrored state -/
theorem tr_addSetConnection_exact {t t' : TrRel} {f to : Nat} {b : Bool} (M : Mirror t) (K : Closed t)
    (hne : f ≠ to) (hback : ¬ rel t.conn to f) (he : t.addSetConnection f to = .ok (t', b)) :
    (∀ a c, rel t'.conn a c ↔ Cstar t f to a c) ∧ (∀ a c, rel t'.rconn c a ↔ Cstar t f to a c) :=
  addSetConnection_exact M K hne hback he

/-- collapse-free histories: `contains` never panics and decides the reference closure -/
theorem tr_contains_iff_partial {ps : List (Int × Int)} {t : TrRel} (hr : run {} ps = .ok t) (hs : t.subs = [])
    (x y : Int) :
    (t.contains x y = .ok true ↔ Closure ps x y) ∧ (t.contains x y = .ok false ↔ ¬ Closure ps x y) :=
  contains_iff_of_inv (inv_of_run hr) x y

/-- histories in which no pair closes a cycle run without panic and without collapse, and
`assert_disjoint_invariant` holds at the end -/
theorem tr_acyclic_run_ok {ps : List (Int × Int)} (h : AcyclicFrom [] ps) :
    ∃ t, run {} ps = .ok t ∧ t.subs = [] ∧ t.disjointInvariant = true := by
  obtain ⟨t, hr, I⟩ := run_inv inv_empty ps
  exact ⟨t, hr, run_acyclic inv_empty rfl h hr, I.core.disjointInvariant⟩

/-- … and on them `contains` is exactly the reference closure -/
theorem tr_acyclic_contains_iff {ps : List (Int × Int)} (h : AcyclicFrom [] ps) :
    ∃ t, run {} ps = .ok t ∧ ∀ x y,
      (t.contains x y = .ok true ↔ Closure ps x y) ∧ (t.contains x y = .ok false ↔ ¬ Closure ps x y) := by
  obtain ⟨t, hr, hs, _⟩ := tr_acyclic_run_ok h
  exact ⟨t, hr, tr_contains_iff_partial hr hs⟩

theorem tr_inv_empty : Inv {} [] := inv_empty

/-- `add_node_new` never panics under the invariant, keeps it, and returns the dominant set containing the element -/
theorem tr_addNodeNew_inv {t : TrRel} {ps : List (Int × Int)} (C : Core t ps) (x : Int) :
    ∃ t' id isNew, t.addNodeNew x = .ok (t', id, isNew) ∧ Core t' ps ∧ Mem t' id x ∧ IsDom t' id ∧
      (isNew = true ↔ alGet t.elemIds x = none) := by
  obtain ⟨t', id, isNew, h, C', N⟩ := addNodeNew_core C x
  exact ⟨t', id, isNew, h, C', N.mem, C'.mem_dom N.mem, N.new_iff⟩

/-- `add` never panics under the invariant (in any branch, including the back-edge collapse) and
re-establishes it for the extended history -/
theorem tr_add_inv {t : TrRel} {ps : List (Int × Int)} (I : Inv t ps) (x y : Int) :
    ∃ t' b, t.add x y = .ok (t', b) ∧ Inv t' (ps ++ [(x, y)]) := add_inv I x y

/-- every history runs without panic and ends in a state satisfying the invariant -/
theorem tr_run_inv (ps : List (Int × Int)) : ∃ t, run {} ps = .ok t ∧ Inv t ps := by
  obtain ⟨t, hr, I⟩ := run_inv inv_empty ps
  simp only [List.nil_append] at I
  exact ⟨t, hr, I⟩

/-- the collapse branch of `add` never panics; its intermediate states are described by
`PrepPost` / `ConnPost` / `MergePost`, and the merged sets are `in_between ∪ {y_set}` -/
theorem tr_collapse_run {t : TrRel} {ps : List (Int × Int)} {x0 y0 : Int} {X Y : Nat} (K : CollapseCtx t ps x0 y0 X Y) :
    ∃ ta t3 t9 ml tm, (∀ m, m ∈ ml ↔ InM t X Y m) ∧ (∀ m, m ∈ tm ↔ InM t X Y m ∨ m = Y) ∧
      PrepPost t ta X Y tm ∧ ConnPost ta t3 X Y ∧ ConnLe (GSem t (ps ++ [(x0, y0)])) t3 ∧ MergePost t3 t9 X Y ml ∧
      collapseBranch t x0 y0 X Y = .ok ({ t9 with elemIds := alSet (alSet t9.elemIds x0 X) y0 X }, true) :=
  collapse_run K

/-- on any state satisfying the invariant, `contains` never panics and decides the reference closure -/
theorem tr_contains_of_inv {t : TrRel} {ps : List (Int × Int)} (I : Inv t ps) (x y : Int) :
    (t.contains x y = .ok true ↔ Closure ps x y) ∧ (t.contains x y = .ok false ↔ ¬ Closure ps x y) :=
  contains_iff_of_inv I x y

/-- **Main theorem for `TrRelUnionFind`.**  For every history of `add`s: no panic, both self-checks
hold at the end, and `contains` is exactly the reflexive transitive closure of the added pairs on
mentioned elements. -/
theorem tr_contains_iff (ps : List (Int × Int)) : ∃ t, run {} ps = .ok t ∧ t.disjointInvariant ∧ t.connectionsDominant ∧
    ∀ x y, (t.contains x y = .ok true ↔ Closure ps x y) ∧ (t.contains x y = .ok false ↔ ¬ Closure ps x y) := by
  obtain ⟨t, hr, I⟩ := tr_run_inv ps
  exact ⟨t, hr, I.core.disjointInvariant, I.core.connectionsDominant, contains_iff_of_inv I⟩

/-- **`set_of`** after any history: `None` exactly for unmentioned elements, otherwise exactly the
successors in the closure (the element included), each listed once -/
theorem tr_set_of (ps : List (Int × Int)) : ∃ t, run {} ps = .ok t ∧ ∀ x,
    (¬ Mentioned ps x ∧ t.setOf x = .ok none) ∨
    (Mentioned ps x ∧ ∃ l, t.setOf x = .ok (some l) ∧ l.Nodup ∧ ∀ y, y ∈ l ↔ Closure ps x y) := by
  obtain ⟨t, hr, I⟩ := tr_run_inv ps
  exact ⟨t, hr, setOf_spec I⟩

/-- **`rev_set_of`** after any history: `None` exactly for unmentioned elements, otherwise exactly the
predecessors in the closure (the element included), each listed once -/
theorem tr_rev_set_of (ps : List (Int × Int)) : ∃ t, run {} ps = .ok t ∧ ∀ x,
    (¬ Mentioned ps x ∧ t.revSetOf x = .ok none) ∨
    (Mentioned ps x ∧ ∃ l, t.revSetOf x = .ok (some l) ∧ l.Nodup ∧ ∀ y, y ∈ l ↔ Closure ps y x) := by
  obtain ⟨t, hr, I⟩ := tr_run_inv ps
  exact ⟨t, hr, revSetOf_spec I⟩

/-- **`iter_all`** after any history enumerates exactly the pairs of the closure, each exactly once -/
theorem tr_iter_all (ps : List (Int × Int)) : ∃ t l, run {} ps = .ok t ∧ t.iterAll = .ok l ∧ l.Nodup ∧
    ∀ p, p ∈ l ↔ Closure ps p.1 p.2 := by
  obtain ⟨t, hr, I⟩ := tr_run_inv ps
  obtain ⟨l, hl, hnd, hm⟩ := iterAll_spec I
  exact ⟨t, l, hr, hl, hnd, hm⟩

/-- **`count_exact`** after any history is the number of closure pairs: the length of a duplicate-free
list enumerating exactly the pairs of the closure -/
theorem tr_count_exact (ps : List (Int × Int)) : ∃ t, run {} ps = .ok t ∧
    ∃ L : List (Int × Int), L.Nodup ∧ (∀ p, p ∈ L ↔ Closure ps p.1 p.2) ∧ t.countExact = .ok L.length := by
  obtain ⟨t, hr, I⟩ := tr_run_inv ps
  exact ⟨t, hr, countExact_spec I⟩

/-- … in particular `count_exact` = number of pairs yielded by `iter_all` -/
theorem tr_count_exact_eq_iter_all (ps : List (Int × Int)) : ∃ t l, run {} ps = .ok t ∧ t.iterAll = .ok l ∧
    t.countExact = .ok l.length := by
  obtain ⟨t, hr, I⟩ := tr_run_inv ps
  obtain ⟨l, hl, hnd, hm⟩ := iterAll_spec I
  obtain ⟨L, hLnd, hLm, hc⟩ := countExact_spec I
  have hp : L.Perm l := (List.perm_ext_iff_of_nodup hLnd hnd).mpr fun p => (hLm p).trans (hm p).symm
  exact ⟨t, l, hr, hl, by rw [hc, hp.length_eq]⟩

/-- a collapse-free history with a diamond and an implied pair -/
def dagHistory : List (Int × Int) := [(1, 2), (1, 3), (2, 4), (3, 4), (1, 4), (5, 5)]

def dagState : TrRel := match run {} dagHistory with | .ok t => t | .panic => {}

/-- where it ends: five singleton sets, `set_connections` transitively closed (set 0, of `1`, reaches set 3, of `4`) -/
theorem dagHistory_run : run {} dagHistory = .ok
    { sets := [[1], [2], [3], [4], [5]],
      elemIds := [(1, 0), (2, 1), (3, 2), (4, 3), (5, 4)],
      subs := [],
      conn := [(0, [1, 2, 3]), (1, [3]), (2, [3]), (3, []), (4, [4])],
      rconn := [(1, [0]), (0, []), (2, [0]), (3, [1, 0, 2]), (4, [4])] } := by decide +kernel

theorem dagState_run : run {} dagHistory = .ok dagState := by
  rw [dagState, dagHistory_run]
theorem dagState_subs : dagState.subs = [] := by
  rw [dagState, dagHistory_run]

theorem dagState_sound : SoundFor dagState dagHistory := by
  simpa using run_sound soundFor_empty dagState_run dagState_subs

theorem dagState_exact : ExactFor dagState dagHistory := by
  simpa using run_exact exactFor_empty dagState_run dagState_subs

example : SoundFor {} [] := tr_inv_init

example : dagState.contains 4 4 = .ok true :=
  tr_contains_refl_partial dagState_run dagState_subs ⟨(2, 4), by decide, Or.inr rfl⟩

example : dagState.contains 1 4 = .ok true := by
  rw [dagState, dagHistory_run]; decide

example : dagState.contains 2 4 = .ok true := tr_contains_added_partial dagState_run dagState_subs (by decide)

example : Closure dagHistory 1 4 := tr_contains_sound_partial dagState_run dagState_subs (x := 1) (y := 4)
  (by rw [dagState, dagHistory_run]; decide)

/-- the reference closure is not everything: 4 does not reach 1 -/
example : dagState.contains 4 1 = .ok false := by
  rw [dagState, dagHistory_run]; decide

example : SoundFor dagState dagHistory := dagState_sound

/-- `add_node_new` of a fresh element on the diamond state -/
example : ∃ t' id, dagState.addNodeNew 7 = .ok (t', id, true) ∧ Simple t' ∧ t'.sets[id]? = some [7] := by
  have he : dagState.addNodeNew 7 = .ok (withNew dagState 7, 5, true) := by
    rw [dagState, dagHistory_run]; decide +kernel
  obtain ⟨S', _, hid, _⟩ := tr_addNodeNew_inv_partial dagState_sound he (fun _ h => h)
  exact ⟨_, _, he, S', hid⟩

/-- `add` of a forward edge keeps the invariant -/
example : ∃ t' b, dagState.add 4 5 = .ok (t', b) ∧ SoundFor t' (dagHistory ++ [(4, 5)]) := by
  have hs : (match dagState.add 4 5 with | .ok (t', _) => t'.subs | .panic => [(0, 0)]) = [] := by
    rw [dagState, dagHistory_run]; decide +kernel
  cases he : dagState.add 4 5 with
  | panic => rw [he] at hs; cases hs
  | ok r => rw [he] at hs; exact ⟨r.1, r.2, rfl, tr_add_inv_partial dagState_sound he hs⟩

example : (dagState.contains 1 4 = .ok true ↔ Closure dagHistory 1 4) ∧ (dagState.contains 1 4 = .ok false ↔ ¬ Closure dagHistory 1 4) :=
  tr_contains_iff_partial dagState_run dagState_subs 1 4

/-- the reference closure really excludes pairs: 4 does not reach 1 (obtained through the theorem, from the model's answer) -/
example : ¬ Closure dagHistory 4 1 :=
  (tr_contains_iff_partial dagState_run dagState_subs 4 1).2.mp (by rw [dagState, dagHistory_run]; decide)

theorem reach_nil {a b : Int} (h : Reach [] a b) : a = b := by
  induction h with
  | refl => rfl
  | tail _ hr _ => simp at hr

theorem reach_single {x y a b : Int} (h : Reach [(x, y)] a b) : a = b ∨ (a = x ∧ b = y) := by
  induction h with
  | refl => exact Or.inl rfl
  | tail _ hr ih =>
    simp at hr
    obtain ⟨rfl, rfl⟩ := hr
    rcases ih with rfl | ⟨rfl, _⟩
    · exact Or.inr ⟨rfl, rfl⟩
    · exact Or.inr ⟨rfl, rfl⟩

/-- an acyclic history: a fork and a self pair -/
theorem acyclic_example : AcyclicFrom [] [(1, 2), (1, 3), (3, 3)] := by
  refine ⟨Or.inr ?_, Or.inr ?_, Or.inl rfl, trivial⟩
  · intro h; have := reach_nil h; omega
  · intro h
    rcases reach_single h with h | ⟨h, _⟩ <;> omega

example : ∃ t, run {} [(1, 2), (1, 3), (3, 3)] = .ok t ∧ t.subs = [] ∧ t.disjointInvariant = true :=
  tr_acyclic_run_ok acyclic_example

example : ∃ t, run {} [(1, 2), (1, 3), (3, 3)] = .ok t ∧ ∀ x y,
    (t.contains x y = .ok true ↔ Closure [(1, 2), (1, 3), (3, 3)] x y) ∧
    (t.contains x y = .ok false ↔ ¬ Closure [(1, 2), (1, 3), (3, 3)] x y) :=
  tr_acyclic_contains_iff acyclic_example

example : ExactFor dagState dagHistory := dagState_exact

/-- the hypotheses `Mirror` / `Closed` of `tr_addSetConnection_exact` hold on the diamond state -/
example : Mirror dagState ∧ Closed dagState := ⟨dagState_exact.mirror, dagState_exact.closed⟩

/-- a back edge does collapse: the hypothesis `t.subs = []` of the partial theorems is not always true -/
example : (match run {} [(1, 2), (2, 1)] with | .ok t => t.subs | .panic => []) ≠ [] := by decide +kernel

/-- the collapse lemma applies to a concrete `merge_multiple` -/
example : ∃ t' m, (match run {} [(1, 2)] with | .ok t => t | .panic => {}).mergeMultiple 0 1 [] = .ok (t', m) ∧ t'.subs ≠ [] := by
  cases he : (match run {} [(1, 2)] with | .ok t => t | .panic => {}).mergeMultiple 0 1 [] with
  | panic => exact absurd he (by decide +kernel)
  | ok r => exact ⟨r.1, r.2, rfl, tr_collapse_records_subsumption he⟩

/-- subsumptions persist on a concrete history -/
example : ∃ t' b, (match run {} [(1, 2), (2, 1)] with | .ok t => t | .panic => {}).add 3 3 = .ok (t', b) ∧ t'.subs ≠ [] := by
  cases he : (match run {} [(1, 2), (2, 1)] with | .ok t => t | .panic => {}).add 3 3 with
  | panic => exact absurd he (by decide +kernel)
  | ok r => exact ⟨r.1, r.2, rfl, tr_subsumptions_persist (by decide +kernel) he⟩

/-- a history with two collapses (one through `in_between`), adds after a collapse, and a self pair -/
def cycHistory : List (Int × Int) := [(1, 2), (2, 3), (3, 1), (4, 5), (5, 4), (6, 6), (1, 4), (4, 3), (7, 1)]

/-- where it ends: `1 … 5` in one class (set 4, four sets subsumed), `6` and `7` alone, `7`'s set connected to the class -/
theorem cycHistory_run : run {} cycHistory = .ok
    { sets := [[], [], [], [], [3, 2, 1, 5, 4], [6], [7]],
      elemIds := [(1, 4), (2, 1), (3, 4), (4, 4), (5, 4), (6, 5), (7, 6)],
      subs := [(1, 2), (0, 2), (3, 4), (2, 4)],
      conn := [(4, [4]), (5, [5]), (6, [4])],
      rconn := [(4, [4, 6]), (5, [5]), (6, [])] } := by decide +kernel

example : ∃ t, run {} cycHistory = .ok t ∧ t.disjointInvariant ∧ t.connectionsDominant ∧
    ∀ x y, (t.contains x y = .ok true ↔ Closure cycHistory x y) ∧ (t.contains x y = .ok false ↔ ¬ Closure cycHistory x y) :=
  tr_contains_iff cycHistory

/-- the history really collapses: four subsumptions are recorded -/
example : (match run {} cycHistory with | .ok t => t.subs.length | .panic => 0) = 4 := by
  rw [cycHistory_run]; rfl

/-- … and through the theorem: 5 reaches 2 (only via the collapsed cycle), 1 does not reach 7 -/
example : Closure cycHistory 5 2 := by
  obtain ⟨t, hr, _, _, h⟩ := tr_contains_iff cycHistory
  rw [cycHistory_run] at hr; cases hr
  exact (h 5 2).1.mp (by decide)

example : ¬ Closure cycHistory 1 7 := by
  obtain ⟨t, hr, _, _, h⟩ := tr_contains_iff cycHistory
  rw [cycHistory_run] at hr; cases hr
  exact (h 1 7).2.mp (by decide)

example : Inv {} [] := tr_inv_empty

example : ∃ t, run {} cycHistory = .ok t ∧ Inv t cycHistory := tr_run_inv cycHistory

/-- the collapse context is inhabited: after `add(1,2)`, the pair `(2,1)` is a back edge between sets 1 and 0 -/
example : ∃ t, run {} [(1, 2)] = .ok t ∧ CollapseCtx t [(1, 2)] 2 1 1 0 := by
  obtain ⟨t, hr, I⟩ := tr_run_inv [(1, 2)]
  have ht : t = (match run {} [(1, 2)] with | .ok t => t | .panic => {}) := by rw [hr]
  refine ⟨t, hr, I.core, ?_, ?_, by decide, ?_⟩
  · rw [ht]; exact ⟨[2], by decide, by decide⟩
  · rw [ht]; exact ⟨[1], by decide, by decide⟩
  · rw [ht]; exact ⟨[1], by decide, by decide⟩

/-- the diagonal junk is real and not mirrored: after `add(1,2); add(2,1)` -/
example : (match run {} [(1, 2), (2, 1)] with | .ok t => (t.conn, t.rconn) | .panic => ([], [])) = ([(1, [1])], [(1, [])]) := by
  decide +kernel

/-- the derived queries on the collapsing history -/
example : ∃ t l, run {} cycHistory = .ok t ∧ t.iterAll = .ok l ∧ l.Nodup ∧ ∀ p, p ∈ l ↔ Closure cycHistory p.1 p.2 :=
  tr_iter_all cycHistory

example : ∃ t l, run {} cycHistory = .ok t ∧ t.iterAll = .ok l ∧ t.countExact = .ok l.length :=
  tr_count_exact_eq_iter_all cycHistory

/-- on it: 5 elements in one class (25 pairs), `6` alone (1), `7` reaching itself and the class (6) -/
example : (match run {} cycHistory with | .ok t => t.countExact | .panic => .panic) = .ok 32 := by
  rw [cycHistory_run]; decide

example : (match run {} cycHistory with | .ok t => t.setOf 7 | .panic => .panic) = .ok (some [3, 2, 1, 5, 4, 7]) := by
  rw [cycHistory_run]; decide

example : (match run {} cycHistory with | .ok t => t.revSetOf 6 | .panic => .panic) = .ok (some [6]) := by
  rw [cycHistory_run]; decide

example : (match run {} cycHistory with | .ok t => t.setOf 9 | .panic => .panic) = .ok none := by
  rw [cycHistory_run]; decide

example : ∃ t, run {} cycHistory = .ok t ∧ ∀ x,
    (¬ Mentioned cycHistory x ∧ t.setOf x = .ok none) ∨
    (Mentioned cycHistory x ∧ ∃ l, t.setOf x = .ok (some l) ∧ l.Nodup ∧ ∀ y, y ∈ l ↔ Closure cycHistory x y) :=
  tr_set_of cycHistory

example : ∃ t, run {} cycHistory = .ok t ∧ ∀ x,
    (¬ Mentioned cycHistory x ∧ t.revSetOf x = .ok none) ∨
    (Mentioned cycHistory x ∧ ∃ l, t.revSetOf x = .ok (some l) ∧ l.Nodup ∧ ∀ y, y ∈ l ↔ Closure cycHistory y x) :=
  tr_rev_set_of cycHistory

example : ∃ t, run {} cycHistory = .ok t ∧
    ∃ L : List (Int × Int), L.Nodup ∧ (∀ p, p ∈ L ↔ Closure cycHistory p.1 p.2) ∧ t.countExact = .ok L.length :=
  tr_count_exact cycHistory

end AscentVerif.TrRel

/-! ## axiom audit (only `propext`, `Classical.choice`, `Quot.sound` may appear) -/
#print axioms AscentVerif.UF.uf_wf_init
#print axioms AscentVerif.UF.uf_add_ok
#print axioms AscentVerif.UF.uf_find_ok
#print axioms AscentVerif.UF.uf_findItem_ok
#print axioms AscentVerif.UF.uf_findItem_unknown
#print axioms AscentVerif.UF.uf_union_ok
#print axioms AscentVerif.UF.uf_run_ok
#print axioms AscentVerif.UF.uf_next_one_cycle
#print axioms AscentVerif.UF.uf_union_next
#print axioms AscentVerif.UF.uf_len
#print axioms AscentVerif.UF.uf_same_class_iff
#print axioms AscentVerif.TrRel.tr_inv_init
#print axioms AscentVerif.TrRel.tr_addNodeNew_inv_partial
#print axioms AscentVerif.TrRel.tr_add_inv_partial
#print axioms AscentVerif.TrRel.tr_collapse_records_subsumption
#print axioms AscentVerif.TrRel.tr_subsumptions_persist
#print axioms AscentVerif.TrRel.tr_contains_refl_partial
#print axioms AscentVerif.TrRel.tr_contains_added_partial
#print axioms AscentVerif.TrRel.tr_contains_sound_partial
#print axioms AscentVerif.TrRel.tr_add_exact_partial
#print axioms AscentVerif.TrRel.tr_addSetConnection_exact
#print axioms AscentVerif.TrRel.tr_contains_iff_partial
#print axioms AscentVerif.TrRel.tr_acyclic_run_ok
#print axioms AscentVerif.TrRel.tr_acyclic_contains_iff
#print axioms AscentVerif.TrRel.tr_inv_empty
#print axioms AscentVerif.TrRel.tr_addNodeNew_inv
#print axioms AscentVerif.TrRel.tr_add_inv
#print axioms AscentVerif.TrRel.tr_run_inv
#print axioms AscentVerif.TrRel.tr_collapse_run
#print axioms AscentVerif.TrRel.tr_contains_of_inv
#print axioms AscentVerif.TrRel.tr_contains_iff
#print axioms AscentVerif.TrRel.tr_set_of
#print axioms AscentVerif.TrRel.tr_rev_set_of
#print axioms AscentVerif.TrRel.tr_iter_all
#print axioms AscentVerif.TrRel.tr_count_exact
#print axioms AscentVerif.TrRel.tr_count_exact_eq_iter_all
