import AscentVerif.Proofs.C08Sem
/-!
# C08, semantic corollary: the implemented macro expansion and the ideal expansion have the same documented meaning

`expand_hygienic` (Props/C08.lean) is syntactic: `out = renItems ops true τ ideal`.  Renaming the variables of a surface body
does not change its one-step consequences `ConsS` (Model/Surface.lean) when the renaming is injective on the variables of the
body and of the head clauses and fixes the latter (`Sem.consS_rename`).  The `τ` of `hyg_body` is injective on the call-site names
together with the variables of the ideal expansion (`HygTau.injOn`), not globally: hence injectivity on a set (`Sem.InjOn`,
Proofs/EnvSim.lean).  The one semantic hypothesis, `Sem.RenLaw` (Proofs/C08Sem.lean), follows from the usual renaming lemma of a
semantics (`Sem.RenLaw.of_subst`) and holds for the expression language of the ties (`Sem.stdOps_renLaw`).

The claim is about one rule and one step (`ConsS`; the head macro invocations of the rule contribute nothing to it); no theorem
speaks of the expansion of a whole program (`desugarProgram`).
-/
namespace AscentVerif.Surface
open AscentVerif AscentVerif.Engine

variable {E B G P A : Type}

namespace Sem

section
variable {I : Interp E B G P A} {ops : Ops E B G A} {varsB : B → List Var} {varsG : G → List Var}
  {τ : Var → Var} {S : Var → Prop}

/-- **renaming invariance of the documented meaning of a body** (disjunctions, `?pattern` and wildcard arguments, repeated
variables, negation, aggregation, generators, attached conditions): the runs of the renamed body from the renamed environment
are exactly the renamings of the runs of the body -/
theorem satS_rename (hR : RenLaw I ops varsB varsG) (hτ : InjOn τ S) (items : SItems E B G P A (MInv E))
    (hv : ∀ v ∈ varsItems ops varsB varsG items, S v) (hok : aggOkItems items) (D : DB) (agg : RelId → List Tuple)
    (ρ : Env) (hk : Keys S ρ) (σ : Env) :
    SatS I D agg (renItems ops true τ items) (renEnv τ ρ) σ ↔ ∃ ρ', σ = renEnv τ ρ' ∧ Keys S ρ' ∧ SatS I D agg items ρ ρ' := by
  have h := (sat_renOn (D := D) (agg := agg) hR hτ).2.1 items hv hok ρ _ ⟨rfl, hk⟩
  constructor
  · intro hs
    obtain ⟨ρ', hs', e, hk'⟩ := h.2 σ hs
    exact ⟨ρ', e, hk', hs'⟩
  · rintro ⟨ρ', rfl, _, hs⟩
    obtain ⟨_, hs', rfl, _⟩ := h.1 ρ' hs
    exact hs'

theorem headFact_ren_fix (hL : OpsLaws ops) (hR : RenLaw I ops varsB varsG) (hτ : InjOn τ S) {ρ : Env} (hk : Keys S ρ)
    (hc : HeadClause E) (hv : ∀ e ∈ hc.args, ∀ v ∈ ops.varsE e, S v ∧ τ v = v) :
    headFact I hc (renEnv τ ρ) = headFact I hc ρ := by
  simp only [headFact, Fact.mk.injEq, true_and]
  apply List.map_congr_left
  intro e he
  have h1 : renE ops τ e = e := by
    rw [renE_congr hL (τ' := id) (fun v hv' => (hv e he v hv').2), renE_id hL]
  have h2 := hR.expr_on hτ hk (e := e) (fun v hv' => (hv e he v hv').1)
  rw [h1] at h2
  exact h2

theorem consS_rename (hL : OpsLaws ops) (hR : RenLaw I ops varsB varsG) (hτ : InjOn τ S)
    (heads : List (SHead E (MInv E)))
    (hheads : ∀ hc, SHead.clause hc ∈ heads → ∀ e ∈ hc.args, ∀ v ∈ ops.varsE e, S v ∧ τ v = v)
    (items : SItems E B G P A (MInv E)) (hv : ∀ v ∈ varsItems ops varsB varsG items, S v) (hok : aggOkItems items)
    (agg : RelId → List Tuple) (D : DB) (f : Fact) :
    ConsS I { heads := heads, body := renItems ops true τ items } agg D f ↔ ConsS I { heads := heads, body := items } agg D f := by
  have h := (sat_renOn (D := D) (agg := agg) hR hτ).2.1 items hv hok [] [] ⟨rfl, Keys.nil S⟩
  constructor
  · rintro ⟨σ, hs, hc, hmem, rfl⟩
    obtain ⟨ρ, hs0, rfl, hk⟩ := h.2 σ hs
    exact ⟨ρ, hs0, hc, hmem, headFact_ren_fix hL hR hτ hk hc (hheads hc hmem)⟩
  · rintro ⟨ρ, hs, hc, hmem, rfl⟩
    obtain ⟨_, hs', rfl, hk⟩ := h.1 ρ hs
    exact ⟨_, hs', hc, hmem, (headFact_ren_fix hL hR hτ hk hc (hheads hc hmem)).symm⟩

theorem consS_rename_injective (hL : OpsLaws ops) (hR : RenLaw I ops varsB varsG) (hτ : Function.Injective τ)
    (heads : List (SHead E (MInv E)))
    (hheads : ∀ hc, SHead.clause hc ∈ heads → ∀ e ∈ hc.args, ∀ v ∈ ops.varsE e, τ v = v)
    (items : SItems E B G P A (MInv E)) (hok : aggOkItems items) (agg : RelId → List Tuple) (D : DB) (f : Fact) :
    ConsS I { heads := heads, body := renItems ops true τ items } agg D f ↔ ConsS I { heads := heads, body := items } agg D f :=
  consS_rename (varsB := varsB) (varsG := varsG) (S := fun _ => True) hL hR (InjOn.of_injective hτ _) heads
    (fun hc hm e he v hv => ⟨trivial, hheads hc hm e he v hv⟩) items (fun _ _ => trivial) hok agg D f

end

/-- the renaming law is satisfiable: it holds for the concrete interpretation of the executable ties -/
theorem stdOps_renLaw (kinds : RelId → Std.LatKind) : RenLaw (Std.interp kinds) Std.stdOps Std.varsBx Std.varsGx :=
  RenLaw.of_subst (stdOps_substLaw kinds)

end Sem

theorem HygTau.injOn {n n' gs gs' : Nat} {vs : List Var} {τ : Var → Var} (h : HygTau n n' gs gs' vs τ)
    (hvs : ∀ v ∈ vs, QV n v ∨ TagIn n n' v) : Sem.InjOn τ (fun v => QV n v ∨ v ∈ vs) := by
  have cl : ∀ v, QV n v ∨ v ∈ vs → QV n v ∨ (v ∈ vs ∧ ∃ k, τ v = gsMac k) := fun v hv =>
    hv.elim .inl fun hm => (hvs v hm).imp (fun hq => hq) fun ht => ⟨hm, (h.fresh v hm ht).imp fun _ hk => hk.2.2⟩
  intro v w hv hw e
  rcases cl v hv with hq | ⟨hm, k, hk⟩ <;> rcases cl w hw with hq' | ⟨hm', k', hk'⟩
  · rwa [h.fix v hq, h.fix w hq'] at e
  · rw [h.fix v hq, hk'] at e; exact (hq.ne_gsMac e).elim
  · rw [h.fix w hq', hk] at e; exact (hq'.ne_gsMac e.symm).elim
  · exact h.inj v hm w hm' e

/-- from any start state (nested, or after earlier invocations): the names of the invocations numbered below `st.inv` count as
call-site names -/
theorem expand_hygienic_sem_from (I : Interp E B G P A) (ops : Ops E B G A) {varsB : B → List Var} {varsG : G → List Var}
    (hL : OpsLaws ops) (hVL : VarsLaws ops varsB varsG) (hR : Sem.RenLaw I ops varsB varsG)
    (defs : Defs E B G P A) (hH : HygienicDefs ops varsB varsG defs)
    (hpar : ∀ d ∈ defs, paramBase + d.params.length ≤ reservedBase)
    (heads : List (SHead E (MInv E))) (st : ExpSt)
    (hheads : ∀ hc, SHead.clause hc ∈ heads → ∀ e ∈ hc.args, ∀ v ∈ ops.varsE e, QV st.inv v)
    (items : SItems E B G P A (MInv E)) (hsite : ∀ v ∈ varsItems ops varsB varsG items, QV st.inv v) (hagg : aggOkItems items)
    (d : Nat) (out ideal : SItems E B G P A (MInv E)) (st' : ExpSt) (n' : Nat)
    (h1 : expandBody ops defs false d st items = .ok (out, st')) (h2 : idealBody ops defs d st.inv items = .ok (ideal, n'))
    (agg : RelId → List Tuple) (D : DB) (f : Fact) :
    ConsS I { heads := heads, body := out } agg D f ↔ ConsS I { heads := heads, body := ideal } agg D f := by
  have h' := hyg_body hL hVL hH hpar d st items hsite hagg
  rw [h1, h2] at h'
  simp only [HygRel] at h'
  obtain ⟨_, _, τ, hτ, rfl⟩ := h'
  have hsp := (ideal_spec hVL hH).2.1 d items st.inv ideal n' h2
  exact Sem.consS_rename hL hR (hτ.injOn (hsp.vars (QV st.inv) (binderOK_QV hH hpar st.inv) hsite)) heads
    (fun hc hm e he v hv => ⟨.inl (hheads hc hm e he v hv), hτ.fix v (hheads hc hm e he v hv)⟩)
    ideal (fun v hv => .inr hv) (hsp.aggOk hagg) agg D f

/-- **C08 (semantics)**: the rule whose body is the IMPLEMENTED macro expansion and the rule whose body is the IDEAL expansion have
the same documented one-step consequences, for every database, every aggregated-relation oracle and every interpretation that
satisfies the renaming law.  The head clauses mention user-written names only (below `reservedBase`; head macro invocations
contribute nothing to `ConsS` and are not restricted). -/
theorem expand_hygienic_sem (I : Interp E B G P A) (ops : Ops E B G A) {varsB : B → List Var} {varsG : G → List Var}
    (hL : OpsLaws ops) (hVL : VarsLaws ops varsB varsG) (hR : Sem.RenLaw I ops varsB varsG)
    (defs : Defs E B G P A) (hH : HygienicDefs ops varsB varsG defs)
    (hpar : ∀ d ∈ defs, paramBase + d.params.length ≤ reservedBase)
    (heads : List (SHead E (MInv E)))
    (hheads : ∀ hc, SHead.clause hc ∈ heads → ∀ e ∈ hc.args, ∀ v ∈ ops.varsE e, v < reservedBase)
    (items : SItems E B G P A (MInv E)) (hsite : ∀ v ∈ varsItems ops varsB varsG items, v < paramBase) (hagg : aggOkItems items)
    (d : Nat) (out ideal : SItems E B G P A (MInv E)) (st' : ExpSt) (n' : Nat)
    (h1 : expandBody ops defs false d {} items = .ok (out, st')) (h2 : idealBody ops defs d 0 items = .ok (ideal, n'))
    (agg : RelId → List Tuple) (D : DB) (f : Fact) :
    ConsS I { heads := heads, body := out } agg D f ↔ ConsS I { heads := heads, body := ideal } agg D f :=
  expand_hygienic_sem_from I ops hL hVL hR defs hH hpar heads {} (fun hc hm e he v hv => .inl (hheads hc hm e he v hv)) items
    (fun v hv => .inl (Nat.lt_trans (hsite v hv) paramBase_lt_reservedBase)) hagg d out ideal st' n' h1 h2 agg D f

/-- for the expression language of the executable ties the hypotheses about `ops` and `I` are discharged -/
theorem expand_hygienic_sem_std (kinds : RelId → Std.LatKind)
    (defs : Defs Std.Ex Std.Bx Std.Gx Std.Px Std.Ax) (hH : HygienicDefs Std.stdOps Std.varsBx Std.varsGx defs)
    (hpar : ∀ d ∈ defs, paramBase + d.params.length ≤ reservedBase)
    (heads : List (SHead Std.Ex (MInv Std.Ex)))
    (hheads : ∀ hc, SHead.clause hc ∈ heads → ∀ e ∈ hc.args, ∀ v ∈ Std.varsEx e, v < reservedBase)
    (items : SItems Std.Ex Std.Bx Std.Gx Std.Px Std.Ax (MInv Std.Ex))
    (hsite : ∀ v ∈ varsItems Std.stdOps Std.varsBx Std.varsGx items, v < paramBase) (hagg : aggOkItems items)
    (d : Nat) (out ideal : SItems Std.Ex Std.Bx Std.Gx Std.Px Std.Ax (MInv Std.Ex)) (st' : ExpSt) (n' : Nat)
    (h1 : expandBody Std.stdOps defs false d {} items = .ok (out, st')) (h2 : idealBody Std.stdOps defs d 0 items = .ok (ideal, n'))
    (agg : RelId → List Tuple) (D : DB) (f : Fact) :
    ConsS (Std.interp kinds) { heads := heads, body := out } agg D f ↔
      ConsS (Std.interp kinds) { heads := heads, body := ideal } agg D f :=
  expand_hygienic_sem (Std.interp kinds) Std.stdOps stdOps_opsLaws stdOps_varsLaws (Sem.stdOps_renLaw kinds) defs hH hpar heads hheads
    items hsite hagg d out ideal st' n' h1 h2 agg D f

/-! ## the hypotheses are satisfiable: a macro with a local variable that the call site also uses -/
namespace SemExample
open AscentVerif.Std

/-- `macro m0($p0: ident) { r0(v0, $p0), if v0 < 5 }` -/
def defs : Defs Ex Bx Gx Px Ax :=
  [{ params := [.ident], body := .cons (.flat (.clause 0 [.var 0, .var paramBase] []))
      (.cons (.flat (.cond (.ifc (.lt (.var 0) (.const (.int 5)))))) .nil), heads := [] }]

/-- `r2(v0, v1) <-- r1(v0), m0!(v1)`: the call site has its own `v0` -/
def site : SItems Ex Bx Gx Px Ax (MInv Ex) := .cons (.flat (.clause 1 [.var 0] [])) (.cons (.mac ⟨0, [.ident 1]⟩) .nil)
def heads : List (SHead Ex (MInv Ex)) := [.clause ⟨2, [.var 0, .var 1]⟩]

/-- implemented: the macro's `v0` became `__v0_` (`gsMac 0`) -/
def out : SItems Ex Bx Gx Px Ax (MInv Ex) :=
  .cons (.flat (.clause 1 [.var 0] [])) (.cons (.flat (.clause 0 [.var (gsMac 0), .var 1] []))
    (.cons (.flat (.cond (.ifc (.lt (.var (gsMac 0)) (.const (.int 5)))))) .nil))
/-- ideal: the macro's `v0` is `tagVar 0 0` -/
def ideal : SItems Ex Bx Gx Px Ax (MInv Ex) :=
  .cons (.flat (.clause 1 [.var 0] [])) (.cons (.flat (.clause 0 [.var (tagVar 0 0), .var 1] []))
    (.cons (.flat (.cond (.ifc (.lt (.var (tagVar 0 0)) (.const (.int 5)))))) .nil))

theorem expand_out : expandBody stdOps defs false macroDepth {} site = .ok (out, { inv := 1, gs := 1 }) := by rfl
theorem expand_ideal : idealBody stdOps defs macroDepth 0 site = .ok (ideal, 1) := by rfl

theorem heads_site_hyps : (∀ hc, SHead.clause hc ∈ heads → ∀ e ∈ hc.args, ∀ v ∈ varsEx e, v < reservedBase) ∧
    (∀ v ∈ varsItems stdOps varsBx varsGx site, v < paramBase) ∧ aggOkItems site := by
  refine ⟨?_, by decide, trivial, trivial, trivial⟩
  intro hc hm e he v hv
  simp only [heads, List.mem_singleton, SHead.clause.injEq] at hm
  subst hm
  simp only [List.mem_cons, List.not_mem_nil, or_false] at he
  rcases he with rfl | rfl <;> simp only [varsEx, List.mem_singleton] at hv <;> subst hv <;> decide

theorem defs_hyps : HygienicDefs stdOps varsBx varsGx defs ∧ ∀ d ∈ defs, paramBase + d.params.length ≤ reservedBase := by
  unfold HygienicDefs
  exact ⟨by decide, by decide⟩

theorem same_consequences (kinds : RelId → LatKind) (agg : RelId → List Tuple) (D : DB) (f : Fact) :
    ConsS (interp kinds) { heads := heads, body := out } agg D f ↔ ConsS (interp kinds) { heads := heads, body := ideal } agg D f :=
  expand_hygienic_sem_std kinds defs defs_hyps.1 defs_hyps.2 heads heads_site_hyps.1 site heads_site_hyps.2.1 heads_site_hyps.2.2
    macroDepth out ideal _ _ expand_out expand_ideal agg D f

end SemExample

/-! ## the program of finding F25 (a condition ATTACHED to the clause of a macro body; fixed by 3a6dc9a) is an instance as well -/
namespace SemExampleAttached
open AscentVerif.Std
open SemExample (site heads_site_hyps)

/-- `macro m0($p0: ident) { r0(v0, $p0) if 0 < v0 }` (the witness of finding F25: `foo(t, $y) if *t > 0`) -/
def defs : Defs Ex Bx Gx Px Ax :=
  [{ params := [.ident], body := .cons (.flat (.clause 0 [.var 0, .var paramBase] [.ifc (.lt (.const (.int 0)) (.var 0))])) .nil, heads := [] }]

-- the call site is `SemExample.site`: `r2(v0, v1) <-- r1(v0), m0!(v1)`, with its own `v0`
def heads : List (SHead Ex (MInv Ex)) := [.clause ⟨2, [.var 0, .var 1]⟩]

/-- implemented: the macro's `v0` became `__v0_` (`gsMac 0`) in the clause AND in the attached condition -/
def out : SItems Ex Bx Gx Px Ax (MInv Ex) :=
  .cons (.flat (.clause 1 [.var 0] []))
    (.cons (.flat (.clause 0 [.var (gsMac 0), .var 1] [.ifc (.lt (.const (.int 0)) (.var (gsMac 0)))])) .nil)
/-- ideal: the macro's `v0` is `tagVar 0 0` -/
def ideal : SItems Ex Bx Gx Px Ax (MInv Ex) :=
  .cons (.flat (.clause 1 [.var 0] []))
    (.cons (.flat (.clause 0 [.var (tagVar 0 0), .var 1] [.ifc (.lt (.const (.int 0)) (.var (tagVar 0 0)))])) .nil)

theorem expand_out : expandBody stdOps defs false macroDepth {} site = .ok (out, { inv := 1, gs := 1 }) := by rfl
theorem expand_ideal : idealBody stdOps defs macroDepth 0 site = .ok (ideal, 1) := by rfl

theorem defs_hyps : HygienicDefs stdOps varsBx varsGx defs ∧ ∀ d ∈ defs, paramBase + d.params.length ≤ reservedBase := by
  unfold HygienicDefs
  exact ⟨by decide, by decide⟩

theorem same_consequences (kinds : RelId → LatKind) (agg : RelId → List Tuple) (D : DB) (f : Fact) :
    ConsS (interp kinds) { heads := heads, body := out } agg D f ↔ ConsS (interp kinds) { heads := heads, body := ideal } agg D f :=
  expand_hygienic_sem_std kinds defs defs_hyps.1 defs_hyps.2 heads heads_site_hyps.1 site heads_site_hyps.2.1 heads_site_hyps.2.2
    macroDepth out ideal _ _ expand_out expand_ideal agg D f

end SemExampleAttached

end AscentVerif.Surface

section axioms_check
open AscentVerif.Surface
#print axioms Sem.satS_rename
#print axioms Sem.consS_rename
#print axioms Sem.consS_rename_injective
#print axioms Sem.RenLaw.of_subst
#print axioms Sem.stdOps_renLaw
#print axioms expand_hygienic_sem
#print axioms expand_hygienic_sem_std
#print axioms SemExample.same_consequences
#print axioms SemExampleAttached.same_consequences
end axioms_check
