import AscentVerif.Model.EnginePhysLat
import AscentVerif.Props.C03ND
import AscentVerif.Props.C01PhysPlan
import AscentVerif.Proofs.PhysLatFrom
/-!
# C03 at the level of the physical indices: lattice relations over key index and set-valued indices

`Model/EnginePhysLat.lean` models the generated code of a serial, aggregation-free program with `lattice` relations over its
physical indices: per lattice the row vector (last column joined in place), the key index (key columns → row number) and
set-valued indices of row numbers, three versions of each inside an SCC; the lattice head update (look the key up in `new`,
`delta`, `total`; `join_mut` in place; re-insert the row number into every `new` index iff the value changed; else push);
plain relations as in `Model/EnginePhys.lean`.

`runPhysLat_spec`: if the run returns, every lattice relation has one row per key, the result is closed under the rules over
the FINAL values, below every closed key-unique database for monotone programs (the least fixed point), and plain relations are
sets with the inputs first.  Proof: forward simulation onto the nondeterministic lattice engine (`Proofs/NDLattice.lean`).
Hypotheses: `LatticeProg`, `InputOK` (as `Props/C03.lean`), desugared and well-scoped rules, `latPlanOk` (usable plan; no index of
a lattice contains the value column — finding F9 is exactly what lies outside).
-/
namespace AscentVerif.PhysLat
open AscentVerif AscentVerif.Engine AscentVerif.Index AscentVerif.Phys

variable {E B G P A : Type}

/-- **C03: the generated code with lattices, over its physical indices, reaches the least fixed point** -/
theorem runPhysLat_spec (I : Interp E B G P A) (L : LatOrder I) (hI : Plan.Ext I) (V : Hir.VarsOf E B) (hS : Plan.Supp I V)
    (p : Program E B G P A) (ix : IxSets) (order : SccOrder) (inp : RelId → List Tuple) (fuel : Nat) (out : ProgSt)
    (hp : LatticeProg p) (ho : validOrder p order = true) (hi : InputOK p inp)
    (hplan : latPlanOk V p ix = true)
    (hd : ∀ r ∈ p.rules, Hir.Desugared V r = true ∧ Plan.WellScoped V r = true)
    (hrun : run I V p ix order fuel (initSt p inp) = some out) :
    (∀ r, r < p.rels.length → (declOf p r).lat = true → ((xrel out.st r).rows.map keyOf).Nodup) ∧
    LClosed I L p (inputDB p inp) (factsOf out.st) ∧
    (MonotoneProg I L p → ∀ M : DB, KeyUnique p M → LClosed I L p (inputDB p inp) M → DBLe I L p (factsOf out.st) M) ∧
    (∀ r, r < p.rels.length → (declOf p r).lat = false → ∃ derived : List Tuple,
      (xrel out.st r).rows = inp r ++ derived ∧ derived.Nodup ∧ ∀ t ∈ derived, t ∉ inp r) := by
  have hw := WFXLat_initSt hi
  have hP := progFitL_of_latPlanOk hI hS hp hplan hd
  obtain ⟨st', hnd, hsim⟩ := run_simL L hw hP hrun
  obtain ⟨hleg, hcl, hleast, hset⟩ := legal_of_exec L hw hP ho (fun r hr => by rw [xrel_initSt_rows, if_pos hr]) hnd hsim
  exact ⟨hleg.keys, hcl, hleast, hset⟩

/-! ## non-vacuity: longest weighted paths in a DAG over a `max` lattice

`edge(x, y, w)` is a plain relation, `dist(x, d)` a lattice (key `x`, value `d` joined by the `i64` max-join of the ties,
`Std.LatKind.maxInt`); `dist(y, d + w) <-- dist(x, d), edge(x, y, w)`.  The interpretation is that of `Props/C01Plan.lean`
(integer terms) with the max-join.  The rule is compiled to a simple join on `x`: `dist` is iterated through its key index
`[0]` (`iter_all` over key → row number), `edge` is looked up in its index `[0]`.  Every hypothesis of `runPhysLat_spec` holds,
and the physical engine returns `dist = {1 ↦ 0, 2 ↦ 3, 3 ↦ 7}` (the row of node 3 is first derived with value 5 along the edge
`1 → 3` and joined in place to 7). -/

def exL : Interp Plan.Ex Plan.Bx Plan.Ex Unit Unit :=
  { Plan.exI with joinMut := (Std.interp fun _ => .maxInt).joinMut }

theorem exL_ext : Plan.Ext exL := ⟨Plan.exI_ext.expr, Plan.exI_ext.test, Plan.exI_ext.gen⟩
theorem exL_supp : Plan.Supp exL Plan.exV := ⟨Plan.exI_supp.expr, Plan.exI_supp.test⟩

theorem exL_latOrder : ∃ L : LatOrder exL, L.le = stdLe fun _ => .maxInt := by
  obtain ⟨L, hL⟩ := std_latOrder_maxmin (fun _ => .maxInt) (fun _ => .inl rfl)
  exact ⟨{ le := L.le, refl := L.refl, trans := L.trans, join_left := L.join_left, join_right := L.join_right,
           join_least := L.join_least, flag_false := L.flag_false }, hL⟩

def pDist : Program Plan.Ex Plan.Bx Plan.Ex Unit Unit :=
  { rels := [⟨3, false⟩, ⟨2, true⟩]
    rules := [{ heads := [⟨1, [.var 1, .add (.var 2) (.var 3)]⟩],
                body := [.clause 1 [.var 0, .var 2] [], .clause 0 [.var 0, .var 1, .var 3] []] }] }

def inpDist : RelId → List Tuple := fun r =>
  if r = 0 then [[.int 1, .int 2, .int 3], [.int 2, .int 3, .int 4], [.int 1, .int 3, .int 5]]
  else if r = 1 then [[.int 1, .int 0]] else []

theorem inpDist_ok : InputOK pDist inpDist := by
  refine ⟨?_, ?_⟩
  · intro r hr t ht
    match r, hr, ht with
    | 0, _, ht =>
      have : t ∈ [[Val.int 1, .int 2, .int 3], [.int 2, .int 3, .int 4], [.int 1, .int 3, .int 5]] := ht
      simp only [List.mem_cons, List.not_mem_nil, or_false] at this
      rcases this with rfl | rfl | rfl <;> rfl
    | 1, _, ht =>
      have : t ∈ [[Val.int 1, .int 0]] := ht
      simp only [List.mem_singleton] at this
      subst this; rfl
  · intro r hr hl
    match r, hr, hl with
    | 1, _, _ => decide

theorem dist_hyps :
    LatticeProg pDist ∧ validOrder pDist [[0]] = true ∧ latPlanOk Plan.exV pDist (ixSetsOf Plan.exV pDist) = true ∧
    (∀ r ∈ pDist.rules, Hir.Desugared Plan.exV r = true ∧ Plan.WellScoped Plan.exV r = true) ∧
    ixOf pDist (ixSetsOf Plan.exV pDist) 1 = [[0]] ∧ ixOf pDist (ixSetsOf Plan.exV pDist) 0 = [[0]] ∧
    (Hir.compileRule Plan.exV (pDist.rules.getD 0 ⟨[], []⟩)).simpleJoinStart = some 0 ∧
    (run exL Plan.exV pDist (ixSetsOf Plan.exV pDist) [[0]] 10 (initSt pDist inpDist)).map
        (fun o => (o.st.map (·.rows), o.iters)) =
      some ([[[.int 1, .int 2, .int 3], [.int 2, .int 3, .int 4], [.int 1, .int 3, .int 5]],
             [[.int 1, .int 0], [.int 2, .int 3], [.int 3, .int 7]]], [3]) :=
  ⟨⟨by decide +kernel, by decide +kernel, by decide +kernel, by decide +kernel⟩, by decide +kernel, by decide +kernel,
    by decide +kernel, by decide +kernel, by decide +kernel, by decide +kernel, by decide +kernel⟩

/-- the theorem applies to the example: whatever the run returns has one row per key and is closed -/
example (L : LatOrder exL) (out : ProgSt)
    (h : run exL Plan.exV pDist (ixSetsOf Plan.exV pDist) [[0]] 10 (initSt pDist inpDist) = some out) :
    ((xrel out.st 1).rows.map keyOf).Nodup ∧ LClosed exL L pDist (inputDB pDist inpDist) (factsOf out.st) :=
  have hs := runPhysLat_spec exL L exL_ext Plan.exV exL_supp pDist _ [[0]] inpDist 10 out dist_hyps.1 dist_hyps.2.1
    inpDist_ok dist_hyps.2.2.1 dist_hyps.2.2.2.1 h
  ⟨hs.1 1 (by decide) rfl, hs.2.1⟩

#print axioms runPhysLat_spec
#print axioms dist_hyps

end AscentVerif.PhysLat
