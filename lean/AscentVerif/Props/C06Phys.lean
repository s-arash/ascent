import AscentVerif.Props.C06
import AscentVerif.Props.C05Phys
/-!
# C06 at the level of the physical indices: the result does not depend on the order of rules, head clauses and input rows

`Props/C06.lean` proves the invariance of the least model (`Derivable`) under reordering and consistent renaming.  This file
transfers it to the models of the GENERATED code over its hash indices — serial `ascent!` (`Phys.run`) and `ascent_par!`
(`PhysPar.run`) — through their least-model theorems (`runPhys_facts`, `runPhysPar_facts`).  The two runs compared use their OWN
compiled plans and index sets (`ixSetsOf V p`, `ixSetsOf V p'`: permuting rules permutes the index sets the compiler allocates),
valid SCC orders and fuels, in the parallel case schedules and pool sizes, and start from any program values `run()` may be
called on (`WFPSt`: typed rows, the stored indices hold anything; `WFPCSt`: and every stored index unfrozen, which no proof
here uses).

For a permutation of the rule list (`…_perm_invariant`) the hypothesis bundle (`Ctx` / `CtxPar`) is assumed for `p` only and
DERIVED for `p'` (`Ctx.perm`, `CtxPar.perm`), except for the validity of the SCC order of `p'` (rule indices change under the
permutation); so is the well-formedness of `s'`.  Where also head clauses are permuted (`RulesEquiv`, `…_perm_heads_invariant`)
or relations renamed by a bijection of the declared identifiers (`…_rename_rels`), the bundle is assumed for both programs.
NOT claimed: anything about programs with aggregation, negation or lattices (`Ctx` / `CtxPar` are the relational fragment);
renamed variables, swapped body items and mapped constants stay at the abstract engine resp. the least model (`Props/C06.lean`).
-/
namespace AscentVerif.Phys
open AscentVerif AscentVerif.Engine AscentVerif.Index

variable {E B G P A : Type}

def HeadPerm (r r' : Rule E B G P A) : Prop := r.body = r'.body ∧ r.heads.Perm r'.heads

theorem HeadPerm.refl (r : Rule E B G P A) : HeadPerm r r := ⟨rfl, List.Perm.refl _⟩
theorem HeadPerm.symm {r r' : Rule E B G P A} (h : HeadPerm r r') : HeadPerm r' r := ⟨h.1.symm, h.2.symm⟩

/-- the same rules up to their order, repetitions, and the order of the head clauses inside them -/
def RulesEquiv (rs rs' : List (Rule E B G P A)) : Prop :=
  (∀ r ∈ rs, ∃ r' ∈ rs', HeadPerm r r') ∧ (∀ r' ∈ rs', ∃ r ∈ rs, HeadPerm r r')

theorem RulesEquiv.symm {rs rs' : List (Rule E B G P A)} (h : RulesEquiv rs rs') : RulesEquiv rs' rs :=
  ⟨fun r' hr' => (h.2 r' hr').imp fun _ hr => ⟨hr.1, hr.2.symm⟩, fun r hr => (h.1 r hr).imp fun _ hr' => ⟨hr'.1, hr'.2.symm⟩⟩

theorem RulesEquiv.of_perm {rs rs' : List (Rule E B G P A)} (h : rs.Perm rs') : RulesEquiv rs rs' :=
  ⟨fun r hr => ⟨r, h.mem_iff.mp hr, HeadPerm.refl r⟩, fun r hr => ⟨r, h.mem_iff.mpr hr, HeadPerm.refl r⟩⟩

/-- permuting head clauses inside rules (the hypothesis of `derivable_perm_heads`) -/
theorem RulesEquiv.of_heads {rs rs' : List (Rule E B G P A)} (hlen : rs.length = rs'.length)
    (h : ∀ i (hi : i < rs.length) (hi' : i < rs'.length), rs[i].body = rs'[i].body ∧ rs[i].heads.Perm rs'[i].heads) :
    RulesEquiv rs rs' := by
  refine ⟨fun r hr => ?_, fun r' hr' => ?_⟩
  · obtain ⟨i, hi, rfl⟩ := List.getElem_of_mem hr
    exact ⟨rs'[i]'(hlen ▸ hi), List.getElem_mem _, h i hi (hlen ▸ hi)⟩
  · obtain ⟨i, hi', rfl⟩ := List.getElem_of_mem hr'
    exact ⟨rs[i]'(hlen ▸ hi'), List.getElem_mem _, h i (hlen ▸ hi') hi'⟩

theorem RulesEquiv.trans {rs₁ rs₂ rs₃ : List (Rule E B G P A)} (h : RulesEquiv rs₁ rs₂) (h' : RulesEquiv rs₂ rs₃) :
    RulesEquiv rs₁ rs₃ := by
  refine ⟨fun r hr => ?_, fun r hr => ?_⟩
  · obtain ⟨r₂, hr₂, hb, hp⟩ := h.1 r hr
    obtain ⟨r₃, hr₃, hb', hp'⟩ := h'.1 r₂ hr₂
    exact ⟨r₃, hr₃, hb.trans hb', hp.trans hp'⟩
  · obtain ⟨r₂, hr₂, hb', hp'⟩ := h'.2 r hr
    obtain ⟨r₁, hr₁, hb, hp⟩ := h.2 r₂ hr₂
    exact ⟨r₁, hr₁, hb.trans hb', hp.trans hp'⟩

/-- the least model does not depend on the order (and repetition) of the rules and of the head clauses inside them:
`derivable_perm_rules` and `derivable_perm_heads` in one statement -/
theorem derivable_rulesEquiv (I : Interp E B G P A) (rs rs' : List (Rule E B G P A)) (agg : RelId → List Tuple) (inp : DB)
    (h : RulesEquiv rs rs') : ∀ f, Derivable I rs agg inp f ↔ Derivable I rs' agg inp f :=
  fun f => ⟨derivable_of_cons_imp (cons_of_rules_le h.1) f, derivable_of_cons_imp (cons_of_rules_le h.symm.1) f⟩

theorem arityOk_perm {p p' : Program E B G P A} (hrels : p'.rels = p.rels) (hrules : p'.rules.Perm p.rules)
    (ha : arityOk p = true) : arityOk p' = true := by
  obtain ⟨rels, rules⟩ := p
  obtain ⟨rels', rules'⟩ := p'
  simp only at hrels hrules
  subst hrels
  unfold arityOk at ha ⊢
  rw [List.all_eq_true] at ha ⊢
  intro r hr
  exact ha r (hrules.mem_iff.mp hr)

/-- **`Ctx` is derived for the permuted program**; only the validity of ITS SCC order is a separate hypothesis -/
theorem Ctx.perm {I : Interp E B G P A} {V : Hir.VarsOf E B} {p p' : Program E B G P A} {order order' : SccOrder}
    (c : Ctx I V p order) (hrels : p'.rels = p.rels) (hrules : p'.rules.Perm p.rules)
    (ho' : validOrder p' order' = true) : Ctx I V p' order' :=
  ⟨c.ext, c.supp, relational_perm hrels hrules c.rel, ho', arityOk_perm hrels hrules c.arity,
    fun r hr => c.rules r (hrules.mem_iff.mp hr)⟩

theorem arityOf_rels {p p' : Program E B G P A} (hrels : p'.rels = p.rels) (r : RelId) : arityOf p' r = arityOf p r := by
  unfold arityOf declOf
  rw [hrels]

theorem wfPSt_perm {p p' : Program E B G P A} (hrels : p'.rels = p.rels) {s s' : PSt} (hs : WFPSt p s)
    (hlen : s'.length = s.length) (hrows : ∀ r, (prel s' r).rows.Perm (prel s r).rows) : WFPSt p' s' :=
  ⟨by rw [hlen, hs.1, hrels], fun r t ht => by rw [arityOf_rels hrels]; exact hs.2 r t ((hrows r).mem_iff.mp ht)⟩

theorem stDB_perm {p p' : Program E B G P A} {s s' : PSt} (hs : WFPSt p s) (hs' : WFPSt p' s')
    (hrows : ∀ r, (prel s' r).rows.Perm (prel s r).rows) : ∀ g, stDB p' s' g ↔ stDB p s g := by
  intro g
  have hiff : factsOf s' g ↔ factsOf s g := (hrows g.rel).mem_iff
  exact ⟨fun h => ⟨facts_lt hs (hiff.mp h.2), hiff.mp h.2⟩, fun h => ⟨facts_lt hs' (hiff.mpr h.2), hiff.mpr h.2⟩⟩

theorem rows_mapRel {n n' : Nat} {rows rows' : RelId → List Tuple} {π : RelId → RelId}
    (hmap : ∀ r, r < n → π r < n') (hsurj : ∀ r', r' < n' → ∃ r, r < n ∧ π r = r')
    (hrows : ∀ r, r < n → (rows' (π r)).Perm (rows r)) (g : Fact) :
    (g.rel < n' ∧ g.args ∈ rows' g.rel) ↔ ∃ f', (f'.rel < n ∧ f'.args ∈ rows f'.rel) ∧ g = Fact.mapRel π f' := by
  obtain ⟨gr, ga⟩ := g
  constructor
  · rintro ⟨hr, hg⟩
    obtain ⟨r, hr0, rfl⟩ := hsurj gr hr
    exact ⟨⟨r, ga⟩, ⟨hr0, (hrows r hr0).mem_iff.mp hg⟩, rfl⟩
  · rintro ⟨f', ⟨hr, hf'⟩, he⟩
    cases he
    exact ⟨hmap f'.rel hr, (hrows f'.rel hr).mem_iff.mpr hf'⟩

theorem runPhys_facts (I : Interp E B G P A) (V : Hir.VarsOf E B) (p : Program E B G P A) (order : SccOrder)
    (c : Ctx I V p order) (s : PSt) (fuel : Nat) (o : ProgSt) (hs : WFPSt p s)
    (h : run I V p (ixSetsOf V p) order fuel s = some o) :
    ∀ f, factsOf o.st f ↔ Derivable I p.rules noAgg (stDB p s) f :=
  (runPhys_compiled_eq_leastModel I c.ext V c.supp p order s fuel o c.rel c.order c.arity c.rules hs h).2.1

/-- **generic transfer**: two programs of the fragment (possibly under different interpretations) whose least models over their
start values coincide compute the same facts over their physical indices -/
theorem runPhys_eq_of_derivable_iff (I I' : Interp E B G P A) (V V' : Hir.VarsOf E B) (p p' : Program E B G P A)
    (order order' : SccOrder) (c : Ctx I V p order) (c' : Ctx I' V' p' order')
    (s s' : PSt) (hs : WFPSt p s) (hs' : WFPSt p' s') (fuel fuel' : Nat) (o o' : ProgSt)
    (h : run I V p (ixSetsOf V p) order fuel s = some o)
    (h' : run I' V' p' (ixSetsOf V' p') order' fuel' s' = some o')
    (hd : ∀ f, Derivable I' p'.rules noAgg (stDB p' s') f ↔ Derivable I p.rules noAgg (stDB p s) f) :
    ∀ f, factsOf o'.st f ↔ factsOf o.st f := by
  intro f
  rw [runPhys_facts I V p order c s fuel o hs h f, runPhys_facts I' V' p' order' c' s' fuel' o' hs' h' f]
  exact hd f

/-- **rules and head clauses reordered, input rows shuffled**: the same facts (bundle assumed for both programs) -/
theorem runPhys_perm_heads_invariant (I : Interp E B G P A) (V : Hir.VarsOf E B) (p p' : Program E B G P A)
    (order order' : SccOrder) (c : Ctx I V p order) (c' : Ctx I V p' order')
    (hrules : RulesEquiv p'.rules p.rules)
    (s s' : PSt) (hs : WFPSt p s) (hs' : WFPSt p' s') (hrows : ∀ r, (prel s' r).rows.Perm (prel s r).rows)
    (fuel fuel' : Nat) (o o' : ProgSt)
    (h : run I V p (ixSetsOf V p) order fuel s = some o)
    (h' : run I V p' (ixSetsOf V p') order' fuel' s' = some o') :
    ∀ f, factsOf o'.st f ↔ factsOf o.st f := by
  refine runPhys_eq_of_derivable_iff I I V V p p' order order' c c' s s' hs hs' fuel fuel' o o' h h' fun f => ?_
  rw [derivable_rulesEquiv I p'.rules p.rules noAgg _ hrules f]
  exact derivable_congr_input (stDB_perm hs hs' hrows) f

/-- **the result does not depend on the order of the rules and of the input rows**: `p'` declares the relations of `p` and its
rules are a permutation of those of `p`; every row vector of `s'` is a permutation of the one of `s`; the runs use their own
compiled plans, valid SCC orders and fuels.  Then they compute the same facts. -/
theorem runPhys_perm_invariant (I : Interp E B G P A) (V : Hir.VarsOf E B) (p p' : Program E B G P A)
    (order order' : SccOrder) (c : Ctx I V p order)
    (hrels : p'.rels = p.rels) (hrules : p'.rules.Perm p.rules) (ho' : validOrder p' order' = true)
    (s s' : PSt) (hs : WFPSt p s) (hlen : s'.length = s.length) (hrows : ∀ r, (prel s' r).rows.Perm (prel s r).rows)
    (fuel fuel' : Nat) (o o' : ProgSt)
    (h : run I V p (ixSetsOf V p) order fuel s = some o)
    (h' : run I V p' (ixSetsOf V p') order' fuel' s' = some o') :
    ∀ f, factsOf o'.st f ↔ factsOf o.st f :=
  runPhys_perm_heads_invariant I V p p' order order' c (c.perm hrels hrules ho') (RulesEquiv.of_perm hrules) s s' hs
    (wfPSt_perm hrels hs hlen hrows) hrows fuel fuel' o o' h h'

/-- **consistent renaming of the relations**: `π` maps the declared identifiers of `p` one-to-one onto those of `p'`, the rules
of `p'` are the rules of `p` with every relation renamed, the rows of `π r` in `s'` are (a permutation of) the rows of `r` in `s`.
Then the facts of the renamed run are exactly the renamed facts. -/
theorem runPhys_rename_rels (I : Interp E B G P A) (V : Hir.VarsOf E B) (p p' : Program E B G P A)
    (order order' : SccOrder) (c : Ctx I V p order) (c' : Ctx I V p' order')
    (π : RelId → RelId) (hπ : Function.Injective π)
    (hrules : p'.rules = p.rules.map (Rule.mapRel π))
    (hmap : ∀ r, r < p.rels.length → π r < p'.rels.length)
    (hsurj : ∀ r', r' < p'.rels.length → ∃ r, r < p.rels.length ∧ π r = r')
    (s s' : PSt) (hs : WFPSt p s) (hs' : WFPSt p' s')
    (hrows : ∀ r, r < p.rels.length → (prel s' (π r)).rows.Perm (prel s r).rows)
    (fuel fuel' : Nat) (o o' : ProgSt)
    (h : run I V p (ixSetsOf V p) order fuel s = some o)
    (h' : run I V p' (ixSetsOf V p') order' fuel' s' = some o') :
    ∀ f, factsOf o'.st (Fact.mapRel π f) ↔ factsOf o.st f := by
  intro f
  rw [runPhys_facts I V p order c s fuel o hs h f, runPhys_facts I V p' order' c' s' fuel' o' hs' h' _,
    derivable_rename_rels I p.rules _ π hπ c.rel.1 f, hrules]
  exact derivable_congr_input (rows_mapRel (rows := fun r => (prel s r).rows) (rows' := fun r => (prel s' r).rows) hmap hsurj hrows) _

/-! Non-vacuity: transitive closure (`pTC`, `sTC`, `tc_ctx`) with the rules swapped and the `edge` rows reversed; a rule with two
head clauses in both orders; transitive closure with the two relations swapped. -/

theorem perm_initSt {p p' : Program E B G P A} {inp inp' : RelId → List Tuple} (hl : p'.rels.length = p.rels.length)
    (h : ∀ r, r < p.rels.length → (inp' r).Perm (inp r)) (r : RelId) :
    (prel (initSt p' inp') r).rows.Perm (prel (initSt p inp) r).rows := by
  rw [prel_initSt_rows, prel_initSt_rows, hl]
  split
  · next hr => exact h r hr
  · exact List.Perm.refl _

/-- the recursive rule first -/
def pTCrev : Program Plan.Ex Plan.Bx Plan.Ex Unit Unit := { rels := pTC.rels, rules := pTC.rules.reverse }

def sTCrev : PSt := initSt pTCrev fun r => if r = 0 then [[.int 2, .int 3], [.int 1, .int 2]] else []

theorem sTCrev_rows : ∀ r, (prel sTCrev r).rows.Perm (prel sTC r).rows :=
  perm_initSt rfl (by decide)

/-- every hypothesis of `runPhys_perm_invariant` holds: rule 1 of `pTCrev` (the base rule) is the first SCC -/
example (fuel fuel' : Nat) (o o' : ProgSt)
    (h : run Plan.exI Plan.exV pTC (ixSetsOf Plan.exV pTC) [[0], [1]] fuel sTC = some o)
    (h' : run Plan.exI Plan.exV pTCrev (ixSetsOf Plan.exV pTCrev) [[1], [0]] fuel' sTCrev = some o') :
    ∀ f, factsOf o'.st f ↔ factsOf o.st f :=
  runPhys_perm_invariant Plan.exI Plan.exV pTC pTCrev _ _ tc_ctx rfl (List.reverse_perm _) (by decide) sTC sTCrev wf_sTC
    (by decide) sTCrev_rows fuel fuel' o o' h h'

/-- both runs return; the row vectors differ in their order (and so do the compiled plans), the facts do not -/
theorem tcRev_runs :
    (run Plan.exI Plan.exV pTC (ixSetsOf Plan.exV pTC) [[0], [1]] 10 sTC).map (fun o => o.st.map (·.rows)) =
      some [[[.int 1, .int 2], [.int 2, .int 3]], [[.int 1, .int 2], [.int 2, .int 3], [.int 1, .int 3]]] ∧
    (run Plan.exI Plan.exV pTCrev (ixSetsOf Plan.exV pTCrev) [[1], [0]] 10 sTCrev).map (fun o => o.st.map (·.rows)) =
      some [[[.int 2, .int 3], [.int 1, .int 2]], [[.int 2, .int 3], [.int 1, .int 2], [.int 1, .int 3]]] :=
  ⟨rows_of_obs tc_hyps.2.2.2.2.2.2.2.2, by decide +kernel⟩

/-- a rule with two head clauses: `path(x, y), rev(y, x) <-- edge(x, y)` -/
def pHeads : Program Plan.Ex Plan.Bx Plan.Ex Unit Unit :=
  { rels := [⟨2, false⟩, ⟨2, false⟩, ⟨2, false⟩]
    rules := [{ heads := [⟨1, [.var 0, .var 1]⟩, ⟨2, [.var 1, .var 0]⟩], body := [.clause 0 [.var 0, .var 1] []] }] }

/-- … and with the head clauses in the other order: `rev(y, x), path(x, y) <-- edge(x, y)` -/
def pHeads' : Program Plan.Ex Plan.Bx Plan.Ex Unit Unit :=
  { rels := [⟨2, false⟩, ⟨2, false⟩, ⟨2, false⟩]
    rules := [{ heads := [⟨2, [.var 1, .var 0]⟩, ⟨1, [.var 0, .var 1]⟩], body := [.clause 0 [.var 0, .var 1] []] }] }

def sHeads : PSt := initSt pHeads fun r => if r = 0 then [[.int 1, .int 2], [.int 2, .int 3]] else []

/-- the two programs declare the same relations, so `sHeads` is a fresh value of either -/
theorem wf_sHeads : WFPSt pHeads sHeads ∧ WFPSt pHeads' sHeads :=
  ⟨wfPSt_initSt (by decide), wfPSt_initSt (p := pHeads') (by decide)⟩

theorem heads_ctx : Ctx Plan.exI Plan.exV pHeads [[0]] ∧ Ctx Plan.exI Plan.exV pHeads' [[0]] :=
  ⟨⟨Plan.exI_ext, Plan.exI_supp, ⟨by decide, by decide, by decide⟩, by decide, by decide, by decide⟩,
   ⟨Plan.exI_ext, Plan.exI_supp, ⟨by decide, by decide, by decide⟩, by decide, by decide, by decide⟩⟩

/-- every hypothesis of `runPhys_perm_heads_invariant` holds (the head clauses swapped: `RulesEquiv.of_heads`) -/
example (fuel fuel' : Nat) (o o' : ProgSt)
    (h : run Plan.exI Plan.exV pHeads (ixSetsOf Plan.exV pHeads) [[0]] fuel sHeads = some o)
    (h' : run Plan.exI Plan.exV pHeads' (ixSetsOf Plan.exV pHeads') [[0]] fuel' sHeads = some o') :
    ∀ f, factsOf o'.st f ↔ factsOf o.st f :=
  runPhys_perm_heads_invariant Plan.exI Plan.exV pHeads pHeads' _ _ heads_ctx.1 heads_ctx.2
    (RulesEquiv.of_heads rfl fun i hi _ => by
      have hi' : i < 1 := hi
      match i, hi' with
      | 0, _ => exact ⟨rfl, List.Perm.swap _ _ _⟩)
    sHeads sHeads wf_sHeads.1 wf_sHeads.2 (fun _ => List.Perm.refl _) fuel fuel' o o' h h'

/-- both runs return, with the same row vectors -/
theorem heads_runs :
    (run Plan.exI Plan.exV pHeads (ixSetsOf Plan.exV pHeads) [[0]] 10 sHeads).map (fun o => o.st.map (·.rows)) =
      some [[[.int 1, .int 2], [.int 2, .int 3]], [[.int 1, .int 2], [.int 2, .int 3]], [[.int 2, .int 1], [.int 3, .int 2]]] ∧
    (run Plan.exI Plan.exV pHeads' (ixSetsOf Plan.exV pHeads') [[0]] 10 sHeads).map (fun o => o.st.map (·.rows)) =
      some [[[.int 1, .int 2], [.int 2, .int 3]], [[.int 1, .int 2], [.int 2, .int 3]], [[.int 2, .int 1], [.int 3, .int 2]]] :=
  ⟨by decide +kernel, by decide +kernel⟩

/-- `path` is relation 0, `edge` relation 1 -/
def pTCswap : Program Plan.Ex Plan.Bx Plan.Ex Unit Unit :=
  { rels := [⟨2, false⟩, ⟨2, false⟩]
    rules := [{ heads := [⟨0, [.var 0, .var 1]⟩], body := [.clause 1 [.var 0, .var 1] []] },
              { heads := [⟨0, [.var 0, .var 2]⟩],
                body := [.clause 1 [.var 0, .var 1] [], .clause 0 [.var 1, .var 2] []] }] }

def sTCswap : PSt := initSt pTCswap fun r => if r = 1 then [[.int 1, .int 2], [.int 2, .int 3]] else []

def swap01 : Nat → Nat
  | 0 => 1
  | 1 => 0
  | r + 2 => r + 2

theorem swap01_injective : Function.Injective swap01 := by
  have inv : ∀ a, swap01 (swap01 a) = a := fun a => by
    match a with
    | 0 => rfl
    | 1 => rfl
    | a + 2 => rfl
  intro a b h
  rw [← inv a, h, inv b]

theorem wf_sTCswap : WFPSt pTCswap sTCswap :=
  wfPSt_initSt (by decide)

theorem tcSwap_ctx : Ctx Plan.exI Plan.exV pTCswap [[0], [1]] :=
  ⟨Plan.exI_ext, Plan.exI_supp, ⟨by decide, by decide, by decide⟩, by decide, by decide, by decide⟩

/-- every hypothesis of `runPhys_rename_rels` holds -/
example (fuel fuel' : Nat) (o o' : ProgSt)
    (h : run Plan.exI Plan.exV pTC (ixSetsOf Plan.exV pTC) [[0], [1]] fuel sTC = some o)
    (h' : run Plan.exI Plan.exV pTCswap (ixSetsOf Plan.exV pTCswap) [[0], [1]] fuel' sTCswap = some o') :
    ∀ f, factsOf o'.st (Fact.mapRel swap01 f) ↔ factsOf o.st f :=
  runPhys_rename_rels Plan.exI Plan.exV pTC pTCswap _ _ tc_ctx tcSwap_ctx swap01 swap01_injective rfl
    (by decide) (by decide) sTC sTCswap wf_sTC wf_sTCswap (by decide)
    fuel fuel' o o' h h'

#print axioms derivable_rulesEquiv
#print axioms Ctx.perm
#print axioms runPhys_eq_of_derivable_iff
#print axioms runPhys_perm_heads_invariant
#print axioms runPhys_perm_invariant
#print axioms runPhys_rename_rels
#print axioms tcRev_runs
#print axioms tcSwap_ctx
#print axioms heads_ctx
#print axioms heads_runs
#print axioms swap01_injective

end AscentVerif.Phys

namespace AscentVerif.PhysPar
open AscentVerif AscentVerif.Engine AscentVerif.Index AscentVerif.Phys

variable {E B G P A : Type}

theorem bodyDeclared_perm {p p' : Program E B G P A} (hrels : p'.rels = p.rels) (hrules : p'.rules.Perm p.rules)
    (hb : bodyDeclared p = true) : bodyDeclared p' = true := by
  unfold bodyDeclared at hb ⊢
  rw [List.all_eq_true] at hb ⊢
  intro r hr
  rw [hrels]
  exact hb r (hrules.mem_iff.mp hr)

/-- **`CtxPar` is derived for the permuted program**; only the validity of ITS SCC order is a separate hypothesis -/
theorem CtxPar.perm {I : Interp E B G P A} {V : Hir.VarsOf E B} {p p' : Program E B G P A} {order order' : SccOrder}
    (c : CtxPar I V p order) (hrels : p'.rels = p.rels) (hrules : p'.rules.Perm p.rules)
    (ho' : validOrder p' order' = true) : CtxPar I V p' order' :=
  ⟨c.ext, c.supp, relational_perm hrels hrules c.rel, ho', arityOk_perm hrels hrules c.arity,
    bodyDeclared_perm hrels hrules c.decl, fun r hr => c.rules r (hrules.mem_iff.mp hr)⟩

/-- the facts a returned run holds, for ANY state of the stored indices of the start value (`runPhysPar_eq_leastModel'`) -/
theorem runPhysPar_facts (I : Interp E B G P A) (V : Hir.VarsOf E B) (p : Program E B G P A) (order : SccOrder)
    (c : CtxPar I V p order) (σ : Sched E B G P A) (threads fuel : Nat) (s : PCSt) (o : ProgSt)
    (hlen : s.length = p.rels.length) (hty : ∀ r, ∀ t ∈ (pcrel s r).rows, t.length = arityOf p r)
    (h : run I V p (ixSetsOf V p) order σ threads fuel s = .ok (some o)) :
    ∀ f, factsOf o.st f ↔ Derivable I p.rules noAgg (stDB p s) f :=
  (spec_of_ok (runPhysPar_eq_leastModel' I c.ext V c.supp p order σ threads fuel s c.rel c.order c.arity c.decl c.rules hlen
    hty) h o rfl).2.1

theorem stDB_permPar {p p' : Program E B G P A} {s s' : PCSt} (hl : s.length = p.rels.length) (hl' : s'.length = p'.rels.length)
    (hrows : ∀ r, (pcrel s' r).rows.Perm (pcrel s r).rows) : ∀ g, stDB p' s' g ↔ stDB p s g := by
  intro g
  have hiff : factsOf s' g ↔ factsOf s g := (hrows g.rel).mem_iff
  exact ⟨fun h => ⟨facts_ltPar hl (hiff.mp h.2), hiff.mp h.2⟩, fun h => ⟨facts_ltPar hl' (hiff.mpr h.2), hiff.mpr h.2⟩⟩

/-- **generic transfer**: two programs of the fragment whose least models over their start values coincide compute the same
facts, whatever the schedules and pools, and whatever the stored indices of the start values hold -/
theorem runPhysPar_eq_of_derivable_iff (I I' : Interp E B G P A) (V V' : Hir.VarsOf E B) (p p' : Program E B G P A)
    (order order' : SccOrder) (c : CtxPar I V p order) (c' : CtxPar I' V' p' order')
    (σ σ' : Sched E B G P A) (threads threads' fuel fuel' : Nat) (s s' : PCSt)
    (hl : s.length = p.rels.length) (hty : ∀ r, ∀ t ∈ (pcrel s r).rows, t.length = arityOf p r)
    (hl' : s'.length = p'.rels.length) (hty' : ∀ r, ∀ t ∈ (pcrel s' r).rows, t.length = arityOf p' r) (o o' : ProgSt)
    (h : run I V p (ixSetsOf V p) order σ threads fuel s = .ok (some o))
    (h' : run I' V' p' (ixSetsOf V' p') order' σ' threads' fuel' s' = .ok (some o'))
    (hd : ∀ f, Derivable I' p'.rules noAgg (stDB p' s') f ↔ Derivable I p.rules noAgg (stDB p s) f) :
    ∀ f, factsOf o'.st f ↔ factsOf o.st f := by
  intro f
  rw [runPhysPar_facts I V p order c σ threads fuel s o hl hty h f,
    runPhysPar_facts I' V' p' order' c' σ' threads' fuel' s' o' hl' hty' h' f]
  exact hd f

/-- **rules and head clauses reordered, input rows shuffled, other schedule, other pool**: the same facts (bundle assumed for
both programs) -/
theorem runPhysPar_perm_heads_invariant (I : Interp E B G P A) (V : Hir.VarsOf E B) (p p' : Program E B G P A)
    (order order' : SccOrder) (c : CtxPar I V p order) (c' : CtxPar I V p' order')
    (hrules : RulesEquiv p'.rules p.rules)
    (σ σ' : Sched E B G P A) (threads threads' fuel fuel' : Nat)
    (s s' : PCSt) (hs : WFPCSt p s) (hs' : WFPCSt p' s') (hrows : ∀ r, (pcrel s' r).rows.Perm (pcrel s r).rows)
    (o o' : ProgSt)
    (h : run I V p (ixSetsOf V p) order σ threads fuel s = .ok (some o))
    (h' : run I V p' (ixSetsOf V p') order' σ' threads' fuel' s' = .ok (some o')) :
    ∀ f, factsOf o'.st f ↔ factsOf o.st f := by
  refine runPhysPar_eq_of_derivable_iff I I V V p p' order order' c c' σ σ' threads threads' fuel fuel' s s' hs.1 hs.2.1 hs'.1
    hs'.2.1 o o' h h' fun f => ?_
  rw [derivable_rulesEquiv I p'.rules p.rules noAgg _ hrules f]
  exact derivable_congr_input (stDB_permPar hs.1 hs'.1 hrows) f

/-- **the result of `ascent_par!` does not depend on the order of the rules and of the input rows, nor on schedule and pool**:
`p'` declares the relations of `p` and its rules are a permutation of those of `p`; every row vector of `s'` is a permutation of
the one of `s` (the stored indices of `s'` may hold anything); the runs use their own compiled plans, valid SCC orders, schedules,
pool sizes and fuels.  Then they compute the same facts. -/
theorem runPhysPar_perm_invariant (I : Interp E B G P A) (V : Hir.VarsOf E B) (p p' : Program E B G P A)
    (order order' : SccOrder) (c : CtxPar I V p order)
    (hrels : p'.rels = p.rels) (hrules : p'.rules.Perm p.rules) (ho' : validOrder p' order' = true)
    (σ σ' : Sched E B G P A) (threads threads' fuel fuel' : Nat)
    (s s' : PCSt) (hs : WFPCSt p s) (hlen : s'.length = s.length) (hrows : ∀ r, (pcrel s' r).rows.Perm (pcrel s r).rows)
    (o o' : ProgSt)
    (h : run I V p (ixSetsOf V p) order σ threads fuel s = .ok (some o))
    (h' : run I V p' (ixSetsOf V p') order' σ' threads' fuel' s' = .ok (some o')) :
    ∀ f, factsOf o'.st f ↔ factsOf o.st f := by
  have hl' : s'.length = p'.rels.length := by rw [hlen, hs.1, hrels]
  have hty' : ∀ r, ∀ t ∈ (pcrel s' r).rows, t.length = arityOf p' r :=
    fun r t ht => by rw [arityOf_rels hrels]; exact hs.2.1 r t ((hrows r).mem_iff.mp ht)
  refine runPhysPar_eq_of_derivable_iff I I V V p p' order order' c (c.perm hrels hrules ho') σ σ' threads threads' fuel fuel'
    s s' hs.1 hs.2.1 hl' hty' o o' h h' fun f => ?_
  rw [derivable_perm_rules I p'.rules p.rules noAgg _ hrules f]
  exact derivable_congr_input (stDB_permPar hs.1 hl' hrows) f

/-- **consistent renaming of the relations** (see `Phys.runPhys_rename_rels`), under any schedules, in any pools -/
theorem runPhysPar_rename_rels (I : Interp E B G P A) (V : Hir.VarsOf E B) (p p' : Program E B G P A)
    (order order' : SccOrder) (c : CtxPar I V p order) (c' : CtxPar I V p' order')
    (π : RelId → RelId) (hπ : Function.Injective π)
    (hrules : p'.rules = p.rules.map (Rule.mapRel π))
    (hmap : ∀ r, r < p.rels.length → π r < p'.rels.length)
    (hsurj : ∀ r', r' < p'.rels.length → ∃ r, r < p.rels.length ∧ π r = r')
    (σ σ' : Sched E B G P A) (threads threads' fuel fuel' : Nat)
    (s s' : PCSt) (hs : WFPCSt p s) (hs' : WFPCSt p' s')
    (hrows : ∀ r, r < p.rels.length → (pcrel s' (π r)).rows.Perm (pcrel s r).rows)
    (o o' : ProgSt)
    (h : run I V p (ixSetsOf V p) order σ threads fuel s = .ok (some o))
    (h' : run I V p' (ixSetsOf V p') order' σ' threads' fuel' s' = .ok (some o')) :
    ∀ f, factsOf o'.st (Fact.mapRel π f) ↔ factsOf o.st f := by
  intro f
  rw [runPhysPar_facts I V p order c σ threads fuel s o hs.1 hs.2.1 h f,
    runPhysPar_facts I V p' order' c' σ' threads' fuel' s' o' hs'.1 hs'.2.1 h' _,
    derivable_rename_rels I p.rules _ π hπ c.rel.1 f, hrules]
  exact derivable_congr_input (rows_mapRel (rows := fun r => (pcrel s r).rows) (rows' := fun r => (pcrel s' r).rows) hmap hsurj hrows) _

/-! Non-vacuity: transitive closure (`pTC`, `sTCpar`, `σTC`, `tc_ctxPar`) against the program with the rules swapped, the
`edge` rows reversed, in a pool of another size under another schedule. -/

theorem perm_initStPar {threads0 threads0' : Nat} {p p' : Program E B G P A} {ix ix' : IxSets} {inp inp' : RelId → List Tuple}
    (hl : p'.rels.length = p.rels.length) (h : ∀ r, r < p.rels.length → (inp' r).Perm (inp r)) (r : RelId) :
    (pcrel (initSt threads0' p' ix' inp') r).rows.Perm (pcrel (initSt threads0 p ix inp) r).rows := by
  rw [pcrel_initSt_rows, pcrel_initSt_rows, hl]
  split
  · next hr => exact h r hr
  · exact List.Perm.refl _

def sTCparRev : PCSt :=
  initSt 4 pTCrev (ixSetsOf Plan.exV pTCrev) fun r => if r = 0 then [[.int 2, .int 3], [.int 1, .int 2]] else []

theorem sTCparRev_rows : ∀ r, (pcrel sTCparRev r).rows.Perm (pcrel sTCpar r).rows :=
  perm_initStPar rfl (by decide)

/-- every hypothesis of `runPhysPar_perm_invariant` holds, for ALL schedules, pool sizes and fuels of the two runs -/
example (σ σ' : Sched Plan.Ex Plan.Bx Plan.Ex Unit Unit) (threads threads' fuel fuel' : Nat) (o o' : ProgSt)
    (h : run Plan.exI Plan.exV pTC (ixSetsOf Plan.exV pTC) [[0], [1]] σ threads fuel sTCpar = .ok (some o))
    (h' : run Plan.exI Plan.exV pTCrev (ixSetsOf Plan.exV pTCrev) [[1], [0]] σ' threads' fuel' sTCparRev = .ok (some o')) :
    ∀ f, factsOf o'.st f ↔ factsOf o.st f :=
  runPhysPar_perm_invariant Plan.exI Plan.exV pTC pTCrev _ _ tc_ctxPar rfl (List.reverse_perm _) (by decide) σ σ' threads
    threads' fuel fuel' sTCpar sTCparRev wf_sTCpar (by decide) sTCparRev_rows o o' h h'

/-- the other schedule: rows and head updates in the given order, the `n`-th insert to worker `n % 2`, never the swapped join -/
def σId : Sched Plan.Ex Plan.Bx Plan.Ex Unit Unit :=
  { permRows := fun _ l => l, permRows_perm := fun _ l => List.Perm.refl l
    permTasks := fun _ l => l, permTasks_perm := fun _ l => List.Perm.refl l
    tid := fun n => n % 2, swap := fun _ => false }

/-- both runs return (3 workers under `σTC`; 2 workers under `σId`): different row orders, the same facts -/
theorem tcParRev_runs :
    obs (run Plan.exI Plan.exV pTC (ixSetsOf Plan.exV pTC) [[0], [1]] σTC 3 10 sTCpar) =
      .ok (some ([[[.int 1, .int 2], [.int 2, .int 3]], [[.int 1, .int 2], [.int 2, .int 3], [.int 1, .int 3]]], [1, 2])) ∧
    obs (run Plan.exI Plan.exV pTCrev (ixSetsOf Plan.exV pTCrev) [[1], [0]] σId 2 10 sTCparRev) =
      .ok (some ([[[.int 2, .int 3], [.int 1, .int 2]], [[.int 2, .int 3], [.int 1, .int 2], [.int 1, .int 3]]], [1, 2])) :=
  ⟨tcPar_hyps.2.2, by decide +kernel⟩

#print axioms CtxPar.perm
#print axioms runPhysPar_eq_of_derivable_iff
#print axioms runPhysPar_perm_heads_invariant
#print axioms runPhysPar_perm_invariant
#print axioms runPhysPar_rename_rels
#print axioms tcParRev_runs

end AscentVerif.PhysPar
