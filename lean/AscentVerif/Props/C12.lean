import AscentVerif.Proofs.C12Spec
import AscentVerif.Proofs.C12Provider
import AscentVerif.Props.C18
/-!
# C12 — a relation tagged `#[ds(trrel_uf)]` behaves as its explicit closure

**Property.** A relation `r(T,T)` or `r(K,T,T)` tagged with the `trrel_uf` provider contains after `run()` exactly the
reflexive transitive closure (per `K`; reflexive on mentioned elements) of the tuples inserted into it; every rule reading it,
through any combination of bound and free columns, in a non-recursive or recursive stratum, derives what it would derive from a
plain relation closed by explicit reflexivity and transitivity rules; evaluation never panics.

(a) *Specification level, full strength* (`twin_binary_iff_closure`, `twin_ternary_iff_closure`,
`twin_other_relations_untouched`): for EVERY program `others` (arbitrary rules that may read and write the tagged relation),
interpretation of the embedded Rust expressions and input, in the least model of the explicit-closure twin
`others ++ closureRules t` the tagged relation holds exactly `ReflTrans` of the tuples inserted by the input and the other
rules, and every other relation is derived by the other rules alone (stated for the binary twin; `twin_other_rel` of
Proofs/C12Spec.lean is the statement for any closure rules).  With C01 (`run_eq_leastModel`: the engine model computes
the least model) this is the right-hand side of the tie-B comparison.

(b) *Provider model (Model/TrRelUFInd.lean), partial*: `provider_first_batch_contract` — the contract
`total' = total ∪ delta`, `delta' = closure(total' ∪ new) \ total'` for ONE batch, by C18's theorem about `TrRelUnionFind`
(`provider_first_batch_contract_partial` is the same statement under a hypothesis it does not need: no class collapse) — and
`provider_merge_never_new`.

**The full-strength provider contract is FALSE for the real code**, and for the model, which reproduces it: findings F12, F11,
F14, F8, F18 of KNOWN_FINDINGS.json (`provider_f12_witness` …; F17 is repaired), each by evaluation of the model on a sequence
that tie C also runs through the real types.

NOT PROVED (established only by the ties, inside the stated classes):
* soundness of `delta` / `total` for arbitrary op sequences (every tuple of every view is in the closure of what was inserted):
  needs, on top of C18's invariant of `TrRelUnionFind`, the invariant of the `loop { join1; join2; join3 }` of the merge
  (delta connections = paths through at least one new connection);
* completeness of `total` after the final merge of a stratum for arbitrary sequences (what makes non-recursive uses correct; tie B
  finds no counterexample for the binary form outside a looping stratum);
* correspondence of Model/EngineDs.lean with the generated code beyond the tie (the model is validated case by case).
-/
namespace AscentVerif.C12
open AscentVerif AscentVerif.TrInd AscentVerif.TrRel

variable {E B G P A : Type}

theorem twin_binary_iff_closure (I : Interp E B G P A) (varE : Var → E) (hv : VarExpr I varE) (others : List (Rule E B G P A))
    (agg : RelId → List Tuple) (inp : DB) (t : RelId) (x y : Val) :
    Derivable I (others ++ closureRules2 varE t) agg inp ⟨t, [x, y]⟩ ↔
      ReflTrans (fun a b => Inserted I others (others ++ closureRules2 varE t) agg inp t [a, b]) x y :=
  twin_lfp.trans <| closure_generic (closureRules2 varE t) _ (fun (_ : Unit) a b => ⟨t, [a, b]⟩)
    (fun e => by cases e; exact ⟨rfl, rfl, rfl⟩) (by simp only [exists_const]; exact cons_closure2 hv) () x y

theorem twin_ternary_iff_closure (I : Interp E B G P A) (varE : Var → E) (hv : VarExpr I varE) (others : List (Rule E B G P A))
    (agg : RelId → List Tuple) (inp : DB) (t : RelId) (k x y : Val) :
    Derivable I (others ++ closureRules3 varE t) agg inp ⟨t, [k, x, y]⟩ ↔
      ReflTrans (fun a b => Inserted I others (others ++ closureRules3 varE t) agg inp t [k, a, b]) x y :=
  twin_lfp.trans <| closure_generic (closureRules3 varE t) _ (fun (k : Val) a b => ⟨t, [k, a, b]⟩)
    (fun e => by cases e; exact ⟨rfl, rfl, rfl⟩) (cons_closure3 hv) k x y

theorem twin_other_relations_untouched (I : Interp E B G P A) (varE : Var → E) (others : List (Rule E B G P A))
    (agg : RelId → List Tuple) (inp : DB) (t : RelId) (f : Fact) (hf : f.rel ≠ t) :
    Derivable I (others ++ closureRules2 varE t) agg inp f ↔
      (inp f ∨ Cons I others agg (Derivable I (others ++ closureRules2 varE t) agg inp) f) :=
  twin_other_rel fun _ hr hm => hf (closureRules2_heads hr hm)

/-! ### the example twin: `t(x, y) <-- e(x, y)` with `e = {(1,2), (2,3)}` (relation 0 = `t`, relation 1 = `e`) -/

def exOthers : List (Rule Std.Ex Std.Bx Std.Gx Std.Px Std.Ax) :=
  [ { heads := [⟨0, [.var 0, .var 1]⟩], body := [.clause 1 [.var 0, .var 1] []] } ]

def exInp : DB := fun f => f = ⟨1, [.int 1, .int 2]⟩ ∨ f = ⟨1, [.int 2, .int 3]⟩

abbrev exI : Interp Std.Ex Std.Bx Std.Gx Std.Px Std.Ax := Std.interp (fun _ => .maxInt)

abbrev exAll : List (Rule Std.Ex Std.Bx Std.Gx Std.Px Std.Ax) := exOthers ++ closureRules2 Std.Ex.var 0

abbrev exDer : DB := Derivable exI exAll (fun _ => []) exInp

theorem ex_inserted_iff (a b : Val) :
    Inserted exI exOthers exAll (fun _ => []) exInp 0 [a, b] ↔ exInp ⟨1, [a, b]⟩ :=
  copy_inserted (varE := Std.Ex.var) (varExpr_std _) (by decide) (by decide) (by rintro _ (rfl | rfl) <;> rfl) a b

theorem ex_derivable_iff (x y : Val) :
    exDer ⟨0, [x, y]⟩ ↔ ReflTrans (fun a b => exInp ⟨1, [a, b]⟩) x y := by
  rw [exDer, twin_binary_iff_closure exI Std.Ex.var (varExpr_std _) exOthers _ exInp 0 x y]
  simp only [ex_inserted_iff]

/-- an invariant of the closure of `e = {(1,2), (2,3)}`: both ends are integers, in order, at most 3 -/
def ExOrd (x y : Val) : Prop := ∃ m n : Int, x = .int m ∧ y = .int n ∧ m ≤ n ∧ n ≤ 3

theorem ex_reflTrans_inv {x y : Val} (h : ReflTrans (fun a b => exInp ⟨1, [a, b]⟩) x y) : ExOrd x y := by
  have hb : ∀ {a b : Val}, exInp ⟨1, [a, b]⟩ → ExOrd a a ∧ ExOrd a b ∧ ExOrd b b := by
    intro a b hab
    simp only [exInp, Fact.mk.injEq, List.cons.injEq, true_and, and_true] at hab
    rcases hab with ⟨rfl, rfl⟩ | ⟨rfl, rfl⟩
    · exact ⟨⟨1, 1, rfl, rfl, by decide, by decide⟩, ⟨1, 2, rfl, rfl, by decide, by decide⟩,
        ⟨2, 2, rfl, rfl, by decide, by decide⟩⟩
    · exact ⟨⟨2, 2, rfl, rfl, by decide, by decide⟩, ⟨2, 3, rfl, rfl, by decide, by decide⟩,
        ⟨3, 3, rfl, rfl, by decide, by decide⟩⟩
  induction h with
  | base hab => exact (hb hab).2.1
  | reflL hab => exact (hb hab).1
  | reflR hab => exact (hb hab).2.2
  | trans _ _ ih1 ih2 =>
    obtain ⟨m, n, rfl, rfl, h1, _⟩ := ih1
    obtain ⟨_, k, he, rfl, h2, h3⟩ := ih2
    cases he
    exact ⟨m, k, rfl, rfl, Int.le_trans h1 h2, h3⟩

/-- non-vacuity of (a): the twin of `t(x,y) <-- e(x,y)` over `e = {(1,2),(2,3)}` derives t(1,3), t(3,3), not t(3,1), not t(4,4) -/
theorem twin_example :
    Derivable (Std.interp (fun _ => .maxInt)) (exOthers ++ closureRules2 Std.Ex.var 0) (fun _ => []) exInp ⟨0, [.int 1, .int 3]⟩ ∧
    Derivable (Std.interp (fun _ => .maxInt)) (exOthers ++ closureRules2 Std.Ex.var 0) (fun _ => []) exInp ⟨0, [.int 3, .int 3]⟩ ∧
    ¬ Derivable (Std.interp (fun _ => .maxInt)) (exOthers ++ closureRules2 Std.Ex.var 0) (fun _ => []) exInp ⟨0, [.int 3, .int 1]⟩ ∧
    ¬ Derivable (Std.interp (fun _ => .maxInt)) (exOthers ++ closureRules2 Std.Ex.var 0) (fun _ => []) exInp ⟨0, [.int 4, .int 4]⟩ := by
  refine ⟨(ex_derivable_iff _ _).2 (.trans (.base (.inl rfl)) (.base (.inr rfl))),
    (ex_derivable_iff _ _).2 (.reflR (x := .int 2) (.inr rfl)), fun h => ?_, fun h => ?_⟩
  · obtain ⟨m, n, hm, hn, h1, _⟩ := ex_reflTrans_inv ((ex_derivable_iff _ _).1 h)
    cases hm
    cases hn
    exact absurd h1 (by decide)
  · obtain ⟨m, n, _, hn, _, h2⟩ := ex_reflTrans_inv ((ex_derivable_iff _ _).1 h)
    cases hn
    exact absurd h2 (by decide)

/-- **first batch = closure.**  Insert the pairs `ps` into a fresh `new` and merge (as generated code does in the first
iteration of the first SCC that fills the relation): the model's `TrRelUnionFind` runs the batch without panic (C18,
`tr_contains_iff`), the merge does not panic, `new` is empty again, `total` is still empty, `delta` is the `Total`-variant
structure `nd` and its `contains` decides exactly the reflexive-transitive closure of `ps` on mentioned elements.  A second
merge (nothing new) moves `delta` into `total` unchanged and leaves a `delta` without tuples. -/
theorem provider_first_batch_contract (pol : Policy) (ps : List (Int × Int)) :
    ∃ nd, TrRel.run {} (orderBatch pol (batchOf ps)) = .ok nd ∧
      insertAll (.new []) ps = .ok (.new (batchOf ps)) ∧
      merge pol (.new (batchOf ps)) Common.default Common.default = .ok (.new [], .total nd, .total {}) ∧
      (∀ x y, ((Common.total nd).contains x y = .ok true ↔ Closure ps x y) ∧
              ((Common.total nd).contains x y = .ok false ↔ ¬ Closure ps x y)) ∧
      (∀ x y, (Common.total {}).contains x y = .ok false) ∧
      (nd.sets ≠ [] →
        merge pol (.new []) (.total nd) (.total {}) = .ok (.new [], .delta { total := nd }, .total nd) ∧
        (Common.delta { total := nd }).iterAll = .ok []) := by
  obtain ⟨nd, hrun, _, _, hc⟩ := tr_contains_iff (orderBatch pol (batchOf ps))
  refine ⟨nd, hrun, insertAll_new ps [], ?_, fun x y => ?_, fun x y => rfl, fun hne => ⟨merge_second pol nd hne, rfl⟩⟩
  · rw [merge_first, hrun]
    rfl
  · have h := hc x y
    rwa [closure_congr (fun p => (mem_orderBatch pol _ p).trans (mem_batchOf ps p)) x y] at h

/-- the same with the result `nd` of the batch named by the caller; the collapse-freeness `hs` is not needed -/
theorem provider_first_batch_contract_partial (pol : Policy) (ps : List (Int × Int)) (nd : TrRel)
    (hrun : TrRel.run {} (orderBatch pol (batchOf ps)) = .ok nd) (hs : nd.subs = []) :
    insertAll (.new []) ps = .ok (.new (batchOf ps)) ∧
    merge pol (.new (batchOf ps)) Common.default Common.default = .ok (.new [], .total nd, .total {}) ∧
    (∀ x y, ((Common.total nd).contains x y = .ok true ↔ Closure ps x y) ∧
            ((Common.total nd).contains x y = .ok false ↔ ¬ Closure ps x y)) ∧
    (∀ x y, (Common.total {}).contains x y = .ok false) ∧
    (nd.sets ≠ [] →
      merge pol (.new []) (.total nd) (.total {}) = .ok (.new [], .delta { total := nd }, .total nd) ∧
      (Common.delta { total := nd }).iterAll = .ok []) := by
  have _ := hs
  obtain ⟨nd', hrun', h⟩ := provider_first_batch_contract pol ps
  cases hrun'.symm.trans hrun
  exact h

/-- a merge that returns leaves `new` empty (`New`), `delta` in the `Delta` or `Total` variant and `total` in the `Total`
variant: the reads of generated code (`contains_key`, `index_get`, `iter_all` on delta / total) never reach `panic!("unexpected New")` -/
theorem provider_merge_never_new (pol : Policy) (n d t n' d' t' : Common) (h : merge pol n d t = .ok (n', d', t')) :
    n' = .new [] ∧ ((∃ r, d' = .delta r) ∨ (∃ r, d' = .total r)) ∧ ∃ r, t' = .total r := by
  have key := merge_shape pol n d t
  rwa [h] at key

/-! ### the full contract is false: witnesses (the same sequences run through the real types in tie C, corpus/C12) -/

/-- F12.  batch 1 = {(1,2)}, batch 2 = {(2,3)}: after the second merge `(3,3)` is already in `total` and in no view of `delta`
through `iter_all` / `contains`, although it is new (closure(total' ∪ new) \ total' contains it).
Observed: `delta.iter_all`, `delta.contains(3,3)`, `total.contains(3,3)` (see `f12Obs`). -/
theorem provider_f12_witness :
    f12Obs = Res.ok ([(2, 3), (1, 3)], false, true) := by decide +kernel

/-- F11.  ternary, one batch {(0,1,2)}: the view [1] probed with 2 misses (0,2,2), the view [2] probed with 1 misses (0,1,1),
while the view [0,1] has them. -/
theorem provider_f11_witness :
    f11Obs = Res.ok (none, none, some [[0, 2, 2]]) := by decide +kernel

/-- F14.  ternary, batches {(0,1,2)}, {(0,2,3)}: the delta view [1] probed with 1 misses the new tuple (0,1,3). -/
theorem provider_f14_witness :
    f14Obs = Res.ok (none, some [[0, 1, 3]]) := by decide +kernel

/-- F8.  ternary, key 0 receives (1,2), then nothing for one merge, then (2,3): the merge panics. -/
theorem provider_f8_witness : f8Result = Res.panic := by decide +kernel

/-- F17 (repaired in the code, `.max(1)`).  `len_estimate` of the view [1,2] on an empty ternary relation no longer panics. -/
theorem provider_f17_repaired : (Ternary.default true true).lenEstimate12 = Res.ok 0 := by decide +kernel

/-- F18.  ternary, key 0: batch {(1,2)}, then batch {(3,3)} (a reflexive pair on a new element): the per-key delta has an empty
`iter_all` and is dropped from `delta.map`, the reverse maps still name key 0, and the delta view [1] probed with 3 panics. -/
theorem provider_f18_witness : f18Runs = Res.ok () ∧ f18Obs = Res.panic := by decide +kernel

#print axioms twin_binary_iff_closure
#print axioms twin_ternary_iff_closure
#print axioms twin_other_relations_untouched
#print axioms twin_example
#print axioms provider_first_batch_contract_partial
#print axioms provider_merge_never_new

end AscentVerif.C12
