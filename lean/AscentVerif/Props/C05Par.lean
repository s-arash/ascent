import AscentVerif.Model.ParLatHead
import AscentVerif.Props.C19
import AscentVerif.Proofs.ParLatInv
/-!
# C05 / C02 (parallel half): one row per lattice key under every interleaving; C19: merge laws of `CLatIndex`, `CRelFullIndex`

C05 over the transition system of `Model/ParLatHead` (workers racing to insert the same new lattice key), for an
abstract `join` and order: never two rows, no deadlock, termination, and (C02: the lattice value of the serial run) the
final row is the least upper bound of what the workers derived (`Proofs/ParLatInv`).  C19's `move_index_contents` laws
for the two sharded indices that the parallel lattice relations use (`Proofs/IndexConc`).
-/
set_option linter.unusedVariables false
namespace AscentVerif.ParLat

variable {V : Type}

/-- **never a second row for the key**, in every reachable state of every schedule, for any number of workers -/
theorem at_most_one_row (join : V → V → V) (vs : List V) (s : State V) (h : Reachable join vs s) :
    s.rows.length ≤ 1 := h.inv.len

/-- **no deadlock**: as long as some worker is not done, some worker can take a step -/
theorem no_stuck (join : V → V → V) (vs : List V) (s : State V) (h : Reachable join vs s) (hnd : ¬ allDone s) :
    ∃ i s', step join s i = some s' := no_stuck_of_inv h.inv hnd

/-- every schedule terminates: a worker takes at most 5 steps, so at most `5 * n` steps in total
(stated as: a measure that every step strictly decreases) -/
def measure (s : State V) : Nat :=
  (s.workers.map fun w => match w.pc with
    | .start => 5 | .wantLock => 4 | .holding => 3 | .pushed => 2 | .unlock => 1 | .done => 0).sum
theorem step_decreases (join : V → V → V) (s s' : State V) (i : Nat) (h : step join s i = some s') :
    measure s' < measure s := by
  have hm : ∀ t : State V, measure t = measure' t := by
    intro t
    rfl
  rw [hm, hm]
  exact measure'_decreases join s s' i h

/-- **when all workers are done, exactly one row exists and it dominates every worker's value**:
for an order `le` for which `join` is an upper bound and monotone-in-place (`le a (join a b)`, `le b (join a b)`,
transitivity), the single row is `≥` every derived value — nothing is lost under any interleaving -/
theorem final_row_dominates (join : V → V → V) (le : V → V → Prop)
    (hrefl : ∀ a, le a a) (htrans : ∀ a b c, le a b → le b c → le a c)
    (hl : ∀ a b, le a (join a b)) (hr : ∀ a b, le b (join a b))
    (vs : List V) (hne : vs ≠ []) (s : State V) (h : Reachable join vs s) (hd : allDone s) :
    ∃ r, s.rows = [r] ∧ ∀ v ∈ vs, le v r := by
  have hI := h.inv
  have hD := h.dom hrefl htrans hl hr
  have hall : ∀ (j : Nat) (x : Worker V), s.workers[j]? = some x → x.pc.after = true := by
    intro j x hx
    rw [hd x (List.mem_of_getElem? hx)]
    rfl
  have hwne : s.workers ≠ [] := by
    intro he
    have := hI.vals
    rw [he] at this
    exact hne this.symm
  obtain ⟨w0, ws, hws⟩ := List.exists_cons_of_ne_nil hwne
  have h0 : s.workers[0]? = some w0 := by rw [hws]; rfl
  have hlen := hI.afterLen h0 (hall 0 w0 h0)
  match hrows : s.rows, hlen with
  | [r], _ =>
    refine ⟨r, rfl, ?_⟩
    intro v hv
    rw [← hI.vals] at hv
    obtain ⟨x, hxm, rfl⟩ := List.mem_map.1 hv
    obtain ⟨j, hj⟩ := List.getElem?_of_mem hxm
    exact hD j x hj (hall j x hj) r (by rw [hrows]; simp)

/-- … and it is not above the join of all values (least upper bound side), when `join` is least -/
theorem final_row_least (join : V → V → V) (le : V → V → Prop)
    (hrefl : ∀ a, le a a) (htrans : ∀ a b c, le a b → le b c → le a c)
    (hleast : ∀ a b c, le a c → le b c → le (join a b) c)
    (vs : List V) (s : State V) (h : Reachable join vs s) (ub : V) (hub : ∀ v ∈ vs, le v ub) :
    ∀ r ∈ s.rows, le r ub := h.least hleast ub hub

example : (init [1, 2, 3] : State Nat).rows = [] := rfl

/-- non-vacuity: two workers racing (both miss the first look-up; worker 0 pushes, worker 1 re-checks under
the mutex and joins in place) reach an all-done state with the single row `max 1 2` -/
example : ∃ s : State Nat, Reachable max [1, 2] s ∧ allDone s ∧ s.rows = [2] := by
  refine ⟨⟨[2], true, none, [⟨.done, 1⟩, ⟨.done, 2⟩]⟩,
    reachable_runSched [0, 1, 0, 0, 0, 0, 1, 1, 1] Reachable.init rfl, ?_, rfl⟩
  intro w hw
  simp only [List.mem_cons, List.not_mem_nil, or_false] at hw
  rcases hw with rfl | rfl <;> rfl

end AscentVerif.ParLat

namespace AscentVerif.Index

variable {V : Type} [DecidableEq V]

def CLatIdx.vals (c : CLatIdx V) (k : Int) : List V := (HMap.get? (c.shards.getD (shardOf k c.shards.length) []) k).getD []

/-- shard-wise merge law for the concurrent LATTICE index (`CLatIndex`): as sets, through both swap branches -/
theorem CLatIdx.moveContents_spec (frm to frm' to' : CLatIdx V) (h : CLatIdx.moveContents frm to = .ok (frm', to'))
    (hn : 0 < to.shards.length)
    (hf : ∀ s ∈ frm.shards, NoDupKeys s) (ht : ∀ s ∈ to.shards, NoDupKeys s) :
    to'.shards.length = to.shards.length ∧ (∀ k, frm'.vals k = []) ∧
    (∀ k x, x ∈ to'.vals k ↔ (x ∈ to.vals k ∨ x ∈ frm.vals k)) := by
  obtain ⟨h1, h2, h3⟩ := CLatIdx.moveContents_law frm to frm' to' h hf ht
  exact ⟨h1, fun k => congrArg (fun o => o.getD []) (h2 k), h3⟩

/-- shard-wise merge law for the concurrent FULL index (`CRelFullIndex`): key set = union; with disjoint key sets every key keeps its value -/
theorem CFullIdx.moveContents_spec (frm to frm' to' : CFullIdx V) (h : CFullIdx.moveContents frm to = .ok (frm', to'))
    (hn : 0 < to.shards.length)
    (hf : ∀ s ∈ frm.shards, NoDupKeys s) (ht : ∀ s ∈ to.shards, NoDupKeys s) :
    to'.shards.length = to.shards.length ∧ (∀ k, frm'.getCloned k = none) ∧
    (∀ k, (to'.getCloned k).isSome = ((to.getCloned k).isSome || (frm.getCloned k).isSome)) ∧
    ((∀ k, ¬ ((to.getCloned k).isSome ∧ (frm.getCloned k).isSome)) →
      ∀ k, to'.getCloned k = (to.getCloned k).orElse (fun _ => frm.getCloned k)) := by
  obtain ⟨h1, h2, h3, h4⟩ := CFullIdx.moveContents_law frm to frm' to' h hf ht
  exact ⟨h1, h2, h3, fun hdisj k => h4 k (hdisj k)⟩

#print axioms AscentVerif.ParLat.at_most_one_row
#print axioms AscentVerif.ParLat.no_stuck
#print axioms AscentVerif.ParLat.step_decreases
#print axioms AscentVerif.ParLat.final_row_dominates
#print axioms AscentVerif.ParLat.final_row_least
#print axioms CLatIdx.moveContents_spec
#print axioms CFullIdx.moveContents_spec

end AscentVerif.Index
