import AscentVerif.Spec.LatticeLaws
import AscentVerif.Proofs.LatticeProduct
import AscentVerif.Proofs.LatticeSet
import AscentVerif.Proofs.LatticeBSet
/-!
# C16 (part 2): `Product` of tuples and arrays, `Set`, `BoundedSet`

The proofs are in `Proofs/Lattice{Product,Set,BSet}`; here they are stated in the property's terms.
`LawfulPTail` is a helper notion whose only role is to make `lawfulPTail_unit`, `lawfulPTail_cons` and
`lawful_product` compose for every arity.
-/
namespace AscentVerif.Lat

/-- `combine_orderings` is the product of two comparison results -/
theorem combineOrderings_spec (o1 o2 : Ordering) :
    combineOrderings o1 o2 =
      (if o1 = .eq then some o2 else if o2 = .eq then some o1 else if o1 = o2 then some o1 else none) := by
  cases o1 <;> cases o2 <;> rfl

/-- helper notion for the component folds of `Product<(T0, …, Tn)>`: the accumulators `res` /
`changed` threaded through the macro expansion can be pulled out of the folds (`acc`), and
the resulting component-wise structure on `Product β` satisfies the lattice laws (`lawful`) -/
structure LawfulPTail (β : Type) [PTail β] (WF : β → Prop) : Prop where
  acc : PTailAcc β
  lawful : LawfulLat (Product β) (fun p => WF p.val)

theorem lawfulPTail_unit : LawfulPTail Unit AnyWF where
  acc := ptailAcc_unit
  lawful := lawful_product_unit
theorem lawfulPTail_cons {α β : Type} [Lat α] [PTail β] {WFa : α → Prop} {WFb : β → Prop}
    (ha : LawfulLat α WFa) (hb : LawfulPTail β WFb) : LawfulPTail (α × β) (fun p => WFa p.1 ∧ WFb p.2) where
  acc := ptailAcc_cons hb.acc
  lawful := lawful_product_cons hb.acc ha hb.lawful
/-- `Product<(T0, …, Tn)>` for every arity: component-wise order and operations -/
theorem lawful_product {β : Type} [PTail β] {WF : β → Prop} (h : LawfulPTail β WF) :
    LawfulLat (Product β) (fun p => WF p.val) := h.lawful

set_option linter.unusedVariables false in
/-- what the order of a `Product` *is*: the component-wise order (arity 2 shown; one component at a time for any
arity: `product_pairLike` with `PairLike.le_mk_iff`, `Proofs/LatticeProduct`) -/
theorem product_pair_le {α β : Type} [Lat α] [Lat β] {WFa : α → Prop} {WFb : β → Prop}
    (ha : LawfulLat α WFa) (hb : LawfulLat β WFb) (a a' : α) (b b' : β)
    (h1 : WFa a) (h2 : WFa a') (h3 : WFb b) (h4 : WFb b') :
    le (⟨(a, (b, ()))⟩ : Product (α × (β × Unit))) ⟨(a', (b', ()))⟩ = true ↔ (le a a' = true ∧ le b b' = true) := by
  have P1 := product_pairLike (α := α) (ptailAcc_cons (α := β) ptailAcc_unit) WFa (fun p => WFb p.1 ∧ True)
  have P2 := product_pairLike (α := β) ptailAcc_unit WFb (fun _ => True)
  have e1 := P1.le_mk_iff a ⟨(b, ())⟩ a' ⟨(b', ())⟩
  have e2 := P2.le_mk_iff b ⟨()⟩ b' ⟨()⟩
  have e3 : le (⟨()⟩ : Product Unit) ⟨()⟩ = true := rfl
  rw [e1, e2, e3]
  simp

/-- `Product<[T; N]>` -/
theorem lawful_productArr {α : Type} [Lat α] {WF : α → Prop} (h : LawfulLat α WF) (n : Nat) :
    LawfulLat (ProductArr α) (fun p => p.val.length = n ∧ ∀ x ∈ p.val, WF x) := lawful_arr h n

/-- `Set<T>`: subset order, union, intersection; the swap-to-merge-the-smaller-side code
path and the "length changed" flag are correct -/
theorem lawful_lset : LawfulLat LSet LSet.WF := lawful_lset'
/-- what the operations of `Set` *are* -/
theorem lset_join_mem (a b : LSet) (x : Int) : x ∈ (join a b).elems ↔ x ∈ a.elems ∨ x ∈ b.elems :=
  lset_join_mem' a b x
set_option linter.unusedVariables false in
theorem lset_meet_mem (a b : LSet) (ha : a.WF) (x : Int) : x ∈ (meet a b).elems ↔ x ∈ a.elems ∧ x ∈ b.elems :=
  lset_meet_mem' a b x
set_option linter.unusedVariables false in
theorem lset_le_iff (a b : LSet) (ha : a.WF) (hb : b.WF) : le a b = true ↔ ∀ x ∈ a.elems, x ∈ b.elems :=
  lset_le_iff' a b

/-- `BoundedSet<BOUND, T>`: the invariant `|s| ≤ BOUND` is preserved (`join_wf`/`meet_wf` inside)
and `None` is the top element -/
theorem lawfulB_bset (n : Nat) : LawfulBLat (BSet n) BSet.WF where
  toLawfulLat := lawful_bset' n
  top_wf := bset_wf_none
  bottom_wf := (bset_wf_some _).2 ⟨by unfold LSet.WF; simp, Nat.zero_le _⟩
  le_top a _ := bset_le_none a
  bottom_le a _ := by
    rcases a with ⟨_ | s⟩
    · rfl
    · show le (⟨[]⟩ : LSet) s = true
      rw [lset_le_iff']
      intro x hx
      cases hx

example : LSet.WF ⟨[0, 2, 5]⟩ := by unfold LSet.WF; decide
example : (joinMut (⟨[0, 2]⟩ : LSet) ⟨[1, 2, 3]⟩) = (⟨[0, 1, 2, 3]⟩, true) := by decide
example : (joinMut (⟨some ⟨[0, 2]⟩⟩ : BSet 3) ⟨some ⟨[1, 2, 3]⟩⟩) = (⟨none⟩, true) := by decide
example : pcmp (⟨((⟨1⟩ : Prim Int), ((⟨4⟩ : Prim Int), ()))⟩ : Product _) ⟨(⟨2⟩, (⟨3⟩, ()))⟩ = none := by decide

/-- the pieces compose: a 2-tuple `Product<(A, B)>` of lawful lattices is lawful -/
example {α β : Type} [Lat α] [Lat β] {WFa : α → Prop} {WFb : β → Prop}
    (ha : LawfulLat α WFa) (hb : LawfulLat β WFb) :
    LawfulLat (Product (α × (β × Unit))) (fun p => WFa p.val.1 ∧ (WFb p.val.2.1 ∧ AnyWF p.val.2.2)) :=
  lawful_product (lawfulPTail_cons ha (lawfulPTail_cons hb lawfulPTail_unit))

#print axioms combineOrderings_spec
#print axioms lawfulPTail_unit
#print axioms lawfulPTail_cons
#print axioms lawful_product
#print axioms product_pair_le
#print axioms lawful_productArr
#print axioms lawful_lset
#print axioms lset_join_mem
#print axioms lset_meet_mem
#print axioms lset_le_iff
#print axioms lawfulB_bset

end AscentVerif.Lat
