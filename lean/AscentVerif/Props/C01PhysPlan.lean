import AscentVerif.Props.C01Phys
/-!
C01 over the physical indices: the plan the compiler computes is always usable.

`Props/C01Phys.lean` assumes `planOk V p ix`: every body clause is compiled to a clause item on the same relation whose
index columns are strictly increasing and inside the arity, and whose index exists.  Here that hypothesis is discharged
for the compiler's own index sets `ixSetsOf V p` from the arity conditions alone (`arityOk`: one argument per column in
every body clause and every head clause; what `rustc` checks on the generated code).  No `Desugared` hypothesis is needed:
the index columns of a clause are collected by a left-to-right scan that only ever appends the current column number
(`scanG_idx`), and the re-indexed first clause of a simple join is a filter of `List.range args.length`.
-/
namespace AscentVerif.Hir
open AscentVerif AscentVerif.Engine
variable {E B G P A : Type}

def IncLt (n : Nat) (l : List Nat) : Prop := l.Pairwise (· < ·) ∧ ∀ j ∈ l, j < n

theorem IncLt.nil (n : Nat) : IncLt n [] := ⟨List.Pairwise.nil, fun _ h => by cases h⟩

theorem IncLt.mono {n m : Nat} {l : List Nat} (h : IncLt n l) (hnm : n ≤ m) : IncLt m l :=
  ⟨h.1, fun j hj => Nat.lt_of_lt_of_le (h.2 j hj) hnm⟩

theorem IncLt.snoc {n : Nat} {l : List Nat} (h : IncLt n l) : IncLt (n + 1) (l ++ [n]) := by
  refine ⟨?_, ?_⟩
  · rw [List.pairwise_append]
    refine ⟨h.1, List.pairwise_singleton _ _, ?_⟩
    intro a ha b hb
    simp only [List.mem_singleton] at hb
    subst hb
    exact h.2 a ha
  · intro j hj
    rcases List.mem_append.1 hj with hj | hj
    · exact Nat.lt_succ_of_lt (h.2 j hj)
    · simp only [List.mem_singleton] at hj
      subst hj
      exact Nat.lt_succ_self _

theorem increasing_of_pairwise : ∀ l : List Nat, l.Pairwise (· < ·) → Phys.increasing l = true := by
  intro l
  induction l with
  | nil => exact fun _ => rfl
  | cons a l ih =>
    intro h
    cases l with
    | nil => rfl
    | cons b t =>
      rw [List.pairwise_cons] at h
      simp only [Phys.increasing, Bool.and_eq_true, decide_eq_true_eq]
      exact ⟨h.1 b (List.mem_cons_self ..), ih h.2⟩

theorem IncLt.filter_range (n : Nat) (q : Nat → Bool) : IncLt n ((List.range n).filter q) :=
  ⟨List.Pairwise.filter _ List.pairwise_lt_range, fun _ hj => List.mem_range.1 (List.mem_filter.1 hj).1⟩

theorem increasing_filter_range (n : Nat) (q : Nat → Bool) : Phys.increasing ((List.range n).filter q) = true :=
  increasing_of_pairwise _ (IncLt.filter_range n q).1

theorem indicesGiven_inc (args : List (Arg E)) (vars : List Var) : IncLt args.length (indicesGiven args vars) :=
  IncLt.filter_range _ _

theorem scanG_idx (V : VarsOf E B) (dg : List Var) (acc : List Var × List Nat × List Var) (ja : Nat × Arg E) :
    (scanG V dg acc ja).2.1 = acc.2.1 ∨ (scanG V dg acc ja).2.1 = acc.2.1 ++ [ja.1] := by
  obtain ⟨j, a⟩ := ja
  cases a with
  | var v =>
    unfold scanG
    dsimp only
    by_cases h1 : acc.2.2.contains v = true
    · rw [if_pos h1]; exact .inl rfl
    · rw [if_neg h1]
      by_cases h2 : acc.1.contains v = true
      · rw [if_pos h2]; exact .inr rfl
      · rw [if_neg h2]; exact .inl rfl
  | expr e =>
    unfold scanG
    dsimp only
    by_cases h1 : (V.e e).any acc.2.2.contains = true
    · rw [if_pos h1]; exact .inl rfl
    · rw [if_neg h1]; exact .inr rfl

theorem scanG_fold_inc (V : VarsOf E B) (dg : List Var) :
    ∀ (l : List (Arg E)) (s : Nat) (acc : List Var × List Nat × List Var), IncLt s acc.2.1 →
      IncLt (s + l.length) ((zipFrom s l).foldl (scanG V dg) acc).2.1 := by
  intro l
  induction l with
  | nil => intro s acc h; simpa [zipFrom] using h
  | cons a l ih =>
    intro s acc h
    rw [zipFrom_cons, List.foldl_cons]
    have hstep : IncLt (s + 1) (scanG V dg acc (s, a)).2.1 := by
      rcases scanG_idx V dg acc (s, a) with e | e
      · rw [e]; exact h.mono (Nat.le_succ _)
      · rw [e]; exact h.snoc
    have := ih (s + 1) (scanG V dg acc (s, a)) hstep
    have e : s + (a :: l).length = s + 1 + l.length := by simp only [List.length_cons]; omega
    rw [e]
    exact this

theorem scanOf_inc (V : VarsOf E B) (gd : List Var × List Var) (args : List (Arg E)) :
    IncLt args.length (scanOf V gd args).2.1 := by
  unfold scanOf
  rw [zip_range_eq]
  have := scanG_fold_inc V gd.2 args 0 (gd.1, [], []) (IncLt.nil 0)
  rwa [Nat.zero_add] at this

theorem hitems_getElem? (V : VarsOf E B) :
    ∀ (items : List (Item E B G P A)) (gd : List Var × List Var) (i : Nat) (it : Item E B G P A),
      items[i]? = some it → ∃ gd', (hitems V gd items)[i]? = some (hitemOf V gd' it) := by
  intro items
  induction items with
  | nil => intro _ _ _ h; simp at h
  | cons x rest ih =>
    intro gd i it h
    cases i with
    | zero =>
      simp only [List.getElem?_cons_zero, Option.some.injEq] at h
      subst h
      exact ⟨gd, by simp [hitems]⟩
    | succ i =>
      simp only [List.getElem?_cons_succ] at h
      obtain ⟨gd', h'⟩ := ih (gdStep V gd x) i it h
      exact ⟨gd', by simp [hitems, h']⟩

/-- a body item is compiled, at its position, to the item the scan emits for it; only the first clause of a simple join is
re-indexed, on columns chosen by `indicesGiven` (no hypothesis on the rule) -/
theorem compile_item (V : VarsOf E B) (r : Rule E B G P A) (i : Nat) (it : Item E B G P A) (h : r.body[i]? = some it) :
    (∃ gd, (compileRule V r).items[i]? = some (hitemOf V gd it)) ∨
    ∃ rel args conds vars, it = .clause rel args conds ∧
      (compileRule V r).items[i]? = some (.clause rel (indicesGiven args vars) false) := by
  obtain ⟨gd, hg⟩ := hitems_getElem? V r.body ([], []) i _ h
  have hlt : i < (hitems V ([], []) r.body).length := by
    rw [hitems_length]
    exact (List.getElem?_eq_some_iff.1 h).1
  rw [compileRule_eq]
  dsimp only
  split
  · split
    · rename_i k _ _ _ r1 a1 c1 _ a2 _ h1 _
      by_cases hik : k = i
      · subst hik
        rw [h] at h1
        cases h1
        exact .inr ⟨_, _, _, _, rfl, List.getElem?_set_self hlt⟩
      · exact .inl ⟨gd, by rw [List.getElem?_set_ne hik]; exact hg⟩
    · exact .inl ⟨gd, hg⟩
  · exact .inl ⟨gd, hg⟩

theorem compile_clause_item (V : VarsOf E B) (r : Rule E B G P A) (i : Nat) (rel : RelId) (args : List (Arg E))
    (conds : List (Cond E B P)) (h : r.body[i]? = some (.clause rel args conds)) :
    ∃ cols, (compileRule V r).items[i]? = some (.clause rel cols false) ∧ IncLt args.length cols := by
  rcases compile_item V r i _ h with ⟨gd, hg⟩ | ⟨_, _, _, vars, e, hg⟩
  · exact ⟨_, hg, scanOf_inc V gd args⟩
  · cases e
    exact ⟨_, hg, indicesGiven_inc args vars⟩

end AscentVerif.Hir

namespace AscentVerif.Phys
open AscentVerif AscentVerif.Engine AscentVerif.Index
variable {E B G P A : Type}

def arityOk (p : Program E B G P A) : Bool :=
  p.rules.all fun r =>
    (r.body.all fun | .clause rel args _ => args.length == arityOf p rel | _ => true) &&
    (r.heads.all fun h => h.args.length == arityOf p h.rel)

theorem arityOk_rule {p : Program E B G P A} (h : arityOk p = true) (r : Rule E B G P A) (hr : r ∈ p.rules) :
    (∀ rel args conds, Item.clause rel args conds ∈ r.body → args.length = arityOf p rel) ∧
    (r.heads.all fun h => h.args.length == arityOf p h.rel) = true := by
  obtain ⟨hb, hh⟩ := Bool.and_eq_true_iff.1 (List.all_eq_true.1 h r hr)
  exact ⟨fun rel args conds hm => eq_of_beq (List.all_eq_true.1 hb _ hm), hh⟩

/-- the computed plan is usable with any index sets that hold the columns of every clause item that is not the full index -/
theorem ruleOk_of_covers (V : Hir.VarsOf E B) (p : Program E B G P A) (ix : IxSets) (r : Rule E B G P A)
    (hcov : ∀ (i : Nat) (rel : RelId) (cols : List Nat) (dp : Bool), (Hir.compileRule V r).items[i]? = some (Hir.HItem.clause rel cols dp) → cols.length ≠ arityOf p rel →
      cols ∈ ix rel)
    (ha : ∀ rel args conds, Item.clause rel args conds ∈ r.body → args.length = arityOf p rel) :
    ruleOk V p ix r = true := by
  unfold ruleOk
  dsimp only
  rw [List.all_eq_true]
  intro i _
  split
  · rename_i rel args conds rel' cols dp hb hc
    obtain ⟨cols', hc', hinc⟩ := Hir.compile_clause_item V r i rel args conds hb
    rw [hc] at hc'
    cases hc'
    have hlen : args.length = arityOf p rel := ha rel args conds (List.mem_of_getElem? hb)
    rw [hlen] at hinc
    simp only [Bool.and_eq_true, Bool.or_eq_true, beq_iff_eq, List.all_eq_true, decide_eq_true_eq]
    refine ⟨⟨⟨⟨trivial, hlen⟩, Hir.increasing_of_pairwise _ hinc.1⟩, hinc.2⟩, ?_⟩
    by_cases hne : cols.length = arityOf p rel
    · exact .inl hne
    · exact .inr (List.contains_iff_mem.2 (hcov i rel cols false hc hne))
  · rename_i rel args conds hb hno
    exfalso
    obtain ⟨cols, hc, _⟩ := Hir.compile_clause_item V r i rel args conds hb
    exact hno _ _ _ hc
  · rfl

theorem planOk_of_covers (V : Hir.VarsOf E B) (p : Program E B G P A) (ix : IxSets)
    (hcov : ∀ r ∈ p.rules, ∀ (i : Nat) (rel : RelId) (cols : List Nat) (dp : Bool),
      (Hir.compileRule V r).items[i]? = some (Hir.HItem.clause rel cols dp) → cols.length ≠ arityOf p rel → cols ∈ ix rel)
    (h : arityOk p = true) : planOk V p ix = true := by
  unfold planOk
  rw [List.all_eq_true]
  intro r hr
  obtain ⟨h1, h2⟩ := arityOk_rule h r hr
  rw [Bool.and_eq_true]
  exact ⟨ruleOk_of_covers V p ix r (hcov r hr) h1, h2⟩

/-- the plan the compiler computes is usable with the index sets it allocates -/
theorem planOk_ixSetsOf (V : Hir.VarsOf E B) (p : Program E B G P A) (h : arityOk p = true) :
    planOk V p (ixSetsOf V p) = true :=
  planOk_of_covers V p _ (ixSetsOf_covers V p) h

/-- `runPhys_eq_leastModel` with the compiler's own index sets and without the plan hypothesis -/
theorem runPhys_compiled_eq_leastModel (I : Interp E B G P A) (hI : Plan.Ext I) (V : Hir.VarsOf E B) (hS : Plan.Supp I V)
    (p : Program E B G P A) (order : SccOrder) (s : PSt) (fuel : Nat) (out : ProgSt)
    (hp : Relational p) (ho : validOrder p order = true) (ha : arityOk p = true)
    (hd : ∀ r ∈ p.rules, Hir.Desugared V r = true ∧ Plan.WellScoped V r = true)
    (hs : WFPSt p s)
    (hrun : run I V p (ixSetsOf V p) order fuel s = some out) :
    WFPSt p out.st ∧
    (∀ f, factsOf out.st f ↔ Derivable I p.rules noAgg (fun g => g.rel < p.rels.length ∧ factsOf s g) f) ∧
    (∀ r, r < p.rels.length → ∃ derived, (prel out.st r).rows = (prel s r).rows ++ derived ∧
      derived.Nodup ∧ ∀ t ∈ derived, t ∉ (prel s r).rows) :=
  runPhys_eq_leastModel I hI V hS p (ixSetsOf V p) order s fuel out hp ho (planOk_ixSetsOf V p ha) hd hs hrun

example : arityOk pTC = true := by decide

/-- the example of `Props/C01Phys.lean` through the corollary: no plan hypothesis to evaluate -/
example (out : ProgSt) (h : run Plan.exI Plan.exV pTC (ixSetsOf Plan.exV pTC) [[0], [1]] 10 sTC = some out) :
    ∀ f, factsOf out.st f ↔
      Derivable Plan.exI pTC.rules noAgg (fun g => g.rel < pTC.rels.length ∧ factsOf sTC g) f :=
  (runPhys_compiled_eq_leastModel Plan.exI Plan.exI_ext Plan.exV Plan.exI_supp pTC _ sTC 10 out tc_hyps.1 tc_hyps.2.1
    (by decide) tc_hyps.2.2.2.1 wf_sTC h).2.1

#print axioms planOk_ixSetsOf
#print axioms runPhys_compiled_eq_leastModel

end AscentVerif.Phys
