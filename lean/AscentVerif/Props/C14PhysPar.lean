import AscentVerif.Model.EnginePhysParTimeout
import AscentVerif.Props.C02Phys
import AscentVerif.Props.C13Phys
import AscentVerif.Proofs.PhysParTimeout
/-!
# C14 / C13 at the level of the concurrent indices: `run_timeout` of an `ascent_par!` program

`Model/EnginePhysParTimeout.lean` models the `run_timeout` that `#![generate_run_timeout]` adds to the code generated by
`ascent_par!` (`Model/EnginePhysPar.lean`): the deadline is looked at between the iterations of a looping SCC and at the end
of a non-looping one, after the dynamic indices have been unfrozen and merged; on the early `return false` every local index
of the current SCC is dropped and the struct keeps the `Default` (empty, unfrozen) indices `mem::take` left there.

For desugared, well-scoped, arity-correct, aggregation-free relational programs whose rule bodies mention declared relations
only, with the compiler's own index sets (`ixSetsOf`), for EVERY schedule, pool size, deadline oracle and fuel:

* `timeout_never_panics_physPar` — no index is read while unfrozen or written while frozen, on the early-return path either;
* `timeout_sound_physPar` — whichever way the call ended, the value it leaves is one `run()` / `run_timeout()` may be called
  on (`WFPCSt`), every row is derivable from the start value's rows, and the old rows are a prefix of the new ones;
* `timeout_true_complete_physPar` — returned `true`: exactly the least model;
* `resume_complete_physPar` — after ANY history of interrupted calls (`InterruptedPar`), a `run()` under any schedule in any
  pool does not panic, and if it returns it ends with exactly the least model of the ORIGINAL rows: the indices dropped by the
  early returns are rebuilt by `update_indices`.
-/
namespace AscentVerif.PhysPar
open AscentVerif AscentVerif.Engine AscentVerif.Index AscentVerif.Phys

variable {E B G P A : Type}

def stDB (p : Program E B G P A) (s : PCSt) : DB := fun g => g.rel < p.rels.length ∧ factsOf s g

/-- the standing hypotheses on interpretation and program: those of `Phys.Ctx` (serial `run_timeout`) plus declared body
relations (the hypothesis bundle of `runPhysPar_eq_leastModel`) -/
structure CtxPar (I : Interp E B G P A) (V : Hir.VarsOf E B) (p : Program E B G P A) (order : SccOrder) : Prop where
  ext : Plan.Ext I
  supp : Plan.Supp I V
  rel : Relational p
  order : validOrder p order = true
  arity : arityOk p = true
  decl : bodyDeclared p = true
  rules : ∀ r ∈ p.rules, Hir.Desugared V r = true ∧ Plan.WellScoped V r = true

theorem CtxPar.toCtx {I : Interp E B G P A} {V : Hir.VarsOf E B} {p : Program E B G P A} {order : SccOrder}
    (c : CtxPar I V p order) : Phys.Ctx I V p order := ⟨c.ext, c.supp, c.rel, c.order, c.arity, c.rules⟩

theorem CtxPar.bodyDecl {I : Interp E B G P A} {V : Hir.VarsOf E B} {p : Program E B G P A} {order : SccOrder}
    (c : CtxPar I V p order) : BodyDeclared p := bodyDeclared_of_check c.decl

theorem CtxPar.progOk {I : Interp E B G P A} {V : Hir.VarsOf E B} {p : Program E B G P A} {order : SccOrder}
    (c : CtxPar I V p order) : ProgOk I V p (ixSetsOf V p) ∧ Stratified p order :=
  progOk_ixSetsOf c.rel c.arity c.decl c.rules order

theorem facts_ltPar {p : Program E B G P A} {s : PCSt} (hlen : s.length = p.rels.length) {f : Fact} (hf : factsOf s f) :
    f.rel < p.rels.length := by
  have := lt_of_mem_prel (s.map PCRel.erase) f.rel f.args (by rw [erase_rows]; exact hf)
  rwa [List.length_map, hlen] at this

/-- `runPhysPar_eq_leastModel` in terms of the row vectors alone (`Rows.Ran` of `Proofs/Rows.lean`) -/
theorem runPhysPar_ran (I : Interp E B G P A) (V : Hir.VarsOf E B) (p : Program E B G P A) (order : SccOrder)
    (c : CtxPar I V p order) (σ : Sched E B G P A) (threads fuel : Nat) (s : PCSt) (hs : WFPCSt p s) :
    ∃ res, run I V p (ixSetsOf V p) order σ threads fuel s = .ok res ∧ ∀ o, res = some o →
      WFPCSt p o.st ∧ Rows.Ran I p.rules p.rels.length (fun r => (pcrel s r).rows) (fun r => (pcrel o.st r).rows) := by
  obtain ⟨res, hres, hsp⟩ := runPhysPar_eq_leastModel I c.ext V c.supp p order σ threads fuel s c.rel c.order c.arity c.decl
    c.rules hs
  refine ⟨res, hres, fun o ho => ?_⟩
  obtain ⟨hw, hm, hr⟩ := hsp o ho
  exact ⟨hw, fun _ => facts_ltPar hw.1, hm, hr⟩

/-- a call that returned `true` ends as `run()` does -/
theorem runTimeout_done_ran (I : Interp E B G P A) (V : Hir.VarsOf E B) (p : Program E B G P A) (order : SccOrder)
    (c : CtxPar I V p order) (σ : Sched E B G P A) (threads : Nat) (dl : Deadline) (fuel : Nat) (s : PCSt) (o : ProgStT)
    (hs : WFPCSt p s) (h : runTimeout I V p (ixSetsOf V p) order σ threads dl fuel s = .ok (.done o)) :
    WFPCSt p o.st ∧ Rows.Ran I p.rules p.rels.length (fun r => (pcrel s r).rows) (fun r => (pcrel o.st r).rows) := by
  obtain ⟨st', hnd, hs'⟩ := runTimeout_doneND I c.ext {} V c.supp p _ c.progOk.1 σ threads order c.progOk.2 dl fuel s o
    hs.1 hs.2.1 h
  obtain ⟨hw, hm, hr⟩ := leastModel_of_RunND I p _ order _ c.rel c.order hs.1 hs.2.1 hnd hs'
  exact ⟨hw, fun _ => facts_ltPar hw.1, hm, hr⟩

/-- **`run_timeout` of a parallel program never panics**: whatever the schedule, the pool size, the deadline oracle and the
fuel, from every program value `run()` may be called on, the call returns `true`, returns `false`, or is still running when
the model's fuel ends — no index is read while unfrozen or written while frozen, on the early-return path either -/
theorem timeout_never_panics_physPar (I : Interp E B G P A) (V : Hir.VarsOf E B) (p : Program E B G P A) (order : SccOrder)
    (c : CtxPar I V p order) (σ : Sched E B G P A) (threads : Nat) (dl : Deadline) (fuel : Nat) (s : PCSt)
    (hs : WFPCSt p s) :
    ∃ out, runTimeout I V p (ixSetsOf V p) order σ threads dl fuel s = .ok out :=
  (runTimeout_ok I c.ext V c.supp p (ixSetsOf V p) order σ threads dl fuel s c.rel c.bodyDecl
    (planOk_ixSetsOf V p c.arity) c.rules hs.1 hs.2.1).imp fun _ h => h.1

theorem timeout_ne_panic_physPar (I : Interp E B G P A) (V : Hir.VarsOf E B) (p : Program E B G P A) (order : SccOrder)
    (c : CtxPar I V p order) (σ : Sched E B G P A) (threads : Nat) (dl : Deadline) (fuel : Nat) (s : PCSt)
    (hs : WFPCSt p s) :
    runTimeout I V p (ixSetsOf V p) order σ threads dl fuel s ≠ .panic := by
  obtain ⟨out, hout⟩ := timeout_never_panics_physPar I V p order c σ threads dl fuel s hs
  rw [hout]
  intro h
  cases h

/-- the value a `run_timeout` call left, whichever way it ended -/
def OutcomeSt : Res (Outcome ProgStT) → Option PCSt
  | .ok (.done o) => some o.st
  | .ok (.timedOut o) => some o.st
  | _ => none

/-- **`run_timeout` stops only in a sound state**: a value `run()` may be called on (typed rows, every stored index unfrozen),
old rows kept as a prefix, every row derivable -/
theorem timeout_sound_physPar (I : Interp E B G P A) (V : Hir.VarsOf E B) (p : Program E B G P A) (order : SccOrder)
    (c : CtxPar I V p order) (σ : Sched E B G P A) (threads : Nat) (dl : Deadline) (s : PCSt) (fuel : Nat) (st' : PCSt)
    (hs : WFPCSt p s)
    (h : OutcomeSt (runTimeout I V p (ixSetsOf V p) order σ threads dl fuel s) = some st') :
    WFPCSt p st' ∧
    (∀ f, factsOf st' f → Derivable I p.rules noAgg (stDB p s) f) ∧
    (∀ r, r < p.rels.length → ∃ derived, (pcrel st' r).rows = (pcrel s r).rows ++ derived) := by
  obtain ⟨out, hout, hspec⟩ := runTimeout_ok I c.ext V c.supp p (ixSetsOf V p) order σ threads dl fuel s c.rel c.bodyDecl
    (planOk_ixSetsOf V p c.arity) c.rules hs.1 hs.2.1
  rw [hout] at h
  cases out with
  | done o =>
    simp only [OutcomeSt, Option.some.injEq] at h
    subst h
    obtain ⟨hw, hran⟩ := runTimeout_done_ran I V p order c σ threads dl fuel s o hs hout
    exact ⟨hw, fun f => (hran.facts f).mp, fun r hr' => (hran.ext r hr').imp fun _ hd => hd.1⟩
  | timedOut o =>
    simp only [OutcomeSt, Option.some.injEq] at h
    subst h
    obtain ⟨hw, hgood⟩ := hspec o rfl
    exact ⟨hw, fun ⟨r, t⟩ hf => (hgood r (facts_ltPar hw.1 hf)).1 t hf, fun r hr => (hgood r hr).2.imp fun _ hd => hd.1⟩
  | outOfFuel => cases h

/-- **`true` means complete** -/
theorem timeout_true_complete_physPar (I : Interp E B G P A) (V : Hir.VarsOf E B) (p : Program E B G P A) (order : SccOrder)
    (c : CtxPar I V p order) (σ : Sched E B G P A) (threads : Nat) (dl : Deadline) (s : PCSt) (fuel : Nat) (o : ProgStT)
    (hs : WFPCSt p s)
    (h : runTimeout I V p (ixSetsOf V p) order σ threads dl fuel s = .ok (.done o)) :
    ∀ f, factsOf o.st f ↔ Derivable I p.rules noAgg (stDB p s) f :=
  (runTimeout_done_ran I V p order c σ threads dl fuel s o hs h).2.facts

/-- a history of interrupted calls: each starts from the value the previous one left, under ITS OWN schedule, in its own pool,
with its own deadline oracle and fuel -/
inductive InterruptedPar (I : Interp E B G P A) (V : Hir.VarsOf E B) (p : Program E B G P A) (order : SccOrder) :
    PCSt → PCSt → Prop where
  | refl (s : PCSt) : InterruptedPar I V p order s s
  | step {s s₁ s₂ : PCSt} (σ : Sched E B G P A) (threads : Nat) (dl : Deadline) (fuel : Nat) (o : ProgStT) :
      InterruptedPar I V p order s s₁ →
      runTimeout I V p (ixSetsOf V p) order σ threads dl fuel s₁ = .ok (.timedOut o) → s₂ = o.st →
      InterruptedPar I V p order s s₂

theorem InterruptedPar.between {I : Interp E B G P A} {V : Hir.VarsOf E B} {p : Program E B G P A} {order : SccOrder}
    (c : CtxPar I V p order) {s s' : PCSt} (hs : WFPCSt p s) (hi : InterruptedPar I V p order s s') :
    WFPCSt p s' ∧ Rows.Between I p.rules noAgg (stDB p s) (stDB p s') := by
  induction hi with
  | refl => exact ⟨hs, .refl⟩
  | @step s₁ s₂ σ threads dl fuel o _ hrun hu ih =>
    subst hu
    obtain ⟨hw', hsound', hrows'⟩ := timeout_sound_physPar I V p order c σ threads dl s₁ fuel o.st ih.1 (by rw [hrun]; rfl)
    exact ⟨hw', ih.2.trans (.of_rows hsound' hrows')⟩

/-- after any number of interruptions the value is one `run()` may be called on and lies between the original rows and
their least model -/
theorem interrupted_between_physPar (I : Interp E B G P A) (V : Hir.VarsOf E B) (p : Program E B G P A) (order : SccOrder)
    (c : CtxPar I V p order) {s s' : PCSt} (hs : WFPCSt p s) (hi : InterruptedPar I V p order s s') :
    WFPCSt p s' ∧ (∀ f, factsOf s' f → Derivable I p.rules noAgg (stDB p s) f) ∧ (∀ f, stDB p s f → stDB p s' f) :=
  have hb := hi.between c hs
  ⟨hb.1, fun f hf => hb.2.sound f ⟨facts_ltPar hb.1.1 hf, hf⟩, hb.2.keep⟩

/-- **resumable**: after any number of interruptions — each under its own schedule, in its own pool — a `run()` under any
schedule in any pool does not panic, and if it returns it ends with the least model of the original rows -/
theorem resume_complete_physPar (I : Interp E B G P A) (V : Hir.VarsOf E B) (p : Program E B G P A) (order : SccOrder)
    (c : CtxPar I V p order) (s s' : PCSt) (σ : Sched E B G P A) (threads fuel : Nat) (hs : WFPCSt p s)
    (hi : InterruptedPar I V p order s s') :
    ∃ res, run I V p (ixSetsOf V p) order σ threads fuel s' = .ok res ∧
      ∀ o, res = some o → WFPCSt p o.st ∧ ∀ f, factsOf o.st f ↔ Derivable I p.rules noAgg (stDB p s) f :=
  have hb := hi.between c hs
  (runPhysPar_ran I V p order c σ threads fuel s' hb.1).imp fun _ h =>
    ⟨h.1, fun o ho => ⟨(h.2 o ho).1, (h.2 o ho).2.resume hb.2⟩⟩

/-- the resumption may itself be a `run_timeout` that returns `true` -/
theorem resume_timeout_complete_physPar (I : Interp E B G P A) (V : Hir.VarsOf E B) (p : Program E B G P A)
    (order : SccOrder) (c : CtxPar I V p order) (s s' : PCSt) (σ : Sched E B G P A) (threads : Nat) (dl : Deadline)
    (fuel : Nat) (o : ProgStT) (hs : WFPCSt p s) (hi : InterruptedPar I V p order s s')
    (h : runTimeout I V p (ixSetsOf V p) order σ threads dl fuel s' = .ok (.done o)) :
    ∀ f, factsOf o.st f ↔ Derivable I p.rules noAgg (stDB p s) f :=
  have hb := hi.between c hs
  (runTimeout_done_ran I V p order c σ threads dl fuel s' o hb.1 h).2.resume hb.2

/-! ## non-vacuity: transitive closure (`pTC`, `sTCpar`, `σTC` of `Props/C02Phys.lean`) in a pool of 3 workers, the deadline
passed at the first reading -/

theorem tc_ctxPar : CtxPar Plan.exI Plan.exV pTC [[0], [1]] :=
  ⟨Plan.exI_ext, Plan.exI_supp, tc_hyps.1, tc_hyps.2.1, tcPar_hyps.1, tcPar_hyps.2.1, tc_hyps.2.2.2.1⟩

/-- how the call ended (`true` = returned `true`) and the row vectors it left -/
def outcomeRows : Res (Outcome ProgStT) → Res (Option (Bool × List (List Tuple)))
  | .ok (.done o) => .ok (some (true, o.st.map (·.rows)))
  | .ok (.timedOut o) => .ok (some (false, o.st.map (·.rows)))
  | .ok .outOfFuel => .ok none
  | .panic => .panic

/-- number of shards of a `CRelNoIndex` (0 for a map) -/
def shardsOf : PCx → Nat
  | .noidx c => c.shards.length
  | .map _ _ => 0

/-- per relation: (full index frozen?, its size, per index (frozen?, number of keys, number of `CRelNoIndex` shards)) -/
def indexShape (st : PCSt) : List (Bool × Nat × List (Bool × Nat × Nat)) :=
  st.map fun pr => (pr.full.frozen, pr.full.m.length, pr.idxs.map fun ci => (ci.2.isFrozen, ci.2.erase.length, shardsOf ci.2))

def sTCint : PCSt :=
  (OutcomeSt (runTimeout Plan.exI Plan.exV pTC (ixSetsOf Plan.exV pTC) [[0], [1]] σTC 3 (fun k => k == 0) 10 sTCpar)).getD []

/-- `run_timeout` under the schedule `σTC` in a pool of 3 workers with the deadline already passed at the first clock reading
(the end of the non-looping SCC of `path(x, y) <-- edge(x, y)`) returns `false` with two `path` rows — the complete run has
three — and every index of `edge` (body-only, frozen when the SCC took it) and `path` (dynamic) dropped: the struct holds
empty UNFROZEN indices, the `CRelNoIndex` of `edge` now with the 3 shards of the interrupted call's pool (the start value was
constructed in a pool of 2).  A following `run()` under the same schedule, or a
`run_timeout` whose deadline never passes, rebuilds the indices and ends with the full closure; a deadline passing at the
second reading (after the first iteration of the looping SCC) interrupts with all three rows present -/
theorem tcPar_timeout :
    outcomeRows (runTimeout Plan.exI Plan.exV pTC (ixSetsOf Plan.exV pTC) [[0], [1]] σTC 3 (fun k => k == 0) 10 sTCpar) =
      .ok (some (false, [[[.int 1, .int 2], [.int 2, .int 3]], [[.int 1, .int 2], [.int 2, .int 3]]])) ∧
    indexShape sTCpar = [(false, 0, [(false, 0, 2), (false, 0, 0)]), (false, 0, [(false, 0, 0)])] ∧
    indexShape sTCint = [(false, 0, [(false, 0, 3), (false, 0, 0)]), (false, 0, [(false, 0, 0)])] ∧
    obs (run Plan.exI Plan.exV pTC (ixSetsOf Plan.exV pTC) [[0], [1]] σTC 3 10 sTCint) =
      .ok (some ([[[.int 1, .int 2], [.int 2, .int 3]], [[.int 1, .int 2], [.int 2, .int 3], [.int 1, .int 3]]], [1, 2])) ∧
    outcomeRows (runTimeout Plan.exI Plan.exV pTC (ixSetsOf Plan.exV pTC) [[0], [1]] σTC 2 (fun _ => false) 10 sTCint) =
      .ok (some (true, [[[.int 1, .int 2], [.int 2, .int 3]], [[.int 1, .int 2], [.int 2, .int 3], [.int 1, .int 3]]])) ∧
    outcomeRows (runTimeout Plan.exI Plan.exV pTC (ixSetsOf Plan.exV pTC) [[0], [1]] σTC 3 (fun k => k == 1) 10 sTCpar) =
      .ok (some (false, [[[.int 1, .int 2], [.int 2, .int 3]], [[.int 1, .int 2], [.int 2, .int 3], [.int 1, .int 3]]])) ∧
    outcomeRows (runTimeout Plan.exI Plan.exV pTC (ixSetsOf Plan.exV pTC) [[0], [1]] σTC 3 (fun _ => false) 10 sTCpar) =
      .ok (some (true, [[[.int 1, .int 2], [.int 2, .int 3]], [[.int 1, .int 2], [.int 2, .int 3], [.int 1, .int 3]]])) := by
  decide_conj

theorem tcPar_interrupted : InterruptedPar Plan.exI Plan.exV pTC [[0], [1]] sTCpar sTCint := by
  obtain ⟨out, hout⟩ := timeout_never_panics_physPar Plan.exI Plan.exV pTC _ tc_ctxPar σTC 3 (fun k => k == 0) 10 sTCpar
    wf_sTCpar
  have h1 := tcPar_timeout.1
  have hint : sTCint = (OutcomeSt (.ok out)).getD [] := by
    unfold sTCint
    rw [hout]
  rw [hout] at h1
  cases out with
  | done o => simp [outcomeRows] at h1
  | outOfFuel => simp [outcomeRows] at h1
  | timedOut o => exact .step σTC 3 _ 10 o (.refl _) hout (by rw [hint]; rfl)

/-- the theorems apply to that history: interrupted once in a pool of 3, the value left is well-formed and holds derivable
rows only; then completed by a `run()` under ANY schedule in ANY pool: no panic, the transitive closure -/
example (σ : Sched Plan.Ex Plan.Bx Plan.Ex Unit Unit) (threads fuel : Nat) :
    WFPCSt pTC sTCint ∧
    (∀ f, factsOf sTCint f → Derivable Plan.exI pTC.rules noAgg (stDB pTC sTCpar) f) ∧
    ∃ res, run Plan.exI Plan.exV pTC (ixSetsOf Plan.exV pTC) [[0], [1]] σ threads fuel sTCint = .ok res ∧
      ∀ o, res = some o → ∀ f, factsOf o.st f ↔ Derivable Plan.exI pTC.rules noAgg (stDB pTC sTCpar) f := by
  obtain ⟨h1, h2, _⟩ := interrupted_between_physPar Plan.exI Plan.exV pTC _ tc_ctxPar wf_sTCpar tcPar_interrupted
  obtain ⟨res, hres, hsp⟩ := resume_complete_physPar Plan.exI Plan.exV pTC _ tc_ctxPar sTCpar sTCint σ threads fuel
    wf_sTCpar tcPar_interrupted
  exact ⟨h1, h2, res, hres, fun o ho => (hsp o ho).2⟩

#print axioms timeout_never_panics_physPar
#print axioms timeout_ne_panic_physPar
#print axioms timeout_sound_physPar
#print axioms timeout_true_complete_physPar
#print axioms interrupted_between_physPar
#print axioms resume_complete_physPar
#print axioms resume_timeout_complete_physPar
#print axioms tcPar_timeout
#print axioms tcPar_interrupted

end AscentVerif.PhysPar
