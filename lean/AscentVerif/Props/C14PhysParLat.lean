import AscentVerif.Model.EnginePhysParLatTimeout
import AscentVerif.Props.C02PhysLat
import AscentVerif.Proofs.PhysParLatTimeout
/-!
# C14 / C13 at the level of the concurrent indices, WITH lattices: `run_timeout` of an `ascent_par!` program

`Model/EnginePhysParLatTimeout.lean` models the `run_timeout` that `#![generate_run_timeout]` adds to the code `ascent_par!`
generates for an aggregation-free program with `lattice` relations (`Model/EnginePhysParLat.lean`): the deadline is looked at
between the iterations of a looping SCC and at the end of a non-looping one, after the dynamic indices have been unfrozen and
merged; on the early `return false` every local index of the current SCC — key indices, `CLatIndex`es, the indices of the
plain relations — is dropped, the struct keeps `Default` (empty, unfrozen) indices, and the row vectors stay: for a lattice
the rows with the values joined so far.

Under the hypotheses of `runPhysParLat_spec` (`CtxPL`: `Plan.Ext`, `Plan.Supp`, the flag law `hff` of `join_mut`, `LatticeProg`,
`validOrder`, `arityOk`, `bodyDeclared`, `latPlanOk`, desugared well-scoped rules), from every legal program value (`Legal`:
`WFSt` and at most one row per lattice key), for EVERY schedule, pool size, rule-scheduling mode, deadline oracle and fuel:

* `timeout_never_panics_physParLat` — `run_timeout` never panics, on the early-return path either;
* `timeout_sound_physParLat` — whichever way the call ended, the value it leaves is legal again; every plain relation is the old
  row vector followed by duplicate-free new rows; every lattice key is kept with a value above (`L.le`) the one it had
  (`DBLe` from the start value); and — for monotone programs — the value is below every closed key-unique database above the
  start value, i.e. below the least fixed point;
* `timeout_true_complete_physParLat` — if it returned `true` the conclusion of `runPhysParLat_spec` holds: closed, least;
* `resume_complete_physParLat` — after ANY history of interrupted calls (`InterruptedPL`: each call with its own schedule, pool
  size, mode, deadline oracle and fuel) a `run()` under any schedule in any pool and mode does not panic, and what it returns
  is closed with respect to the ORIGINAL value and, for monotone programs, least among the closed key-unique databases above it.

No antisymmetry of the order is needed (as in `Props/C13PhysLat.lean`, where only idempotence needs it); the flag law `hff` is,
exactly as in `runPhysParLat_spec` (it follows from antisymmetry: `hff_of_antisymm`).
-/
namespace AscentVerif.PhysParLat
open AscentVerif AscentVerif.Engine AscentVerif.Index AscentVerif.Phys

variable {E B G P A : Type}

/-- the standing hypotheses on interpretation, program, index sets and SCC order: those of `runPhysParLat_spec` -/
structure CtxPL (I : Interp E B G P A) (V : Hir.VarsOf E B) (p : Program E B G P A) (ix : IxSets) (order : SccOrder) :
    Prop where
  ext : Plan.Ext I
  supp : Plan.Supp I V
  hff : ∀ r a b, (I.joinMut r a b).2 = false → (I.joinMut r a b).1 = a
  prog : LatticeProg p
  valid : validOrder p order = true
  arity : arityOk p = true
  decl : PhysPar.bodyDeclared p = true
  plan : latPlanOk V p ix = true
  rules : ∀ r ∈ p.rules, Hir.Desugared V r = true ∧ Plan.WellScoped V r = true

theorem CtxPL.bodyDecl {I : Interp E B G P A} {V : Hir.VarsOf E B} {p : Program E B G P A} {ix : IxSets} {order : SccOrder}
    (c : CtxPL I V p ix order) : PhysPar.BodyDeclared p := PhysPar.bodyDeclared_of_check c.decl

theorem CtxPL.run {I : Interp E B G P A} {V : Hir.VarsOf E B} {p : Program E B G P A} {ix : IxSets} {order : SccOrder}
    (c : CtxPL I V p ix order) : RunCtx I V p ix :=
  runCtx_of_latPlanOk c.ext c.supp c.hff c.prog c.bodyDecl c.plan c.rules

/-- a program value `run()` / `run_timeout()` may be called on: well-formed (`WFSt`: one entry per declared relation, rows in
their own part, typed rows, every stored index unfrozen) with at most one row per lattice key (`InputOK`, which also repeats the
typing of the rows) -/
def Legal (p : Program E B G P A) (s : PLSt) : Prop := WFSt p s ∧ InputOK p (xrows s)

theorem inputOK_of_wf {p : Program E B G P A} {s : PLSt} (hw : WFSt p s)
    (hk : ∀ r, r < p.rels.length → (declOf p r).lat = true → ((xrows s r).map keyOf).Nodup) : InputOK p (xrows s) :=
  ⟨fun r _ => hw.typed r, hk⟩

theorem factsOf_eq_inputDB {p : Program E B G P A} {s : PLSt} (hw : WFSt p s) : factsOf s = inputDB p (xrows s) := by
  funext f
  apply propext
  constructor
  · intro hf
    refine ⟨?_, hf⟩
    rcases Nat.lt_or_ge f.rel p.rels.length with h | h
    · exact h
    · exfalso
      have hf' : f.args ∈ (PhysPar.pcrel s.pc f.rel).rows ++ (lrel s.lat f.rel).rows := hf
      rw [PhysPar.pcrel_of_ge _ _ (by rw [hw.1.1]; exact h), lrel_of_ge _ _ (by rw [hw.2.1]; exact h)] at hf'
      cases hf'
  · intro hf
    exact hf.2

/-- `DBLe` from a start value, unfolded for a lattice relation: every key is kept, with a value above the old one -/
theorem lat_above_of_DBLe {I : Interp E B G P A} {L : LatOrder I} {p : Program E B G P A} {s st' : PLSt}
    (hle : DBLe I L p (inputDB p (xrows s)) (factsOf st')) (r : RelId) (hr : r < p.rels.length)
    (hl : (declOf p r).lat = true) :
    ∀ t ∈ xrows s r, ∃ t' ∈ xrows st' r, keyOf t' = keyOf t ∧ L.le r (valOf t) (valOf t') := by
  intro t ht
  have h := hle ⟨r, t⟩ ⟨hr, ht⟩
  unfold Dominated at h
  have hl' : isLat p r = true := hl
  simp only [hl', if_true] at h
  exact h

/-- **`run_timeout` of a parallel program with lattices never panics**: whatever the schedule, the pool size, the rule-scheduling
mode, the deadline oracle and the fuel, from every legal program value the call returns `true`, returns `false`, or is still
running when the model's fuel ends — no index is read while unfrozen or written while frozen, no row number is out of bounds, on
the early-return path either -/
theorem timeout_never_panics_physParLat (I : Interp E B G P A) (L : LatOrder I) (V : Hir.VarsOf E B) (p : Program E B G P A)
    (ix : IxSets) (order : SccOrder) (c : CtxPL I V p ix order) (σ : PhysPar.Sched E B G P A) (interRule : Bool)
    (threads : Nat) (dl : Deadline) (fuel : Nat) (s : PLSt) (hs : Legal p s) :
    ∃ out, runTimeout I V p ix order σ interRule threads dl fuel s = .ok out :=
  (runTimeout_simP I L V p ix order c.run σ interRule threads dl fuel s hs.1 hs.2).imp fun _ h => h.1

theorem timeout_ne_panic_physParLat (I : Interp E B G P A) (L : LatOrder I) (V : Hir.VarsOf E B) (p : Program E B G P A)
    (ix : IxSets) (order : SccOrder) (c : CtxPL I V p ix order) (σ : PhysPar.Sched E B G P A) (interRule : Bool)
    (threads : Nat) (dl : Deadline) (fuel : Nat) (s : PLSt) (hs : Legal p s) :
    runTimeout I V p ix order σ interRule threads dl fuel s ≠ .panic := by
  obtain ⟨out, hout⟩ := timeout_never_panics_physParLat I L V p ix order c σ interRule threads dl fuel s hs
  rw [hout]
  intro h
  cases h

/-- the value a `run_timeout` call left, whichever way it ended -/
def OutcomeSt : Res (Outcome ProgStT) → Option PLSt
  | .ok (.done o) => some o.st
  | .ok (.timedOut o) => some o.st
  | _ => none

/-- **`run_timeout` stops only in a sound state**, finished or not, wherever the deadline strikes: the value left is legal
again (well-formed, every stored index unfrozen, one row per lattice key); every plain relation holds its old rows followed by
duplicate-free new ones; every lattice key is kept with a value ABOVE the one it had; the value dominates the start value and —
for monotone programs — is BELOW every closed key-unique database above the start value, i.e. below the least fixed point -/
theorem timeout_sound_physParLat (I : Interp E B G P A) (L : LatOrder I) (V : Hir.VarsOf E B) (p : Program E B G P A)
    (ix : IxSets) (order : SccOrder) (c : CtxPL I V p ix order) (σ : PhysPar.Sched E B G P A) (interRule : Bool)
    (threads : Nat) (dl : Deadline) (s : PLSt) (fuel : Nat) (st' : PLSt) (hs : Legal p s)
    (h : OutcomeSt (runTimeout I V p ix order σ interRule threads dl fuel s) = some st') :
    Legal p st' ∧
    (∀ r, r < p.rels.length → (declOf p r).lat = false → ∃ derived : List Tuple,
      xrows st' r = xrows s r ++ derived ∧ derived.Nodup ∧ ∀ t ∈ derived, t ∉ xrows s r) ∧
    (∀ r, r < p.rels.length → (declOf p r).lat = true →
      ∀ t ∈ xrows s r, ∃ t' ∈ xrows st' r, keyOf t' = keyOf t ∧ L.le r (valOf t) (valOf t')) ∧
    DBLe I L p (inputDB p (xrows s)) (factsOf st') ∧
    (MonotoneProg I L p → ∀ M : DB, KeyUnique p M → LClosed I L p (inputDB p (xrows s)) M → DBLe I L p (factsOf st') M) := by
  obtain ⟨out, hout, hpost⟩ := runTimeout_simP I L V p ix order c.run σ interRule threads dl fuel s hs.1 hs.2
  rw [hout] at h
  cases out with
  | done o =>
    obtain rfl : o.st = st' := Option.some.inj h
    obtain ⟨st1, hnd, hs'⟩ := hpost
    obtain ⟨hw, hk, hcl, hleast, hset⟩ := spec_of_simulated I L p ix order c.prog c.valid hs.2 hnd hs'
    exact ⟨⟨hw, inputOK_of_wf hw hk⟩, hset, lat_above_of_DBLe hcl.1, hcl.1, hleast⟩
  | timedOut o =>
    obtain rfl : o.st = st' := Option.some.inj h
    have hab : Abandoned I L p (xrows s) (inDB p (xrows s)) o.st := hpost
    exact ⟨⟨hab.wf, inputOK_of_wf hab.wf fun r _ hl => hab.keys r hl⟩, hab.relset, lat_above_of_DBLe hab.above,
      hab.above, fun hm M hMk hM => hab.below M ⟨hm, hMk, hM⟩⟩
  | outOfFuel => cases h

/-- **`true` means complete**: the conclusion of `runPhysParLat_spec` — well-formed, one row per key, closed over the final
values, least among the closed key-unique databases for monotone programs, plain relations = old rows ++ duplicate-free new rows -/
theorem timeout_true_complete_physParLat (I : Interp E B G P A) (L : LatOrder I) (V : Hir.VarsOf E B) (p : Program E B G P A)
    (ix : IxSets) (order : SccOrder) (c : CtxPL I V p ix order) (σ : PhysPar.Sched E B G P A) (interRule : Bool)
    (threads : Nat) (dl : Deadline) (s : PLSt) (fuel : Nat) (o : ProgStT) (hs : Legal p s)
    (h : runTimeout I V p ix order σ interRule threads dl fuel s = .ok (.done o)) :
    WFSt p o.st ∧
    (∀ r, r < p.rels.length → (declOf p r).lat = true → ((xrows o.st r).map keyOf).Nodup) ∧
    LClosed I L p (inputDB p (xrows s)) (factsOf o.st) ∧
    (MonotoneProg I L p → ∀ M : DB, KeyUnique p M → LClosed I L p (inputDB p (xrows s)) M → DBLe I L p (factsOf o.st) M) ∧
    (∀ r, r < p.rels.length → (declOf p r).lat = false → ∃ derived : List Tuple,
      xrows o.st r = xrows s r ++ derived ∧ derived.Nodup ∧ ∀ t ∈ derived, t ∉ xrows s r) := by
  obtain ⟨st', hnd, hs'⟩ := PhysPar.spec_of_ok (runTimeout_simP I L V p ix order c.run σ interRule threads dl fuel s hs.1 hs.2) h
  exact spec_of_simulated I L p ix order c.prog c.valid hs.2 hnd hs'

/-- a history of interrupted calls: each starts from the value the previous one left, under ITS OWN schedule, in its own pool,
in its own rule-scheduling mode, with its own deadline oracle and fuel -/
inductive InterruptedPL (I : Interp E B G P A) (V : Hir.VarsOf E B) (p : Program E B G P A) (ix : IxSets) (order : SccOrder) :
    PLSt → PLSt → Prop where
  | refl (s : PLSt) : InterruptedPL I V p ix order s s
  | step {s s₁ s₂ : PLSt} (σ : PhysPar.Sched E B G P A) (interRule : Bool) (threads : Nat) (dl : Deadline) (fuel : Nat)
      (o : ProgStT) :
      InterruptedPL I V p ix order s s₁ →
      runTimeout I V p ix order σ interRule threads dl fuel s₁ = .ok (.timedOut o) → s₂ = o.st →
      InterruptedPL I V p ix order s s₂

/-- after any number of interruptions the value is legal, keeps the plain rows of the original value as a prefix, dominates the
original value and — for monotone programs — is below every closed key-unique database above the original value -/
theorem interrupted_between_physParLat (I : Interp E B G P A) (L : LatOrder I) (V : Hir.VarsOf E B) (p : Program E B G P A)
    (ix : IxSets) (order : SccOrder) (c : CtxPL I V p ix order) {s s' : PLSt} (hs : Legal p s)
    (hi : InterruptedPL I V p ix order s s') :
    Legal p s' ∧
    (∀ r, r < p.rels.length → (declOf p r).lat = false → ∃ derived : List Tuple, xrows s' r = xrows s r ++ derived) ∧
    DBLe I L p (inputDB p (xrows s)) (inputDB p (xrows s')) ∧
    (MonotoneProg I L p → ∀ M : DB, KeyUnique p M → LClosed I L p (inputDB p (xrows s)) M →
      DBLe I L p (inputDB p (xrows s')) M) := by
  induction hi with
  | refl => exact ⟨hs, fun r _ _ => ⟨[], (List.append_nil _).symm⟩, DBLe.refl _, fun _ M _ hM => hM.1⟩
  | @step s₁ s₂ σ interRule threads dl fuel o _ hrun hu ih =>
    obtain ⟨hl1, hpre, hle, hbelow⟩ := ih
    subst hu
    obtain ⟨hl2, hset, _, hle2, hbelow2⟩ := timeout_sound_physParLat I L V p ix order c σ interRule threads dl s₁ fuel o.st hl1
      (by rw [hrun]; rfl)
    rw [factsOf_eq_inputDB hl2.1] at hle2 hbelow2
    refine ⟨hl2, ?_, DBLe.trans hle hle2, ?_⟩
    · intro r hr hl
      obtain ⟨d1, hd1⟩ := hpre r hr hl
      obtain ⟨d2, hd2, _, _⟩ := hset r hr hl
      exact ⟨d1 ++ d2, by rw [hd2, hd1, List.append_assoc]⟩
    · intro hm M hMk hM
      exact hbelow2 hm M hMk ⟨hbelow hm M hMk hM, hM.2⟩

/-- **resumable**: after any number of interruptions — each under its own schedule, in its own pool and mode — a `run()` under
any schedule in any pool and mode does not panic, and what it returns is legal, closed with respect to the ORIGINAL value
(dominates it, closed under the rules over the final values) and — for monotone programs — least among the closed key-unique
databases above the original value -/
theorem resume_complete_physParLat (I : Interp E B G P A) (L : LatOrder I) (V : Hir.VarsOf E B) (p : Program E B G P A)
    (ix : IxSets) (order : SccOrder) (c : CtxPL I V p ix order) (s s' : PLSt) (σ : PhysPar.Sched E B G P A)
    (interRule : Bool) (threads fuel : Nat) (hs : Legal p s) (hi : InterruptedPL I V p ix order s s') :
    ∃ res, run I V p ix order σ interRule threads fuel s' = .ok res ∧
      ∀ out, res = some out →
        WFSt p out.st ∧
        (∀ r, r < p.rels.length → (declOf p r).lat = true → ((xrows out.st r).map keyOf).Nodup) ∧
        LClosed I L p (inputDB p (xrows s)) (factsOf out.st) ∧
        (MonotoneProg I L p → ∀ M : DB, KeyUnique p M → LClosed I L p (inputDB p (xrows s)) M →
          DBLe I L p (factsOf out.st) M) ∧
        (∀ r, r < p.rels.length → (declOf p r).lat = false → ∃ derived : List Tuple, xrows out.st r = xrows s r ++ derived) := by
  obtain ⟨hl', hpre, hle, hbelow⟩ := interrupted_between_physParLat I L V p ix order c hs hi
  obtain ⟨res, hres, hsp⟩ := runPhysParLat_spec I L c.ext V c.supp p ix order σ interRule threads fuel s' c.hff c.prog
    c.valid c.arity c.decl c.plan c.rules hl'.1 hl'.2
  refine ⟨res, hres, ?_⟩
  intro out hout
  obtain ⟨hw, hk, hcl, hleast, hset⟩ := hsp out hout
  refine ⟨hw, hk, ⟨DBLe.trans hle hcl.1, hcl.2⟩, ?_, ?_⟩
  · intro hm M hMk hM
    exact hleast hm M hMk ⟨hbelow hm M hMk hM, hM.2⟩
  · intro r hr hl
    obtain ⟨d1, hd1⟩ := hpre r hr hl
    obtain ⟨d2, hd2, _, _⟩ := hset r hr hl
    exact ⟨d1 ++ d2, by rw [hd2, hd1, List.append_assoc]⟩

/-- the resumption may itself be a `run_timeout` that returns `true` -/
theorem resume_timeout_complete_physParLat (I : Interp E B G P A) (L : LatOrder I) (V : Hir.VarsOf E B)
    (p : Program E B G P A) (ix : IxSets) (order : SccOrder) (c : CtxPL I V p ix order) (s s' : PLSt)
    (σ : PhysPar.Sched E B G P A) (interRule : Bool) (threads : Nat) (dl : Deadline) (fuel : Nat) (o : ProgStT)
    (hs : Legal p s) (hi : InterruptedPL I V p ix order s s')
    (h : runTimeout I V p ix order σ interRule threads dl fuel s' = .ok (.done o)) :
    LClosed I L p (inputDB p (xrows s)) (factsOf o.st) ∧
    (MonotoneProg I L p → ∀ M : DB, KeyUnique p M → LClosed I L p (inputDB p (xrows s)) M → DBLe I L p (factsOf o.st) M) := by
  obtain ⟨hl', _, hle, hbelow⟩ := interrupted_between_physParLat I L V p ix order c hs hi
  obtain ⟨_, _, hcl, hleast, _⟩ := timeout_true_complete_physParLat I L V p ix order c σ interRule threads dl s' fuel o hl' h
  exact ⟨⟨DBLe.trans hle hcl.1, hcl.2⟩, fun hm M hMk hM => hleast hm M hMk ⟨hbelow hm M hMk hM, hM.2⟩⟩

/-! ## non-vacuity: longest weighted paths (`pDist`, `sDist`, `σA`, `σB` of `Props/C02PhysLat.lean`), the deadline passed at
the first reading

`edge(x, y, w)` plain, `dist(x, d)` a `max` lattice, `dist(y, d + w) <-- dist(x, d), edge(x, y, w)`; edges `1 →3 2 →4 3`,
`1 →5 3`; `dist(1) = 0`; one looping SCC.  The first clock reading is after the first iteration (which changed `dist`). -/

open AscentVerif.PhysLat (pDist inpDist exL)

theorem dist_ctxPL : CtxPL exL Plan.exV pDist (ixSetsOf Plan.exV pDist) [[0]] :=
  ⟨PhysLat.exL_ext, PhysLat.exL_supp, exL_hff, PhysLat.dist_hyps.1, PhysLat.dist_hyps.2.1, distPar_hyps.1, distPar_hyps.2.1,
    distPar_hyps.2.2.1, PhysLat.dist_hyps.2.2.2.1⟩

theorem legal_sDist : Legal pDist sDist := ⟨wf_sDist, inputOK_sDist⟩

/-- how the call ended (`true` = returned `true`), the row vectors it left, `scc_iters` -/
def outcomeRows : Res (Outcome ProgStT) → Res (Option (Bool × List (List Tuple) × List Nat))
  | .ok (.done o) => .ok (some (true, (List.range o.st.pc.length).map (xrows o.st), o.iters))
  | .ok (.timedOut o) => .ok (some (false, (List.range o.st.pc.length).map (xrows o.st), o.iters))
  | .ok .outOfFuel => .ok none
  | .panic => .panic

/-- per lattice slot, per index: (columns, frozen?, number of keys) -/
def latShape (st : PLSt) : List (List (List Nat × Bool × Nat)) :=
  st.lat.map fun l => l.idxs.map fun ci =>
    (ci.1, ci.2.isFrozen, match ci.2 with
      | .key _ m => m.length
      | .rows _ m => m.length)

/-- per plain slot: (full index frozen?, its size, per index (frozen?, number of keys, number of `CRelNoIndex` shards)) -/
def plainShape (st : PLSt) : List (Bool × Nat × List (Bool × Nat × Nat)) :=
  st.pc.map fun pr => (pr.full.frozen, pr.full.m.length, pr.idxs.map fun ci =>
    (ci.2.isFrozen, ci.2.erase.length, match ci.2 with
      | .noidx c => c.shards.length
      | .map _ _ => 0))

/-- the value a completed `run()` left -/
def doneSt : Res (Option ProgSt) → PLSt
  | .ok (some o) => o.st
  | _ => ⟨[], []⟩

/-- the value the interrupted call of the example leaves -/
def sDistInt : PLSt :=
  (OutcomeSt (runTimeout exL Plan.exV pDist (ixSetsOf Plan.exV pDist) [[0]] σA false 2 (fun k => k == 0) 10 sDist)).getD ⟨[], []⟩

set_option synthInstance.maxSize 1024 in
/-- `run_timeout` under the schedule `σA` in a pool of 2 workers with the deadline already passed at the first clock reading
(after the first iteration of the looping SCC) returns `false` with `dist = {1 ↦ 0, 2 ↦ 3, 3 ↦ 5}` — node 3 has the value of
the direct edge, the complete run joins it to 7 — after 1 iteration, and with every index of `dist` (dynamic: key index `[0]`,
all-columns index `[0, 1]`) and of `edge` (body-only, frozen when the SCC took it) dropped: the struct holds empty UNFROZEN
indices.  A following `run()` under the OTHER schedule `σB`, in another pool (3 workers) and with `#![inter_rule_parallelism]`
rebuilds the indices (key index of `dist`: 3 keys; its all-columns index: the 3 rows the interrupted call left, inserted by
`update_indices`; `edge`: 3 rows, 2 keys in the index on column 0) and ends with the distances `{1 ↦ 0, 2 ↦ 3, 3 ↦ 7}`; so does a
`run_timeout` whose deadline never passes.
A deadline passing at the second reading interrupts with `3 ↦ 7` already joined in place (a third iteration would find nothing
new); passed at the third reading it is never read: the loop breaks first -/
theorem distPar_timeout :
    outcomeRows (runTimeout exL Plan.exV pDist (ixSetsOf Plan.exV pDist) [[0]] σA false 2 (fun k => k == 0) 10 sDist) =
      .ok (some (false, [[[.int 1, .int 2, .int 3], [.int 2, .int 3, .int 4], [.int 1, .int 3, .int 5]],
                         [[.int 1, .int 0], [.int 2, .int 3], [.int 3, .int 5]]], [1])) ∧
    latShape sDistInt = [[], [([0], false, 0), ([0, 1], false, 0)]] ∧
    plainShape sDistInt = [(false, 0, [(false, 0, 0)]), (false, 0, [])] ∧
    obs (run exL Plan.exV pDist (ixSetsOf Plan.exV pDist) [[0]] σB true 3 10 sDistInt) =
      .ok (some ([[[.int 1, .int 2, .int 3], [.int 2, .int 3, .int 4], [.int 1, .int 3, .int 5]],
                  [[.int 1, .int 0], [.int 2, .int 3], [.int 3, .int 7]]], [2])) ∧
    latShape (doneSt (run exL Plan.exV pDist (ixSetsOf Plan.exV pDist) [[0]] σB true 3 10 sDistInt)) =
      [[], [([0], false, 3), ([0, 1], false, 3)]] ∧
    plainShape (doneSt (run exL Plan.exV pDist (ixSetsOf Plan.exV pDist) [[0]] σB true 3 10 sDistInt)) =
      [(false, 3, [(false, 2, 0)]), (false, 0, [])] ∧
    outcomeRows (runTimeout exL Plan.exV pDist (ixSetsOf Plan.exV pDist) [[0]] σB false 3 (fun _ => false) 10 sDistInt) =
      .ok (some (true, [[[.int 1, .int 2, .int 3], [.int 2, .int 3, .int 4], [.int 1, .int 3, .int 5]],
                        [[.int 1, .int 0], [.int 2, .int 3], [.int 3, .int 7]]], [2])) ∧
    outcomeRows (runTimeout exL Plan.exV pDist (ixSetsOf Plan.exV pDist) [[0]] σA false 2 (fun k => k == 1) 10 sDist) =
      .ok (some (false, [[[.int 1, .int 2, .int 3], [.int 2, .int 3, .int 4], [.int 1, .int 3, .int 5]],
                         [[.int 1, .int 0], [.int 2, .int 3], [.int 3, .int 7]]], [2])) ∧
    outcomeRows (runTimeout exL Plan.exV pDist (ixSetsOf Plan.exV pDist) [[0]] σA false 2 (fun k => k == 2) 10 sDist) =
      .ok (some (true, [[[.int 1, .int 2, .int 3], [.int 2, .int 3, .int 4], [.int 1, .int 3, .int 5]],
                        [[.int 1, .int 0], [.int 2, .int 3], [.int 3, .int 7]]], [3])) :=
  by decide_conj

/-- the value the example's interrupted call left is `sDistInt`, read off `distPar_timeout` -/
theorem outcome_sDistInt : ∃ o,
    runTimeout exL Plan.exV pDist (ixSetsOf Plan.exV pDist) [[0]] σA false 2 (fun k => k == 0) 10 sDist = .ok (.timedOut o) ∧
      o.st = sDistInt := by
  have h1 := distPar_timeout.1
  unfold sDistInt
  cases hout : runTimeout exL Plan.exV pDist (ixSetsOf Plan.exV pDist) [[0]] σA false 2 (fun k => k == 0) 10 sDist with
  | panic => rw [hout] at h1; simp [outcomeRows] at h1
  | ok out =>
    rw [hout] at h1
    cases out with
    | done o => simp [outcomeRows] at h1
    | outOfFuel => simp [outcomeRows] at h1
    | timedOut o => exact ⟨o, rfl, rfl⟩

/-- the example's interrupted call is a one-step history from `sDist` to `sDistInt` -/
theorem distPar_interrupted : InterruptedPL exL Plan.exV pDist (ixSetsOf Plan.exV pDist) [[0]] sDist sDistInt := by
  obtain ⟨o, hout, hst⟩ := outcome_sDistInt
  exact .step σA false 2 _ 10 o (.refl _) hout hst.symm

/-- the theorems apply to that history, for every order `L` on the lattice values that satisfies the laws: interrupted once,
the value left is legal, keeps every `edge` row, keeps every `dist` key with a value above the old one; then completed by a
`run()` under ANY schedule in ANY pool and mode: no panic, one row per key, closed over the original value -/
example (L : LatOrder exL) (σ : PhysPar.Sched Plan.Ex Plan.Bx Plan.Ex Unit Unit) (ir : Bool) (threads fuel : Nat) :
    Legal pDist sDistInt ∧
    (∀ t ∈ xrows sDist 1, ∃ t' ∈ xrows sDistInt 1, keyOf t' = keyOf t ∧ L.le 1 (valOf t) (valOf t')) ∧
    ∃ res, run exL Plan.exV pDist (ixSetsOf Plan.exV pDist) [[0]] σ ir threads fuel sDistInt = .ok res ∧
      ∀ out, res = some out → ((xrows out.st 1).map keyOf).Nodup ∧
        LClosed exL L pDist (inputDB pDist (xrows sDist)) (factsOf out.st) := by
  obtain ⟨o, hout, hst⟩ := outcome_sDistInt
  have hleft : OutcomeSt (runTimeout exL Plan.exV pDist (ixSetsOf Plan.exV pDist) [[0]] σA false 2 (fun k => k == 0) 10 sDist) =
      some sDistInt := by
    rw [hout, ← hst]
    rfl
  obtain ⟨h1, _, h3, _⟩ := timeout_sound_physParLat exL L Plan.exV pDist _ [[0]] dist_ctxPL σA false 2 (fun k => k == 0) sDist
    10 sDistInt legal_sDist hleft
  obtain ⟨res, hres, hsp⟩ := resume_complete_physParLat exL L Plan.exV pDist _ [[0]] dist_ctxPL sDist sDistInt σ ir threads
    fuel legal_sDist distPar_interrupted
  exact ⟨h1, h3 1 (by decide) rfl, res, hres, fun out ho => ⟨(hsp out ho).2.1 1 (by decide) rfl, (hsp out ho).2.2.1⟩⟩

#print axioms timeout_never_panics_physParLat
#print axioms timeout_ne_panic_physParLat
#print axioms timeout_sound_physParLat
#print axioms timeout_true_complete_physParLat
#print axioms interrupted_between_physParLat
#print axioms resume_complete_physParLat
#print axioms resume_timeout_complete_physParLat
#print axioms dist_ctxPL
#print axioms legal_sDist
#print axioms distPar_timeout
#print axioms distPar_interrupted

end AscentVerif.PhysParLat
