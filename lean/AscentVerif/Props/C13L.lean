import AscentVerif.Props.C03
import AscentVerif.Props.C14
import AscentVerif.Proofs.LatFrom
import AscentVerif.Proofs.LatFromQuiet
import AscentVerif.Proofs.LatFromIdem
/-!
# C13 / C14 for programs with lattice relations (serial, aggregation-free)

C03's theorems start from a fresh program value.  Re-runs and resumption after `run_timeout`
start from an arbitrary well-formed value with one row per lattice key.  This file generalises
C03 to such start values and derives: `run()` is idempotent on lattice programs, a timed-out
`run_timeout` leaves a state below the fixed point that keeps every input, and completing
afterwards reaches exactly the same least fixed point.
-/
namespace AscentVerif.Engine
open AscentVerif

variable {E B G P A : Type}

def WFLat (p : Program E B G P A) (s : St) : Prop :=
  WFSt p s ∧ ∀ r, r < p.rels.length → (declOf p r).lat = true → ((relSt s r).rows.map keyOf).Nodup

/-- C03 from any such value: one row per key, closed, and least above the start value's facts -/
theorem run_lattice_from (I : Interp E B G P A) (L : LatOrder I) (p : Program E B G P A) (order : SccOrder)
    (s : St) (fuel : Nat) (ps : ProgSt)
    (hp : LatticeProg p) (ho : validOrder p order = true) (hs : WFLat p s)
    (hrun : run I {} p order fuel s = .done ps) :
    WFLat p ps.st ∧ LClosed I L p (stDB p s) (factsOf ps.st) ∧
    (MonotoneProg I L p → ∀ M : DB, KeyUnique p M → LClosed I L p (stDB p s) M → DBLe I L p (factsOf ps.st) M) := by
  obtain ⟨h1, h2, h3⟩ := run_from_spec (L := L) hp.1 hp.2.1 order ho never fuel s ps hs.1 hs.2 hrun
  exact ⟨⟨h1.lsinv.wfSt, fun r _ hl => h1.keys r hl⟩, ⟨h3, h2⟩, fun hm M hMk hM => h1.below M ⟨hm, hMk, hM⟩⟩

/-- **idempotence with lattices**: a second `run()` on an unmodified value changes no row (no tuple appended,
no lattice value moved), for orders that are antisymmetric -/
theorem lattice_rerun_idempotent (I : Interp E B G P A) (L : LatOrder I)
    (hanti : ∀ r a b, L.le r a b → L.le r b a → a = b)
    (p : Program E B G P A) (order : SccOrder) (s : St) (fuel₁ fuel₂ : Nat) (ps₁ ps₂ : ProgSt)
    (hp : LatticeProg p) (ho : validOrder p order = true) (hs : WFLat p s)
    (h₁ : run I {} p order fuel₁ s = .done ps₁) (h₂ : run I {} p order fuel₂ ps₁.st = .done ps₂) :
    ∀ r, r < p.rels.length → (relSt ps₂.st r).rows = (relSt ps₁.st r).rows := by
  obtain ⟨h1, h2, _⟩ := run_from_spec (L := L) hp.1 hp.2.1 order ho never fuel₁ s ps₁ hs.1 hs.2 h₁
  have hne : ∀ r ∈ p.rules, ∀ h ∈ r.heads, (declOf p h.rel).lat = true → h.args ≠ [] := by
    intro r hr h hh hl h0
    have hlt := hp.2.1 r hr h hh
    have hmem : declOf p h.rel ∈ p.rels := by
      unfold declOf
      rw [List.getD_eq_getElem?_getD, List.getElem?_eq_getElem hlt]
      exact List.getElem_mem hlt
    have hpos := hp.2.2.1 _ hmem hl
    have hlen := hp.2.2.2 r hr h hh
    rw [h0] at hlen
    simp at hlen
    omega
  have hq := run_from_quiet (L := L) hp.1 hp.2.1 hne order ho never fuel₁ s ps₁ hs.1 hs.2 h₁
  intro r _
  exact run_same hanti hp.1 hp.2.1 order never fuel₂ ps₁.st ps₂ h1.lsinv.wfSt (fun r _ hl => h1.keys r hl)
    h2 hq h₂ r

/-- **run_timeout with lattices, any deadline**: whatever it returns, the value is a legal start value again,
dominates the start value (no input lost, no lattice value lowered) and — for monotone programs — is below
every closed database, i.e. below the final fixed point -/
theorem lattice_timeout_sound (I : Interp E B G P A) (L : LatOrder I) (p : Program E B G P A) (order : SccOrder)
    (dl : Deadline) (s : St) (fuel : Nat) (ps : ProgSt)
    (hp : LatticeProg p) (ho : validOrder p order = true) (hs : WFLat p s)
    (hrun : runTimeout I {} p order dl fuel s = .done ps ∨ runTimeout I {} p order dl fuel s = .timedOut ps) :
    WFLat p ps.st ∧ DBLe I L p (stDB p s) (factsOf ps.st) ∧
    (MonotoneProg I L p → ∀ M : DB, KeyUnique p M → LClosed I L p (stDB p s) M → DBLe I L p (factsOf ps.st) M) := by
  obtain ⟨h1, h2⟩ := runTimeout_lat (L := L) hp.1 hp.2.1 order ho dl fuel s ps hs.1 hs.2 hrun
  exact ⟨⟨h1.wfSt, fun r _ hl => h1.keys r hl⟩, h2, fun hm M hMk hM => h1.below M ⟨hm, hMk, hM⟩⟩

/-- **resumption with lattices**: after an interrupted call, a completing `run()` is closed and least above the
ORIGINAL start value: exactly the fixed point an uninterrupted run is characterised by (`run_lattice_from`) -/
theorem lattice_resume_complete (I : Interp E B G P A) (L : LatOrder I) (p : Program E B G P A) (order : SccOrder)
    (dl : Deadline) (s : St) (fuel₁ fuel₂ : Nat) (mid ps : ProgSt)
    (hp : LatticeProg p) (ho : validOrder p order = true) (hs : WFLat p s) (hm : MonotoneProg I L p)
    (h₁ : runTimeout I {} p order dl fuel₁ s = .timedOut mid)
    (h₂ : run I {} p order fuel₂ mid.st = .done ps) :
    LClosed I L p (stDB p s) (factsOf ps.st) ∧
    (∀ M : DB, KeyUnique p M → LClosed I L p (stDB p s) M → DBLe I L p (factsOf ps.st) M) := by
  obtain ⟨hw, hle, hbelow⟩ := lattice_timeout_sound I L p order dl s fuel₁ mid hp ho hs (Or.inr h₁)
  obtain ⟨_, hcl, hleast⟩ := run_lattice_from I L p order mid.st fuel₂ ps hp ho hw h₂
  have hmid : DBLe I L p (factsOf mid.st) (stDB p mid.st) := by
    intro f hf
    apply Dominated.of_mem
    have := lt_of_mem_rows mid.st f.rel f.args hf
    rw [hw.1.1] at this
    exact ⟨this, hf⟩
  refine ⟨⟨DBLe.trans hle (DBLe.trans hmid hcl.1), hcl.2⟩, ?_⟩
  intro M hMk hM
  refine hleast hm M hMk ⟨?_, hM.2⟩
  intro f hf
  exact hbelow hm M hMk hM f hf.2

#print axioms run_lattice_from
#print axioms lattice_rerun_idempotent
#print axioms lattice_timeout_sound
#print axioms lattice_resume_complete

end AscentVerif.Engine
