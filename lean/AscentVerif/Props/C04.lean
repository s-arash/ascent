import AscentVerif.Props.C01
import AscentVerif.Proofs.AggStrata
/-!
# C04 — negation and aggregation see the complete relation, each tuple once

Programs with `agg` items (negation is `agg () = not() in r(..)`), no lattices.  Accepted
programs are *stratified*: no SCC aggregates over one of its own head relations
(`aggOverDynamic`, the model of "use of aggregated relation cannot be stratified").
Helper development: `Proofs/EvalBody.lean`, `Head.lean`, `AggScc.lean`, `AggStrata.lean`.
Since fix 8b2e261 (`update_indices` rebuilds the indices) the statements hold from ANY well-formed
program value, not only from a fresh one: findings F2 / F3 are closed and their witnesses pass.
-/
namespace AscentVerif.Engine
open AscentVerif

variable {E B G P A : Type}

/-- no lattice relations; every head relation is declared (an aggregation over an undeclared relation reads the empty
list) -/
def RelationalAgg (p : Program E B G P A) : Prop :=
  (∀ d ∈ p.rels, d.lat = false) ∧ (∀ r ∈ p.rules, ∀ h ∈ r.heads, h.rel < p.rels.length)

/-- accepted by the stratification check under the given SCC order -/
def Stratified (p : Program E B G P A) (order : SccOrder) : Prop := ∀ scc ∈ order, aggOverDynamic p scc = false

/-- the list of tuples of relation `r` that the engine hands to the aggregation machinery when it
reads `r` from a program value (`aggTuples` on a non-dynamic relation): its stored index entries -/
def aggView (s : St) (r : RelId) : List Tuple := ((relSt s r).idx).map (rowAt (relSt s r).rows)

/-! ## a program value satisfying the invariant of `Proofs/AggScc.lean` (what every engine of `Agg.SccsG` ends in) -/

/-- an aggregation item reads the relation's `aggView` from a program value when that view is duplicate-free (full-key
items deduplicate what they read) -/
theorem aggOf_eq_of_nodup (cfg : Config) (p : Program E B G P A) (hl : ∀ d ∈ p.rels, d.lat = false) (st : St)
    (a : AggClause E A) (hnd : (aggView st a.rel).Nodup) : Agg.aggOf cfg p st a = aggView st a.rel := by
  rw [Agg.aggOf_eq cfg p hl]
  split
  · exact eraseDups_of_nodup _ hnd
  · rfl

private theorem aggView_of_ge (st : St) (r : RelId) (h : st.length ≤ r) : aggView st r = [] := by
  simp [aggView, relSt_of_ge st r h]

/-- complete duplicate-free indices, duplicate-free inputs: the view of every relation (declared or not) is
duplicate-free and a permutation of the rows -/
theorem Agg.PInv.view_once {I : Interp E B G P A} {p : Program E B G P A} {inp : RelId → List Tuple}
    {aggv : AggClause E A → List Tuple} {st : St} (hp : Agg.PInv I p inp aggv True p.rels.length st)
    (hnd : ∀ r, (inp r).Nodup) (r : RelId) : (aggView st r).Nodup ∧ (aggView st r).Perm (relSt st r).rows := by
  have hperm : (aggView st r).Perm (relSt st r).rows := Agg.view_perm _ _ (hp.idxNd trivial r) (hp.idxAll r)
  refine ⟨?_, hperm⟩
  rw [hperm.nodup_iff]
  by_cases hr : r < p.rels.length
  · obtain ⟨derived, hrows, hd1, hd2⟩ := (hp.good r hr).2
    rw [hrows, List.nodup_append]
    exact ⟨hnd r, hd1, fun a ha b hb e => hd2 b hb (e ▸ ha)⟩
  · rw [relSt_of_ge _ _ (by rw [hp.len]; exact Nat.le_of_not_lt hr)]
    exact List.nodup_nil

/-- … and the value is the least model with every aggregation evaluated against the view of its relation -/
theorem Agg.PInv.eq_model_view {I : Interp E B G P A} {cfg : Config} {p : Program E B G P A} {inp : RelId → List Tuple}
    {st : St} (hl : ∀ d ∈ p.rels, d.lat = false) (hp : Agg.PInv I p inp (Agg.aggOf cfg p st) True p.rels.length st)
    (hcl : Agg.ClosedRules I (Agg.aggOf cfg p st) p.rules (factsOf st)) (hnd : ∀ r, (inp r).Nodup) (f : Fact) :
    factsOf st f ↔ Derivable I p.rules (aggView st) (inDB p inp) f :=
  (hp.eq_model hcl f).trans ((Agg.derA_congr (fun _ _ a _ => aggOf_eq_of_nodup cfg p hl st a
    (hp.view_once hnd a.rel).1) f).trans Agg.derivable_iff_derA.symm)

theorem rows_initSt_nodup (p : Program E B G P A) (inp : RelId → List Tuple) (hnd : ∀ r, (inp r).Nodup) (r : RelId) :
    (relSt (initSt p inp) r).rows.Nodup := by
  by_cases hr : r < p.rels.length
  · rw [rows_initSt p inp r hr]; exact hnd r
  · rw [relSt_of_ge _ _ (by simpa [initSt] using Nat.le_of_not_lt hr)]; exact List.nodup_nil

/-- a completed run from ANY well-formed program value (fresh or left by earlier runs / pushes /
an initialiser) -/
private theorem run_from_spec (I : Interp E B G P A) (cfg : Config) (p : Program E B G P A) (order : SccOrder)
    (s : St) (fuel : Nat) (ps : ProgSt) (K : Prop)
    (hp : RelationalAgg p) (ho : validOrder p order = true) (hs : Stratified p order) (hs0 : WFSt p s)
    (hrun : run I cfg p order fuel s = .done ps) :
    Agg.PInv I p (fun r => (relSt s r).rows) (Agg.aggOf cfg p ps.st) K p.rels.length ps.st ∧
      Agg.ClosedRules I (Agg.aggOf cfg p ps.st) p.rules (factsOf ps.st) :=
  Agg.run_spec I cfg p (fun r => (relSt s r).rows) K hp.1 hp.2 order ho hs never fuel s ps hs0 (fun _ _ => rfl) hrun

/-- **each distinct tuple exactly once**: after a `run()` on duplicate-free inputs, the list
handed to aggregators for every relation is a duplicate-free enumeration of exactly its rows -/
theorem agg_view_each_once (I : Interp E B G P A) (cfg : Config) (p : Program E B G P A) (order : SccOrder)
    (inp : RelId → List Tuple) (fuel : Nat) (ps : ProgSt)
    (hp : RelationalAgg p) (ho : validOrder p order = true) (hs : Stratified p order) (hnd : ∀ r, (inp r).Nodup)
    (hrun : run I cfg p order fuel (initSt p inp) = .done ps) :
    ∀ r, r < p.rels.length → (aggView ps.st r).Nodup ∧ (aggView ps.st r).Perm (relSt ps.st r).rows :=
  fun r _ => (run_from_spec I cfg p order _ fuel ps True hp ho hs (WFSt_initSt p inp) hrun).1.view_once
    (rows_initSt_nodup p inp hnd) r

/-- **… from any program value** (since fix 8b2e261, which rebuilds the indices in `update_indices`;
before it this failed on a second `run()`, finding F2, and after an initialiser, finding F3): whatever
the stored indices held, after a completed `run()` every relation's view is a duplicate-free
enumeration of exactly its rows, provided the row vectors of the start value are duplicate-free -/
theorem agg_view_each_once_from (I : Interp E B G P A) (cfg : Config) (p : Program E B G P A) (order : SccOrder)
    (s : St) (fuel : Nat) (ps : ProgSt)
    (hp : RelationalAgg p) (ho : validOrder p order = true) (hs : Stratified p order) (hs0 : WFSt p s)
    (hnd : ∀ r, (relSt s r).rows.Nodup)
    (hrun : run I cfg p order fuel s = .done ps) :
    ∀ r, (aggView ps.st r).Nodup ∧ (aggView ps.st r).Perm (relSt ps.st r).rows :=
  (run_from_spec I cfg p order s fuel ps True hp ho hs hs0 hrun).1.view_once hnd

/-- **aggregation sees the final relation**: the result is exactly the least model of the rules in which
every `agg` / negation is evaluated against the FINAL content of the relation it ranges over.  That a
stratified program has only one such value is not stated here; the argument is `Agg.strata_agree`
(`Proofs/AggRestartSpec.lean`), which C13Agg uses. -/
theorem run_agg_eq_model (I : Interp E B G P A) (cfg : Config) (p : Program E B G P A) (order : SccOrder)
    (inp : RelId → List Tuple) (fuel : Nat) (ps : ProgSt)
    (hp : RelationalAgg p) (ho : validOrder p order = true) (hs : Stratified p order) (hnd : ∀ r, (inp r).Nodup)
    (hrun : run I cfg p order fuel (initSt p inp) = .done ps) :
    ∀ f, factsOf ps.st f ↔ Derivable I p.rules (aggView ps.st) (inputDB p inp) f :=
  have h := Agg.run_spec I cfg p inp True hp.1 hp.2 order ho hs never fuel (initSt p inp) ps
    (WFSt_initSt p inp) (rows_initSt p inp) hrun
  h.1.eq_model_view hp.1 h.2 hnd

/-- **… from any program value with duplicate-free rows** (second and later runs, runs after pushes,
runs after an initialiser): the result is the least model over the facts the start value holds, every
aggregation evaluated against the final view of its relation -/
theorem run_agg_eq_model_from (I : Interp E B G P A) (cfg : Config) (p : Program E B G P A) (order : SccOrder)
    (s : St) (fuel : Nat) (ps : ProgSt)
    (hp : RelationalAgg p) (ho : validOrder p order = true) (hs : Stratified p order) (hs0 : WFSt p s)
    (hnd : ∀ r, (relSt s r).rows.Nodup)
    (hrun : run I cfg p order fuel s = .done ps) :
    ∀ f, factsOf ps.st f ↔
      Derivable I p.rules (aggView ps.st) (fun f => f.rel < p.rels.length ∧ factsOf s f) f :=
  have h := run_from_spec I cfg p order s fuel ps True hp ho hs hs0 hrun
  h.1.eq_model_view hp.1 h.2 hnd

set_option linter.unusedVariables false in
/-- when an SCC containing an aggregation over `r` is evaluated, `r` already has its final content:
nothing processed afterwards (this SCC or later ones) changes `r` (stated on `runSccs`).
(`h0` and `hpre` are not needed: the frame argument holds from any state.) -/
theorem agg_sees_final (I : Interp E B G P A) (cfg : Config) (p : Program E B G P A) (dl : Deadline) (fuel : Nat)
    (pre post : SccOrder) (scc : List Nat) (ps0 ps ps' : ProgSt)
    (hp : RelationalAgg p) (ho : validOrder p (pre ++ scc :: post) = true) (hs : Stratified p (pre ++ scc :: post))
    (h0 : WFSt p ps0.st)
    (hpre : runSccs I cfg p dl fuel pre ps0 = .done ps)
    (hpost : runSccs I cfg p dl fuel (scc :: post) ps = .done ps')
    (r : RelId) (hagg : ∃ rule ∈ sccRules p scc, ∃ a, Item.agg a ∈ rule.body ∧ a.rel = r) :
    (relSt ps'.st r).rows = (relSt ps.st r).rows := by
  obtain ⟨rule, hrule, a, ha, rfl⟩ := hagg
  rw [Agg.agg_rel_final (Agg.detPass_frame I cfg p hp.1) ho hs (Agg.runSccs_sccsG I cfg p hpost) hrule ha]

/-- the rows are sets here too (C05 for stratified programs) -/
theorem run_agg_rows_set (I : Interp E B G P A) (cfg : Config) (p : Program E B G P A) (order : SccOrder)
    (inp : RelId → List Tuple) (fuel : Nat) (ps : ProgSt)
    (hp : RelationalAgg p) (ho : validOrder p order = true) (hs : Stratified p order)
    (hrun : run I cfg p order fuel (initSt p inp) = .done ps) :
    ∀ r, r < p.rels.length → ∃ derived : List Tuple,
      (relSt ps.st r).rows = inp r ++ derived ∧ derived.Nodup ∧ ∀ t ∈ derived, t ∉ inp r :=
  fun r hr => ((Agg.run_spec I cfg p inp True hp.1 hp.2 order ho hs never fuel (initSt p inp) ps
    (WFSt_initSt p inp) (rows_initSt p inp) hrun).1.good r hr).2

/-- **any well-formed start value, no assumption on duplicates**.  The result is the least model in
which every aggregation ITEM is evaluated on what it reads from the final value (`Agg.aggOf`: the stored
index entries, deduplicated for full-key items); `Agg.DerA` is `Derivable` with one list per item
instead of per relation (`Agg.derivable_iff_derA`).  Duplicate rows of the START value are the only
source of repeated entries (finding F15: caller duplicates are counted per occurrence). -/
theorem run_agg_from_eq_model (I : Interp E B G P A) (cfg : Config) (p : Program E B G P A) (order : SccOrder)
    (s : St) (fuel : Nat) (ps : ProgSt)
    (hp : RelationalAgg p) (ho : validOrder p order = true) (hs : Stratified p order) (hs0 : WFSt p s)
    (hrun : run I cfg p order fuel s = .done ps) :
    ∀ f, factsOf ps.st f ↔
      Agg.DerA I p.rules (Agg.aggOf cfg p ps.st) (fun f => f.rel < p.rels.length ∧ factsOf s f) f :=
  have h := run_from_spec I cfg p order s fuel ps False hp ho hs hs0 hrun
  h.1.eq_model h.2

/-- **a second `run()` sees each tuple once as well** (the history of finding F2, fixed by 8b2e261):
run from a fresh value with duplicate-free inputs, then run again on the value left behind — the view
handed to aggregators is still a duplicate-free enumeration of the rows -/
theorem second_run_agg_view_each_once (I : Interp E B G P A) (cfg : Config) (p : Program E B G P A) (order : SccOrder)
    (inp : RelId → List Tuple) (fuel₁ fuel₂ : Nat) (ps₁ ps₂ : ProgSt)
    (hp : RelationalAgg p) (ho : validOrder p order = true) (hs : Stratified p order) (hnd : ∀ r, (inp r).Nodup)
    (h₁ : run I cfg p order fuel₁ (initSt p inp) = .done ps₁)
    (h₂ : run I cfg p order fuel₂ ps₁.st = .done ps₂) :
    ∀ r, (aggView ps₂.st r).Nodup ∧ (aggView ps₂.st r).Perm (relSt ps₂.st r).rows := by
  have h₁' := (run_from_spec I cfg p order _ fuel₁ ps₁ True hp ho hs (WFSt_initSt p inp) h₁).1
  have hnd₁ : ∀ r, (relSt ps₁.st r).rows.Nodup := fun r =>
    have h := h₁'.view_once (rows_initSt_nodup p inp hnd) r
    h.2.nodup_iff.mp h.1
  exact (run_from_spec I cfg p order ps₁.st fuel₂ ps₂ True hp ho hs h₁'.wfSt h₂).1.view_once hnd₁

/-- the former F2 witness, now passing: a relation with two rows; after the first and after the
second `run()` the view has two entries (it had four before fix 8b2e261) -/
def f2Witness : Program Unit Unit Unit Unit Unit := { rels := [⟨1, false⟩], rules := [] }
theorem second_run_view_witness :
    let I : Interp Unit Unit Unit Unit Unit := ⟨fun _ _ => .unit, fun _ _ => true, fun _ _ => [], fun _ _ => none, fun _ b => b, fun _ a _ => (a, false)⟩
    ∃ ps1 ps2, run I {} f2Witness [] 5 (initSt f2Witness fun _ => [[.int 1], [.int 2]]) = .done ps1 ∧
      run I {} f2Witness [] 5 ps1.st = .done ps2 ∧
      (aggView ps1.st 0).length = 2 ∧ (aggView ps2.st 0).length = 2 := by
  intro I
  refine ⟨_, _, rfl, rfl, ?_, ?_⟩ <;> decide

#print axioms agg_view_each_once
#print axioms run_agg_eq_model
#print axioms agg_sees_final
#print axioms run_agg_rows_set
#print axioms run_agg_from_eq_model
#print axioms agg_view_each_once_from
#print axioms run_agg_eq_model_from
#print axioms second_run_agg_view_each_once
#print axioms second_run_view_witness

end AscentVerif.Engine
