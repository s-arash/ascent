import AscentVerif.Props.C01
import AscentVerif.Spec.LatticeLfp
import AscentVerif.Model.StdInterp
import AscentVerif.Proofs.LatHead
import AscentVerif.Proofs.LatFrom
/-!
# C03 — lattice relations hold one row per key carrying the least fixed point

Programs mixing relations and lattice relations, no aggregation, serial mode.  For every
interpretation whose `join_mut`s satisfy `LatOrder`, every input with one row per lattice key:
after `run()` (1) every lattice relation has exactly one row per key, (2) the result is closed —
every increase of a lattice value has been propagated through every rule — and (3) for programs
using lattice values monotonically it is below every closed database: the least fixed point.
-/
namespace AscentVerif.Engine
open AscentVerif

variable {E B G P A : Type}

/-- C03's fragment: no aggregation; declared heads; lattice relations have at least the value column -/
def LatticeProg (p : Program E B G P A) : Prop :=
  (∀ r ∈ p.rules, r.aggFree = true) ∧ (∀ r ∈ p.rules, ∀ h ∈ r.heads, h.rel < p.rels.length) ∧
  (∀ d ∈ p.rels, d.lat = true → 0 < d.arity) ∧
  (∀ r ∈ p.rules, ∀ h ∈ r.heads, h.args.length = (declOf p h.rel).arity)

/-- the caller put at most one row per key into each lattice relation, and rows have the declared arity -/
def InputOK (p : Program E B G P A) (inp : RelId → List Tuple) : Prop :=
  (∀ r, r < p.rels.length → ∀ t ∈ inp r, t.length = (declOf p r).arity) ∧
  (∀ r, r < p.rels.length → (declOf p r).lat = true → ((inp r).map keyOf).Nodup)

/-- one lattice head update: keys stay unique, no row disappears, every stored value only grows,
and afterwards the key's row dominates the new value -/
theorem headLat_spec (I : Interp E B G P A) (L : LatOrder I) (s : SccSt) (r : RelId) (row : Tuple)
    (d : Dyn) (hd : findDyn s.dyn r = some d) (hrow : 0 < row.length)
    (hidx : ∀ i ∈ d.total ++ d.delta ++ d.new, i < (relSt s.rels r).rows.length)
    (hall : ∀ i, i < (relSt s.rels r).rows.length → i ∈ d.total ++ d.delta ++ d.new)
    (hlen : ∀ t ∈ (relSt s.rels r).rows, 0 < t.length)
    (hr : r < s.rels.length)
    (hk : ((relSt s.rels r).rows.map keyOf).Nodup) :
    let s' := headLat I {} s r row
    let rows := (relSt s.rels r).rows
    let rows' := (relSt s'.rels r).rows
    (rows'.map keyOf).Nodup ∧ rows.length ≤ rows'.length ∧
    (∀ i, i < rows.length → keyOf (rowAt rows' i) = keyOf (rowAt rows i) ∧ L.le r (valOf (rowAt rows i)) (valOf (rowAt rows' i))) ∧
    (∃ t ∈ rows', keyOf t = keyOf row ∧ L.le r (valOf row) (valOf t)) :=
  headLat_spec' I L s r row d hd hidx hall hr hk

/-- (1) exactly one row per key -/
theorem run_lattice_key_unique (I : Interp E B G P A) (L : LatOrder I) (p : Program E B G P A) (order : SccOrder)
    (inp : RelId → List Tuple) (fuel : Nat) (ps : ProgSt)
    (hp : LatticeProg p) (ho : validOrder p order = true) (hi : InputOK p inp)
    (hrun : run I {} p order fuel (initSt p inp) = .done ps) :
    ∀ r, r < p.rels.length → (declOf p r).lat = true → ((relSt ps.st r).rows.map keyOf).Nodup :=
  fun r _ hl => (run_spec' (L := L) hp.1 hp.2.1 hi.2 order ho fuel ps hrun).1.keys r hl

/-- (2) closed: the input is dominated and every rule instance over the FINAL values has its head
dominated — every increase of a lattice value was propagated to everything that depends on it -/
theorem run_lattice_closed (I : Interp E B G P A) (L : LatOrder I) (p : Program E B G P A) (order : SccOrder)
    (inp : RelId → List Tuple) (fuel : Nat) (ps : ProgSt)
    (hp : LatticeProg p) (ho : validOrder p order = true) (hi : InputOK p inp)
    (hrun : run I {} p order fuel (initSt p inp) = .done ps) :
    LClosed I L p (inputDB p inp) (factsOf ps.st) :=
  have h := run_spec' (L := L) hp.1 hp.2.1 hi.2 order ho fuel ps hrun
  ⟨h.2.2, h.2.1⟩

/-- (3) least: below every key-unique closed database, for programs that use lattice values monotonically -/
theorem run_lattice_least (I : Interp E B G P A) (L : LatOrder I) (p : Program E B G P A) (order : SccOrder)
    (inp : RelId → List Tuple) (fuel : Nat) (ps : ProgSt)
    (hp : LatticeProg p) (ho : validOrder p order = true) (hi : InputOK p inp) (hm : MonotoneProg I L p)
    (hrun : run I {} p order fuel (initSt p inp) = .done ps)
    (M : DB) (hMk : KeyUnique p M) (hM : LClosed I L p (inputDB p inp) M) :
    DBLe I L p (factsOf ps.st) M :=
  (run_spec' (L := L) hp.1 hp.2.1 hi.2 order ho fuel ps hrun).1.below M ⟨hm, hMk, hM⟩

/-- relation (non-lattice) rows are still a set, inputs first (C05 for lattice programs) -/
theorem run_lattice_rel_rows_set (I : Interp E B G P A) (L : LatOrder I) (p : Program E B G P A) (order : SccOrder)
    (inp : RelId → List Tuple) (fuel : Nat) (ps : ProgSt)
    (hp : LatticeProg p) (ho : validOrder p order = true) (hi : InputOK p inp)
    (hrun : run I {} p order fuel (initSt p inp) = .done ps) :
    ∀ r, r < p.rels.length → (declOf p r).lat = false → ∃ derived : List Tuple,
      (relSt ps.st r).rows = inp r ++ derived ∧ derived.Nodup ∧ ∀ t ∈ derived, t ∉ inp r :=
  fun r hr hl => (run_spec' (L := L) hp.1 hp.2.1 hi.2 order ho fuel ps hrun).1.relset r hr hl

end AscentVerif.Engine

/-! ## the hypothesis `LatOrder` is satisfiable: the `i64` (max) and `Dual<i64>` (min) columns of the ties

Both columns are ordered by an integer key of the value (`LatKind.key`), so one construction (`LatOrder.ofKey`) serves. -/
namespace AscentVerif
variable {E B G P A : Type}

def LatOrder.ofKey (I : Interp E B G P A) (le : RelId → Val → Val → Prop) (key : RelId → Val → Int)
    (hle : ∀ r a b, le r a b ↔ key r a ≤ key r b)
    (hjoin : ∀ r a b, key r (I.joinMut r a b).1 = max (key r a) (key r b))
    (hflag : ∀ r a b, (I.joinMut r a b).2 = false → key r b ≤ key r a) : LatOrder I where
  le := le
  refl r a := (hle r a a).mpr (Int.le_refl _)
  trans r a b c h₁ h₂ := (hle r a c).mpr (Int.le_trans ((hle r a b).mp h₁) ((hle r b c).mp h₂))
  join_left r a b := (hle r _ _).mpr (hjoin r a b ▸ Int.le_max_left _ _)
  join_right r a b := (hle r _ _).mpr (hjoin r a b ▸ Int.le_max_right _ _)
  join_least r a b c h₁ h₂ := (hle r _ _).mpr (hjoin r a b ▸ Int.max_le.mpr ⟨(hle r a c).mp h₁, (hle r b c).mp h₂⟩)
  flag_false r a b h := (hle r b a).mpr (hflag r a b h)

namespace Std

theorem intOf_int (n : Int) : intOf (.int n) = n := rfl

theorem cmp_int (x y : Int) : Lat.LinOrd.cmp x y = if x < y then .lt else if x = y then .eq else .gt := rfl

theorem joinMut_maxInt (a b : Val) :
    LatKind.joinMut .maxInt a b = if intOf a < intOf b then (.int (intOf b), true) else (a, false) := by
  simp only [LatKind.joinMut, Lat.joinMut, cmp_int]
  by_cases h : intOf a < intOf b
  · simp [h]
  · by_cases h' : intOf a = intOf b <;> simp [h, h']

theorem joinMut_minInt (a b : Val) :
    LatKind.joinMut .minInt a b = if intOf b < intOf a then (.int (intOf b), true) else (a, false) := by
  simp only [LatKind.joinMut, Lat.joinMut, Lat.meetMut, cmp_int]
  by_cases h : intOf a < intOf b
  · simp [h, Int.lt_asymm h]
  · by_cases h' : intOf a = intOf b
    · simp [h']
    · simp [h, h', show intOf b < intOf a by omega]

def LatKind.key : LatKind → Val → Int
  | .minInt, a => - intOf a
  | _, a => intOf a

/-- the shape both `join_mut`s have (`joinMut_maxInt`, `joinMut_minInt`), with `key` the integer resp. its negation -/
theorem key_of_winner {key : Val → Int} {j : Val × Bool} {a b w : Val} (hw : key w = key b)
    (hj : j = if key a < key b then (w, true) else (a, false)) :
    key j.1 = max (key a) (key b) ∧ (j.2 = false → key b ≤ key a) := by
  subst hj
  split
  · rename_i h
    exact ⟨hw.trans (Int.max_eq_right (Int.le_of_lt h)).symm, nofun⟩
  · rename_i h
    exact ⟨(Int.max_eq_left (Int.not_lt.mp h)).symm, fun _ => Int.not_lt.mp h⟩

theorem LatKind.joinMut_key {k : LatKind} (hk : k = .maxInt ∨ k = .minInt) (a b : Val) :
    key k (joinMut k a b).1 = max (key k a) (key k b) ∧ ((joinMut k a b).2 = false → key k b ≤ key k a) := by
  rcases hk with rfl | rfl
  · exact key_of_winner (key := intOf) (w := .int (intOf b)) rfl (joinMut_maxInt a b)
  · exact key_of_winner (key := fun a => - intOf a) (w := .int (intOf b)) rfl
      ((joinMut_minInt a b).trans (by simp only [Int.neg_lt_neg_iff]))

end Std
end AscentVerif

namespace AscentVerif.Engine
open AscentVerif

variable {E B G P A : Type}

/-- order of the standard interpretation's lattice columns (`intOf` coerces; max/min kinds) -/
def stdLe (kinds : RelId → Std.LatKind) (r : RelId) (a b : Val) : Prop :=
  match kinds r with
  | .maxInt => Std.intOf a ≤ Std.intOf b
  | .minInt => Std.intOf b ≤ Std.intOf a
  | _ => a = b

theorem std_latOrder_maxmin (kinds : RelId → Std.LatKind) (hk : ∀ r, kinds r = .maxInt ∨ kinds r = .minInt) :
    ∃ L : LatOrder (Std.interp kinds), L.le = stdLe kinds := by
  refine ⟨LatOrder.ofKey _ (stdLe kinds) (fun r => (kinds r).key) ?_ (fun r a b => (Std.LatKind.joinMut_key (hk r) a b).1)
    (fun r a b => (Std.LatKind.joinMut_key (hk r) a b).2), rfl⟩
  intro r a b
  rcases hk r with h | h
  · simp only [stdLe, h]
    exact Iff.rfl
  · simp only [stdLe, h]
    exact Int.neg_le_neg_iff.symm

#print axioms headLat_spec
#print axioms run_lattice_key_unique
#print axioms run_lattice_closed
#print axioms run_lattice_least
#print axioms run_lattice_rel_rows_set
#print axioms std_latOrder_maxmin

end AscentVerif.Engine
