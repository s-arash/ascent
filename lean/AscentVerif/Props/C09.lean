import AscentVerif.Props.C04
import AscentVerif.Props.C13
/-!
# C09 — packaging variants of a program are semantically transparent

What has logical content in the model:
* **re-declaration** — the relation table keeps, for equal declarations, the last one
  (`dedup_all_keep_last_by`, utils.rs) while clauses resolve a name by a reverse search
  (`prog_get_relation`, ascent_hir.rs); both select the same (last) declaration, so a later
  re-declaration wins consistently (initialiser, attributes);
* **initialised relations** — `relation r(..) = e` makes `Default` store `e` and index it once; the
  following `run()` starts from a well-formed value whose facts are exactly `e`, so the result
  is the least model over exactly the tuples of `e` (as sets).  That `run()` indexes them a second time was
  visible to aggregation (finding F3) until fix 8b2e261 made `update_indices` rebuild: `init_agg_view_each_once`.
`measure_rule_times`, `generate_run_timeout`, generics, `ascent_run!` capture, `include_source!`
and `segment-codegen` do not exist in the model: for them the claim is the tie obligation.
-/
namespace AscentVerif.Engine
open AscentVerif

/-! ## re-declaration -/

/-- a relation declaration: its identity (name and signature) and its payload (initialiser, attributes) -/
structure Decl (Sig Payload : Type) where
  name : String
  sig : Sig
  payload : Payload
deriving DecidableEq

variable {Sig Payload : Type} [DecidableEq Sig]

/-- `RelationIdentity::eq`: name and signature -/
def Decl.same (a b : Decl Sig Payload) : Bool := a.name == b.name && decide (a.sig = b.sig)

/-- `dedup_all_keep_last_by`: scanning from the end, an element is deleted iff it equals a later kept one -/
def dedupKeepLast (l : List (Decl Sig Payload)) : List (Decl Sig Payload) :=
  l.foldr (fun x kept => if kept.any (fun k => x.same k) then kept else x :: kept) []

/-- `prog.relations.iter().rev().find(|r| name == &r.name)` -/
def findLast (l : List (Decl Sig Payload)) (n : String) : Option (Decl Sig Payload) :=
  l.reverse.find? (fun d => d.name == n)

theorem dedupKeepLast_cons (x : Decl Sig Payload) (l : List (Decl Sig Payload)) :
    dedupKeepLast (x :: l) =
      if (dedupKeepLast l).any (fun k => x.same k) then dedupKeepLast l else x :: dedupKeepLast l := rfl

theorem dedupKeepLast_sublist : ∀ l : List (Decl Sig Payload), (dedupKeepLast l).Sublist l := by
  intro l
  induction l with
  | nil => exact .slnil
  | cons x l ih =>
    rw [dedupKeepLast_cons]
    split
    · exact ih.cons x
    · exact ih.cons_cons x

theorem mem_of_mem_dedupKeepLast (l : List (Decl Sig Payload)) (x : Decl Sig Payload) (h : x ∈ dedupKeepLast l) : x ∈ l :=
  (dedupKeepLast_sublist l).subset h

theorem mem_dedupKeepLast_of_last (d : Decl Sig Payload) (rest : List (Decl Sig Payload))
    (h : ∀ k ∈ rest, d.same k = false) : ∀ pre, d ∈ dedupKeepLast (pre ++ d :: rest) := by
  intro pre
  induction pre with
  | nil =>
    -- nothing kept from `rest` equals `d`, so `d` is kept
    rw [List.nil_append, dedupKeepLast_cons, if_neg]
    · exact List.mem_cons_self ..
    · rw [Bool.not_eq_true, List.any_eq_false]
      intro k hk
      rw [h k (mem_of_mem_dedupKeepLast rest k hk)]
      exact Bool.false_ne_true
  | cons x xs ih =>
    rw [List.cons_append, dedupKeepLast_cons]
    split
    · exact ih
    · exact List.mem_cons_of_mem _ ih

/-- **a later re-declaration wins, consistently**: the declaration found by the reverse name search is the LAST
one with that name and it survives `dedup_all_keep_last_by` — the relation table and clause resolution use the
same declaration (hence the last initialiser and attributes).  `hsig` (declarations sharing a name share their
signature; anything else is rejected by rustc as a duplicate field) is not needed for this: the declarations after
the last one named `n` have other names, so none is `same` as it.  (`redeclaration_unique` uses it.) -/
theorem redeclaration_last_wins (l : List (Decl Sig Payload)) (n : String) (d : Decl Sig Payload)
    (hsig : ∀ a ∈ l, ∀ b ∈ l, a.name = b.name → a.sig = b.sig)
    (h : findLast l n = some d) :
    d.name = n ∧ d ∈ dedupKeepLast l ∧ ∃ pre rest, l = pre ++ d :: rest ∧ ∀ k ∈ rest, k.name ≠ n := by
  obtain ⟨hname, as, bs, hl, hbs⟩ := List.find?_eq_some_iff_append.mp h
  have hname : d.name = n := eq_of_beq hname
  -- `l.reverse = as ++ d :: bs`, with no match in `as`
  have hl' : l = bs.reverse ++ d :: as.reverse := by
    simpa using congrArg List.reverse hl
  have hrest : ∀ k ∈ as.reverse, k.name ≠ n := fun k hk => by
    simpa using hbs k (List.mem_reverse.mp hk)
  refine ⟨hname, ?_, bs.reverse, as.reverse, hl', hrest⟩
  rw [hl']
  refine mem_dedupKeepLast_of_last d _ (fun k hk => ?_) _
  rw [Decl.same, Bool.and_eq_false_iff]
  exact .inl (beq_eq_false_iff_ne.mpr fun e => hrest k hk (e ▸ hname))

/-- two surviving declarations of one name are `same` (by `hsig` alone); that `dedupKeepLast` keeps no two `same`
declarations, so that there is only one, is not stated -/
theorem redeclaration_unique (l : List (Decl Sig Payload)) (a b : Decl Sig Payload)
    (hsig : ∀ a ∈ l, ∀ b ∈ l, a.name = b.name → a.sig = b.sig)
    (ha : a ∈ dedupKeepLast l) (hb : b ∈ dedupKeepLast l) (hn : a.name = b.name) :
    a.same b = true := by
  have := hsig a (mem_of_mem_dedupKeepLast l a ha) b (mem_of_mem_dedupKeepLast l b hb) hn
  exact Bool.and_eq_true_iff.mpr ⟨beq_iff_eq.mpr hn, decide_eq_true this⟩

example : findLast ([⟨"r", 2, "= vec![(9, 9)]"⟩, ⟨"s", 1, ""⟩, ⟨"r", 2, ""⟩] : List (Decl Nat String)) "r" = some ⟨"r", 2, ""⟩ := by decide

/-! ## initialised relations -/

variable {E B G P A : Type}

/-- the value `Default::default()` builds for `ascent!` with initialisers: the rows of every `e`, indexed once -/
def defaultSt (p : Program E B G P A) (init : RelId → List Tuple) : St := updateIndices (initSt p init)

theorem wfSt_defaultSt (p : Program E B G P A) (init : RelId → List Tuple) : WFSt p (defaultSt p init) := by
  refine ⟨by simp [defaultSt, updateIndices, initSt], ?_⟩
  intro rs hrs i hi
  simp only [defaultSt, updateIndices, initSt, List.mem_map, List.mem_range] at hrs
  obtain ⟨rs0, ⟨r, _, rfl⟩, rfl⟩ := hrs
  simpa using hi

theorem rows_defaultSt (p : Program E B G P A) (init : RelId → List Tuple) (r : RelId) (hr : r < p.rels.length) :
    (relSt (defaultSt p init) r).rows = init r := by
  rw [defaultSt, relSt_updateIndices, rows_initSt p init r hr]

theorem stDB_defaultSt (p : Program E B G P A) (init : RelId → List Tuple) (f : Fact) :
    (f.rel < p.rels.length ∧ factsOf (defaultSt p init) f) ↔ inputDB p init f :=
  and_congr_right fun hr => by rw [factsOf, rows_defaultSt p init f.rel hr]

/-- **`relation r(..) = e` starts from exactly the tuples of `e`**: `run()` on the default value computes
the least model over exactly the initialisers, and every row vector begins with its initialiser -/
theorem init_starts_from_initialiser (I : Interp E B G P A) (cfg : Config) (p : Program E B G P A) (order : SccOrder)
    (init : RelId → List Tuple) (fuel : Nat) (ps : ProgSt)
    (hp : Relational p) (ho : validOrder p order = true)
    (hrun : run I cfg p order fuel (defaultSt p init) = .done ps) :
    (∀ f, factsOf ps.st f ↔ Derivable I p.rules noAgg (inputDB p init) f) ∧
    (∀ r, r < p.rels.length → ∃ derived, (relSt ps.st r).rows = init r ++ derived ∧ derived.Nodup ∧ ∀ t ∈ derived, t ∉ init r) := by
  obtain ⟨_, hm, hr⟩ := run_from_eq_leastModel I cfg p order _ fuel ps hp ho (wfSt_defaultSt p init) hrun
  refine ⟨fun f => (hm f).trans (derivable_congr_input (stDB_defaultSt p init) f), fun r hr' => ?_⟩
  rw [← rows_defaultSt p init r hr']
  exact hr r hr'

/-- **initialised relations with aggregation** (finding F3, fixed by 8b2e261: `run()` rebuilds the indices
that `Default` built from the initialiser): on duplicate-free initialisers the first `run()` hands every
aggregation a duplicate-free enumeration of exactly the relation's rows, and computes the stratified
model over exactly the initialisers -/
theorem init_agg_view_each_once (I : Interp E B G P A) (cfg : Config) (p : Program E B G P A) (order : SccOrder)
    (init : RelId → List Tuple) (fuel : Nat) (ps : ProgSt)
    (hp : RelationalAgg p) (ho : validOrder p order = true) (hs : Stratified p order) (hnd : ∀ r, (init r).Nodup)
    (hrun : run I cfg p order fuel (defaultSt p init) = .done ps) :
    (∀ r, (aggView ps.st r).Nodup ∧ (aggView ps.st r).Perm (relSt ps.st r).rows) ∧
    (∀ f, factsOf ps.st f ↔ Derivable I p.rules (aggView ps.st) (inputDB p init) f) := by
  have hnd' : ∀ r, (relSt (defaultSt p init) r).rows.Nodup := by
    intro r
    by_cases hr : r < p.rels.length
    · rw [rows_defaultSt p init r hr]
      exact hnd r
    · rw [relSt_of_ge _ _ (by simpa [defaultSt, updateIndices, initSt] using Nat.le_of_not_lt hr)]
      exact List.nodup_nil
  refine ⟨agg_view_each_once_from I cfg p order _ fuel ps hp ho hs (wfSt_defaultSt p init) hnd' hrun, fun f => ?_⟩
  rw [run_agg_eq_model_from I cfg p order _ fuel ps hp ho hs (wfSt_defaultSt p init) hnd' hrun f]
  exact derivable_congr_input (stDB_defaultSt p init) f

/-- the F3 witness: two initial rows, the view after the first `run()` has two entries (four before fix 8b2e261) -/
theorem init_then_run_view_witness :
    let I : Interp Unit Unit Unit Unit Unit := ⟨fun _ _ => .unit, fun _ _ => true, fun _ _ => [], fun _ _ => none, fun _ b => b, fun _ a _ => (a, false)⟩
    ∃ ps, run I {} f2Witness [] 5 (defaultSt f2Witness fun _ => [[.int 1], [.int 2]]) = .done ps ∧ (aggView ps.st 0).length = 2 := by
  intro I; refine ⟨_, rfl, ?_⟩; decide

#print axioms init_agg_view_each_once
#print axioms init_then_run_view_witness

end AscentVerif.Engine
