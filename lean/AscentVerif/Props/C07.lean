import AscentVerif.Model.StdOps
import AscentVerif.Proofs.C08Base
import AscentVerif.Proofs.DesugarPWN
import AscentVerif.Proofs.DesugarRep
import AscentVerif.Proofs.C08Sem
/-!
# C07 — every surface form means exactly its documented core expansion

`SatS` / `ConsS` (Model/Surface.lean) give the sugar its documented meaning directly; `desugarRule`
(Model/Desugar.lean) is the implemented pipeline after macro expansion, in its real order:
disjunction product → pattern arguments → wildcards → negation → repeated variables, with its three gensyms.

Main theorem `desugar_correct`: the one-step consequences of the desugared core rules are exactly the documented
consequences of the surface rule — for every interpretation of the embedded Rust fragments, every database, every
nesting of disjunctions, patterns next to repeated variables, expression arguments referring to earlier columns —
under the hypotheses (definitions: Proofs/SurfaceDefs.lean)
* `NoReservedNames`: the rule mentions no variable at or above `reservedBase` (the generated names live there.
  For `__`-prefixed names this is the documented reservation; for the repeated-variable names `x_`, `x_1`, ..
  (`gsRep`) it is STRONGER than what the documentation reserves — finding F10, witness `f10_capture` below);
* `WellScoped`: an expression argument mentions a later variable column of its own clause only if that variable
  also is an earlier variable column of that clause (NOT covered: `bar(y), foo(y + 1, y)`, where an earlier body item
  binds `y`; the pass leaves such a clause unchanged); pattern variables occur nowhere else in the arguments of their clause
  (a pattern variable that also is a variable column or a variable of another pattern is rejected by the real front
  end as shadowing: `hirEv`, Model/Check.lean; an expression argument would read it before its `if let` binds it);
* `SugarSound` / `VarsSound`: what the generated conditions `if x_.eq(&(e))`, `if let pat = __arg_pattern_`,
  `agg () = not()` mean, and that expressions only look variables up.
Hence the same least model (`derivable_desugar`), by Spec/Datalog.lean.
-/
namespace AscentVerif.Surface
open AscentVerif AscentVerif.Engine

variable {E B G P A M : Type}

/-! ## disjunctions: the documented meaning is the union over the choices of disjuncts (any nesting) -/

theorem satF_append (I : Interp E B G P A) (D : DB) (agg : RelId → List Tuple) (a b : List (FItem E B G P A)) (ρ ρ' : Env) :
    SatF I D agg (a ++ b) ρ ρ' ↔ ∃ ρ₁, SatF I D agg a ρ ρ₁ ∧ SatF I D agg b ρ₁ ρ' := by
  induction a generalizing ρ with
  | nil => simp [SatF]
  | cons f fs ih =>
    simp only [List.cons_append, SatF, ih]
    constructor
    · rintro ⟨ρ₁, h1, ρ₂, h2, h3⟩
      exact ⟨ρ₂, ⟨ρ₁, h1, h2⟩, h3⟩
    · rintro ⟨ρ₂, ⟨ρ₁, h1, h2⟩, h3⟩
      exact ⟨ρ₁, h1, ρ₂, h2, h3⟩

theorem sat_iff_products (I : Interp E B G P A) (D : DB) (agg : RelId → List Tuple) :
    (∀ (i : SItem E B G P A M) (ρ ρ' : Env),
      SatI I D agg i ρ ρ' ↔ ∃ flat ∈ productsI i, SatF I D agg flat ρ ρ') ∧
    (∀ (items : SItems E B G P A M) (ρ ρ' : Env),
      SatS I D agg items ρ ρ' ↔ ∃ flat ∈ productsS items, SatF I D agg flat ρ ρ') ∧
    ∀ (alts : SAlts E B G P A M) (ρ ρ' : Env),
      SatA I D agg alts ρ ρ' ↔ ∃ flat ∈ productsA alts, SatF I D agg flat ρ ρ' :=
  SItem.induct
    (fun f ρ ρ' => by simp only [SatI, productsI, List.mem_singleton, exists_eq_left, SatF, exists_eq_right'])
    (fun alts ih ρ ρ' => by
      simp only [SatI, productsI]
      exact ih ρ ρ')
    (fun _ ρ ρ' => by simp only [SatI, productsI, List.not_mem_nil, false_and, exists_false])
    (fun ρ ρ' => by simp only [SatS, productsS, List.mem_singleton, exists_eq_left, SatF])
    (fun i rest ihi ihs ρ ρ' => by
      simp only [SatS, productsS, List.mem_flatMap, List.mem_map]
      constructor
      · rintro ⟨ρ₁, h1, h2⟩
        obtain ⟨a, ha, hsa⟩ := (ihi ρ ρ₁).1 h1
        obtain ⟨b, hb, hsb⟩ := (ihs ρ₁ ρ').1 h2
        exact ⟨a ++ b, ⟨a, ha, b, hb, rfl⟩, (satF_append I D agg a b ρ ρ').2 ⟨ρ₁, hsa, hsb⟩⟩
      · rintro ⟨_, ⟨a, ha, b, hb, rfl⟩, hs⟩
        obtain ⟨ρ₁, hsa, hsb⟩ := (satF_append I D agg a b ρ ρ').1 hs
        exact ⟨ρ₁, (ihi ρ ρ₁).2 ⟨a, ha, hsa⟩, (ihs ρ₁ ρ').2 ⟨b, hb, hsb⟩⟩)
    (fun ρ ρ' => by simp only [SatA, productsA, List.not_mem_nil, false_and, exists_false])
    (fun a rest ihs iha ρ ρ' => by
      simp only [SatA, productsA, List.mem_append]
      rw [ihs ρ ρ', iha ρ ρ']
      constructor
      · rintro (⟨f, hf, hs⟩ | ⟨f, hf, hs⟩)
        · exact ⟨f, .inl hf, hs⟩
        · exact ⟨f, .inr hf, hs⟩
      · rintro ⟨f, hf | hf, hs⟩
        · exact .inl ⟨f, hf, hs⟩
        · exact .inr ⟨f, hf, hs⟩)

theorem productsI_correct (I : Interp E B G P A) (D : DB) (agg : RelId → List Tuple) :
    ∀ (i : SItem E B G P A M) (ρ ρ' : Env),
      SatI I D agg i ρ ρ' ↔ ∃ flat ∈ productsI i, SatF I D agg flat ρ ρ' :=
  (sat_iff_products I D agg).1

theorem productsA_correct (I : Interp E B G P A) (D : DB) (agg : RelId → List Tuple) :
    ∀ (alts : SAlts E B G P A M) (ρ ρ' : Env),
      SatA I D agg alts ρ ρ' ↔ ∃ flat ∈ productsA alts, SatF I D agg flat ρ ρ' :=
  (sat_iff_products I D agg).2.2

theorem products_correct (I : Interp E B G P A) (D : DB) (agg : RelId → List Tuple) (items : SItems E B G P A M) (ρ ρ' : Env) :
    SatS I D agg items ρ ρ' ↔ ∃ flat ∈ productsS items, SatF I D agg flat ρ ρ' :=
  (sat_iff_products I D agg).2.1 items ρ ρ'

/-! ## the passes never leave a form behind -/

theorem desugarFlat_isSome (ops : Ops E B G A) (c : Nat) (flat : List (FItem E B G P A)) : (desugarFlat ops c flat).isSome = true := by
  simp only [desugarFlat, Option.isSome_map]
  exact rep_toCore_isSome ops (pwn ops flat) c (pwn_shape ops flat)

theorem mapM_toCore?_eq_some (hs : List (SHead E M)) (l : List (HeadClause E)) :
    hs.mapM SHead.toCore? = some l ↔ hs = l.map SHead.clause := by
  induction hs generalizing l with
  | nil => cases l <;> simp
  | cons h hs ih =>
    rw [mapM_cons_eq_some]
    cases l with
    | nil => simp
    | cons x xs =>
      cases h with
      | mac m => simp [SHead.toCore?]
      | clause hc =>
        simp only [SHead.toCore?, ih, Option.some.injEq, List.cons.injEq, List.map_cons, SHead.clause.injEq]
        constructor
        · rintro ⟨_, _, rfl, h, rfl, rfl⟩
          exact ⟨rfl, h⟩
        · rintro ⟨rfl, h⟩
          exact ⟨_, _, rfl, h, rfl, rfl⟩

theorem desugarFlats_isSome (ops : Ops E B G A) (heads : List (HeadClause E)) (flats : List (List (FItem E B G P A))) (c : Nat) :
    (desugarFlats ops heads flats c).isSome = true := by
  induction flats generalizing c with
  | nil => rfl
  | cons flat rest ih =>
    obtain ⟨⟨body, c1⟩, hd⟩ := Option.isSome_iff_exists.1 (desugarFlat_isSome ops c flat)
    obtain ⟨⟨rs, c2⟩, hr⟩ := Option.isSome_iff_exists.1 (ih c1)
    simp only [desugarFlats, hd, hr]
    rfl

theorem desugarRule_isSome (ops : Ops E B G A) (c : Nat) (r : SRule E B G P A M) (hh : ∀ h ∈ r.heads, ∃ hc, h = SHead.clause hc) :
    (desugarRule ops c r).isSome = true := by
  have : ∃ l : List (HeadClause E), r.heads = l.map SHead.clause := by
    generalize r.heads = hs at hh
    induction hs with
    | nil => exact ⟨[], rfl⟩
    | cons h hs ih =>
      obtain ⟨hc, rfl⟩ := hh h (by simp)
      obtain ⟨l, rfl⟩ := ih (fun h' hm => hh h' (by simp [hm]))
      exact ⟨hc :: l, rfl⟩
  obtain ⟨l, hl⟩ := this
  have hm := (mapM_toCore?_eq_some r.heads l).2 hl
  simp only [desugarRule, hm]
  exact desugarFlats_isSome ops l _ c

/-! ## one disjunction-free body: passes 3–6 -/

theorem desugarFlat_eq_some {ops : Ops E B G A} {c c' : Nat} {flat : List (FItem E B G P A)} {items : List (Item E B G P A)}
    (hd : desugarFlat ops c flat = some (items, c')) :
    (repItems ops (pwn ops flat) 0 [] c).1.mapM FItem.toCore = some items := by
  simp only [desugarFlat, Option.map_eq_some_iff, Prod.mk.injEq] at hd
  obtain ⟨a, ha, rfl, _⟩ := hd
  exact ha

theorem desugarFlat_correct (I : Interp E B G P A) (ops : Ops E B G A) {varsB : B → List Var} {varsG : G → List Var}
    (hS : SugarSound I ops) (hV : VarsSound I ops.varsE varsB varsG) (D : DB) (agg : RelId → List Tuple)
    (flat : List (FItem E B G P A)) (c c' : Nat) (items : List (Item E B G P A))
    (hres : ∀ f ∈ flat, ∀ v ∈ FItem.mentions ops.varsE varsB varsG f, v < reservedBase)
    (hws : ∀ rel args conds, FItem.clause rel args conds ∈ flat → WellScopedArgs ops.varsE args)
    (hd : desugarFlat ops c flat = some (items, c')) :
    Sim (fun ρ σ => ρ = [] ∧ σ = []) AgreeUser (Sat I D agg items) (SatF I D agg flat) := by
  have hres' : ∀ f ∈ pwn ops flat, ∀ v ∈ FItem.mentions ops.varsE varsB varsG f, ¬ GenOf gsRep v := fun f hf v hv =>
    (pwn_mentions ops hS.varsE_varE flat hres f hf v hv).elim (not_gs_of_lt (d := 0)) fun h =>
      h.elim (gs_disjoint (d := 2) (d' := 0) (by decide)) (gs_disjoint (d := 1) (d' := 0) (by decide))
  have hws' := pwn_exprScoped (varsB := varsB) (varsG := varsG) ops flat hres (fun rel args conds h => (hws rel args conds h).1)
  refine ((rep_correct I ops hS hV D agg (pwn ops flat) c items (pwn_shape ops flat) hres' hws' (desugarFlat_eq_some hd)).trans
    (pwn_correct I ops hS hV D agg flat hres hws)).mono (fun _ _ h => ⟨[], ⟨h.1, rfl⟩, rfl, h.2⟩) ?_
  rintro ρ σ ⟨τ, h₁, h₂⟩ v hv
  exact (h₁ v (not_gs_of_lt (d := 0) hv)).trans (h₂ v hv)

theorem desugarFlats_spec (ops : Ops E B G A) (heads : List (HeadClause E)) (flats : List (List (FItem E B G P A))) (c c' : Nat)
    (rs : List (Rule E B G P A)) (hd : desugarFlats ops heads flats c = some (rs, c')) :
    (∀ r ∈ rs, ∃ flat ∈ flats, ∃ c₁ c₂ items, desugarFlat ops c₁ flat = some (items, c₂) ∧ r = { heads := heads, body := items }) ∧
    (∀ flat ∈ flats, ∃ c₁ c₂ items, desugarFlat ops c₁ flat = some (items, c₂) ∧
      ({ heads := heads, body := items } : Rule E B G P A) ∈ rs) := by
  induction flats generalizing c rs with
  | nil =>
    cases hd
    simp
  | cons flat rest ih =>
    cases h1 : desugarFlat ops c flat with
    | none => simp [desugarFlats, h1] at hd
    | some p =>
      obtain ⟨body, c1⟩ := p
      cases h2 : desugarFlats ops heads rest c1 with
      | none => simp [desugarFlats, h1, h2] at hd
      | some q =>
        obtain ⟨rs', c2⟩ := q
        simp only [desugarFlats, h1, h2, Option.some.injEq, Prod.mk.injEq] at hd
        obtain ⟨rfl, rfl⟩ := hd
        obtain ⟨ih1, ih2⟩ := ih c1 rs' h2
        exact ⟨List.forall_mem_cons.2 ⟨⟨flat, List.mem_cons_self, c, c1, body, h1, rfl⟩,
            fun r hr => (ih1 r hr).imp fun fl h => ⟨List.mem_cons_of_mem _ h.1, h.2⟩⟩,
          List.forall_mem_cons.2 ⟨⟨c, c1, body, h1, List.mem_cons_self⟩,
            fun fl hfl => (ih2 fl hfl).imp fun c₁ => Exists.imp fun c₂ => Exists.imp fun items h =>
              ⟨h.1, List.mem_cons_of_mem _ h.2⟩⟩⟩

/-- **C07**: the one-step consequences of the desugared rules are exactly the documented consequences of the surface rule -/
theorem desugar_correct (I : Interp E B G P A) (ops : Ops E B G A) {varsB : B → List Var} {varsG : G → List Var}
    (hS : SugarSound I ops) (hV : VarsSound I ops.varsE varsB varsG) (r : SRule E B G P A M) (c c' : Nat)
    (rs : List (Rule E B G P A)) (hres : NoReservedNames ops.varsE varsB varsG r) (hws : WellScoped ops.varsE r)
    (hd : desugarRule ops c r = some (rs, c')) (agg : RelId → List Tuple) (D : DB) (f : Fact) :
    Cons I rs agg D f ↔ ConsS I r agg D f := by
  cases hm : r.heads.mapM SHead.toCore? with
  | none => simp [desugarRule, hm] at hd
  | some heads =>
    simp only [desugarRule, hm] at hd
    have hheads := (mapM_toCore?_eq_some r.heads heads).1 hm
    have hmemh : ∀ h, SHead.clause h ∈ r.heads ↔ h ∈ heads := fun h => by
      rw [hheads, List.mem_map]
      exact ⟨fun ⟨a, ha, heq⟩ => SHead.clause.inj heq ▸ ha, fun hh => ⟨h, hh, rfl⟩⟩
    obtain ⟨sp1, sp2⟩ := desugarFlats_spec ops heads (productsS r.body) c c' rs hd
    constructor
    · rintro ⟨cr, hcr, ρ, hsat, h, hh, rfl⟩
      obtain ⟨flat, hflat, c₁, c₂, items, hdf, rfl⟩ := sp1 cr hcr
      obtain ⟨σ', hsf, hag⟩ :=
        (desugarFlat_correct I ops hS hV D agg flat c₁ c₂ items (hres.1 flat hflat) (hws flat hflat) hdf [] [] ⟨rfl, rfl⟩).1 ρ hsat
      refine ⟨σ', (products_correct I D agg r.body [] σ').2 ⟨flat, hflat, hsf⟩, h, (hmemh h).2 hh, ?_⟩
      exact headFact_agree hV h fun e he v hv => hag v (hres.2 h ((hmemh h).2 hh) e he v hv)
    · rintro ⟨σ', hsat, h, hh, rfl⟩
      obtain ⟨flat, hflat, hsf⟩ := (products_correct I D agg r.body [] σ').1 hsat
      obtain ⟨c₁, c₂, items, hdf, hmem⟩ := sp2 flat hflat
      obtain ⟨ρ', hs, hag⟩ :=
        (desugarFlat_correct I ops hS hV D agg flat c₁ c₂ items (hres.1 flat hflat) (hws flat hflat) hdf [] [] ⟨rfl, rfl⟩).2 σ' hsf
      refine ⟨_, hmem, ρ', hs, h, (hmemh h).1 hh, ?_⟩
      exact (headFact_agree hV h fun e he v hv => hag v (hres.2 h hh e he v hv)).symm

/-- a rule with several head clauses is one rule per head clause -/
theorem cons_split_heads (I : Interp E B G P A) (heads : List (HeadClause E)) (body : List (Item E B G P A))
    (agg : RelId → List Tuple) (D : DB) (f : Fact) :
    Cons I [{ heads := heads, body := body }] agg D f ↔ Cons I (heads.map fun h => { heads := [h], body := body }) agg D f :=
  ⟨cons_of_pairs_le (fun r hr hd hhd => by
      cases List.mem_singleton.mp hr
      exact ⟨_, List.mem_map_of_mem hhd, rfl, List.mem_singleton_self hd⟩) D f,
   cons_of_pairs_le (fun r hr _ hhd => by
      obtain ⟨h', hh', rfl⟩ := List.mem_map.mp hr
      cases List.mem_singleton.mp hhd
      exact ⟨_, List.mem_singleton_self _, rfl, hh'⟩) D f⟩

/-- a rule without body is an unconditional fact: exactly its head clauses, evaluated in the empty environment -/
theorem consS_fact (I : Interp E B G P A) (heads : List (SHead E M)) (agg : RelId → List Tuple) (D : DB) (f : Fact) :
    ConsS I ({ heads := heads, body := .nil } : SRule E B G P A M) agg D f ↔ ∃ h, SHead.clause h ∈ heads ∧ f = headFact I h [] := by
  simp only [ConsS, SatS]
  constructor
  · rintro ⟨ρ, rfl, h⟩
    exact h
  · intro h
    exact ⟨[], rfl, h⟩

theorem desugarRules_spec (ops : Ops E B G A) (srs : List (SRule E B G P A M)) (c c' : Nat) (rs : List (Rule E B G P A))
    (hd : desugarRules ops srs c = some (rs, c')) :
    (∀ r' ∈ rs, ∃ r ∈ srs, ∃ c₁ c₂ rs₁, desugarRule ops c₁ r = some (rs₁, c₂) ∧ r' ∈ rs₁) ∧
    (∀ r ∈ srs, ∃ c₁ c₂ rs₁, desugarRule ops c₁ r = some (rs₁, c₂) ∧ ∀ r' ∈ rs₁, r' ∈ rs) := by
  induction srs generalizing c rs with
  | nil =>
    cases hd
    simp
  | cons r rest ih =>
    cases h1 : desugarRule ops c r with
    | none => simp [desugarRules, h1] at hd
    | some p =>
      obtain ⟨rs1, c1⟩ := p
      cases h2 : desugarRules ops rest c1 with
      | none => simp [desugarRules, h1, h2] at hd
      | some q =>
        obtain ⟨rs2, c2⟩ := q
        simp only [desugarRules, h1, h2, Option.some.injEq, Prod.mk.injEq] at hd
        obtain ⟨rfl, rfl⟩ := hd
        obtain ⟨ih1, ih2⟩ := ih c1 rs2 h2
        refine ⟨fun r' hr' => (List.mem_append.1 hr').elim (fun hr' => ⟨r, List.mem_cons_self, c, c1, rs1, h1, hr'⟩)
            fun hr' => (ih1 r' hr').imp fun r₀ h => ⟨List.mem_cons_of_mem _ h.1, h.2⟩,
          List.forall_mem_cons.2 ⟨⟨c, c1, rs1, h1, fun r' hr' => List.mem_append_left _ hr'⟩,
            fun r₀ hr₀ => (ih2 r₀ hr₀).imp fun c₁ => Exists.imp fun c₂ => Exists.imp fun rs₁ h =>
              ⟨h.1, fun r' hr' => List.mem_append_right _ (h.2 r' hr')⟩⟩⟩

/-- whole programs (after macro expansion): same one-step consequences, hence … -/
theorem desugarRules_correct (I : Interp E B G P A) (ops : Ops E B G A) {varsB : B → List Var} {varsG : G → List Var}
    (hS : SugarSound I ops) (hV : VarsSound I ops.varsE varsB varsG) (srs : List (SRule E B G P A M)) (c c' : Nat)
    (rs : List (Rule E B G P A)) (hres : ∀ r ∈ srs, NoReservedNames ops.varsE varsB varsG r) (hws : ∀ r ∈ srs, WellScoped ops.varsE r)
    (hd : desugarRules ops srs c = some (rs, c')) (agg : RelId → List Tuple) (D : DB) (f : Fact) :
    Cons I rs agg D f ↔ ConsSL I srs agg D f := by
  obtain ⟨sp1, sp2⟩ := desugarRules_spec ops srs c c' rs hd
  constructor
  · rintro ⟨r', hr', hcons⟩
    obtain ⟨r, hr, c₁, c₂, rs₁, hd₁, hmem⟩ := sp1 r' hr'
    exact ⟨r, hr, (desugar_correct I ops hS hV r c₁ c₂ rs₁ (hres r hr) (hws r hr) hd₁ agg D f).1 ⟨r', hmem, hcons⟩⟩
  · rintro ⟨r, hr, hcons⟩
    obtain ⟨c₁, c₂, rs₁, hd₁, hsub⟩ := sp2 r hr
    obtain ⟨r', hr', h⟩ := (desugar_correct I ops hS hV r c₁ c₂ rs₁ (hres r hr) (hws r hr) hd₁ agg D f).2 hcons
    exact ⟨r', hsub r' hr', h⟩

/-- … the same least model -/
theorem derivable_desugar (I : Interp E B G P A) (ops : Ops E B G A) {varsB : B → List Var} {varsG : G → List Var}
    (hS : SugarSound I ops) (hV : VarsSound I ops.varsE varsB varsG) (srs : List (SRule E B G P A M)) (c c' : Nat)
    (rs : List (Rule E B G P A)) (hres : ∀ r ∈ srs, NoReservedNames ops.varsE varsB varsG r) (hws : ∀ r ∈ srs, WellScoped ops.varsE r)
    (hd : desugarRules ops srs c = some (rs, c')) (agg : RelId → List Tuple) (inp : DB) (f : Fact) :
    Derivable I rs agg inp f ↔ DerivableS I srs agg inp f := by
  have key := fun D g => desugarRules_correct I ops hS hV srs c c' rs hres hws hd agg D g
  constructor
  · intro h D hin hcl
    exact h D ⟨hin, fun g hg => hcl g ((key D g).1 hg)⟩
  · intro h D hD
    exact h D hD.1 (fun g hg => hD.2 g ((key D g).2 hg))

/-! ## the hypotheses are met by the interpretation of the executable ties -/

theorem stdOps_sugarSound (kinds : RelId → Std.LatKind) : SugarSound (Std.interp kinds) Std.stdOps := by
  refine ⟨?_, ?_, ?_, ?_⟩
  · intro v ρ x h
    simp [Std.interp, Std.stdOps, Std.evalEx, h]
  · intro v
    rfl
  · intro v e ρ x h
    simp only [Std.interp, Std.stdOps, Std.evalBx, Std.evalEx, h, Option.getD_some]
    rfl
  · intro bag
    cases bag <;> simp [Std.interp, Std.stdOps, Std.evalAx, Agg.aggNot]

theorem stdOps_varsSound (kinds : RelId → Std.LatKind) : VarsSound (Std.interp kinds) Std.varsEx Std.varsBx Std.varsGx :=
  (Sem.stdOps_substLaw kinds).varsSound stdOps_opsLaws

/-! ## finding F10: a user variable in the range of the repeated-variable gensym is captured

`out(x, y) <-- foo(x, x), bar(y)` with `y` spelled like the name the desugaring generates for the second `x`
(variable `gsRep 0`): the desugared rule joins `bar` with the second column of `foo`. -/

namespace F10
/-- variables as expressions, equality tests as the only tests -/
def I0 : Interp Var (Var × Var) Unit Unit Unit where
  expr v ρ := (Env.get? ρ v).getD .unit
  test b ρ := decide ((Env.get? ρ b.1).getD .unit = (Env.get? ρ b.2).getD .unit)
  gen _ _ := []
  pat _ _ := none
  agg _ bag := if bag.isEmpty then [[]] else []
  joinMut _ a _ := (a, false)

def ops0 : Ops Var (Var × Var) Unit Unit where
  varE v := v
  eqB v e := (v, e)
  notA := ()
  varsE e := [e]
  subE θ e := θ e
  subB θ b := (θ b.1, θ b.2)
  subG _ g := g

/-- `out(x, y) <-- foo(x, x), bar(y)` with x = 0, y = gsRep 0; relations foo = 0, bar = 1, out = 2 -/
def rule : SRule Var (Var × Var) Unit Unit Unit Empty :=
  { heads := [.clause { rel := 2, args := [0, gsRep 0] }],
    body := .cons (.flat (.clause 0 [.var 0, .var 0] [])) (.cons (.flat (.clause 1 [.var (gsRep 0)] [])) .nil) }

def db : DB := fun f => f = ⟨0, [.int 1, .int 1]⟩ ∨ f = ⟨1, [.int 7]⟩

/-- documented meaning: out(1, 7) is a consequence … -/
theorem documented : ConsS I0 rule (fun _ => []) db ⟨2, [.int 1, .int 7]⟩ := by
  refine ⟨[(gsRep 0, .int 7), (0, .int 1)], ?_, { rel := 2, args := [0, gsRep 0] }, List.mem_singleton.2 rfl, rfl⟩
  simp only [rule, SatS, SatI, StepF]
  exact ⟨[(0, .int 1)], ⟨[.int 1, .int 1], [(0, .int 1)], .inl rfl, rfl, rfl⟩,
    [(gsRep 0, .int 7), (0, .int 1)], ⟨[.int 7], [(gsRep 0, .int 7), (0, .int 1)], .inr rfl, rfl, rfl⟩, rfl⟩

/-- … but not of the desugared rule (the user's variable is captured: it is joined with foo's second column) -/
theorem f10_capture : ∃ rs c', desugarRule ops0 0 rule = some (rs, c') ∧ ¬ Cons I0 rs (fun _ => []) db ⟨2, [.int 1, .int 7]⟩ := by
  refine ⟨[{ heads := [{ rel := 2, args := [0, gsRep 0] }],
             body := [.clause 0 [.var 0, .var (gsRep 0)] [.ifc (gsRep 0, 0)], .clause 1 [.var (gsRep 0)] []] }], 1, rfl, ?_⟩
  rintro ⟨r, hr, ρ, hs, -⟩
  cases List.mem_singleton.1 hr
  obtain ⟨ρ₁, ⟨t, ρ', hd, hm, hc⟩, hs'⟩ := sat_cons_iff.1 hs
  obtain ⟨ρ₂, ⟨t2, ρ'', hd2, hm2, -⟩, -⟩ := sat_cons_iff.1 hs'
  -- the only tuples are foo(1, 1) and bar(7)
  cases hd.elim (fun h => (Fact.mk.inj h).2) fun h => absurd (Fact.mk.inj h).1 (by decide)
  cases hd2.elim (fun h => absurd (Fact.mk.inj h).1 (by decide)) fun h => (Fact.mk.inj h).2
  -- `foo` binds the generated name to 1, which `bar`'s 7 does not match
  cases hm
  cases hc
  cases hm2
end F10

end AscentVerif.Surface

#print axioms AscentVerif.Surface.products_correct
#print axioms AscentVerif.Surface.desugarFlat_isSome
#print axioms AscentVerif.Surface.desugarRule_isSome
#print axioms AscentVerif.Surface.desugarFlat_correct
#print axioms AscentVerif.Surface.desugar_correct
#print axioms AscentVerif.Surface.cons_split_heads
#print axioms AscentVerif.Surface.consS_fact
#print axioms AscentVerif.Surface.desugarRules_correct
#print axioms AscentVerif.Surface.derivable_desugar
#print axioms AscentVerif.Surface.stdOps_sugarSound
#print axioms AscentVerif.Surface.stdOps_varsSound
#print axioms AscentVerif.Surface.F10.documented
#print axioms AscentVerif.Surface.F10.f10_capture
