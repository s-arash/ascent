import AscentVerif.Spec.Datalog
import AscentVerif.Model.StdInterp
import AscentVerif.Props.C01
import AscentVerif.Proofs.C12Spec
/-!
# C11 — a relation tagged `#[ds(trrel)]` behaves as its explicit transitive closure

Part (a), specification level.  The *explicit-closure twin* of a program with a trrel-tagged
relation `t` is the same program with `t` untagged plus the rule

  `t(x, z) <-- t(x, y), t(y, z)`            (binary)
  `t(k, x, z) <-- t(k, x, y), t(k, y, z)`   (ternary, per key `k`)

(`tools/vlib/eng.py: closure_rules`).  The theorems say what the least model of the twin holds in
`t`: exactly the transitive closure (per key) of the tuples *inserted* into `t` — by the input or
by an instance of one of the other rules over the least model — including the pairs `(x,x)`
implied by cycles.  Both directions, binary and ternary; the closure is stated in its rule form
(`TCb`/`TCt`: closed under composing two members) and shown equal to the path form (`Path`:
a non-empty chain of inserted pairs).  Together with C01 (`run_eq_leastModel`) this is what
the engine model computes on the twin of a program without aggregation and lattice relations
(`Relational`; `engine_twin_closure_bin`, `engine_twin_closure_tern`).

Part (b), the model of the provider against its contract, is Props/C11Provider.lean; the contract it meets drops the derived
`(x,x)` that part (a) requires (finding F7: the input of `Example` below is its witness).
-/
namespace AscentVerif.C11
open AscentVerif AscentVerif.Std

abbrev SRule := Rule Ex Bx Gx Px Ax

/-- `t(x, z) <-- t(x, y), t(y, z)` -/
def closureRuleBin (t : RelId) : SRule :=
  { heads := [⟨t, [.var 0, .var 2]⟩],
    body := [.clause t [.var 0, .var 1] [], .clause t [.var 1, .var 2] []] }

/-- `t(k, x, z) <-- t(k, x, y), t(k, y, z)` -/
def closureRuleTern (t : RelId) : SRule :=
  { heads := [⟨t, [.var 9, .var 0, .var 2]⟩],
    body := [.clause t [.var 9, .var 0, .var 1] [], .clause t [.var 9, .var 1, .var 2] []] }

/-- transitive closure of a set `S` of `t`-tuples, binary reading: the least set containing `S`
and closed under `[x,y], [y,z] ↦ [x,z]` -/
inductive TCb (S : Tuple → Prop) : Tuple → Prop where
  | base {tp : Tuple} : S tp → TCb S tp
  | trans {x y z : Val} : TCb S [x, y] → TCb S [y, z] → TCb S [x, z]

/-- per-key transitive closure, ternary reading -/
inductive TCt (S : Tuple → Prop) : Tuple → Prop where
  | base {tp : Tuple} : S tp → TCt S tp
  | trans {k x y z : Val} : TCt S [k, x, y] → TCt S [k, y, z] → TCt S [k, x, z]

/-- path form: a non-empty chain of `R`-steps -/
inductive Path (R : Val → Val → Prop) : Val → Val → Prop where
  | one {x y : Val} : R x y → Path R x y
  | cons {x y z : Val} : R x y → Path R y z → Path R x z

theorem Path.append {R : Val → Val → Prop} {x y z : Val} (h₁ : Path R x y) (h₂ : Path R y z) : Path R x z := by
  induction h₁ with
  | one h => exact .cons h h₂
  | cons h _ ih => exact .cons h (ih h₂)

variable {kinds : RelId → LatKind}

theorem cons_closureBin (D : DB) (agg : RelId → List Tuple) (t : RelId) (f : Fact) :
    Cons (interp kinds) [closureRuleBin t] agg D f ↔ ∃ a b c, D ⟨t, [a, b]⟩ ∧ D ⟨t, [b, c]⟩ ∧ f = ⟨t, [a, c]⟩ := by
  rw [closureRuleBin, C12.cons_join2]
  simp only [List.mem_singleton, exists_eq_left, C12.headFact_vars2 (C12.varExpr_std kinds)]
  exact Iff.rfl

theorem cons_closureTern (D : DB) (agg : RelId → List Tuple) (t : RelId) (f : Fact) :
    Cons (interp kinds) [closureRuleTern t] agg D f ↔
      ∃ k a b c, D ⟨t, [k, a, b]⟩ ∧ D ⟨t, [k, b, c]⟩ ∧ f = ⟨t, [k, a, c]⟩ := by
  rw [closureRuleTern, C12.cons_join3]
  simp only [List.mem_singleton, exists_eq_left, C12.headFact_vars3 (C12.varExpr_std kinds)]
  exact Iff.rfl

/-- the tuples *inserted* into `t`: given as input, or the head of an instance of one of the
(non-closure) rules over the database `D` -/
def Inserted {E B G P A : Type} (I : Interp E B G P A) (rules : List (Rule E B G P A)) (agg : RelId → List Tuple) (inp D : DB)
    (t : RelId) (tp : Tuple) : Prop :=
  inp ⟨t, tp⟩ ∨ Cons I rules agg D ⟨t, tp⟩

/-- **C11 (a), binary**: in the least model of the explicit-closure twin, `t` holds exactly the
transitive closure of the tuples inserted into it by the input and the other rules -/
theorem twin_closure_bin (rules : List SRule) (agg : RelId → List Tuple) (inp : DB) (t : RelId) (tp : Tuple) :
    Derivable (interp kinds) (rules ++ [closureRuleBin t]) agg inp ⟨t, tp⟩ ↔
      TCb (Inserted (interp kinds) rules agg inp (Derivable (interp kinds) (rules ++ [closureRuleBin t]) agg inp) t) tp := by
  refine C12.twin_lfp.trans ⟨fun h => ?_, fun h => ?_⟩
  · refine h (fun f => f.rel = t → TCb _ f.args) ⟨?_, ?_⟩ rfl
    · rintro ⟨_, tp⟩ hf rfl
      exact .base hf
    · intro f hc _
      obtain ⟨a, b, c, h₁, h₂, rfl⟩ := (cons_closureBin _ agg t f).mp hc
      exact .trans (h₁ rfl) (h₂ rfl)
  · induction h with
    | base hS => exact derivable_input hS
    | trans _ _ ih₁ ih₂ => exact derivable_cons ((cons_closureBin _ agg t _).mpr ⟨_, _, _, ih₁, ih₂, rfl⟩)

/-- **C11 (a), ternary**: per key `k`, the transitive closure of the inserted tuples -/
theorem twin_closure_tern (rules : List SRule) (agg : RelId → List Tuple) (inp : DB) (t : RelId) (tp : Tuple) :
    Derivable (interp kinds) (rules ++ [closureRuleTern t]) agg inp ⟨t, tp⟩ ↔
      TCt (Inserted (interp kinds) rules agg inp (Derivable (interp kinds) (rules ++ [closureRuleTern t]) agg inp) t) tp := by
  refine C12.twin_lfp.trans ⟨fun h => ?_, fun h => ?_⟩
  · refine h (fun f => f.rel = t → TCt _ f.args) ⟨?_, ?_⟩ rfl
    · rintro ⟨_, tp⟩ hf rfl
      exact .base hf
    · intro f hc _
      obtain ⟨k, a, b, c, h₁, h₂, rfl⟩ := (cons_closureTern _ agg t f).mp hc
      exact .trans (h₁ rfl) (h₂ rfl)
  · induction h with
    | base hS => exact derivable_input hS
    | trans _ _ ih₁ ih₂ => exact derivable_cons ((cons_closureTern _ agg t _).mpr ⟨_, _, _, _, ih₁, ih₂, rfl⟩)

/-- the rule-form closure is the set itself plus everything connected by a non-empty chain of its pairs -/
theorem tcb_iff_path (S : Tuple → Prop) (tp : Tuple) :
    TCb S tp ↔ S tp ∨ ∃ x z, tp = [x, z] ∧ Path (fun a b => S [a, b]) x z := by
  constructor
  · intro h
    induction h with
    | base h => exact .inl h
    | @trans x y z _ _ ih₁ ih₂ =>
      have path : ∀ {a b}, (S [a, b] ∨ ∃ x z, [a, b] = [x, z] ∧ Path (fun a b => S [a, b]) x z) →
          Path (fun a b => S [a, b]) a b := by
        rintro a b (h | ⟨_, _, he, hp⟩)
        · exact .one h
        · cases he; exact hp
      exact .inr ⟨x, z, rfl, (path ih₁).append (path ih₂)⟩
  · rintro (h | ⟨x, z, rfl, hp⟩)
    · exact .base h
    · induction hp with
      | one h => exact .base h
      | cons h _ ih => exact .trans (.base h) ih

theorem tct_iff_path (S : Tuple → Prop) (tp : Tuple) :
    TCt S tp ↔ S tp ∨ ∃ k x z, tp = [k, x, z] ∧ Path (fun a b => S [k, a, b]) x z := by
  constructor
  · intro h
    induction h with
    | base h => exact .inl h
    | @trans k x y z _ _ ih₁ ih₂ =>
      have path : ∀ {a b}, (S [k, a, b] ∨ ∃ k' x z, [k, a, b] = [k', x, z] ∧ Path (fun a b => S [k', a, b]) x z) →
          Path (fun a b => S [k, a, b]) a b := by
        rintro a b (h | ⟨_, _, _, he, hp⟩)
        · exact .one h
        · cases he; exact hp
      exact .inr ⟨k, x, z, rfl, (path ih₁).append (path ih₂)⟩
  · rintro (h | ⟨k, x, z, rfl, hp⟩)
    · exact .base h
    · induction hp with
      | one h => exact .base h
      | cons h _ ih => exact .trans (.base h) ih

/-- **pairs (x,x) implied by cycles are in the relation**: a cycle of inserted pairs through `x` -/
theorem twin_cycle_reflexive_bin (rules : List SRule) (agg : RelId → List Tuple) (inp : DB) (t : RelId) (x : Val)
    (h : Path (fun a b => Inserted (interp kinds) rules agg inp (Derivable (interp kinds) (rules ++ [closureRuleBin t]) agg inp) t [a, b]) x x) :
    Derivable (interp kinds) (rules ++ [closureRuleBin t]) agg inp ⟨t, [x, x]⟩ :=
  (twin_closure_bin rules agg inp t _).mpr ((tcb_iff_path _ _).mpr (.inr ⟨x, x, rfl, h⟩))

theorem twin_cycle_reflexive_tern (rules : List SRule) (agg : RelId → List Tuple) (inp : DB) (t : RelId) (k x : Val)
    (h : Path (fun a b => Inserted (interp kinds) rules agg inp (Derivable (interp kinds) (rules ++ [closureRuleTern t]) agg inp) t [k, a, b]) x x) :
    Derivable (interp kinds) (rules ++ [closureRuleTern t]) agg inp ⟨t, [k, x, x]⟩ :=
  (twin_closure_tern rules agg inp t _).mpr ((tct_iff_path _ _).mpr (.inr ⟨k, x, x, rfl, h⟩))

open Engine in
/-- C01 as an equation between databases -/
theorem factsOf_eq_leastModel (cfg : Config) (p : Program Ex Bx Gx Px Ax) (order : SccOrder) (inp : RelId → List Tuple)
    (fuel : Nat) (ps : ProgSt) (hp : Relational p) (ho : validOrder p order = true)
    (hrun : run (interp kinds) cfg p order fuel (initSt p inp) = .done ps) :
    (factsOf ps.st : DB) = Derivable (interp kinds) p.rules noAgg (inputDB p inp) :=
  funext fun f => propext (run_eq_leastModel (interp kinds) cfg p order inp fuel ps hp ho hrun f)

open Engine in
/-- the engine model, run on the twin, leaves in `t` exactly the transitive closure of the inserted tuples -/
theorem engine_twin_closure_bin (cfg : Config) (p : Program Ex Bx Gx Px Ax) (rules : List SRule) (t : RelId)
    (order : SccOrder) (inp : RelId → List Tuple) (fuel : Nat) (ps : ProgSt)
    (hrules : p.rules = rules ++ [closureRuleBin t])
    (hp : Relational p) (ho : validOrder p order = true)
    (hrun : run (interp kinds) cfg p order fuel (initSt p inp) = .done ps) (tp : Tuple) :
    factsOf ps.st ⟨t, tp⟩ ↔
      TCb (Inserted (interp kinds) rules noAgg (inputDB p inp) (factsOf ps.st) t) tp := by
  rw [factsOf_eq_leastModel cfg p order inp fuel ps hp ho hrun, hrules]
  exact twin_closure_bin rules noAgg (inputDB p inp) t tp

open Engine in
theorem engine_twin_closure_tern (cfg : Config) (p : Program Ex Bx Gx Px Ax) (rules : List SRule) (t : RelId)
    (order : SccOrder) (inp : RelId → List Tuple) (fuel : Nat) (ps : ProgSt)
    (hrules : p.rules = rules ++ [closureRuleTern t])
    (hp : Relational p) (ho : validOrder p order = true)
    (hrun : run (interp kinds) cfg p order fuel (initSt p inp) = .done ps) (tp : Tuple) :
    factsOf ps.st ⟨t, tp⟩ ↔
      TCt (Inserted (interp kinds) rules noAgg (inputDB p inp) (factsOf ps.st) t) tp := by
  rw [factsOf_eq_leastModel cfg p order inp fuel ps hp ho hrun, hrules]
  exact twin_closure_tern rules noAgg (inputDB p inp) t tp

/-! ## non-vacuity: a concrete twin -/
namespace Example

/-- `t(x, y) <-- e(x, y)` with `e` = relation 0, `t` = relation 1 -/
def copyRule : SRule := { heads := [⟨1, [.var 0, .var 1]⟩], body := [.clause 0 [.var 0, .var 1] []] }

def kinds0 : RelId → LatKind := fun _ => .maxInt
def i (n : Int) : Val := .int n
def noAgg : RelId → List Tuple := fun _ => []

/-- input `e = {(1,2), (2,1), (2,3)}` (the witness of finding F7) -/
def inp : DB := fun f => f = ⟨0, [i 1, i 2]⟩ ∨ f = ⟨0, [i 2, i 1]⟩ ∨ f = ⟨0, [i 2, i 3]⟩

abbrev M : DB := Derivable (interp kinds0) ([copyRule] ++ [closureRuleBin 1]) noAgg inp

theorem inserted_iff (a b : Val) : Inserted (interp kinds0) [copyRule] noAgg inp M 1 [a, b] ↔ inp ⟨0, [a, b]⟩ :=
  C12.copy_inserted (varE := Ex.var) (C12.varExpr_std kinds0) (by decide) (by decide) (by rintro _ (rfl | rfl | rfl) <;> rfl) a b

/-- the cycle 1 → 2 → 1 puts (1,1) and (2,2) into `t` -/
theorem example_reflexive : M ⟨1, [i 1, i 1]⟩ ∧ M ⟨1, [i 2, i 2]⟩ := by
  have h12 := (inserted_iff (i 1) (i 2)).2 (.inl rfl)
  have h21 := (inserted_iff (i 2) (i 1)).2 (.inr (.inl rfl))
  exact ⟨twin_cycle_reflexive_bin _ _ _ _ _ (.cons h12 (.one h21)), twin_cycle_reflexive_bin _ _ _ _ _ (.cons h21 (.one h12))⟩

/-- … and (1,3) by composition, but nothing leaves 3: the closure adds no more than paths allow -/
theorem example_13 : M ⟨1, [i 1, i 3]⟩ :=
  (twin_closure_bin _ _ _ _ _).mpr
    (.trans (.base ((inserted_iff _ _).2 (.inl rfl))) (.base ((inserted_iff _ _).2 (.inr (.inr rfl)))))

theorem example_not_31 : ¬ M ⟨1, [i 3, i 1]⟩ := by
  intro h
  have h3 : ∀ y, ¬ Inserted (interp kinds0) [copyRule] noAgg inp M 1 [i 3, y] := fun y h => by
    rcases (inserted_iff _ _).1 h with h | h | h <;> simp [i] at h
  -- a tuple of the closure is inserted or the ends of a chain of inserted pairs: either way an input edge leaves 3
  rcases (tcb_iff_path _ _).mp ((twin_closure_bin _ _ _ _ _).mp h) with h | ⟨x, z, e, hp⟩
  · exact h3 _ h
  · cases e
    cases hp with
    | one h => exact h3 _ h
    | cons h _ => exact h3 _ h

end Example

end AscentVerif.C11
