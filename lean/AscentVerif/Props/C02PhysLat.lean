import AscentVerif.Model.EnginePhysParLat
import AscentVerif.Props.C03Phys
import AscentVerif.Props.C02Phys
import AscentVerif.Proofs.PhysParLatTimeout
import AscentVerif.Proofs.PhysParLatCounter
/-!
# C02 / C03 at the level of the physical indices: the code generated by `ascent_par!` for programs WITH lattices

`Model/EnginePhysParLat.lean` models what `ascent_par!` generates for an aggregation-free program with `lattice` relations:
per lattice the row vector (last column joined in place under the row's lock), the key index `CRelFullIndex<key, usize>`,
set-valued `CLatIndex<K, usize>` indices of row numbers, three versions of each inside an SCC, all under the frozen /
unfrozen protocol; the parallel lattice head update as one atomic step in schedule order; plain relations exactly as in
`Model/EnginePhysPar.lean`.

`runPhysParLat_spec`: for EVERY schedule, every pool size, both rule-scheduling modes (`interRule`) and every fuel, from every
well-formed program value with at most one row per lattice key: the run never panics, and if it returns, the value is again
well-formed, every lattice has one row per key, the result is closed under the rules over the FINAL values, below every closed
key-unique database for monotone programs (the least fixed point), and every plain relation is the old row vector followed by
duplicate-free new rows.
Hypotheses: those of `PhysLat.runPhysLat_spec` (`LatticeProg`, `validOrder`, `InputOK`, `latPlanOk`, desugared and well-scoped rules),
of `PhysPar.runPhysPar_eq_leastModel` (`bodyDeclared`, a well-formed start value), and the flag law `hff` of `join_mut` (the stored
value is untouched when `join_mut` reports "unchanged": part of the contract of `Lattice::join_mut`, C16).  The flag law is NEEDED
here and not in the serial theorem: the parallel code joins IN PLACE under the row's lock whatever the flag says, the serial models
discard the joined value when the flag is false; `runPhysParLat_needs_flag_law` is the counterexample without it.
-/
namespace AscentVerif.PhysParLat
open AscentVerif AscentVerif.Engine AscentVerif.Index AscentVerif.Phys

variable {E B G P A : Type}

/-! The hypothesis `arityOk p` of `runPhysParLat_spec` is not used. -/

/-- what a simulated complete execution of the nondeterministic lattice engine says of the value left -/
theorem spec_of_simulated (I : Interp E B G P A) (L : LatOrder I) (p : Program E B G P A) (ix : IxSets) (order : SccOrder)
    {N : Nat} {s pst : PLSt} {st' : St} (hp : LatticeProg p) (ho : validOrder p order = true) (hi : InputOK p (xrows s))
    (hnd : RunNDL I p order (Engine.initSt p (xrows s)) st') (hs' : PStInv p ix N st' pst) :
    WFSt p pst ∧
      (∀ r, r < p.rels.length → (declOf p r).lat = true → ((xrows pst r).map keyOf).Nodup) ∧
      LClosed I L p (inputDB p (xrows s)) (factsOf pst) ∧
      (MonotoneProg I L p → ∀ M : DB, KeyUnique p M → LClosed I L p (inputDB p (xrows s)) M → DBLe I L p (factsOf pst) M) ∧
      (∀ r, r < p.rels.length → (declOf p r).lat = false → ∃ derived : List Tuple,
        xrows pst r = xrows s r ++ derived ∧ derived.Nodup ∧ ∀ t ∈ derived, t ∉ xrows s r) := by
  obtain ⟨h1, h2, h3, h4⟩ := runNDL_spec I L p order (xrows s) st' hp ho hi hnd
  have hf : Engine.factsOf st' = factsOf pst := by
    funext f
    simp only [Engine.factsOf, factsOf, hs'.rows]
  rw [hf] at h2 h3
  exact ⟨hs'.wfSt, fun r hr hl => hs'.rows r ▸ h1 r hr hl, h2, h3, fun r hr hl => hs'.rows r ▸ h4 r hr hl⟩

/-- **every schedule, every pool: no panic, and the least fixed point** — for a `join_mut` that leaves the stored value alone
whenever it reports that nothing changed -/
theorem runPhysParLat_spec (I : Interp E B G P A) (L : LatOrder I) (hI : Plan.Ext I) (V : Hir.VarsOf E B)
    (hS : Plan.Supp I V)
    (p : Program E B G P A) (ix : IxSets) (order : SccOrder) (σ : PhysPar.Sched E B G P A) (interRule : Bool)
    (threads fuel : Nat) (s : PLSt)
    (hff : ∀ r a b, (I.joinMut r a b).2 = false → (I.joinMut r a b).1 = a)
    (hp : LatticeProg p) (ho : validOrder p order = true) (_ha : arityOk p = true) (hb : PhysPar.bodyDeclared p = true)
    (hplan : latPlanOk V p ix = true)
    (hd : ∀ r ∈ p.rules, Hir.Desugared V r = true ∧ Plan.WellScoped V r = true)
    (hs : WFSt p s) (hi : InputOK p (xrows s)) :
    ∃ res, run I V p ix order σ interRule threads fuel s = .ok res ∧
      ∀ out, res = some out →
        WFSt p out.st ∧
        (∀ r, r < p.rels.length → (declOf p r).lat = true → ((xrows out.st r).map keyOf).Nodup) ∧
        LClosed I L p (inputDB p (xrows s)) (factsOf out.st) ∧
        (MonotoneProg I L p → ∀ M : DB, KeyUnique p M → LClosed I L p (inputDB p (xrows s)) M →
          DBLe I L p (factsOf out.st) M) ∧
        (∀ r, r < p.rels.length → (declOf p r).lat = false → ∃ derived : List Tuple,
          xrows out.st r = xrows s r ++ derived ∧ derived.Nodup ∧ ∀ t ∈ derived, t ∉ xrows s r) := by
  -- `run()` is `run_timeout` under the deadline that never passes (`run_never`)
  obtain ⟨o, ho', hpost⟩ := runTimeout_simP I L V p ix order
    (runCtx_of_latPlanOk hI hS hff hp (PhysPar.bodyDeclared_of_check hb) hplan hd) σ interRule threads never fuel s hs hi
  rw [run_never, ho']
  refine ⟨_, rfl, ?_⟩
  intro out hout
  cases o with
  | done ps' =>
    obtain rfl : ProgStT.toProgSt ps' = out := Option.some.inj hout
    obtain ⟨st', hnd, hs'⟩ := hpost
    exact spec_of_simulated I L p ix order hp ho hi hnd hs'
  | _ => cases hout

/-- **without the flag law the statement of `runPhysParLat_spec` is false**: at the interpretation `badI`
(`join_mut _ b = (b, false)`, all values equivalent — every law of `LatOrder` holds) every hypothesis is satisfied, the run
returns, and the result is not closed -/
theorem runPhysParLat_needs_flag_law :
    ¬ (∀ (I : Interp Plan.Ex Plan.Bx Plan.Ex Unit Unit) (L : LatOrder I) (_ : Plan.Ext I) (V : Hir.VarsOf Plan.Ex Plan.Bx)
      (_ : Plan.Supp I V) (p : Program Plan.Ex Plan.Bx Plan.Ex Unit Unit) (ix : IxSets) (order : SccOrder)
      (σ : PhysPar.Sched Plan.Ex Plan.Bx Plan.Ex Unit Unit) (interRule : Bool) (threads fuel : Nat) (s : PLSt),
      LatticeProg p → validOrder p order = true → arityOk p = true → PhysPar.bodyDeclared p = true →
      latPlanOk V p ix = true → (∀ r ∈ p.rules, Hir.Desugared V r = true ∧ Plan.WellScoped V r = true) →
      WFSt p s → InputOK p (xrows s) →
      ∃ res, run I V p ix order σ interRule threads fuel s = .ok res ∧
        ∀ out, res = some out → LClosed I L p (inputDB p (xrows s)) (factsOf out.st)) := by
  intro h
  obtain ⟨c1, c2, c3, c4, c5, c6, c7, c8, c9, c10, out, hrun, hnot⟩ := runPhysParLat_spec_counterexample
  exact hnot (PhysPar.spec_of_ok (h badI badL c1 Plan.exV c2 pBad _ [[0, 1]] σId false 1 10 sBad c3 c4 c5 c6 c7 c8 c9 c10) hrun out rfl)

/-- the contract `hff` follows from the laws of `LatOrder` when the order is antisymmetric (a partial order, as the order of
a lattice is): `runPhysParLat_spec` holds for every `LatOrder` that is a partial order -/
theorem hff_of_antisymm (I : Interp E B G P A) (L : LatOrder I) (hanti : ∀ r a b, L.le r a b → L.le r b a → a = b) :
    ∀ r a b, (I.joinMut r a b).2 = false → (I.joinMut r a b).1 = a := by
  intro r a b h
  exact hanti r _ _ (L.join_least r a b a (L.refl r a) (L.flag_false r a b h)) (L.join_left r a b)

theorem runPhysParLat_spec_antisymm (I : Interp E B G P A) (L : LatOrder I) (hI : Plan.Ext I) (V : Hir.VarsOf E B)
    (hS : Plan.Supp I V)
    (p : Program E B G P A) (ix : IxSets) (order : SccOrder) (σ : PhysPar.Sched E B G P A) (interRule : Bool)
    (threads fuel : Nat) (s : PLSt)
    (hanti : ∀ r a b, L.le r a b → L.le r b a → a = b)
    (hp : LatticeProg p) (ho : validOrder p order = true) (ha : arityOk p = true) (hb : PhysPar.bodyDeclared p = true)
    (hplan : latPlanOk V p ix = true)
    (hd : ∀ r ∈ p.rules, Hir.Desugared V r = true ∧ Plan.WellScoped V r = true)
    (hs : WFSt p s) (hi : InputOK p (xrows s)) :
    ∃ res, run I V p ix order σ interRule threads fuel s = .ok res ∧
      ∀ out, res = some out →
        WFSt p out.st ∧
        (∀ r, r < p.rels.length → (declOf p r).lat = true → ((xrows out.st r).map keyOf).Nodup) ∧
        LClosed I L p (inputDB p (xrows s)) (factsOf out.st) ∧
        (MonotoneProg I L p → ∀ M : DB, KeyUnique p M → LClosed I L p (inputDB p (xrows s)) M →
          DBLe I L p (factsOf out.st) M) ∧
        (∀ r, r < p.rels.length → (declOf p r).lat = false → ∃ derived : List Tuple,
          xrows out.st r = xrows s r ++ derived ∧ derived.Nodup ∧ ∀ t ∈ derived, t ∉ xrows s r) :=
  runPhysParLat_spec I L hI V hS p ix order σ interRule threads fuel s (hff_of_antisymm I L hanti) hp ho ha hb hplan
    hd hs hi

/-! ## non-vacuity: longest weighted paths (`pDist` of `Props/C03Phys.lean`) in a pool of 2 workers, two schedules

`edge(x, y, w)` plain, `dist(x, d)` a `max` lattice, `dist(y, d + w) <-- dist(x, d), edge(x, y, w)`; edges `1 →3 2 →4 3`,
`1 →5 3`; `dist(1) = 0`.  Schedule `σA` keeps every order; schedule `σB` applies the head updates of every phase in REVERSE
order, uses the other worker for every insert and the swapped copy of the simple join on every even evaluation.  Under `σA`
the row of node 3 is pushed after the row of node 2, with value 5, and joined in place to 7; under `σB` it is pushed BEFORE the
row of node 2.  The all-columns index of `dist` holds the input row only (finding F9: the head update skips it). -/

open AscentVerif.PhysLat (pDist inpDist exL)

def σA : PhysPar.Sched Plan.Ex Plan.Bx Plan.Ex Unit Unit :=
  { permRows := fun _ l => l, permRows_perm := fun _ l => List.Perm.refl l
    permTasks := fun _ l => l, permTasks_perm := fun _ l => List.Perm.refl l
    tid := fun n => n % 2, swap := fun _ => false }

def σB : PhysPar.Sched Plan.Ex Plan.Bx Plan.Ex Unit Unit :=
  { permRows := fun _ l => l, permRows_perm := fun _ l => List.Perm.refl l
    permTasks := fun _ l => l.reverse, permTasks_perm := fun _ l => List.reverse_perm l
    tid := fun n => (n + 1) % 2, swap := fun n => n % 2 == 0 }

/-- the program value, constructed in a pool of 3 workers -/
def sDist : PLSt := initSt 3 pDist (ixSetsOf Plan.exV pDist) inpDist

/-- what is compared: the row vectors and `scc_iters` -/
def obs (r : Res (Option ProgSt)) : Res (Option (List (List Tuple) × List Nat)) :=
  r.map fun o => o.map fun ps => ((List.range ps.st.pc.length).map (xrows ps.st), ps.iters)

theorem wf_sDist : WFSt pDist sDist := wfSt_initSt (by decide)

theorem inputOK_sDist : InputOK pDist (xrows sDist) := inputOK_initSt ⟨by decide, by decide⟩

/-- the indices of `dist` a run under `σB` stores back: the key index maps every key to its row number (3 ↦ row 1), every stored
index is unfrozen, and the all-columns index knows the input row only (finding F9) -/
def obsIdx (r : Res (Option ProgSt)) : Res (Option (List (List Nat × Bool × Option Nat × Nat))) :=
  r.map fun o => o.map fun ps =>
    (lrel ps.st.lat 1).idxs.map fun ci => (ci.1, ci.2.isFrozen, ci.2.getCloned [.int 3], ci.2.erase.size)

set_option synthInstance.maxSize 1024 in
/-- the two statements below in one evaluation: the run under `σB` they both speak of is computed once -/
theorem distPar_all :
    (arityOk pDist = true ∧ PhysPar.bodyDeclared pDist = true ∧ latPlanOk Plan.exV pDist (ixSetsOf Plan.exV pDist) = true ∧
    latIxOf pDist (ixSetsOf Plan.exV pDist) 1 = [[0], [0, 1]] ∧ plainIx pDist (ixSetsOf Plan.exV pDist) 0 = [[0]] ∧
    obs (run exL Plan.exV pDist (ixSetsOf Plan.exV pDist) [[0]] σA false 2 10 sDist) =
      .ok (some ([[[.int 1, .int 2, .int 3], [.int 2, .int 3, .int 4], [.int 1, .int 3, .int 5]],
                  [[.int 1, .int 0], [.int 2, .int 3], [.int 3, .int 7]]], [3])) ∧
    obs (run exL Plan.exV pDist (ixSetsOf Plan.exV pDist) [[0]] σB false 2 10 sDist) =
      .ok (some ([[[.int 1, .int 2, .int 3], [.int 2, .int 3, .int 4], [.int 1, .int 3, .int 5]],
                  [[.int 1, .int 0], [.int 3, .int 7], [.int 2, .int 3]]], [3])) ∧
    obs (run exL Plan.exV pDist (ixSetsOf Plan.exV pDist) [[0]] σB true 2 10 sDist) =
      .ok (some ([[[.int 1, .int 2, .int 3], [.int 2, .int 3, .int 4], [.int 1, .int 3, .int 5]],
                  [[.int 1, .int 0], [.int 3, .int 7], [.int 2, .int 3]]], [3]))) ∧
    (obsIdx (run exL Plan.exV pDist (ixSetsOf Plan.exV pDist) [[0]] σB false 2 10 sDist) =
      .ok (some [([0], false, some 1, 3), ([0, 1], false, none, 1)])) := by
  decide_conj

/-- the decidable hypotheses of the theorem hold for the example; both schedules (and both rule-scheduling modes) return
`dist = {1 ↦ 0, 2 ↦ 3, 3 ↦ 7}` after 3 iterations, with the rows in the order the schedule pushed them -/
theorem distPar_hyps :
    arityOk pDist = true ∧ PhysPar.bodyDeclared pDist = true ∧ latPlanOk Plan.exV pDist (ixSetsOf Plan.exV pDist) = true ∧
    latIxOf pDist (ixSetsOf Plan.exV pDist) 1 = [[0], [0, 1]] ∧ plainIx pDist (ixSetsOf Plan.exV pDist) 0 = [[0]] ∧
    obs (run exL Plan.exV pDist (ixSetsOf Plan.exV pDist) [[0]] σA false 2 10 sDist) =
      .ok (some ([[[.int 1, .int 2, .int 3], [.int 2, .int 3, .int 4], [.int 1, .int 3, .int 5]],
                  [[.int 1, .int 0], [.int 2, .int 3], [.int 3, .int 7]]], [3])) ∧
    obs (run exL Plan.exV pDist (ixSetsOf Plan.exV pDist) [[0]] σB false 2 10 sDist) =
      .ok (some ([[[.int 1, .int 2, .int 3], [.int 2, .int 3, .int 4], [.int 1, .int 3, .int 5]],
                  [[.int 1, .int 0], [.int 3, .int 7], [.int 2, .int 3]]], [3])) ∧
    obs (run exL Plan.exV pDist (ixSetsOf Plan.exV pDist) [[0]] σB true 2 10 sDist) =
      .ok (some ([[[.int 1, .int 2, .int 3], [.int 2, .int 3, .int 4], [.int 1, .int 3, .int 5]],
                  [[.int 1, .int 0], [.int 3, .int 7], [.int 2, .int 3]]], [3])) :=
  distPar_all.1

theorem distPar_indices :
    obsIdx (run exL Plan.exV pDist (ixSetsOf Plan.exV pDist) [[0]] σB false 2 10 sDist) =
      .ok (some [([0], false, some 1, 3), ([0, 1], false, none, 1)]) :=
  distPar_all.2

/-- the flag law `hff` holds for the standard interpretation the tie runs (tools/vlib: `i64` max and `Dual<i64>` min columns),
whatever the stored values are: `join_mut` of these kinds hands back the stored value itself when it reports "unchanged" -/
theorem std_hff_maxmin (kinds : RelId → Std.LatKind) (hk : ∀ r, kinds r = .maxInt ∨ kinds r = .minInt) :
    ∀ r a b, ((Std.interp kinds).joinMut r a b).2 = false → ((Std.interp kinds).joinMut r a b).1 = a := by
  intro r a b h
  simp only [Std.interp] at h ⊢
  rcases hk r with h1 | h1 <;> simp only [h1, Std.LatKind.joinMut] at h ⊢ <;> simp [h]

/-- the `i64` max-join of the example leaves the value alone when it reports "unchanged" -/
theorem exL_hff : ∀ r a b, (exL.joinMut r a b).2 = false → (exL.joinMut r a b).1 = a :=
  std_hff_maxmin (fun _ => .maxInt) fun _ => .inl rfl

/-- the theorem applies to the example: under any schedule, in any pool and mode, the run does not panic, and what it returns
has one row per key and is closed -/
example (L : LatOrder exL) (σ : PhysPar.Sched Plan.Ex Plan.Bx Plan.Ex Unit Unit) (ir : Bool) (threads fuel : Nat) :
    ∃ res, run exL Plan.exV pDist (ixSetsOf Plan.exV pDist) [[0]] σ ir threads fuel sDist = .ok res ∧
      ∀ out, res = some out → ((xrows out.st 1).map keyOf).Nodup ∧
        LClosed exL L pDist (inputDB pDist (xrows sDist)) (factsOf out.st) := by
  obtain ⟨res, h1, h2⟩ := runPhysParLat_spec exL L PhysLat.exL_ext Plan.exV PhysLat.exL_supp pDist _ [[0]] σ ir
    threads fuel sDist exL_hff PhysLat.dist_hyps.1 PhysLat.dist_hyps.2.1 distPar_hyps.1 distPar_hyps.2.1 distPar_hyps.2.2.1
    PhysLat.dist_hyps.2.2.2.1 wf_sDist inputOK_sDist
  exact ⟨res, h1, fun out ho => ⟨(h2 out ho).2.1 1 (by decide) rfl, (h2 out ho).2.2.1⟩⟩

/-- what does panic: a write to a frozen lattice index, `hash_usize` on a frozen key index, a merge with a frozen side;
`get_cloned` works in both states -/
example : (LCx.key true []).insert [] 0 = .panic ∧ (LCx.rows true []).insert [] 0 = .panic ∧
    (LCx.key true []).hashUsize = .panic ∧
    mergeLx ⟨.rows true [], .rows false [], .rows false []⟩ = .panic ∧
    mergeLx ⟨.key false [], .key true [], .key false []⟩ = .panic ∧
    (LCx.key true [([], 0)]).getCloned [] = some 0 ∧ (LCx.key false [([], 0)]).getCloned [] = some 0 :=
  ⟨rfl, rfl, rfl, rfl, rfl, rfl, rfl⟩

#print axioms AscentVerif.PhysParLat.runPhysParLat_spec
#print axioms AscentVerif.PhysParLat.runPhysParLat_spec_antisymm
#print axioms AscentVerif.PhysParLat.runPhysParLat_needs_flag_law
#print axioms AscentVerif.PhysParLat.std_hff_maxmin

end AscentVerif.PhysParLat
