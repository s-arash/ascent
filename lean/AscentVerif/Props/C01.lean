import AscentVerif.Model.Engine
import AscentVerif.Spec.Datalog
import AscentVerif.Proofs.Versions
import AscentVerif.Proofs.Strata
import AscentVerif.Proofs.AggFree
/-!
# C01 — run() computes exactly the least model of the rules over the input facts
# (with C05's "relations are sets, inputs are never lost" as by-products of the same invariants)

For every rule program without aggregation and lattices, every interpretation of its embedded
Rust expressions, every input database, every valid SCC order and every fuel: if the engine
model returns, every relation holds exactly the tuples of the least model.
-/
namespace AscentVerif.Engine
open AscentVerif

variable {E B G P A : Type}

/-- programs of C01's fragment: no aggregation/negation, no lattice relations, and every head
relation is declared -/
def Relational (p : Program E B G P A) : Prop :=
  (∀ r ∈ p.rules, r.aggFree = true) ∧ (∀ d ∈ p.rels, d.lat = false) ∧
  (∀ r ∈ p.rules, ∀ h ∈ r.heads, h.rel < p.rels.length)

def inputDB (p : Program E B G P A) (inp : RelId → List Tuple) : DB :=
  fun f => f.rel < p.rels.length ∧ f.args ∈ inp f.rel

/-- no aggregated relation is consulted in this fragment -/
def noAgg : RelId → List Tuple := fun _ => []

/-- closed form of `versions_base`: variant `k` is `Total^k, Delta, TotalDelta^(n-k-1)` -/
theorem versionsBase_eq (n : Nat) :
    versionsBase n = (List.range n).map fun k =>
      List.replicate k Ver.total ++ [Ver.delta] ++ List.replicate (n - k - 1) Ver.totalDelta :=
  versionsBase_eq_vk n

/-- which concrete choice (`false` = the fact is in total, `true` = it is in delta) a version admits -/
def Ver.admits : Ver → Bool → Bool
  | .total, b => !b
  | .delta, b => b
  | .totalDelta, _ => true

private theorem admits_totalDelta_all (m : Nat) (cs : List Bool) :
    ((List.replicate m Ver.totalDelta).zip cs).all (fun vc => vc.1.admits vc.2) = true := by
  induction m generalizing cs with
  | zero => simp
  | succ m ih =>
    cases cs with
    | nil => simp
    | cons c cs => rw [List.replicate_succ, List.zip_cons_cons, List.all_cons, ih]; rfl

/-- **coverage**: every assignment of total/delta to the `n` dynamic clauses with at least one
delta is admitted by exactly one variant — so semi-naive evaluation loses nothing and repeats nothing -/
theorem versionsBase_covers (n : Nat) (choice : List Bool) (hlen : choice.length = n) (hd : true ∈ choice) :
    ∃ vs ∈ versionsBase n, (vs.zip choice).all (fun vc => vc.1.admits vc.2) = true ∧
      ∀ vs' ∈ versionsBase n, (vs'.zip choice).all (fun vc => vc.1.admits vc.2) = true → vs' = vs := by
  induction choice generalizing n with
  | nil => simp at hd
  | cons c cs ih =>
    cases n with
    | zero => simp at hlen
    | succ m =>
      have hm : cs.length = m := by simpa using hlen
      cases c with
      | true =>
        refine ⟨Ver.delta :: List.replicate m Ver.totalDelta, (mem_versionsBase_succ m _).mpr (.inl rfl), ?_, ?_⟩
        · rw [List.zip_cons_cons, List.all_cons, admits_totalDelta_all]; rfl
        · intro vs' hvs' hall
          rcases (mem_versionsBase_succ m vs').mp hvs' with rfl | ⟨v, _, rfl⟩
          · rfl
          · -- `Total` does not admit a delta choice
            rw [List.zip_cons_cons, List.all_cons] at hall
            cases hall
      | false =>
        have hd' : true ∈ cs := by simpa using hd
        obtain ⟨v, hv, hadm, huniq⟩ := ih m hm hd'
        refine ⟨Ver.total :: v, (mem_versionsBase_succ m _).mpr (.inr ⟨v, hv, rfl⟩), ?_, ?_⟩
        · rw [List.zip_cons_cons, List.all_cons, hadm]; rfl
        · intro vs' hvs' hall
          rcases (mem_versionsBase_succ m vs').mp hvs' with rfl | ⟨v', hv', rfl⟩
          · -- `Delta` does not admit a total choice
            rw [List.zip_cons_cons, List.all_cons] at hall
            cases hall
          · rw [huniq v' hv' hall]

/-- and the all-total assignment is admitted by none (old facts are not re-joined) -/
theorem versionsBase_skips_old (n : Nat) (vs : List Ver) (h : vs ∈ versionsBase n) :
    (vs.zip (List.replicate n false)).all (fun vc => vc.1.admits vc.2) = false := by
  induction n generalizing vs with
  | zero => simp [versionsBase] at h
  | succ m ih =>
    rcases (mem_versionsBase_succ m vs).mp h with rfl | ⟨v, hv, rfl⟩
    · simp [List.replicate_succ, Ver.admits]
    · rw [List.replicate_succ, List.zip_cons_cons, List.all_cons, ih v hv, Bool.and_false]

/-- **soundness**: every tuple present after `run()` is derivable from the inputs by the rules -/
theorem run_sound (I : Interp E B G P A) (cfg : Config) (p : Program E B G P A) (order : SccOrder)
    (inp : RelId → List Tuple) (fuel : Nat) (ps : ProgSt)
    (hp : Relational p) (ho : validOrder p order = true)
    (hrun : run I cfg p order fuel (initSt p inp) = .done ps) :
    ∀ f, factsOf ps.st f → Derivable I p.rules noAgg (inputDB p inp) f := fun f =>
  ((runFrom_eq_leastModel I cfg p inp hp.2.1 hp.1 hp.2.2 order ho never fuel _ ps (WFSt_initSt p inp) (rows_initSt p inp)
    hrun).2.1 f).mp

/-- **completeness**: every derivable tuple is present — evaluation stops only when no rule can add anything -/
theorem run_complete (I : Interp E B G P A) (cfg : Config) (p : Program E B G P A) (order : SccOrder)
    (inp : RelId → List Tuple) (fuel : Nat) (ps : ProgSt)
    (hp : Relational p) (ho : validOrder p order = true)
    (hrun : run I cfg p order fuel (initSt p inp) = .done ps) :
    ∀ f, Derivable I p.rules noAgg (inputDB p inp) f → factsOf ps.st f := fun f =>
  ((runFrom_eq_leastModel I cfg p inp hp.2.1 hp.1 hp.2.2 order ho never fuel _ ps (WFSt_initSt p inp) (rows_initSt p inp)
    hrun).2.1 f).mpr

/-- **run() computes exactly the least model** -/
theorem run_eq_leastModel (I : Interp E B G P A) (cfg : Config) (p : Program E B G P A) (order : SccOrder)
    (inp : RelId → List Tuple) (fuel : Nat) (ps : ProgSt)
    (hp : Relational p) (ho : validOrder p order = true)
    (hrun : run I cfg p order fuel (initSt p inp) = .done ps) :
    ∀ f, factsOf ps.st f ↔ Derivable I p.rules noAgg (inputDB p inp) f :=
  fun f => ⟨run_sound I cfg p order inp fuel ps hp ho hrun f, run_complete I cfg p order inp fuel ps hp ho hrun f⟩

/-- at exit the result is closed: no rule instance over the result yields a fact outside it -/
theorem run_exit_closed (I : Interp E B G P A) (cfg : Config) (p : Program E B G P A) (order : SccOrder)
    (inp : RelId → List Tuple) (fuel : Nat) (ps : ProgSt)
    (hp : Relational p) (ho : validOrder p order = true)
    (hrun : run I cfg p order fuel (initSt p inp) = .done ps) :
    ∀ f, Cons I p.rules noAgg (factsOf ps.st) f → factsOf ps.st f :=
  closed_cons hp.1
    (run_spec I cfg p inp hp.2.1 hp.1 hp.2.2 order ho never fuel _ ps (WFSt_initSt p inp) (rows_initSt p inp) hrun).2

/-- **C05 (serial half)**: input rows are kept unmodified as a prefix of the row vector, and the
appended rows are pairwise distinct and distinct from every input row: a tuple is inserted
exactly once, however many rules, variants and iterations derive it -/
theorem run_rows_set (I : Interp E B G P A) (cfg : Config) (p : Program E B G P A) (order : SccOrder)
    (inp : RelId → List Tuple) (fuel : Nat) (ps : ProgSt)
    (hp : Relational p) (ho : validOrder p order = true)
    (hrun : run I cfg p order fuel (initSt p inp) = .done ps) :
    ∀ r, r < p.rels.length → ∃ derived : List Tuple,
      (relSt ps.st r).rows = inp r ++ derived ∧ derived.Nodup ∧ ∀ t ∈ derived, t ∉ inp r :=
  (runFrom_eq_leastModel I cfg p inp hp.2.1 hp.1 hp.2.2 order ho never fuel _ ps (WFSt_initSt p inp) (rows_initSt p inp)
    hrun).2.2

/-- the SCC order the model computes for itself (`computeOrder`, what the driver runs with) is valid — proved only for
programs with at most one rule; the theorems above take any order with `validOrder p order = true`, a decidable check -/
theorem computeOrder_valid_partial (p : Program E B G P A) (h : p.rules.length ≤ 1) :
    validOrder p (computeOrder p) = true := by
  rcases Nat.le_one_iff_eq_zero_or_eq_one.mp h with hn | hn
  · simp [computeOrder, validOrder, hn]
  · have h00 : sameScc p 0 0 = true := by
      have : (0 : Nat) ∈ reachFrom p 1 [0] := by
        unfold reachFrom
        simp only
        split
        · simp
        · rw [reachFrom]; simp
      simp [sameScc, reaches, hn, this]
    simp [computeOrder, validOrder, hn, List.range_succ, h00]

/-! ## arbitrary well-formed start states (re-runs, resumption after `run_timeout`) -/

/-- a program value the engine may be started from: one `RelSt` per declared relation and every
stored index entry is a valid row number (duplicates and missing entries are allowed) -/
def WFSt (p : Program E B G P A) (s : St) : Prop :=
  s.length = p.rels.length ∧ ∀ rs ∈ s, ∀ i ∈ rs.idx, i < rs.rows.length

theorem wfSt_initSt (p : Program E B G P A) (inp : RelId → List Tuple) : WFSt p (initSt p inp) :=
  WFSt_initSt p inp

/-- **run() from any well-formed program value** computes exactly the least model over the facts
it held, returns a well-formed value, keeps the old rows as a prefix and appends every new tuple once -/
theorem run_from_eq_leastModel (I : Interp E B G P A) (cfg : Config) (p : Program E B G P A) (order : SccOrder)
    (s : St) (fuel : Nat) (ps : ProgSt)
    (hp : Relational p) (ho : validOrder p order = true) (hs : WFSt p s)
    (hrun : run I cfg p order fuel s = .done ps) :
    WFSt p ps.st ∧
      (∀ f, factsOf ps.st f ↔ Derivable I p.rules noAgg (fun f => f.rel < p.rels.length ∧ factsOf s f) f) ∧
      (∀ r, r < p.rels.length → ∃ derived, (relSt ps.st r).rows = (relSt s r).rows ++ derived ∧
        derived.Nodup ∧ ∀ t ∈ derived, t ∉ (relSt s r).rows) :=
  runFrom_eq_leastModel I cfg p (fun r => (relSt s r).rows) hp.2.1 hp.1 hp.2.2 order ho never fuel s ps hs (fun _ _ => rfl) hrun

/-- **run_timeout with any deadline oracle**: whatever it returns (finished or interrupted), the
value is well-formed (so it can be resumed), holds only derivable facts and has lost no fact -/
theorem runTimeout_sound (I : Interp E B G P A) (cfg : Config) (p : Program E B G P A) (order : SccOrder)
    (dl : Deadline) (s : St) (fuel : Nat) (ps : ProgSt)
    (hp : Relational p) (ho : validOrder p order = true) (hs : WFSt p s)
    (hrun : runTimeout I cfg p order dl fuel s = .done ps ∨ runTimeout I cfg p order dl fuel s = .timedOut ps) :
    WFSt p ps.st ∧
      (∀ f, factsOf ps.st f → Derivable I p.rules noAgg (fun f => f.rel < p.rels.length ∧ factsOf s f) f) ∧
      (∀ f, f.rel < p.rels.length → factsOf s f → factsOf ps.st f) :=
  runTimeout_sound' I cfg p (fun r => (relSt s r).rows) hp.2.1 hp.1 hp.2.2 order ho dl fuel s ps hs (fun _ _ => rfl) hrun

#print axioms versionsBase_eq
#print axioms versionsBase_covers
#print axioms versionsBase_skips_old
#print axioms run_sound
#print axioms run_complete
#print axioms run_eq_leastModel
#print axioms run_exit_closed
#print axioms run_rows_set
#print axioms computeOrder_valid_partial
#print axioms run_from_eq_leastModel
#print axioms runTimeout_sound

end AscentVerif.Engine
