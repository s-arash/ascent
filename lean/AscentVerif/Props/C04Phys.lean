import AscentVerif.Model.EnginePhys
import AscentVerif.Proofs.NDAgg
import AscentVerif.Proofs.PhysAggRun
import AscentVerif.Props.C13Agg
import AscentVerif.Props.C01Phys
/-!
# C04 at the level of the physical indices: aggregation and negation read the complete relation through the hash indices

`Model/EnginePhys.lean` evaluates `agg` / negation items as the generated code does: `index_get` with the evaluated key arguments
on the index the plan chose for the aggregated relation, on its stored (`total`) version; the matching rows are mapped to the
aggregated variables and handed to the aggregator.

`runPhys_agg_eq_model`: for every stratified program without lattices whose rules are desugared and well-scoped and whose plan is
usable (`planOk`, `aggPlanOk`: decidable, evaluated by the driver), every interpretation with permutation-invariant aggregators
(the shipped ones are: `Props/C17.lean`; `std_aggPermInvariant` of `Props/C13Agg.lean`), every typed start value with duplicate-free row vectors and every
fuel: if the physical engine returns, the rows of every relation are duplicate-free, and the facts are exactly the least model of
the rules in which every aggregation / negation ranges over the FINAL rows of its relation, each distinct tuple once.
-/
namespace AscentVerif.Phys
open AscentVerif AscentVerif.Engine AscentVerif.Index

variable {E B G P A : Type}

/-- the declarative semantics does not depend on the order in which the aggregated relation is listed (for
permutation-invariant aggregators) -/
theorem sat_congr_perm {I : Interp E B G P A} (hperm : AggPermInvariant I) {agg agg' : RelId → List Tuple}
    (h : ∀ r, (agg r).Perm (agg' r)) {D : DB} :
    ∀ {items : List (Item E B G P A)} {ρ ρ' : Env}, Sat I D agg items ρ ρ' → Sat I D agg' items ρ ρ' := by
  intro items ρ ρ' hs
  induction hs with
  | nil ρ => exact .nil ρ
  | clause t hd hm hc _ ih => exact .clause t hd hm hc ih
  | cond hc _ ih => exact .cond hc ih
  | gen x hx _ ih => exact .gen x hx ih
  | @aggr a rest ρ ρ₁ ρ₂ ha _ ih =>
    refine .aggr ?_ ih
    rw [← Agg.aggEnvs_perm (I := I) hperm a ρ (h a.rel)]
    exact ha

theorem derivable_congr_perm {I : Interp E B G P A} (hperm : AggPermInvariant I) (rules : List (Rule E B G P A))
    {agg agg' : RelId → List Tuple} (h : ∀ r, (agg r).Perm (agg' r)) (inp : DB) (f : Fact) :
    Derivable I rules agg inp f ↔ Derivable I rules agg' inp f := by
  have key : ∀ {g g' : RelId → List Tuple}, (∀ r, (g r).Perm (g' r)) → Derivable I rules g inp f → Derivable I rules g' inp f := by
    intro g g' hg hd D hD
    apply hd D
    refine ⟨hD.1, ?_⟩
    rintro f' ⟨r, hr, ρ, hs, hh⟩
    exact hD.2 f' ⟨r, hr, ρ, sat_congr_perm hperm hg hs, hh⟩
  exact ⟨key h, key fun r => (h r).symm⟩

/-- the value an execution on a stratified program ends in, from duplicate-free row vectors: duplicate-free, holding exactly the
stratified model (every aggregation over the final rows of its relation, each tuple once) -/
theorem Exec.aggModel {I : Interp E B G P A} {p : Program E B G P A} {ix : IxSets} {order : SccOrder} {s o : PSt}
    (h : Exec I p ix order s o) (hperm : AggPermInvariant I) (hp : RelationalAgg p) (ho : validOrder p order = true)
    (hst : Stratified p order) (hs : WFPSt p s) (hnd : ∀ r, (prel s r).rows.Nodup) :
    WFPSt p o ∧
    (∀ r, (prel o r).rows.Nodup) ∧
    (∀ f, factsOf o f ↔ Derivable I p.rules (fun r => (prel o r).rows) (fun g => g.rel < p.rels.length ∧ factsOf s g) f) ∧
    (∀ r, r < p.rels.length → ∃ derived, (prel o r).rows = (prel s r).rows ++ derived ∧
      derived.Nodup ∧ ∀ t ∈ derived, t ∉ (prel s r).rows) := by
  obtain ⟨st', hrun', hsim⟩ := h
  have hnd0 : ∀ r, (relSt (absSt s) r).rows.Nodup := fun r => by rw [relSt_absSt]; exact hnd r
  obtain ⟨hwf', hview, hfacts, hrows⟩ := runND_agg_spec I {} p order (absSt s) st' hp ho hst (wfSt'_absSt p s hs) hnd0 hrun'
  have hpermv : ∀ r, (aggView st' r).Perm (prel o r).rows := fun r => hsim.rows r ▸ (hview r).2
  refine ⟨hsim.wfP hwf'.1, fun r => (hpermv r).nodup_iff.mp (hview r).1, ?_, fun r hr => ?_⟩
  · rw [← hsim.facts, ← factsOf_absSt s]
    exact fun f => (hfacts f).trans (derivable_congr_perm hperm p.rules hpermv _ f)
  · rw [← hsim.rows r, ← relSt_absSt s r]
    exact hrows r hr

/-- **the generated code over its physical indices computes the stratified model; every aggregation sees the final relation,
each tuple once** -/
theorem runPhys_agg_eq_model (I : Interp E B G P A) (hI : Plan.Ext I) (V : Hir.VarsOf E B) (hS : Plan.Supp I V)
    (hperm : AggPermInvariant I)
    (p : Program E B G P A) (ix : IxSets) (order : SccOrder) (s : PSt) (fuel : Nat) (out : ProgSt)
    (hp : RelationalAgg p) (ho : validOrder p order = true) (hst : Stratified p order)
    (hplan : planOk V p ix = true) (hagg : aggPlanOk V p ix = true)
    (hd : ∀ r ∈ p.rules, Hir.Desugared V r = true ∧ Plan.WellScoped V r = true)
    (hs : WFPSt p s) (hnd : ∀ r, (prel s r).rows.Nodup)
    (hrun : run I V p ix order fuel s = some out) :
    WFPSt p out.st ∧
    (∀ r, (prel out.st r).rows.Nodup) ∧
    (∀ f, factsOf out.st f ↔
      Derivable I p.rules (fun r => (prel out.st r).rows) (fun g => g.rel < p.rels.length ∧ factsOf s g) f) ∧
    (∀ r, r < p.rels.length → ∃ derived, (prel out.st r).rows = (prel s r).rows ++ derived ∧
      derived.Nodup ∧ ∀ t ∈ derived, t ∉ (prel s r).rows) :=
  Exec.aggModel (run_is_RunND_agg I hI V hS hperm p ix order s fuel out hp hst hplan hagg hd hs hrun) hperm hp ho hst hs hnd

/-! ## non-vacuity: reachability, its complement by negation, out-degrees by `count`

`node(x)`, `edge(x, y)` inputs; `reach(y) <-- reach(x), edge(x, y)` (seeded by an input row); `unreach(x) <-- node(x), !reach(x)`
(negation = the aggregator `not` over the FULL index of `reach`, key `x`); `outdeg(x, n) <-- node(x), agg n = count() in edge(x, _)`
(the aggregated relation read through its index on column 0).  Interpretation: the integer terms of `Props/C01Plan.lean` with the
two aggregators `count` (`true`) and `not` (`false`).  Every hypothesis of `runPhys_agg_eq_model` holds and the physical engine
returns `unreach = {3}`, `outdeg = {(1,1), (2,0), (3,0)}`. -/

def exA : Interp Plan.Ex Plan.Bx Plan.Ex Unit Bool :=
  { expr := Plan.exI.expr, test := Plan.exI.test, gen := Plan.exI.gen, pat := fun _ _ => none
    agg := fun fn l => if fn then [[.int l.length]] else (if l.isEmpty then [[]] else [])
    joinMut := fun _ a _ => (a, false) }

theorem exA_ext : Plan.Ext exA := ⟨Plan.exI_ext.expr, Plan.exI_ext.test, Plan.exI_ext.gen⟩
theorem exA_supp : Plan.Supp exA Plan.exV := ⟨Plan.exI_supp.expr, Plan.exI_supp.test⟩

theorem exA_perm : AggPermInvariant exA := by
  intro fn l l' h
  show (if fn then [[Val.int l.length]] else (if l.isEmpty then [[]] else [])) =
    (if fn then [[Val.int l'.length]] else (if l'.isEmpty then [[]] else []))
  rw [h.length_eq]
  have : l.isEmpty = l'.isEmpty := by
    cases l with
    | nil => rw [List.Perm.nil_eq h]
    | cons x xs =>
      cases l' with
      | nil => exact absurd h.symm.nil_eq (by simp)
      | cons y ys => rfl
  rw [this]

def pNeg : Program Plan.Ex Plan.Bx Plan.Ex Unit Bool :=
  { rels := [⟨1, false⟩, ⟨2, false⟩, ⟨1, false⟩, ⟨1, false⟩, ⟨2, false⟩]
    rules := [
      { heads := [⟨2, [.var 1]⟩], body := [.clause 2 [.var 0] [], .clause 1 [.var 0, .var 1] []] },
      { heads := [⟨3, [.var 0]⟩],
        body := [.clause 0 [.var 0] [], .agg { outs := [], fn := false, boundArgs := [], rel := 2, args := [.key (.var 0)] }] },
      { heads := [⟨4, [.var 0, .var 1]⟩],
        body := [.clause 0 [.var 0] [], .agg { outs := [1], fn := true, boundArgs := [], rel := 1, args := [.key (.var 0), .wild] }] }] }

def sNeg : PSt :=
  initSt pNeg fun r =>
    if r = 0 then [[.int 1], [.int 2], [.int 3]] else if r = 1 then [[.int 1, .int 2]] else if r = 2 then [[.int 1]] else []

theorem neg_hyps :
    RelationalAgg pNeg ∧ validOrder pNeg [[0], [1], [2]] = true ∧ Stratified pNeg [[0], [1], [2]] ∧
    planOk Plan.exV pNeg (ixSetsOfA Plan.exV pNeg) = true ∧ aggPlanOk Plan.exV pNeg (ixSetsOfA Plan.exV pNeg) = true ∧
    (∀ r ∈ pNeg.rules, Hir.Desugared Plan.exV r = true ∧ Plan.WellScoped Plan.exV r = true) ∧
    ixSetsOfA Plan.exV pNeg 1 = [[0]] ∧
    (run exA Plan.exV pNeg (ixSetsOfA Plan.exV pNeg) [[0], [1], [2]] 10 sNeg).map (fun o => (o.st.map (·.rows), o.iters)) =
      some ([[[.int 1], [.int 2], [.int 3]], [[.int 1, .int 2]], [[.int 1], [.int 2]], [[.int 3]],
             [[.int 1, .int 1], [.int 2, .int 0], [.int 3, .int 0]]], [2, 1, 1]) := by
  unfold RelationalAgg Stratified
  decide_conj

example (out : ProgSt) (h : run exA Plan.exV pNeg (ixSetsOfA Plan.exV pNeg) [[0], [1], [2]] 10 sNeg = some out) :
    ∀ f, factsOf out.st f ↔
      Derivable exA pNeg.rules (fun r => (prel out.st r).rows) (fun g => g.rel < pNeg.rels.length ∧ factsOf sNeg g) f :=
  (runPhys_agg_eq_model exA exA_ext Plan.exV exA_supp exA_perm pNeg _ [[0], [1], [2]] sNeg 10 out neg_hyps.1 neg_hyps.2.1
    neg_hyps.2.2.1 neg_hyps.2.2.2.1 neg_hyps.2.2.2.2.1 neg_hyps.2.2.2.2.2.1
    (wfPSt_initSt (by decide)) (nodup_initSt (by decide))
    h).2.2.1

#print axioms runPhys_agg_eq_model
#print axioms neg_hyps

end AscentVerif.Phys
