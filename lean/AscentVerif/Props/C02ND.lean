import AscentVerif.Proofs.NDEngine
/-!
# C01 / C02 / C06 — every enumeration of an iteration's derivations computes the least model

`Proofs/NDEngine.lean` defines the engine as a *relation* (`RunND`): in every pass of every SCC the head update is applied
to ANY list of `(relation, row)` pairs that has exactly the members of `iterRows` — the head rows of all rule-variant
instances over the state at the start of the pass — in any order and with any multiplicity.  This covers what real
executions of the generated code may differ in: hash-map iteration order, the index a clause is read through, the order
of the two clauses of a reorderable simple join, a row met once per stored duplicate, the interleaving of parallel workers.

* `nd_eq_leastModel` — every execution of the nondeterministic engine, from any well-formed program value, ends with
  exactly the least model; old rows stay a prefix, every new tuple is appended once.
* `nd_runs_agree` — two executions (two hash orders, two plans, two schedules) hold the same facts.
* `par_is_nd` — the schedule-based parallel engine of C02 is one such execution (for every schedule).
No hypothesis on the enumeration beyond set-equality with `iterRows`.
-/
namespace AscentVerif.Engine
open AscentVerif

variable {E B G P A : Type}

/-- **any enumeration computes the least model** -/
theorem nd_eq_leastModel (I : Interp E B G P A) (cfg : Config) (p : Program E B G P A) (order : SccOrder)
    (s s' : St) (hp : Relational p) (ho : validOrder p order = true) (hs : WFSt p s)
    (hrun : RunND I cfg p order s s') :
    WFSt p s' ∧
    (∀ f, factsOf s' f ↔ Derivable I p.rules noAgg (fun g => g.rel < p.rels.length ∧ factsOf s g) f) ∧
    (∀ r, r < p.rels.length → ∃ derived, (relSt s' r).rows = (relSt s r).rows ++ derived ∧
      derived.Nodup ∧ ∀ t ∈ derived, t ∉ (relSt s r).rows) :=
  runND_eq_leastModel I cfg p order s s' hp ho hs hrun

/-- **two executions agree**: whatever the enumeration orders, SCC orders and configurations -/
theorem nd_runs_agree (I : Interp E B G P A) (cfg cfg' : Config) (p : Program E B G P A) (order order' : SccOrder)
    (s s₁ s₂ : St) (hp : Relational p) (ho : validOrder p order = true) (ho' : validOrder p order' = true) (hs : WFSt p s)
    (h₁ : RunND I cfg p order s s₁) (h₂ : RunND I cfg' p order' s s₂) :
    ∀ f, factsOf s₁ f ↔ factsOf s₂ f := fun f =>
  ((runND_eq_leastModel I cfg p order s s₁ hp ho hs h₁).2.1 f).trans
    ((runND_eq_leastModel I cfg' p order' s s₂ hp ho' hs h₂).2.1 f).symm

/-- the parallel engine under any schedule is an execution of the nondeterministic engine -/
theorem par_is_nd (I : Interp E B G P A) (cfg : Config) (p : Program E B G P A) (order : SccOrder)
    (σ : Sched E B G P A) (s : St) (fuel : Nat) (ps : ParProgSt) (hp : Relational p)
    (hrun : runPar I cfg p order σ fuel s = some ps) : RunND I cfg p order s ps.st :=
  runPar_is_ND I cfg p order σ s fuel ps hp hrun

/-- non-vacuity: the empty program on the empty state has the (trivial) execution -/
example : RunND (E := Unit) (B := Unit) (G := Unit) (P := Unit) (A := Unit)
    ⟨fun _ _ => .unit, fun _ _ => true, fun _ _ => [], fun _ _ => none, fun _ l => l, fun _ a _ => (a, false)⟩
    {} ⟨[], []⟩ [] [] [] := SccsND.nil

#print axioms nd_eq_leastModel
#print axioms nd_runs_agree
#print axioms par_is_nd

end AscentVerif.Engine
