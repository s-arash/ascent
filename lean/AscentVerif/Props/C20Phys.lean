import AscentVerif.Props.C05Phys
/-!
# C20 at the level of the physical indices: the rayon pool does not matter

Corollaries of `runPhysPar_eq_leastModel` (`Props/C02Phys.lean`; through `runPhysPar_spec`, `runPhysPar_ran` and the rows-level
`Rows.Ran.rerun`) for the `ascent_par!` code over its concurrent indices
(`Model/EnginePhysPar.lean`: every `CRelNoIndex` has one shard per thread of the pool current when it is constructed; since
fix 8b2e261 `update_indices` constructs all of them anew in the pool `run()` is called in):

* `construct_pool_irrelevant` — program values constructed in pools of different sizes (`initSt a` / `initSt b`: the stored
  `CRelNoIndex`es have `a` resp. `b` shards) compute the same facts, whatever pools, schedules and SCC orders they are run in;
* `rerun_other_pool` — run in a pool of `a` threads, then run AGAIN in a pool of `b` threads under another schedule: the second
  run, if it returns, changes no fact (idempotence across pools; that it does not panic is `runPhysPar_eq_leastModel`);
* `pool_independent` — two runs of the same value in pools of different sizes agree.
Instance isolation is structural in the model: a run is a function of its own program value, schedule and pool size only.
-/
namespace AscentVerif.PhysPar
open AscentVerif AscentVerif.Engine AscentVerif.Index AscentVerif.Phys

variable {E B G P A : Type}

/-- two runs of the same value in different pools / under different schedules agree -/
theorem pool_independent (I : Interp E B G P A) (hI : Plan.Ext I) (V : Hir.VarsOf E B) (hS : Plan.Supp I V)
    (p : Program E B G P A) (order order' : SccOrder) (σ σ' : Sched E B G P A) (a b fuel fuel' : Nat) (s : PCSt)
    (out out' : ProgSt)
    (hp : Relational p) (ho : validOrder p order = true) (ho' : validOrder p order' = true) (ha : arityOk p = true)
    (hb : bodyDeclared p = true) (hd : ∀ r ∈ p.rules, Hir.Desugared V r = true ∧ Plan.WellScoped V r = true)
    (hs : WFPCSt p s)
    (h : run I V p (ixSetsOf V p) order σ a fuel s = .ok (some out))
    (h' : run I V p (ixSetsOf V p) order' σ' b fuel' s = .ok (some out')) :
    ∀ f, factsOf out.st f ↔ factsOf out'.st f :=
  runPhysPar_schedule_pool_independent I hI V hS p order order' σ σ' a b fuel fuel' s out out' hp ho ho' ha hb hd hs h h'

/-- **a second run in another pool changes nothing** -/
theorem rerun_other_pool (I : Interp E B G P A) (hI : Plan.Ext I) (V : Hir.VarsOf E B) (hS : Plan.Supp I V)
    (p : Program E B G P A) (order order' : SccOrder) (σ σ' : Sched E B G P A) (a b fuel fuel' : Nat) (s : PCSt)
    (o₁ o₂ : ProgSt)
    (hp : Relational p) (ho : validOrder p order = true) (ho' : validOrder p order' = true) (ha : arityOk p = true)
    (hb : bodyDeclared p = true) (hd : ∀ r ∈ p.rules, Hir.Desugared V r = true ∧ Plan.WellScoped V r = true)
    (hs : WFPCSt p s)
    (h₁ : run I V p (ixSetsOf V p) order σ a fuel s = .ok (some o₁))
    (h₂ : run I V p (ixSetsOf V p) order' σ' b fuel' o₁.st = .ok (some o₂)) :
    ∀ f, factsOf o₂.st f ↔ factsOf o₁.st f := by
  obtain ⟨hw₁, hr₁⟩ := spec_of_ok (runPhysPar_ran I V p order ⟨hI, hS, hp, ho, ha, hb, hd⟩ σ a fuel s hs) h₁ o₁ rfl
  exact (hr₁.rerun (spec_of_ok (runPhysPar_ran I V p order' ⟨hI, hS, hp, ho', ha, hb, hd⟩ σ' b fuel' o₁.st hw₁) h₂ o₂
    rfl).2).2

/-- **the pool a program value is constructed in does not matter** -/
theorem construct_pool_irrelevant (I : Interp E B G P A) (hI : Plan.Ext I) (V : Hir.VarsOf E B) (hS : Plan.Supp I V)
    (p : Program E B G P A) (order order' : SccOrder) (σ σ' : Sched E B G P A) (c c' a b fuel fuel' : Nat)
    (inp : RelId → List Tuple) (out out' : ProgSt)
    (hp : Relational p) (ho : validOrder p order = true) (ho' : validOrder p order' = true) (ha : arityOk p = true)
    (hb : bodyDeclared p = true) (hd : ∀ r ∈ p.rules, Hir.Desugared V r = true ∧ Plan.WellScoped V r = true)
    (hty : ∀ r, ∀ t ∈ inp r, t.length = arityOf p r)
    (h : run I V p (ixSetsOf V p) order σ a fuel (initSt c p (ixSetsOf V p) inp) = .ok (some out))
    (h' : run I V p (ixSetsOf V p) order' σ' b fuel' (initSt c' p (ixSetsOf V p) inp) = .ok (some out')) :
    ∀ f, factsOf out.st f ↔ factsOf out'.st f := by
  have hw : ∀ k, WFPCSt p (initSt k p (ixSetsOf V p) inp) := fun k => wfPCSt_initSt fun r _ => hty r
  intro f
  rw [(runPhysPar_spec I V p order ⟨hI, hS, hp, ho, ha, hb, hd⟩ σ a fuel _ out (hw c) h).2.1 f,
    (runPhysPar_spec I V p order' ⟨hI, hS, hp, ho', ha, hb, hd⟩ σ' b fuel' _ out' (hw c') h').2.1 f]
  -- the rows of a fresh value do not depend on the pool it was constructed in
  refine derivable_congr_input (fun g => ?_) f
  unfold stDB factsOf
  rw [pcrel_initSt_rows, pcrel_initSt_rows]

#print axioms pool_independent
#print axioms rerun_other_pool
#print axioms construct_pool_irrelevant

end AscentVerif.PhysPar
