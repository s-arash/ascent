import AscentVerif.Proofs.Rows
/-!
# C13 — run() is idempotent; monotone re-runs equal a fresh run
# (serial programs without aggregation and lattices; with aggregation `Props/C13Agg.lean`, with lattices `Props/C13L.lean`)

Histories `run; run` and `run; push facts; run` over the engine model, from ANY well-formed
program value (so also after earlier runs and pushes — every history of this shape).
-/
namespace AscentVerif.Engine
open AscentVerif

variable {E B G P A : Type}

def stDB (p : Program E B G P A) (s : St) : DB := fun g => g.rel < p.rels.length ∧ factsOf s g

/-- **restart lemma (spec level)**: the least model over any database between the input and
its least model is that same least model -/
theorem derivable_between {I : Interp E B G P A} {rules : List (Rule E B G P A)} {agg : RelId → List Tuple}
    {inp D : DB} (h1 : ∀ f, inp f → D f) (h2 : ∀ f, D f → Derivable I rules agg inp f) :
    ∀ f, Derivable I rules agg D f ↔ Derivable I rules agg inp f :=
  Rows.Between.model ⟨h2, h1⟩

/-- adding facts on top of a least model: `lfp (lfp I ∪ J) = lfp (I ∪ J)` -/
theorem derivable_union_restart {I : Interp E B G P A} {rules : List (Rule E B G P A)} {agg : RelId → List Tuple}
    {inp J D : DB} (hD : ∀ f, D f ↔ Derivable I rules agg inp f) :
    ∀ f, Derivable I rules agg (fun g => D g ∨ J g) f ↔ Derivable I rules agg (fun g => inp g ∨ J g) f := by
  intro f
  constructor
  · intro hf
    apply hf
    refine ⟨?_, (derivable_closed I rules agg _).2⟩
    rintro g (hg | hg)
    · exact derivable_mono_input (fun _ h => Or.inl h) g ((hD g).mp hg)
    · exact derivable_input (Or.inr hg)
  · apply derivable_mono_input
    rintro g (hg | hg)
    · exact Or.inl ((hD g).mpr (derivable_input hg))
    · exact Or.inr hg

/-- **a run after a push** (`vp` holds the rows of `v₁` and the rows `extra`) computes the least model of the union of the
original rows and the pushed ones -/
theorem _root_.AscentVerif.Rows.Ran.push {I : Interp E B G P A} {rules : List (Rule E B G P A)} {n : Nat} {v₀ v₁ v₂ vp : Rows.Vec}
    (h₁ : Rows.Ran I rules n v₀ v₁) (h₂ : Rows.Ran I rules n vp v₂) (extra : Rows.Vec)
    (hp : ∀ f, Rows.db n vp f ↔ Rows.db n v₁ f ∨ Rows.db n extra f) :
    ∀ f : Fact, f.args ∈ v₂ f.rel ↔ Derivable I rules noAgg (fun g => Rows.db n v₀ g ∨ Rows.db n extra g) f := fun f =>
  (h₂.facts f).trans <| (derivable_congr_input hp f).trans <| derivable_union_restart
    (fun g => ⟨fun hg => (h₁.facts g).mp hg.2, fun hg => ⟨h₁.lt g ((h₁.facts g).mpr hg), (h₁.facts g).mpr hg⟩⟩) f

/-- a completed call of the engine model, in terms of the row vectors (`runFrom_eq_leastModel`) -/
theorem run_ran (I : Interp E B G P A) (cfg : Config) (p : Program E B G P A) (order : SccOrder) (dl : Deadline)
    (s : St) (fuel : Nat) (ps : ProgSt) (hp : Relational p) (ho : validOrder p order = true) (hs : WFSt p s)
    (hrun : runTimeout I cfg p order dl fuel s = .done ps) :
    WFSt p ps.st ∧ Rows.Ran I p.rules p.rels.length (fun r => (relSt s r).rows) (fun r => (relSt ps.st r).rows) := by
  obtain ⟨hw, hm, hr⟩ := runFrom_eq_leastModel I cfg p (fun r => (relSt s r).rows) hp.2.1 hp.1 hp.2.2 order ho dl fuel s ps hs
    (fun _ _ => rfl) hrun
  exact ⟨hw, fun g hg => hw.1 ▸ lt_of_mem_rows ps.st g.rel g.args hg, hm, hr⟩

/-- **run() is idempotent**: a second `run()` on an unmodified program value appends nothing —
every row vector is literally unchanged (hence every relation is unchanged as a set) -/
theorem rerun_idempotent (I : Interp E B G P A) (cfg : Config) (p : Program E B G P A) (order : SccOrder)
    (s : St) (fuel₁ fuel₂ : Nat) (ps₁ ps₂ : ProgSt)
    (hp : Relational p) (ho : validOrder p order = true) (hs : WFSt p s)
    (h₁ : run I cfg p order fuel₁ s = .done ps₁) (h₂ : run I cfg p order fuel₂ ps₁.st = .done ps₂) :
    (∀ r, r < p.rels.length → (relSt ps₂.st r).rows = (relSt ps₁.st r).rows) ∧
    (∀ f, factsOf ps₂.st f ↔ factsOf ps₁.st f) := by
  obtain ⟨hw₁, hr₁⟩ := run_ran I cfg p order never s fuel₁ ps₁ hp ho hs h₁
  exact hr₁.rerun (run_ran I cfg p order never ps₁.st fuel₂ ps₂ hp ho hw₁ h₂).2

def pushRows (s : St) (extra : RelId → List Tuple) : St :=
  (List.range s.length).map fun r => { relSt s r with rows := (relSt s r).rows ++ extra r }

theorem relSt_pushRows (s : St) (extra : RelId → List Tuple) (r : RelId) (hr : r < s.length) :
    relSt (pushRows s extra) r = { relSt s r with rows := (relSt s r).rows ++ extra r } :=
  relSt_map_range _ _ r hr

theorem factsOf_pushRows (s : St) (extra : RelId → List Tuple) (g : Fact) (hr : g.rel < s.length) :
    factsOf (pushRows s extra) g ↔ factsOf s g ∨ g.args ∈ extra g.rel := by
  rw [factsOf, relSt_pushRows s extra g.rel hr]
  exact List.mem_append

theorem wfSt_pushRows (p : Program E B G P A) (s : St) (extra : RelId → List Tuple) (hs : WFSt p s) :
    WFSt p (pushRows s extra) := by
  have hlen : (pushRows s extra).length = s.length := by rw [pushRows, List.length_map, List.length_range]
  refine ⟨hlen.trans hs.1, (forall_mem_iff_relSt _ _).mpr fun r hr i hi => ?_⟩
  rw [relSt_pushRows s extra r (hlen ▸ hr)] at hi ⊢
  exact Nat.lt_of_lt_of_le (hs.2 _ (relSt_mem s r (hlen ▸ hr)) i hi) (List.length_append ▸ Nat.le_add_right _ _)

/-- **monotone re-run equals a fresh run**: run, push further facts into any relations (input
or derived ones), run again — the relations then hold exactly the least model of the union
of all inputs, i.e. what a fresh program run once on the union computes (`run_eq_leastModel`) -/
theorem monotone_rerun (I : Interp E B G P A) (cfg : Config) (p : Program E B G P A) (order : SccOrder)
    (s : St) (extra : RelId → List Tuple) (fuel₁ fuel₂ : Nat) (ps₁ ps₂ : ProgSt)
    (hp : Relational p) (ho : validOrder p order = true) (hs : WFSt p s)
    (h₁ : run I cfg p order fuel₁ s = .done ps₁)
    (h₂ : run I cfg p order fuel₂ (pushRows ps₁.st extra) = .done ps₂) :
    ∀ f, factsOf ps₂.st f ↔
      Derivable I p.rules noAgg (fun g => (g.rel < p.rels.length ∧ factsOf s g) ∨ (g.rel < p.rels.length ∧ g.args ∈ extra g.rel)) f := by
  obtain ⟨hw₁, hr₁⟩ := run_ran I cfg p order never s fuel₁ ps₁ hp ho hs h₁
  -- the second run starts from the first least model with the extra facts added
  exact hr₁.push (run_ran I cfg p order never _ fuel₂ ps₂ hp ho (wfSt_pushRows p _ extra hw₁) h₂).2 extra
    fun g => (and_congr_right fun hr => factsOf_pushRows ps₁.st extra g (hw₁.1 ▸ hr)).trans and_or_left

/-- non-vacuity: a fresh program value is well-formed, and stays so under pushes -/
example (p : Program E B G P A) (inp extra : RelId → List Tuple) : WFSt p (pushRows (initSt p inp) extra) :=
  wfSt_pushRows p _ extra (wfSt_initSt p inp)

end AscentVerif.Engine
