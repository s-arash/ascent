import AscentVerif.Model.Index
import AscentVerif.Proofs.IndexHMap
import AscentVerif.Proofs.IndexMerge
import AscentVerif.Proofs.IndexConc
/-!
# C19 — index building blocks behave as multimaps through insert, merge and freeze

Refinement of `Model/Index.lean` to the abstract multimap `K → multiset of V` (lists up to
`List.Perm`), set-valued for lattice indices, last-write map for full indices.  Every `move_index_contents` of a
map-backed index is a `drainInto` (`Proofs/IndexMerge`), so each merge law is `get?_drainInto` read per key; the concurrent
types are vectors of the serial ones and inherit the laws shard by shard (`Proofs/IndexConc`); their atomic
steps (shard lock) make an interleaving of inserts a sequence, which is what the concurrency statements quantify over.
-/
set_option linter.unusedSectionVars false
namespace AscentVerif.Index

variable {K V : Type} [DecidableEq K] [DecidableEq V]

/-- representation invariant of a hash map: at most one entry per key -/
def NoDupKeys (m : HMap K V) : Prop := (m.map (·.1)).Nodup

def Idx.vals (m : Idx K V) (k : K) : List V := (m.get k).getD []

/-! ## hash-vector index (`RelIndexType1`) -/

theorem Idx.insert_noDup (m : Idx K V) (k : K) (v : V) (h : NoDupKeys m) : NoDupKeys (m.insert k v) :=
  HMap.nodup_keys_upsert _ _ _ h

theorem Idx.get_insert (m : Idx K V) (k k' : K) (v : V) :
    (m.insert k v).get k' = if k' = k then some (m.vals k ++ [v]) else m.get k' := by
  unfold Idx.insert Idx.get Idx.vals Idx.get
  rw [HMap.get?_upsert]
  split
  · cases HMap.get? m k <;> simp
  · rfl

theorem Idx.vals_insert (m : Idx K V) (k k' : K) (v : V) :
    (m.insert k v).vals k' = if k' = k then m.vals k ++ [v] else m.vals k' := by
  unfold Idx.vals
  rw [Idx.get_insert]
  split <;> simp [Idx.vals]

theorem Idx.get_foldl_insert (ops : List (K × V)) (m : Idx K V) (k : K) :
    (ops.foldl (fun m kv => Idx.insert m kv.1 kv.2) m).get k =
      if (ops.filter (fun kv => kv.1 = k)).map (·.2) = [] then m.get k
      else some (m.vals k ++ (ops.filter (fun kv => kv.1 = k)).map (·.2)) := by
  induction ops generalizing m with
  | nil => simp
  | cons hd tl ih =>
    obtain ⟨a, b⟩ := hd
    rw [List.foldl_cons, ih]
    by_cases h : a = k
    · subst h
      simp only [List.filter_cons, decide_true, if_true, List.map_cons, Idx.get_insert, Idx.vals_insert]
      split <;> simp [*]
    · have h' : ¬ k = a := fun h3 => h h3.symm
      rw [List.filter_cons_of_neg (by simpa using h)]
      simp [Idx.get_insert, Idx.vals_insert, h']

/-- after ANY sequence of inserts into the empty index, a lookup returns exactly the values
inserted under that key (in insertion order), and `None` iff none was inserted -/
theorem Idx.get_of_inserts (ops : List (K × V)) (k : K) :
    (ops.foldl (fun m kv => Idx.insert m kv.1 kv.2) ([] : Idx K V)).get k =
      (let vs := (ops.filter (fun kv => kv.1 = k)).map (·.2); if vs = [] then none else some vs) := by
  rw [Idx.get_foldl_insert]
  simp only [Idx.vals, Idx.get, HMap.get?_nil]
  split <;> simp

theorem Idx.entries_nil : Idx.entries ([] : Idx K V) = [] := rfl

theorem Idx.entries_cons (a : K) (vs : List V) (m : Idx K V) :
    Idx.entries ((a, vs) :: m) = vs.map (fun v => (a, v)) ++ Idx.entries m := rfl

theorem Idx.entries_insert (m : Idx K V) (k : K) (v : V) :
    (m.insert k v).entries.Perm (m.entries ++ [(k, v)]) := by
  induction m with
  | nil => exact List.Perm.refl _
  | cons hd tl ih =>
    obtain ⟨a, vs⟩ := hd
    unfold Idx.insert at ih ⊢
    rw [HMap.upsert_cons]
    by_cases h : a = k
    · subst h
      simp only [if_true, Idx.entries_cons, List.map_append, List.map_cons, List.map_nil, List.append_assoc]
      exact List.Perm.append_left _ List.perm_append_comm
    · simp only [h, if_false, Idx.entries_cons, List.append_assoc]
      exact List.Perm.append_left _ ih

theorem Idx.entries_foldl_insert (ops : List (K × V)) (m : Idx K V) :
    (ops.foldl (fun m kv => Idx.insert m kv.1 kv.2) m).entries.Perm (m.entries ++ ops) := by
  induction ops generalizing m with
  | nil => simp
  | cons hd tl ih =>
    rw [List.foldl_cons]
    refine (ih _).trans ?_
    have := (Idx.entries_insert m hd.1 hd.2).append_right tl
    simpa using this

/-- iteration (`iter_all`) returns every inserted entry exactly once -/
theorem Idx.entries_of_inserts (ops : List (K × V)) :
    (ops.foldl (fun m kv => Idx.insert m kv.1 kv.2) ([] : Idx K V)).entries.Perm ops := by
  simpa [Idx.entries_nil] using Idx.entries_foldl_insert ops ([] : Idx K V)

/-- **merge law**, through both the map-level and the per-key swap branches:
`new' = ∅`, `delta' = new`, and for every key `total'` holds old total plus old delta -/
theorem Idx.mergeStep_spec (new delta total : Idx K V) (hd : NoDupKeys delta) (ht : NoDupKeys total) :
    let r := Idx.mergeStep new delta total
    r.1 = [] ∧ r.2.1 = new ∧ NoDupKeys r.2.2 ∧
    (∀ k, (Idx.vals r.2.2 k).Perm (Idx.vals total k ++ Idx.vals delta k)) ∧
    (∀ k, r.2.2.get k = none ↔ (total.get k = none ∧ delta.get k = none)) := by
  simp only [Idx.mergeStep, Idx.moveContents_eq]
  refine ⟨trivial, trivial, ?_, ?_, ?_⟩
  · exact nodup_keys_ite_drainInto _ _ _ _ hd ht
  · intro k
    unfold Idx.vals Idx.get
    split
    · exact (vals_drainInto_absorb total delta ht k).trans List.perm_append_comm
    · exact vals_drainInto_absorb delta total hd k
  · intro k
    unfold Idx.get
    split
    · rw [get?_drainInto_eq_none]; exact and_comm
    · rw [get?_drainInto_eq_none]

/-- no key maps to an empty vector, provided that held before (so `index_get = Some` means "has values") -/
theorem Idx.mergeStep_nonempty (new delta total : Idx K V)
    (hd : ∀ k vs, delta.get k = some vs → vs ≠ []) (ht : ∀ k vs, total.get k = some vs → vs ≠ []) :
    ∀ k vs, (Idx.mergeStep new delta total).2.2.get k = some vs → vs ≠ [] := by
  simp only [Idx.mergeStep, Idx.moveContents_eq, Idx.get] at hd ht ⊢
  split
  · apply drainInto_absorb_nonempty _ _ hd
    intro k hk; exact absurd rfl (ht k [] hk)
  · apply drainInto_absorb_nonempty _ _ ht
    intro k hk; exact absurd rfl (hd k [] hk)

/-- the combined total+delta view: `None` iff both miss, otherwise the chain of both -/
theorem combinedGet_spec (a b : Option (List V)) :
    (combinedGet a b = none ↔ (a = none ∧ b = none)) ∧ (combinedGet a b).getD [] = a.getD [] ++ b.getD [] := by
  cases a <;> cases b <;> simp [combinedGet]

/-! ## full index (`RelFullIndexType`): a map -/

theorem FullIdx.get_insert (m : FullIdx K V) (k k' : K) (v : V) :
    HMap.get? (m.insert k v) k' = if k' = k then some v else HMap.get? m k' := by
  unfold FullIdx.insert
  rw [HMap.get?_upsert]

/-- insert-if-absent succeeds iff the key is absent; on failure nothing changes; on success the key maps to `v` -/
theorem FullIdx.insertIfNotPresent_spec (m : FullIdx K V) (k : K) (v : V) :
    ((m.insertIfNotPresent k v).2 = true ↔ HMap.get? m k = none) ∧
    ((m.insertIfNotPresent k v).2 = false → (m.insertIfNotPresent k v).1 = m) ∧
    (∀ k', HMap.get? (m.insertIfNotPresent k v).1 k' =
      if k' = k then some ((HMap.get? m k).getD v) else HMap.get? m k') ∧
    (NoDupKeys m → NoDupKeys (m.insertIfNotPresent k v).1) := by
  unfold FullIdx.insertIfNotPresent
  cases h : HMap.get? m k with
  | some x =>
    refine ⟨by simp, fun _ => rfl, ?_, fun hm => hm⟩
    intro k'
    by_cases hk : k' = k
    · subst hk; simp [h]
    · simp [hk]
  | none =>
    have hup : m ++ [(k, v)] = HMap.upsert m k (fun _ => v) := (HMap.upsert_of_get?_none m k (fun _ => v) h).symm
    refine ⟨by simp, by simp, ?_, ?_⟩
    · intro k'
      simp only [hup, HMap.get?_upsert, Option.getD_none]
    · intro hm
      simp only [hup]
      exact HMap.nodup_keys_upsert _ _ _ hm

/-- merge law for full indices: key set = union; with disjoint key sets (the engine's
invariant: a tuple is in at most one of total / delta) every key keeps its value -/
theorem FullIdx.mergeStep_spec (new delta total : FullIdx K V) (hd : NoDupKeys delta) (ht : NoDupKeys total) :
    let r := FullIdx.mergeStep new delta total
    r.1 = [] ∧ r.2.1 = new ∧ NoDupKeys r.2.2 ∧
    (∀ k, (HMap.get? r.2.2 k).isSome = ((HMap.get? total k).isSome || (HMap.get? delta k).isSome)) ∧
    ((∀ k, ¬ ((HMap.get? total k).isSome ∧ (HMap.get? delta k).isSome)) →
      ∀ k, HMap.get? r.2.2 k = (HMap.get? total k).orElse (fun _ => HMap.get? delta k)) := by
  have hget := fun k => orElse_either (FullIdx.get?_moveContents delta total hd ht k)
  refine ⟨by simp only [FullIdx.mergeStep, FullIdx.moveContents_eq], rfl, ?_, fun k => (hget k).1,
    fun hdisj k => (hget k).2 (hdisj k)⟩
  simp only [FullIdx.mergeStep, FullIdx.moveContents_eq]
  exact nodup_keys_ite_drainInto _ _ _ _ hd ht

/-! ## lattice index (`LatticeIndexType`): set-valued -/

theorem LatIdx.get_insert (m : LatIdx K V) (k k' : K) (v : V) :
    HMap.get? (m.insert k v) k' =
      if k' = k then some (setAdd ((HMap.get? m k).getD []) v) else HMap.get? m k' := by
  unfold LatIdx.insert
  rw [HMap.get?_upsert]
  split
  · cases HMap.get? m k <;> simp [setAdd]
  · rfl

theorem setAdd_nodup (s : List V) (v : V) (h : s.Nodup) : (setAdd s v).Nodup := setAdd_nodup' s v h
theorem mem_setAdd (s : List V) (v x : V) : x ∈ setAdd s v ↔ x ∈ s ∨ x = v := mem_setAdd' s v x

/-- re-inserting a row number is idempotent (what makes re-queued lattice rows harmless in serial mode) -/
theorem LatIdx.insert_idem (m : LatIdx K V) (k : K) (v : V) : (m.insert k v).insert k v = m.insert k v := by
  have hs : ∀ s : List V, setAdd (setAdd s v) v = setAdd s v := by
    intro s
    have : v ∈ setAdd s v := (mem_setAdd s v v).2 (Or.inr rfl)
    generalize setAdd s v = t at this
    unfold setAdd
    simp [this]
  unfold LatIdx.insert
  induction m with
  | nil => simp [HMap.upsert_nil, HMap.upsert_cons, setAdd]
  | cons hd tl ih =>
    obtain ⟨a, s⟩ := hd
    by_cases h : a = k
    · simp [HMap.upsert_cons, h, hs]
    · simp only [HMap.upsert_cons, h, if_false, ih]

theorem LatIdx.mergeStep_spec (new delta total : LatIdx K V) (hd : NoDupKeys delta) (ht : NoDupKeys total)
    (hts : ∀ k s, HMap.get? total k = some s → s.Nodup) :
    let r := LatIdx.mergeStep new delta total
    r.1 = [] ∧ r.2.1 = new ∧ NoDupKeys r.2.2 ∧
    (∀ k s, HMap.get? r.2.2 k = some s → s.Nodup) ∧
    (∀ k x, x ∈ (HMap.get? r.2.2 k).getD [] ↔ (x ∈ (HMap.get? total k).getD [] ∨ x ∈ (HMap.get? delta k).getD [])) := by
  simp only [LatIdx.mergeStep, LatIdx.moveContents_eq]
  refine ⟨trivial, trivial, nodup_keys_drainInto _ _ _ ht, ?_, ?_⟩
  · intro k s
    rw [get?_drainInto _ _ _ hd]
    cases hdk : HMap.get? delta k with
    | none => exact hts k s
    | some w =>
      simp only [Option.some.injEq]
      intro hs; subst hs
      apply nodup_foldl_setAdd
      cases htk : HMap.get? total k with
      | none => simp
      | some t => exact hts k t htk
  · intro k x
    rw [get?_drainInto _ _ _ hd]
    cases hdk : HMap.get? delta k with
    | none => simp
    | some w => simp [latFn, mem_foldl_setAdd]

/-! ## no-index (`RelNoIndexType`) -/
theorem NoIdx.mergeStep_spec (new delta total : NoIdx V) :
    NoIdx.mergeStep new delta total = ([], new, total ++ delta) := rfl

/-! ## concurrent indices (`CRelIndex`, `CRelFullIndex`, `CRelNoIndex`): shards behind a frozen flag
(the merge laws of `CRelFullIndex` and `CLatIndex` are in `C05Par`) -/

def CIdx.vals (c : CIdx V) (k : Int) : List V := ((c.shards.getD (shardOf k c.shards.length) []).get k).getD []

/-- freezing / unfreezing never changes the contents -/
theorem CIdx.freeze_unfreeze (c : CIdx V) :
    c.freeze.shards = c.shards ∧ c.unfreeze.shards = c.shards ∧ c.freeze.unfreeze.frozen = false ∧ c.unfreeze.freeze.frozen = true :=
  ⟨rfl, rfl, rfl, rfl⟩

/-- writes need `Unfrozen`, reads need `Frozen`: exactly these combinations are the model's panics -/
theorem CIdx.panic_iff (c : CIdx V) (k : Int) (v : V) :
    ((∃ c', c.insert k v = .ok c') ↔ c.frozen = false) ∧ ((∃ r, c.get k = .ok r) ↔ c.frozen = true) := by
  unfold CIdx.insert CIdx.get
  cases c.frozen <;> simp

theorem CIdx.vals_insert (c c' : CIdx V) (k k' : Int) (v : V) (hn : 0 < c.shards.length) (h : c.insert k v = .ok c') :
    c'.shards.length = c.shards.length ∧ c'.vals k' = if k' = k then c.vals k ++ [v] else c.vals k' := by
  obtain ⟨_, rfl⟩ := Res.ok_of_ite h
  refine ⟨length_modifyNth _ _ _, ?_⟩
  show (shardGet (modifyNth c.shards _ _) k').getD [] = _
  rw [shardGet_modifyNth c.shards hn k (fun s => Idx.insert s k v) _ (fun k' => Idx.get_insert _ k k' v)]
  split <;> rfl

theorem CIdx.vals_new (n : Nat) (k : Int) : (CIdx.new n : CIdx V).vals k = [] := by
  show (shardGet (List.replicate n []) k).getD [] = []
  rw [shardGet_replicate]
  rfl

theorem CIdx.vals_foldlM_insert (ops : List (Int × V)) (c0 c : CIdx V) (hn : 0 < c0.shards.length)
    (h : ops.foldlM (fun (m : CIdx V) kv => match m.insert kv.1 kv.2 with | .ok m' => some m' | .panic => none) c0 = some c) :
    c.shards.length = c0.shards.length ∧
      ∀ k, c.vals k = c0.vals k ++ (ops.filter (fun kv => kv.1 = k)).map (·.2) := by
  induction ops generalizing c0 with
  | nil =>
    simp only [List.foldlM_nil] at h
    cases h
    simp
  | cons hd tl ih =>
    obtain ⟨a, b⟩ := hd
    rw [List.foldlM_cons] at h
    cases hins : c0.insert a b with
    | panic => simp [hins] at h
    | ok c1 =>
      simp only [hins] at h
      have hstep := CIdx.vals_insert c0 c1 a
      have hlen : c1.shards.length = c0.shards.length := (hstep a b hn hins).1
      obtain ⟨ih1, ih2⟩ := ih c1 (hlen ▸ hn) h
      refine ⟨ih1.trans hlen, ?_⟩
      intro k
      rw [ih2 k, (hstep k b hn hins).2]
      by_cases hk : k = a
      · subst hk; simp
      · have : ¬ a = k := fun e => hk e.symm
        simp [hk, this]

/-- **all concurrent inserts are retained, whatever the interleaving**: the insert steps are
atomic (shard lock), so an interleaving of the threads' insert lists is a sequence; for any
two orders of the same multiset of inserts the values under every key agree up to order -/
theorem CIdx.inserts_order_independent (n : Nat) (hn : 0 < n) (ops ops' : List (Int × V)) (hp : ops.Perm ops')
    (c c' : CIdx V)
    (h : ops.foldlM (fun (m : CIdx V) kv => match m.insert kv.1 kv.2 with | .ok m' => some m' | .panic => none) (CIdx.new n) = some c)
    (h' : ops'.foldlM (fun (m : CIdx V) kv => match m.insert kv.1 kv.2 with | .ok m' => some m' | .panic => none) (CIdx.new n) = some c') :
    ∀ k, (c.vals k).Perm (c'.vals k) ∧ (c.vals k).Perm ((ops.filter (fun kv => kv.1 = k)).map (·.2)) := by
  intro k
  have hn' : 0 < (CIdx.new n : CIdx V).shards.length := by simp [CIdx.new, hn]
  have h1 := (CIdx.vals_foldlM_insert ops _ c hn' h).2 k
  have h2 := (CIdx.vals_foldlM_insert ops' _ c' hn' h').2 k
  rw [CIdx.vals_new, List.nil_append] at h1 h2
  rw [h1, h2]
  exact ⟨(hp.filter _).map _, List.Perm.refl _⟩

theorem Idx.vals_moveContents (f t : Idx K V) (hf : NoDupKeys f) (ht : NoDupKeys t) (k : K) :
    (Idx.vals (Idx.moveContents f t).2 k).Perm (Idx.vals t k ++ Idx.vals f k) :=
  (Idx.mergeStep_spec ([] : Idx K V) f t hf ht).2.2.2.1 k

/-- shard-wise merge law for the concurrent hash-vector index -/
theorem CIdx.moveContents_spec (frm to frm' to' : CIdx V) (h : CIdx.moveContents frm to = .ok (frm', to'))
    (hn : 0 < to.shards.length)
    (hf : ∀ s ∈ frm.shards, NoDupKeys s) (ht : ∀ s ∈ to.shards, NoDupKeys s) :
    to'.shards.length = to.shards.length ∧ (∀ k, frm'.vals k = []) ∧
    (∀ k, (to'.vals k).Perm (to.vals k ++ frm.vals k)) := by
  unfold CIdx.moveContents at h
  obtain ⟨_, hlen, hr⟩ := Res.ok_of_ite_ite h
  cases hr
  have hlen : frm.shards.length = to.shards.length := Decidable.of_not_not hlen
  refine ⟨length_zip_move _ _ _ hlen, fun k => ?_, fun k => ?_⟩
  · show (shardGet _ k).getD [] = []
    rw [shardGet_zip_move_fst Idx.moveContents _ _ (fun _ _ => rfl) k]
    rfl
  · show ((shardGet _ k).getD []).Perm ((shardGet to.shards k).getD [] ++ (shardGet frm.shards k).getD [])
    rw [shardGet_zip_move Idx.moveContents _ _ hlen rfl, shardGet, shardGet, hlen]
    exact Idx.vals_moveContents _ _ (nodupKeys_getD hf _) (nodupKeys_getD ht _) k

theorem filter_length_cons {α : Type} (p : α → Bool) (x : α) (l : List α) :
    ((x :: l).filter p).length = (if p x = true then 1 else 0) + (l.filter p).length := by
  rw [List.filter_cons]
  split
  · simp; omega
  · simp

/-- effect of the shard-level insert-if-absent on `getCloned`, shared by the locked and `&mut` versions -/
theorem CFullIdx.getCloned_modify (c : CFullIdx V) (hn : 0 < c.shards.length) (k' k : Int) (v : V) (fz : Bool) :
    let i := shardOf k' c.shards.length
    let r := FullIdx.insertIfNotPresent (c.shards.getD i []) k' v
    (r.2 = true ↔ c.getCloned k' = none) ∧
    CFullIdx.getCloned ⟨fz, modifyNth c.shards i fun _ => r.1⟩ k =
      if k = k' then some ((c.getCloned k').getD v) else c.getCloned k := by
  intro i r
  have hspec := FullIdx.insertIfNotPresent_spec (c.shards.getD i []) k' v
  exact ⟨hspec.1, shardGet_modifyNth c.shards hn k' _ _ hspec.2.2.1 k⟩

theorem CFullIdx.insertIfNotPresent_ok (c c1 : CFullIdx V) (hn : 0 < c.shards.length) (k' : Int) (v : V) (won : Bool)
    (h : c.insertIfNotPresent k' v = .ok (c1, won)) :
    c1.shards.length = c.shards.length ∧ (won = true ↔ c.getCloned k' = none) ∧
    ∀ k, c1.getCloned k = if k = k' then some ((c.getCloned k').getD v) else c.getCloned k := by
  obtain ⟨_, hr⟩ := Res.ok_of_ite h
  cases hr
  exact ⟨length_modifyNth _ _ _, (CFullIdx.getCloned_modify c hn k' k' v c.frozen).1,
    fun k => (CFullIdx.getCloned_modify c hn k' k v c.frozen).2⟩

/-- running a list of racing `insert_if_not_present` attempts (atomic steps) in the given
order; returns the final index and the per-attempt results -/
def raceRun (c : CFullIdx V) : List (Int × V) → Option (CFullIdx V × List Bool)
  | [] => some (c, [])
  | (k, v) :: rest =>
    match c.insertIfNotPresent k v with
    | .panic => none
    | .ok (c', won) => (raceRun c' rest).map fun (cf, rs) => (cf, won :: rs)

/-- **insert-if-absent succeeds for exactly one of the callers racing on a key**, in every
interleaving: among the attempts on key `k`, exactly one wins if `k` was absent (and there
is an attempt), none if it was present -/
theorem CFullIdx.race_one_winner (c cf : CFullIdx V) (hn : 0 < c.shards.length) (atts : List (Int × V)) (rs : List Bool)
    (h : raceRun c atts = some (cf, rs)) (k : Int) :
    rs.length = atts.length ∧
    ((atts.zip rs).filter (fun ar => ar.1.1 = k ∧ ar.2 = true)).length =
      (if (c.getCloned k).isSome then 0 else if atts.any (fun a => a.1 = k) then 1 else 0) ∧
    (cf.getCloned k).isSome = ((c.getCloned k).isSome || atts.any (fun a => a.1 = k)) := by
  induction atts generalizing c rs with
  | nil =>
    simp only [raceRun, Option.some.injEq, Prod.mk.injEq] at h
    obtain ⟨h1, h2⟩ := h
    subst h1; subst h2
    simp
  | cons a rest ih =>
    obtain ⟨k', v⟩ := a
    simp only [raceRun] at h
    cases hins : c.insertIfNotPresent k' v with
    | panic => simp [hins] at h
    | ok p =>
      obtain ⟨c1, won⟩ := p
      rw [hins] at h
      obtain ⟨⟨cf', rs'⟩, hrun, heq⟩ := Option.map_eq_some_iff.mp h
      cases heq
      obtain ⟨hlen, hwon, hget⟩ := CFullIdx.insertIfNotPresent_ok c c1 hn k' v won hins
      obtain ⟨ih1, ih2, ih3⟩ := ih c1 (hlen ▸ hn) rs' hrun
      rw [hget k] at ih2 ih3
      rw [List.zip_cons_cons, filter_length_cons, List.any_cons, ih2, ih3, List.length_cons, List.length_cons, ih1]
      refine ⟨rfl, ?_⟩
      by_cases hk : k' = k
      · -- an attempt on `k`: it wins iff `k` was absent, and no later attempt on `k` wins
        subst hk
        cases hc : c.getCloned k' with
        | none => simp [hwon.2 hc]
        | some x =>
          have hw : won = false := Bool.eq_false_iff.mpr fun hw => nomatch hc.symm.trans (hwon.1 hw)
          simp [hw]
      · -- an attempt on another key changes nothing at `k`
        rw [decide_eq_false hk, Bool.false_or]
        simp [hk, Ne.symm hk]

/-- the `&mut self` insert-if-absent works on a frozen index too (it unfreezes first) -/
theorem CFullIdx.insertIfNotPresentMut_spec (c : CFullIdx V) (hn : 0 < c.shards.length) (k : Int) (v : V) :
    ((c.insertIfNotPresentMut k v).2 = true ↔ c.getCloned k = none) ∧
    (c.insertIfNotPresentMut k v).1.frozen = false ∧
    ((c.insertIfNotPresentMut k v).1.getCloned k).isSome = true := by
  have hm := CFullIdx.getCloned_modify c hn k k v false
  refine ⟨hm.1, rfl, ?_⟩
  exact (congrArg Option.isSome hm.2).trans (by simp)

/-- `CRelNoIndex`: the merge is a shard-wise zip; it keeps everything **provided `from` has no
more shards than `to`** … -/
theorem CNoIdx.moveContents_spec (frm to : CNoIdx V) (h : frm.shards.length ≤ to.shards.length) :
    let r := CNoIdx.moveContents frm to
    r.1.shards.flatten = [] ∧ r.2.shards.length = to.shards.length ∧
    r.2.shards.flatten.Perm (to.shards.flatten ++ frm.shards.flatten) := by
  simp only [CNoIdx.moveContents_eq]
  obtain ⟨h1, h2, _, h4⟩ := noIdxMove_within frm.shards to.shards to.shards.length (Nat.le_refl _)
    (ShardsWithin.of_length_le h) (ShardsWithin.of_length_le (Nat.le_refl _))
  exact ⟨h1, h2, h4⟩

/-- … and silently drops from the merge what lives in `from`'s extra shards otherwise (the hazard behind C20):
here a 2-shard `from` merged into a 1-shard `to` leaves `7` behind in `from` -/
theorem CNoIdx.moveContents_truncates :
    (CNoIdx.moveContents (⟨false, [[1], [7]]⟩ : CNoIdx Int) ⟨false, [[5]]⟩).2.shards.flatten = [5, 1] := by decide

/-! ## `is_empty`: "definitely empty" is never claimed of an index that holds an entry -/

private theorem flatMap_nil_of_all_isEmpty {α β : Type} (f : List α → List β) (hf : f [] = []) :
    ∀ (l : List (List α)), l.all List.isEmpty = true → l.flatMap f = [] := by
  intro l
  induction l with
  | nil => exact fun _ => rfl
  | cons x xs ih =>
    intro h
    simp only [List.all_cons, Bool.and_eq_true, List.isEmpty_iff] at h
    rw [List.flatMap_cons, h.1, hf, ih h.2]; rfl

/-- serial indices: `is_empty` answers `true` only if there is no entry (the converse, not stated, needs that every key
holds a value: the invariant `mergeStep_nonempty` maintains) -/
theorem Idx.isEmpty_sound (m : Idx K V) (h : HMap.isEmpty m = true) : Idx.entries m = [] := by
  have : m = [] := List.isEmpty_iff.mp h
  subst this; rfl

theorem FullIdx.isEmpty_iff (m : FullIdx K V) : HMap.isEmpty m = true ↔ m = [] := List.isEmpty_iff

/-- concurrent indices: a frozen index that answers `is_empty = true` has no entry in ANY shard (the generated
parallel code skips a rule on `true`: an answer computed from a sample of the shards would lose derivations) -/
theorem CIdx.isEmpty_sound (c : CIdx V) (h : c.isEmpty = .ok true) : c.entries = [] :=
  flatMap_nil_of_all_isEmpty Idx.entries rfl c.shards (Res.ok_of_ite h).2

theorem CFullIdx.isEmpty_sound (c : CFullIdx V) (h : c.isEmpty = .ok true) : c.entries = [] :=
  flatMap_nil_of_all_isEmpty id rfl c.shards (Res.ok_of_ite h).2

theorem CLatIdx.isEmpty_sound (c : CLatIdx V) (h : c.isEmpty = .ok true) : c.entries = [] :=
  flatMap_nil_of_all_isEmpty Idx.entries rfl c.shards (Res.ok_of_ite h).2

/-- conversely, a frozen full index without entries answers `true` (a key of a full index always has a value, so no
entry means no key) -/
theorem CFullIdx.isEmpty_complete (c : CFullIdx V) (hf : c.frozen = true) (h : c.entries = []) : c.isEmpty = .ok true := by
  unfold CFullIdx.isEmpty
  simp only [hf, Bool.not_true, Bool.false_eq_true, if_false, Res.ok.injEq]
  unfold CFullIdx.entries at h
  rw [List.all_eq_true]
  intro x hx
  rw [List.isEmpty_iff]
  have := List.flatMap_eq_nil_iff.mp h x hx
  simpa using this

/-- the combined total+delta view is empty only if both sides are -/
theorem combinedIsEmpty_spec (a b : Bool) : combinedIsEmpty a b = true ↔ (a = true ∧ b = true) := by
  simp [combinedIsEmpty]

example : NoDupKeys ([(1, [10, 11]), (2, [20])] : Idx Int Int) := by unfold NoDupKeys; decide
example : (Idx.mergeStep ([(3, [30])] : Idx Int Int) [(1, [12, 13, 14]), (4, [40])] [(1, [10]), (2, [20])]) =
    ([], [(3, [30])], [(1, [12, 13, 14, 10]), (2, [20]), (4, [40])]) := by decide
example : raceRun (CFullIdx.new 2 : CFullIdx Int) [(1, 10), (1, 11), (2, 20), (1, 12)] =
    some (⟨false, [[(2, 20)], [(1, 10)]]⟩, [true, false, true, false]) := by decide

#print axioms Idx.isEmpty_sound
#print axioms CIdx.isEmpty_sound
#print axioms CFullIdx.isEmpty_sound
#print axioms CFullIdx.isEmpty_complete
#print axioms CLatIdx.isEmpty_sound
#print axioms combinedIsEmpty_spec
#print axioms Idx.insert_noDup
#print axioms Idx.get_insert
#print axioms Idx.get_of_inserts
#print axioms Idx.entries_of_inserts
#print axioms Idx.mergeStep_spec
#print axioms Idx.mergeStep_nonempty
#print axioms combinedGet_spec
#print axioms FullIdx.get_insert
#print axioms FullIdx.insertIfNotPresent_spec
#print axioms FullIdx.mergeStep_spec
#print axioms LatIdx.get_insert
#print axioms setAdd_nodup
#print axioms mem_setAdd
#print axioms LatIdx.insert_idem
#print axioms LatIdx.mergeStep_spec
#print axioms NoIdx.mergeStep_spec
#print axioms CIdx.freeze_unfreeze
#print axioms CIdx.panic_iff
#print axioms CIdx.vals_insert
#print axioms CIdx.inserts_order_independent
#print axioms CIdx.moveContents_spec
#print axioms CFullIdx.race_one_winner
#print axioms CFullIdx.insertIfNotPresentMut_spec
#print axioms CNoIdx.moveContents_spec
#print axioms CNoIdx.moveContents_truncates

end AscentVerif.Index
