import AscentVerif.Props.C05Phys
import AscentVerif.Props.C13PhysPar
import AscentVerif.Props.C13PhysAgg
import AscentVerif.Proofs.PhysParAggLink
/-!
# C13 at the level of the concurrent indices, for stratified `ascent_par!` programs with aggregation / negation

`Props/C13PhysPar.lean` proves the re-run theorems for the engine generated by `ascent_par!` (`Model/EnginePhysPar.lean`) on
aggregation-free programs; `Props/C13PhysAgg.lean` proves restart / idempotence for the SERIAL physical engine on stratified
programs with aggregation / negation.  This file proves the parallel counterparts of the latter, under the hypotheses `CtxParA`
of `Props/C05Phys.lean`, with the compiler's own index sets (`ixSetsOfA`), where every run has its OWN schedule, pool size and fuel:

* `restart_physPar_agg` — a run from a value between the start value of a completed reference run and its result never panics
  and, if it returns, ends with exactly the facts of the reference result;
* `rerun_idempotent_physPar_agg` — a second `run()` does not panic and leaves every row vector literally unchanged.

As in `Props/C13PhysAgg.lean` the statements are relative to a completed reference run: with aggregation / negation a fact derived
from an incomplete relation could be wrong, so "sound" means "only facts of the reference result".
-/
namespace AscentVerif.PhysPar
open AscentVerif AscentVerif.Engine AscentVerif.Index AscentVerif.Phys

variable {E B G P A : Type}

/-- `t` extends `s`: every row vector of `s` is a prefix of the one of `t`, the rows added are pairwise distinct and not among
the rows of `s` (`Phys.ExtendsP` for values of an `ascent_par!` program; the stored indices are not constrained).  By definition
the `PCExt` of `Proofs/PhysParAggLink.lean`: the proofs pass one for the other. -/
def ExtendsPC (p : Program E B G P A) (s t : PCSt) : Prop :=
  ∀ r, r < p.rels.length → ∃ extra : List Tuple,
    (pcrel t r).rows = (pcrel s r).rows ++ extra ∧ extra.Nodup ∧ ∀ x ∈ extra, x ∉ (pcrel s r).rows

theorem CtxParA.bodyDecl {I : Interp E B G P A} {V : Hir.VarsOf E B} {p : Program E B G P A} {order : SccOrder}
    (c : CtxParA I V p order) : BodyDeclared p := bodyDeclared_of_check c.decl

/-- **stratified restart over the concurrent indices**: `oM` is a completed reference run (schedule `σM`, pool `threadsM`) from
`s`; `t` extends `s` and holds only facts of the reference result.  Then a run from `t` under ANY schedule in ANY pool with any
fuel does not panic and, if it returns, ends with exactly the facts of the reference result; the value is again one `run()` may be
called on and extends `t`. -/
theorem restart_physPar_agg (I : Interp E B G P A) (V : Hir.VarsOf E B) (p : Program E B G P A) (order : SccOrder)
    (c : CtxParA I V p order) (s t : PCSt) (σM σ : Sched E B G P A) (threadsM threads fuelM fuel : Nat) (oM : ProgSt)
    (hs : WFPCSt p s) (ht : WFPCSt p t)
    (hM : run I V p (ixSetsOfA V p) order σM threadsM fuelM s = .ok (some oM))
    (hext : ExtendsPC p s t) (hsound : ∀ f, factsOf t f → factsOf oM.st f) :
    ∃ res, run I V p (ixSetsOfA V p) order σ threads fuel t = .ok res ∧
      ∀ o, res = some o →
        WFPCSt p o.st ∧ ExtendsPC p t o.st ∧ ∀ f, factsOf o.st f ↔ factsOf oM.st f :=
  restart_physParA I c.ext V c.supp c.perm p _ order c.rel c.valid c.strat c.bodyDecl (planOk_ixSetsOfA V p c.arity)
    (aggPlanOk_ixSetsOfA V p c.aggArity) c.rules s t σM σ threadsM threads fuelM fuel oM hs ht hM hext hsound

/-- the same for a run from `t` known to have returned: literally the statement of `Phys.restart_phys_agg` -/
theorem restart_physPar_agg' (I : Interp E B G P A) (V : Hir.VarsOf E B) (p : Program E B G P A) (order : SccOrder)
    (c : CtxParA I V p order) (s t : PCSt) (σM σ : Sched E B G P A) (threadsM threads fuelM fuel : Nat) (oM o : ProgSt)
    (hs : WFPCSt p s) (ht : WFPCSt p t)
    (hM : run I V p (ixSetsOfA V p) order σM threadsM fuelM s = .ok (some oM))
    (hext : ExtendsPC p s t) (hsound : ∀ f, factsOf t f → factsOf oM.st f)
    (hrun : run I V p (ixSetsOfA V p) order σ threads fuel t = .ok (some o)) :
    ∀ f, factsOf o.st f ↔ factsOf oM.st f :=
  (spec_of_ok (restart_physPar_agg I V p order c s t σM σ threadsM threads fuelM fuel oM hs ht hM hext hsound) hrun o rfl).2.2

/-- a completed `run()` in the form the restart theory (`restart_of_linked`) takes it -/
theorem CtxParA.linked_run {I : Interp E B G P A} {V : Hir.VarsOf E B} {p : Program E B G P A} {order : SccOrder}
    (c : CtxParA I V p order) {s : PCSt} {σ : Sched E B G P A} {threads fuel : Nat} {o : ProgSt} (hs : WFPCSt p s)
    (h : run I V p (ixSetsOfA V p) order σ threads fuel s = .ok (some o)) : Linked I p (ixSetsOfA V p) order s o.st :=
  spec_of_ok (runPar_linked I c.ext V c.supp c.perm p _ order c.rel c.valid c.strat c.bodyDecl (planOk_ixSetsOfA V p c.arity)
    (aggPlanOk_ixSetsOfA V p c.aggArity) c.rules σ threads fuel s hs) h o rfl

/-- what a completed run does to a value `run()` may be called on: the result is again such a value and extends the start value -/
theorem run_wf_extends_physPar_agg (I : Interp E B G P A) (V : Hir.VarsOf E B) (p : Program E B G P A) (order : SccOrder)
    (c : CtxParA I V p order) (s : PCSt) (σ : Sched E B G P A) (threads fuel : Nat) (o : ProgSt)
    (hs : WFPCSt p s)
    (h : run I V p (ixSetsOfA V p) order σ threads fuel s = .ok (some o)) :
    WFPCSt p o.st ∧ ExtendsPC p s o.st :=
  ⟨(c.linked_run hs h).wf, (c.linked_run hs h).ext⟩

/-- **`run()` is idempotent over the concurrent indices, aggregation and negation included, across schedules and pools**: after
a run under `σ₁` in a pool of `threads₁` workers, a second run under ANY schedule `σ₂` in a pool of ANY size `threads₂` with any
fuel does not panic, and if it returns, the value is again one `run()` may be called on, every relation's row vector is literally
unchanged and the facts are the same -/
theorem rerun_idempotent_physPar_agg (I : Interp E B G P A) (V : Hir.VarsOf E B) (p : Program E B G P A) (order : SccOrder)
    (c : CtxParA I V p order) (s : PCSt) (σ₁ σ₂ : Sched E B G P A) (threads₁ threads₂ fuel₁ fuel₂ : Nat) (o₁ : ProgSt)
    (hs : WFPCSt p s)
    (h₁ : run I V p (ixSetsOfA V p) order σ₁ threads₁ fuel₁ s = .ok (some o₁)) :
    ∃ res, run I V p (ixSetsOfA V p) order σ₂ threads₂ fuel₂ o₁.st = .ok res ∧
      ∀ o₂, res = some o₂ →
        WFPCSt p o₂.st ∧
        (∀ r, (pcrel o₂.st r).rows = (pcrel o₁.st r).rows) ∧
        o₂.st.map (·.rows) = o₁.st.map (·.rows) ∧
        (∀ f, factsOf o₂.st f ↔ factsOf o₁.st f) := by
  obtain ⟨hw₁, hext₁⟩ := run_wf_extends_physPar_agg I V p order c s σ₁ threads₁ fuel₁ o₁ hs h₁
  obtain ⟨res, hres, hsp⟩ := restart_physPar_agg I V p order c s o₁.st σ₁ σ₂ threads₁ threads₂ fuel₁ fuel₂ o₁ hs hw₁ h₁ hext₁
    (fun _ hf => hf)
  refine ⟨res, hres, ?_⟩
  intro o₂ ho₂
  obtain ⟨hw₂, hext₂, hfacts⟩ := hsp o₂ ho₂
  obtain ⟨hall, hmap⟩ := rows_eq_of_lt hw₁.1 hw₂.1 (rows_eq_of_ext_sound hext₂ fun f => (hfacts f).mp)
  exact ⟨hw₂, hall, hmap, hfacts⟩

/-- the same for a second run known to have returned: the statement of `Phys.rerun_idempotent_phys_agg` -/
theorem rerun_idempotent_physPar_agg' (I : Interp E B G P A) (V : Hir.VarsOf E B) (p : Program E B G P A) (order : SccOrder)
    (c : CtxParA I V p order) (s : PCSt) (σ₁ σ₂ : Sched E B G P A) (threads₁ threads₂ fuel₁ fuel₂ : Nat) (o₁ o₂ : ProgSt)
    (hs : WFPCSt p s)
    (h₁ : run I V p (ixSetsOfA V p) order σ₁ threads₁ fuel₁ s = .ok (some o₁))
    (h₂ : run I V p (ixSetsOfA V p) order σ₂ threads₂ fuel₂ o₁.st = .ok (some o₂)) :
    (∀ r, r < p.rels.length → (pcrel o₂.st r).rows = (pcrel o₁.st r).rows) ∧ (∀ f, factsOf o₂.st f ↔ factsOf o₁.st f) := by
  obtain ⟨_, hall, _, hf⟩ :=
    spec_of_ok (rerun_idempotent_physPar_agg I V p order c s σ₁ σ₂ threads₁ threads₂ fuel₁ fuel₂ o₁ hs h₁) h₂ o₂ rfl
  exact ⟨fun r _ => hall r, hf⟩

theorem rerun_ne_panic_physPar_agg (I : Interp E B G P A) (V : Hir.VarsOf E B) (p : Program E B G P A) (order : SccOrder)
    (c : CtxParA I V p order) (s : PCSt) (σ₁ σ₂ : Sched E B G P A) (threads₁ threads₂ fuel₁ fuel₂ : Nat) (o₁ : ProgSt)
    (hs : WFPCSt p s)
    (h₁ : run I V p (ixSetsOfA V p) order σ₁ threads₁ fuel₁ s = .ok (some o₁)) :
    run I V p (ixSetsOfA V p) order σ₂ threads₂ fuel₂ o₁.st ≠ .panic := by
  obtain ⟨res, hres, _⟩ := rerun_idempotent_physPar_agg I V p order c s σ₁ σ₂ threads₁ threads₂ fuel₁ fuel₂ o₁ hs h₁
  rw [hres]
  exact fun h => by cases h

theorem pcrel_rows (s : PCSt) (r : RelId) : (pcrel s r).rows = (s.map (·.rows)).getD r [] :=
  (getD_map _ s r (·.rows)).symm

/-- `run()` begins with `update_indices`, which rebuilds every index from the row vectors: the result depends on the row
vectors of the value only -/
theorem run_of_rows {I : Interp E B G P A} {V : Hir.VarsOf E B} {p : Program E B G P A} {ix : IxSets} {order : SccOrder}
    {σ : Sched E B G P A} {threads fuel : Nat} {s : PCSt} {rs : List (List Tuple)} (h : s.map (·.rows) = rs) :
    run I V p ix order σ threads fuel s =
      run I V p ix order σ threads fuel (rs.map fun rows => ⟨rows, PCFull.new, []⟩) := by
  have hl : s.length = (rs.map fun rows => (⟨rows, PCFull.new, []⟩ : PCRel)).length := by
    rw [← h, List.length_map, List.length_map]
  have hr : ∀ r, (pcrel s r).rows = (pcrel (rs.map fun rows => ⟨rows, PCFull.new, []⟩) r).rows := fun r => by
    rw [pcrel_rows, pcrel_rows, h, List.map_map]
    exact congrArg (·.getD r []) (List.map_id' rs).symm
  simp only [run, updateIndices, hl, hr]

/-! ## non-vacuity: the program `pNeg` of `Props/C04Phys.lean` (reachability, its complement by negation, out-degrees by `count`)
as an `ascent_par!` program (`sNegPar`, `σNeg`, `negParA_ctx` of `Props/C05Phys.lean`)

First run under `σNeg` (rows and head updates in reverse order, the `n`-th insert by worker `n % 3`) in a pool of 3 workers; the
second run under ANOTHER schedule `σNeg2` (program order, the `n`-th insert by worker `(n + 1) % 2`) in a pool of 2 workers. -/

def σNeg2 : Sched Plan.Ex Plan.Bx Plan.Ex Unit Bool :=
  { permRows := fun _ l => l, permRows_perm := fun _ l => List.Perm.refl l
    permTasks := fun _ l => l, permTasks_perm := fun _ l => List.Perm.refl l
    tid := fun n => (n + 1) % 2, swap := fun n => n % 2 == 1 }

/-- the value the first run (pool of 3) returns -/
def sNeg1 : PCSt :=
  match run exA Plan.exV pNeg (ixSetsOfA Plan.exV pNeg) [[0], [1], [2]] σNeg 3 10 sNegPar with
  | .ok (some ps) => ps.st
  | _ => []

/-- the rows and `scc_iters` of a result -/
def obsA (r : Res (Option ProgSt)) : Res (Option (List (List Tuple) × List Nat)) :=
  r.map fun o => o.map fun ps => (ps.st.map (·.rows), ps.iters)

/-- the first run returns the stratified model (`reach = {1, 2}`, `unreach = {3}`, out-degrees `1 ↦ 1, 2 ↦ 0, 3 ↦ 0`); the
second run, under the other schedule in the other pool, on the value the first left: the same row vectors, one iteration per SCC -/
theorem negPar_rerun :
    obsA (run exA Plan.exV pNeg (ixSetsOfA Plan.exV pNeg) [[0], [1], [2]] σNeg 3 10 sNegPar) =
      .ok (some ([[[.int 1], [.int 2], [.int 3]], [[.int 1, .int 2]], [[.int 1], [.int 2]], [[.int 3]],
        [[.int 1, .int 1], [.int 2, .int 0], [.int 3, .int 0]]], [2, 1, 1])) ∧
    sNeg1.map (·.rows) =
      [[[.int 1], [.int 2], [.int 3]], [[.int 1, .int 2]], [[.int 1], [.int 2]], [[.int 3]],
        [[.int 1, .int 1], [.int 2, .int 0], [.int 3, .int 0]]] ∧
    obsA (run exA Plan.exV pNeg (ixSetsOfA Plan.exV pNeg) [[0], [1], [2]] σNeg2 2 10 sNeg1) =
      .ok (some ([[[.int 1], [.int 2], [.int 3]], [[.int 1, .int 2]], [[.int 1], [.int 2]], [[.int 3]],
        [[.int 1, .int 1], [.int 2, .int 0], [.int 3, .int 0]]], [1, 1, 1])) := by
  -- the second run is stated from the literal row vectors the second conjunct gives (`run_of_rows`): evaluating it from
  -- `sNeg1` itself makes the kernel evaluate the first run again inside it, which is slow to check
  refine (and_congr_right fun _ => and_congr_right fun h2 => by rw [run_of_rows h2]).mpr ?_
  decide_conj

/-- the first run of the example returns (the value `sNeg1`) -/
theorem negPar_first_run :
    ∃ o₁, run exA Plan.exV pNeg (ixSetsOfA Plan.exV pNeg) [[0], [1], [2]] σNeg 3 10 sNegPar = .ok (some o₁) ∧ o₁.st = sNeg1 := by
  obtain ⟨o, ho⟩ := run_of_obs negPar_rerun.1
  exact ⟨o, ho, by rw [sNeg1, ho]⟩

/-- the theorems apply to that history: a second run of `sNeg1` under ANY schedule in ANY pool with any fuel does not panic and,
if it returns, leaves every row vector unchanged -/
theorem negPar_rerun_applies (σ : Sched Plan.Ex Plan.Bx Plan.Ex Unit Bool) (threads fuel : Nat) :
    WFPCSt pNeg sNeg1 ∧
    ∃ res, run exA Plan.exV pNeg (ixSetsOfA Plan.exV pNeg) [[0], [1], [2]] σ threads fuel sNeg1 = .ok res ∧
      ∀ o₂, res = some o₂ → o₂.st.map (·.rows) = sNeg1.map (·.rows) := by
  obtain ⟨o₁, h₁, e₁⟩ := negPar_first_run
  have hw₁ := (run_wf_extends_physPar_agg exA Plan.exV pNeg _ negParA_ctx sNegPar σNeg 3 10 o₁ wf_sNegPar h₁).1
  obtain ⟨r1, hr1, hs1⟩ := rerun_idempotent_physPar_agg exA Plan.exV pNeg _ negParA_ctx sNegPar σNeg σ 3 threads 10 fuel o₁
    wf_sNegPar h₁
  rw [e₁] at hw₁ hr1 hs1
  exact ⟨hw₁, r1, hr1, fun o ho => (hs1 o ho).2.2.1⟩

#print axioms restart_physPar_agg
#print axioms restart_physPar_agg'
#print axioms run_wf_extends_physPar_agg
#print axioms rerun_idempotent_physPar_agg
#print axioms rerun_idempotent_physPar_agg'
#print axioms rerun_ne_panic_physPar_agg
#print axioms negPar_rerun
#print axioms negPar_first_run
#print axioms negPar_rerun_applies

end AscentVerif.PhysPar
