import AscentVerif.Spec.Datalog
import AscentVerif.Spec.EqClosure
import AscentVerif.Model.StdInterp
import AscentVerif.Proofs.EqRelProvider
import AscentVerif.Proofs.C12Spec
/-!
# C10 — `#[ds(eqrel)]` behaves as its explicit closure

(a) Specification level.  The *explicit-closure twin* of a program with a tagged relation `t` is the same program with
`t` untagged plus the closure rules (`eqRules2` for `t(T,T)`, `eqRules3` for `t(K,T,T)`: the rules
`tools/vlib/eng.py: closure_rules` appends; the driver op `eqtwin` compares the two on every twin the check generates).
For every program, interpretation, aggregation environment and input, the least model of the twin holds in `t` exactly
the equivalence closure (Spec/EqClosure.lean: least symmetric transitive relation, reflexive on mentioned elements; per
key in the ternary form) of the tuples the input and the other rules put there (`eqrel_twin_binary`,
`eqrel_twin_ternary`).  That a rule reading `t` derives what it would derive from the explicit relation needs no proof
at this level: the twin *is* the program over the explicit relation.

(b) The provider.  Model/EqRelInd.lean models union_find.rs `EqRel` and eqrel_ind.rs `EqRelIndCommon` under the
new / delta / total protocol of generated code (tied to the serial AND the parallel Rust types by op sequences,
`./check C10`).  For every sequence of inserts into `new` and merges from the empty triple: no panic, and the contract
`Inv` — total holds `T`, delta holds `D \ T`, `new` denotes `closure(N)`, where a merge performs `T := D;
D := closure(D ∪ N); N := ∅` (`provider_run_contract`); every read returns exactly the content of its version, except
`iter_all` of view [0], which does not subtract `old` (`provider_iter_all_0_overapprox`).

NOT PROVED: the ternary provider eqrel_ternary.rs is not modelled — it violates the contract (findings F6, F21, F22,
exhibited by `./check C10`); that the iterators yield each tuple once is checked by the tie (outputs are compared with
multiplicity); real interleavings of `ceqrel_ind.rs` (the model is sequential: one `Mutex`-guarded `add` at a time).
-/
namespace AscentVerif.C10
open AscentVerif

variable {E B G P A : Type}

/-- `varE v` is an expression denoting the variable `v` (in the concrete interpretation: `Ex.var`); word for word
`C12.VarExpr` of Spec/TrClosure.lean, so the lemmas of Proofs/C12Spec.lean take it -/
def IsVarExpr (I : Interp E B G P A) (varE : Var → E) : Prop :=
  ∀ v ρ, I.expr (varE v) ρ = (ρ.get? v).getD .unit

/-- closure rules of a binary tagged relation, as printed by `eng.closure_rules(r, 2, "eqrel")` -/
def eqRules2 (varE : Var → E) (t : RelId) : List (Rule E B G P A) :=
  [ { heads := [⟨t, [varE 0, varE 0]⟩, ⟨t, [varE 1, varE 1]⟩], body := [.clause t [.var 0, .var 1] []] },
    { heads := [⟨t, [varE 1, varE 0]⟩], body := [.clause t [.var 0, .var 1] []] },
    { heads := [⟨t, [varE 0, varE 2]⟩], body := [.clause t [.var 0, .var 1] [], .clause t [.var 1, .var 2] []] } ]

/-- closure rules of a ternary tagged relation `t(K,T,T)` (key variable 9), `eng.closure_rules(r, 3, "eqrel")` -/
def eqRules3 (varE : Var → E) (t : RelId) : List (Rule E B G P A) :=
  [ { heads := [⟨t, [varE 9, varE 0, varE 0]⟩, ⟨t, [varE 9, varE 1, varE 1]⟩], body := [.clause t [.var 9, .var 0, .var 1] []] },
    { heads := [⟨t, [varE 9, varE 1, varE 0]⟩], body := [.clause t [.var 9, .var 0, .var 1] []] },
    { heads := [⟨t, [varE 9, varE 0, varE 2]⟩],
      body := [.clause t [.var 9, .var 0, .var 1] [], .clause t [.var 9, .var 1, .var 2] []] } ]

section Cons
variable {I : Interp E B G P A} {varE : Var → E} {agg : RelId → List Tuple} {D : DB} {t : RelId} {f : Fact}

theorem cons_eqRules2 (hv : IsVarExpr I varE) :
    Cons I (eqRules2 varE t) agg D f ↔
      (∃ a b, D ⟨t, [a, b]⟩ ∧ f = ⟨t, [b, a]⟩) ∨
      ((∃ a b, D ⟨t, [a, b]⟩ ∧ (f = ⟨t, [a, a]⟩ ∨ f = ⟨t, [b, b]⟩)) ∨
       (∃ a b c, D ⟨t, [a, b]⟩ ∧ D ⟨t, [b, c]⟩ ∧ f = ⟨t, [a, c]⟩)) := by
  -- the rule for symmetry, and the rules of `C12.closureRules2`
  rw [eqRules2, C12.cons_cons, C12.cons_cons (rs := [_]), or_left_comm, ← C12.cons_cons]
  refine or_congr (C12.cons_edge2.trans ?_) (C12.cons_closure2 hv)
  simp only [List.mem_singleton, exists_eq_left, C12.headFact_vars2 hv]
  exact Iff.rfl

theorem cons_eqRules3 (hv : IsVarExpr I varE) :
    Cons I (eqRules3 varE t) agg D f ↔
      (∃ k a b, D ⟨t, [k, a, b]⟩ ∧ f = ⟨t, [k, b, a]⟩) ∨
      ((∃ k a b, D ⟨t, [k, a, b]⟩ ∧ (f = ⟨t, [k, a, a]⟩ ∨ f = ⟨t, [k, b, b]⟩)) ∨
       (∃ k a b c, D ⟨t, [k, a, b]⟩ ∧ D ⟨t, [k, b, c]⟩ ∧ f = ⟨t, [k, a, c]⟩)) := by
  rw [eqRules3, C12.cons_cons, C12.cons_cons (rs := [_]), or_left_comm, ← C12.cons_cons]
  refine or_congr (C12.cons_edge3.trans ?_) (C12.cons_closure3 hv)
  simp only [List.mem_singleton, exists_eq_left, C12.headFact_vars3 hv]
  exact Iff.rfl

end Cons

/-- The argument, for any family of facts `F k · ·` (`k` the key columns, if any) and any rules `C` whose one-step
consequences are exactly symmetry and, as for `C12.closure_generic`, reflexivity at both ends and transitivity within a key:
in the least model of `C` over an input `J`, the facts `F k · ·` are the equivalence closure of those `J` holds. -/
theorem closure_twin {κ : Type} (I : Interp E B G P A) (C : List (Rule E B G P A)) (agg : RelId → List Tuple) (J : DB)
    (F : κ → Val → Val → Fact) (hF : ∀ {k a b k' a' b'}, F k a b = F k' a' b' → k = k' ∧ a = a' ∧ b = b')
    (hC : ∀ {D : DB} {f : Fact}, Cons I C agg D f ↔
      (∃ k a b, D (F k a b) ∧ f = F k b a) ∨
      ((∃ k a b, D (F k a b) ∧ (f = F k a a ∨ f = F k b b)) ∨
       (∃ k a b c, D (F k a b) ∧ D (F k b c) ∧ f = F k a c))) (k : κ) (x y : Val) :
    Derivable I C agg J (F k x y) ↔ EqClosure (fun a b => J (F k a b)) x y := by
  constructor
  · intro h
    refine h (fun f => ∀ k a b, f = F k a b → EqClosure (fun a b => J (F k a b)) a b) ⟨?_, ?_⟩ k x y rfl
    · rintro _ hf k a b rfl
      exact .base hf
    · intro f hf k' a' b' e
      rcases hC.1 hf with ⟨k, a, b, hd, rfl⟩ | ⟨k, a, b, hd, rfl | rfl⟩ | ⟨k, a, b, c, h1, h2, rfl⟩
      · obtain ⟨rfl, rfl, rfl⟩ := hF e
        exact (hd _ _ _ rfl).symm
      · obtain ⟨rfl, rfl, rfl⟩ := hF e
        exact (hd _ _ _ rfl).refl_left
      · obtain ⟨rfl, rfl, rfl⟩ := hF e
        exact (hd _ _ _ rfl).refl_right
      · obtain ⟨rfl, rfl, rfl⟩ := hF e
        exact (h1 _ _ _ rfl).trans (h2 _ _ _ rfl)
  · intro h
    induction h with
    | base h => exact derivable_input h
    | refl_l h => exact derivable_cons (hC.2 (.inr (.inl ⟨_, _, _, derivable_input h, .inl rfl⟩)))
    | refl_r h => exact derivable_cons (hC.2 (.inr (.inl ⟨_, _, _, derivable_input h, .inr rfl⟩)))
    | symm _ ih => exact derivable_cons (hC.2 (.inl ⟨_, _, _, ih, rfl⟩))
    | trans _ _ ih1 ih2 => exact derivable_cons (hC.2 (.inr (.inr ⟨_, _, _, _, ih1, ih2, rfl⟩)))

/-- what the program's OWN rules (and the caller) put into the tagged relation: input facts of `t` and
one-step consequences of `rules` over the database `M` -/
def Inserted2 (I : Interp E B G P A) (rules : List (Rule E B G P A)) (agg : RelId → List Tuple) (inp M : DB) (t : RelId)
    (a b : Val) : Prop :=
  inp ⟨t, [a, b]⟩ ∨ Cons I rules agg M ⟨t, [a, b]⟩

def Inserted3 (I : Interp E B G P A) (rules : List (Rule E B G P A)) (agg : RelId → List Tuple) (inp M : DB) (t : RelId)
    (k a b : Val) : Prop :=
  inp ⟨t, [k, a, b]⟩ ∨ Cons I rules agg M ⟨t, [k, a, b]⟩

/-- **binary form**: in the least model of the twin, the tagged relation holds exactly the equivalence closure
(reflexive on mentioned elements, symmetric, transitive) of the tuples inserted by the other rules -/
theorem eqrel_twin_binary (I : Interp E B G P A) (varE : Var → E) (hv : IsVarExpr I varE) (rules : List (Rule E B G P A))
    (agg : RelId → List Tuple) (inp : DB) (t : RelId) (x y : Val) :
    Derivable I (rules ++ eqRules2 varE t) agg inp ⟨t, [x, y]⟩ ↔
      EqClosure (Inserted2 I rules agg inp (Derivable I (rules ++ eqRules2 varE t) agg inp) t) x y :=
  C12.twin_lfp.trans <| closure_twin I (eqRules2 varE t) agg _ (fun (_ : Unit) a b => ⟨t, [a, b]⟩)
    (fun e => by cases e; exact ⟨rfl, rfl, rfl⟩) (by simp only [exists_const]; exact cons_eqRules2 hv) () x y

/-- **ternary form**: per key `k`, the tagged relation holds exactly the equivalence closure of the tuples
inserted under that key by the other rules -/
theorem eqrel_twin_ternary (I : Interp E B G P A) (varE : Var → E) (hv : IsVarExpr I varE) (rules : List (Rule E B G P A))
    (agg : RelId → List Tuple) (inp : DB) (t : RelId) (k x y : Val) :
    Derivable I (rules ++ eqRules3 varE t) agg inp ⟨t, [k, x, y]⟩ ↔
      EqClosure (Inserted3 I rules agg inp (Derivable I (rules ++ eqRules3 varE t) agg inp) t k) x y :=
  C12.twin_lfp.trans <| closure_twin I (eqRules3 varE t) agg _ (fun k a b => ⟨t, [k, a, b]⟩)
    (fun e => by cases e; exact ⟨rfl, rfl, rfl⟩) (cons_eqRules3 hv) k x y

/-- corollary: the tagged relation of the twin's least model is the LEAST symmetric transitive relation
containing what the other rules insert -/
theorem eqrel_twin_binary_least (I : Interp E B G P A) (varE : Var → E) (hv : IsVarExpr I varE) (rules : List (Rule E B G P A))
    (agg : RelId → List Tuple) (inp : DB) (t : RelId) (S : Val → Val → Prop) (hS : EqClosure.IsPER S)
    (hins : ∀ a b, Inserted2 I rules agg inp (Derivable I (rules ++ eqRules2 varE t) agg inp) t a b → S a b) (x y : Val)
    (h : Derivable I (rules ++ eqRules2 varE t) agg inp ⟨t, [x, y]⟩) : S x y :=
  EqClosure.least hS hins ((eqrel_twin_binary I varE hv rules agg inp t x y).1 h)

/-- corollary: an element is related to itself in the tagged relation iff it is mentioned by an inserted tuple -/
theorem eqrel_twin_binary_refl (I : Interp E B G P A) (varE : Var → E) (hv : IsVarExpr I varE) (rules : List (Rule E B G P A))
    (agg : RelId → List Tuple) (inp : DB) (t : RelId) (x : Val) :
    Derivable I (rules ++ eqRules2 varE t) agg inp ⟨t, [x, x]⟩ ↔
      EqClosure.Mentioned (Inserted2 I rules agg inp (Derivable I (rules ++ eqRules2 varE t) agg inp) t) x :=
  (eqrel_twin_binary I varE hv rules agg inp t x x).trans EqClosure.refl_iff_mentioned

/-! ## non-vacuity: a concrete twin (concrete interpretation of the ties)

`t(x,y) <-- e(x,y)` with `e = {(1,2),(2,3)}` (`e` = relation 0, `t` = relation 1): the twin's least model
relates 3 to 1 and does not relate 1 to the unmentioned element 4, not even 4 to itself. -/
namespace Example
open AscentVerif.Std

def I0 : Interp Ex Bx Gx Px Ax := interp fun _ => .maxInt
def rules0 : List (Rule Ex Bx Gx Px Ax) :=
  [{ heads := [⟨1, [.var 0, .var 1]⟩], body := [.clause 0 [.var 0, .var 1] []] }]
def inp0 : DB := fun f => f = ⟨0, [.int 1, .int 2]⟩ ∨ f = ⟨0, [.int 2, .int 3]⟩
def noAgg : RelId → List Tuple := fun _ => []
abbrev M0 : DB := Derivable I0 (rules0 ++ eqRules2 Ex.var 1) noAgg inp0

theorem inserted_iff (a b : Val) : Inserted2 I0 rules0 noAgg inp0 M0 1 a b ↔ inp0 ⟨0, [a, b]⟩ :=
  C12.copy_inserted (varE := Ex.var) (C12.varExpr_std _) (by decide) (by decide) (by rintro _ (rfl | rfl) <;> rfl) a b

theorem derives_3_1 : M0 ⟨1, [.int 3, .int 1]⟩ := by
  refine (eqrel_twin_binary I0 Ex.var (C12.varExpr_std _) rules0 noAgg inp0 1 _ _).2 ?_
  exact ((EqClosure.base ((inserted_iff _ _).2 (.inl rfl))).trans (.base ((inserted_iff _ _).2 (.inr rfl)))).symm

theorem not_derives_4 (x : Val) : ¬ M0 ⟨1, [x, .int 4]⟩ := by
  intro h
  have hm := EqClosure.mentioned_right ((eqrel_twin_binary I0 Ex.var (C12.varExpr_std _) rules0 noAgg inp0 1 _ _).1 h)
  obtain ⟨y, h | h⟩ := hm
  · rcases (inserted_iff _ _).1 h with h | h <;> simp at h
  · rcases (inserted_iff _ _).1 h with h | h <;> simp at h

end Example

end AscentVerif.C10

/-! # Part (b): the binary provider meets its contract -/
namespace AscentVerif.EqRelM

/-- `EqRel::add`: total on well-formed values, keeps the invariant, denotes the closure of the old relation plus
the pair, and its flag is `false` iff the pair was already related -/
theorem eqrel_add_spec {e : EqRel} (hw : WF e) (x y : Int) :
    ∃ e' b, e.add x y = .ok (e', b) ∧ WF e' ∧
      (∀ a c, rel e' a c ↔ EqClosure (fun p q => rel e p q ∨ (p = x ∧ q = y)) a c) ∧ (b = false ↔ rel e x y) := by
  obtain ⟨e', b, he, hk, hb⟩ := add_spec hw x y
  exact ⟨e', b, he, hk.wf, hk.rel_closure, hb⟩

theorem eqrel_combine_spec {e o : EqRel} (hw : WF e) (ho : WF o) :
    ∃ e', e.combine o = .ok e' ∧ WF e' ∧ ∀ a c, rel e' a c ↔ EqClosure (fun p q => rel e p q ∨ rel o p q) a c :=
  combine_spec hw ho

theorem eqrel_contains_spec {e : EqRel} (hw : WF e) (x y : Int) : ∃ b, e.contains x y = .ok b ∧ (b = true ↔ rel e x y) :=
  contains_spec hw x y

theorem eqrel_iter_all_spec {e : EqRel} (hw : WF e) (a c : Int) : (a, c) ∈ e.iterAll ↔ rel e a c := iterAll_spec hw a c

theorem eqrel_denotes_per (e : EqRel) : EqClosure.IsPER (rel e) := rel_isPER e
theorem eqrel_wf_empty : WF {} ∧ ∀ x y, ¬ rel {} x y := ⟨wf_empty, rel_empty⟩

theorem provider_init : Inv {} Empty Empty Empty := by
  have hrel : ∀ a b, rel {} a b ↔ Empty a b := fun a b => iff_of_false (rel_empty a b) id
  exact ⟨wf_empty, rfl, wf_empty, rfl, wf_empty, rfl, hrel, hrel,
    fun a b => iff_of_false (rel_empty a b) EqClosure.empty, fun _ _ h => h⟩

/-- `insert_if_not_present` on `new` -/
theorem provider_ins_contract {t : Triple} {T D N : Int → Int → Prop} (h : Inv t T D N) (x y : Int) :
    ∃ t' b, t.ins x y = .ok (t', b) ∧ Inv t' T D (fun p q => N p q ∨ (p = x ∧ q = y)) ∧ (b = true ↔ ¬ EqClosure N x y) := by
  obtain ⟨e', b, he, hk, hb⟩ := add_spec h.wf_new x y
  refine ⟨{ t with new := { t.new with combined := e' } }, b, ?_, ?_, ?_⟩
  · simp only [Triple.ins, IndCommon.insertIfNotPresent, he]
  · refine ⟨hk.wf, h.new_old, h.wf_delta, h.delta_old, h.wf_total, h.total_old, h.relT, h.relD, fun a c => ?_, h.sub⟩
    exact (hk.rel_closure a c).trans ((EqClosure.congr fun p q => or_congr_left (h.relN p q)).trans
      EqClosure.union_closed_left)
  · rw [← h.relN, ← hb]
    cases b <;> simp

/-- `merge_delta_to_total_new_to_delta` -/
theorem provider_merge_contract {t : Triple} {T D N : Int → Int → Prop} (h : Inv t T D N) :
    ∃ t', t.merge = .ok t' ∧ Inv t' D (EqClosure fun p q => D p q ∨ N p q) Empty := by
  obtain ⟨c, hc, hwc, hrel⟩ := combine_spec h.wf_delta h.wf_new
  refine ⟨{ new := { t.new with combined := {} }, delta := { old := t.delta.combined, combined := c },
            total := { t.total with combined := t.delta.combined } }, by simp only [Triple.merge, hc], ?_⟩
  refine ⟨wf_empty, h.new_old, hwc, rfl, h.wf_delta, h.total_old, h.relD, fun a b => ?_,
    fun a b => iff_of_false (rel_empty a b) EqClosure.empty, fun a b hd => .base (.inl hd)⟩
  exact (hrel a b).trans ((EqClosure.congr fun p q => or_congr (h.relD p q) (h.relN p q)).trans
    EqClosure.union_closed_right)

def Spec.init : Spec := ⟨Empty, Empty, Empty⟩

theorem run_contract_from : ∀ (ops : List Op) {t : Triple} {s : Spec}, Inv t s.T s.D s.N →
    ∃ t', runOps ops t = .ok t' ∧ Inv t' (s.run ops).T (s.run ops).D (s.run ops).N := by
  intro ops
  induction ops with
  | nil => intro t s h; exact ⟨t, rfl, h⟩
  | cons op rest ih =>
    intro t s h
    cases op with
    | ins x y =>
      obtain ⟨t', b, he, hinv, _⟩ := provider_ins_contract h x y
      obtain ⟨t'', he', hinv'⟩ := ih (s := s.step (.ins x y)) hinv
      exact ⟨t'', by simp only [runOps, he]; exact he', hinv'⟩
    | merge =>
      obtain ⟨t', he, hinv⟩ := provider_merge_contract h
      obtain ⟨t'', he', hinv'⟩ := ih (s := s.step .merge) hinv
      exact ⟨t'', by simp only [runOps, he]; exact he', hinv'⟩

/-- **the contract, by induction over op sequences**: every history of inserts and merges runs without panic and
leaves the triple in the state the contract prescribes -/
theorem provider_run_contract (ops : List Op) :
    ∃ t, runOps ops {} = .ok t ∧ Inv t (Spec.init.run ops).T (Spec.init.run ops).D (Spec.init.run ops).N :=
  run_contract_from ops (s := Spec.init) provider_init

/-- total holds `T`; delta holds `D \ T` -/
theorem provider_total_content {t : Triple} {T D N : Int → Int → Prop} (h : Inv t T D N) (a b : Int) :
    Content t.total a b ↔ T a b :=
  h.total.content a b

theorem provider_delta_content {t : Triple} {T D N : Int → Int → Prop} (h : Inv t T D N) (a b : Int) :
    Content t.delta a b ↔ D a b ∧ ¬ T a b :=
  h.delta.content a b

/-- `contains_key` (= `index_get` of the full index) of delta and of total -/
theorem provider_contains_key {t : Triple} {T D N : Int → Int → Prop} (h : Inv t T D N) (x y : Int) :
    (∃ b, t.delta.containsKey x y = .ok b ∧ (b = true ↔ D x y ∧ ¬ T x y)) ∧
    (∃ b, t.total.containsKey x y = .ok b ∧ (b = true ↔ T x y)) :=
  ⟨containsKey_spec h.delta x y, containsKey_spec h.total x y⟩

/-- the head-update guard of generated code (`!total.contains_key && !delta.contains_key`) rejects exactly the
tuples of total ∪ delta -/
theorem provider_head_guard {t : Triple} {T D N : Int → Int → Prop} (h : Inv t T D N) (x y : Int) :
    ∃ bt bd, t.total.containsKey x y = .ok bt ∧ t.delta.containsKey x y = .ok bd ∧ ((bt || bd) = true ↔ D x y) := by
  obtain ⟨⟨bd, hbd, hd⟩, ⟨bt, hbt, ht⟩⟩ := provider_contains_key h x y
  refine ⟨bt, bd, hbt, hbd, ?_⟩
  rw [Bool.or_eq_true, ht, hd]
  constructor
  · rintro (h' | h')
    · exact h.sub _ _ h'
    · exact h'.1
  · intro hD
    by_cases hT : T x y
    · exact .inl hT
    · exact .inr ⟨hD, hT⟩

/-- `iter_all` of the full index and `index_get(())` / `iter_all` of the no-column view: exactly the content -/
theorem provider_iter_all_added {t : Triple} {T D N : Int → Int → Prop} (h : Inv t T D N) :
    (∃ l, t.delta.iterAllAdded = .ok l ∧ ∀ a b, (a, b) ∈ l ↔ D a b ∧ ¬ T a b) ∧
    (∃ l, t.total.iterAllAdded = .ok l ∧ ∀ a b, (a, b) ∈ l ↔ T a b) :=
  ⟨iterAllAdded_spec h.delta, iterAllAdded_spec h.total⟩

/-- `index_get` of view [0] on delta: `None` for an unknown element, else exactly the row of the content -/
theorem provider_index_get_0 {t : Triple} {T D N : Int → Int → Prop} (h : Inv t T D N) (x : Int) :
    (Triple.delta t).setOfAdded x = .ok none ∨
    ∃ l, (Triple.delta t).setOfAdded x = .ok (some l) ∧ ∀ y, y ∈ l ↔ D x y ∧ ¬ T x y := by
  obtain ⟨h1, h2⟩ := setOfAdded_spec h.delta x
  cases hx : TrRel.alGet t.delta.combined.elemIds x with
  | none => exact .inl (h1 hx)
  | some i => exact .inr (h2 (by rw [hx]; simp))

/-- **where the code over-approximates**: `iter_all` of view [0] ignores `old`: on delta it yields total ∪ delta
(`D`), on total exactly total -/
theorem provider_iter_all_0_overapprox {t : Triple} {T D N : Int → Int → Prop} (h : Inv t T D N) (x y : Int) :
    ((∃ s, (x, s) ∈ t.delta.ind0IterAll ∧ y ∈ s) ↔ D x y) ∧ ((∃ s, (x, s) ∈ t.total.ind0IterAll ∧ y ∈ s) ↔ T x y) :=
  ⟨(ind0IterAll_spec h.wf_delta x y).trans (h.relD x y), (ind0IterAll_spec h.wf_total x y).trans (h.relT x y)⟩

/-- one step of the contract adds the inserted pair, if any, to the closure of total ∪ delta ∪ new -/
theorem spec_step_all (s : Spec) (op : Op) (a b : Int) :
    EqClosure (fun p q => (s.step op).D p q ∨ (s.step op).N p q) a b ↔
      EqClosure (fun p q => EqClosure (fun p q => s.D p q ∨ s.N p q) p q ∨ Op.ins p q = op) a b := by
  rw [EqClosure.union_closed_left]
  cases op with
  | ins x y => exact EqClosure.congr fun p q => by rw [Op.ins.injEq, or_assoc]; rfl
  | merge =>
    refine EqClosure.union_closed_left.trans (EqClosure.congr fun p q => or_congr_right ?_)
    exact iff_of_false id nofun

theorem spec_all_inserted_from : ∀ (ops : List Op) (s : Spec) (a b : Int),
    EqClosure (fun p q => (s.run ops).D p q ∨ (s.run ops).N p q) a b ↔
      EqClosure (fun p q => EqClosure (fun p q => s.D p q ∨ s.N p q) p q ∨ Op.ins p q ∈ ops) a b := by
  intro ops
  induction ops with
  | nil =>
    intro s a b
    exact ((EqClosure.congr fun p q => or_iff_left List.not_mem_nil).trans EqClosure.idem).symm
  | cons op rest ih =>
    intro s a b
    refine (ih (s.step op) a b).trans ?_
    rw [EqClosure.congr fun p q => or_congr_left (spec_step_all s op p q), EqClosure.union_closed_left]
    exact EqClosure.congr fun p q => by rw [List.mem_cons, or_assoc]

/-- after any history, the closure of total ∪ delta ∪ new is the closure of everything inserted -/
theorem provider_all_inserted (ops : List Op) (a b : Int) :
    EqClosure (fun p q => (Spec.init.run ops).D p q ∨ (Spec.init.run ops).N p q) a b ↔
      EqClosure (fun p q => Op.ins p q ∈ ops) a b :=
  (spec_all_inserted_from ops Spec.init a b).trans
    (EqClosure.congr fun _ _ => or_iff_right fun h => EqClosure.empty (EqClosure.mono (fun _ _ => Or.rec id id) h))

/-- after a merge, total ∪ delta is exactly the closure of everything inserted so far -/
theorem provider_after_merge (ops : List Op) (a b : Int) :
    (Spec.init.run (ops ++ [.merge])).D a b ↔ EqClosure (fun p q => Op.ins p q ∈ ops) a b := by
  have : Spec.init.run (ops ++ [.merge]) = (Spec.init.run ops).step .merge := by
    simp [Spec.run, List.foldl_append]
  rw [this]
  exact provider_all_inserted ops a b

/-! ## non-vacuity: a concrete history through the executable model -/

/-- `ins (1,2); merge; ins (2,3); merge`: total = {1,2}², delta = {1,2,3}² \ {1,2}² -/
def demoOps : List Op := [.ins 1 2, .merge, .ins 2 3, .merge]

def demoTriple : Triple :=
  match runOps demoOps {} with
  | .ok t => t
  | .panic => {}

example : runOps demoOps {} = .ok demoTriple := by decide
example : demoTriple.delta.containsKey 1 3 = .ok true := by decide
example : demoTriple.delta.containsKey 1 2 = .ok false := by decide
example : demoTriple.total.containsKey 1 2 = .ok true := by decide
example : demoTriple.total.containsKey 1 3 = .ok false := by decide
example : demoTriple.delta.containsKey 4 4 = .ok false := by decide
-- a second insert of the same pair changes nothing and reports `false`
example : (Triple.ins {} 5 5).bind (fun r => r.1.ins 5 5) = (Triple.ins {} 5 5).bind (fun r => .ok (r.1, false)) := by decide

end AscentVerif.EqRelM

/-! ## axiom audit (only `propext`, `Classical.choice`, `Quot.sound` may appear) -/
#print axioms AscentVerif.C10.eqrel_twin_binary
#print axioms AscentVerif.C10.eqrel_twin_ternary
#print axioms AscentVerif.C10.eqrel_twin_binary_least
#print axioms AscentVerif.C10.eqrel_twin_binary_refl
#print axioms AscentVerif.C10.Example.derives_3_1
#print axioms AscentVerif.C10.Example.not_derives_4
#print axioms AscentVerif.EqRelM.eqrel_add_spec
#print axioms AscentVerif.EqRelM.eqrel_combine_spec
#print axioms AscentVerif.EqRelM.eqrel_contains_spec
#print axioms AscentVerif.EqRelM.eqrel_iter_all_spec
#print axioms AscentVerif.EqRelM.provider_init
#print axioms AscentVerif.EqRelM.provider_ins_contract
#print axioms AscentVerif.EqRelM.provider_merge_contract
#print axioms AscentVerif.EqRelM.provider_run_contract
#print axioms AscentVerif.EqRelM.provider_contains_key
#print axioms AscentVerif.EqRelM.provider_head_guard
#print axioms AscentVerif.EqRelM.provider_iter_all_added
#print axioms AscentVerif.EqRelM.provider_index_get_0
#print axioms AscentVerif.EqRelM.provider_iter_all_0_overapprox
#print axioms AscentVerif.EqRelM.provider_all_inserted
#print axioms AscentVerif.EqRelM.provider_after_merge
