import AscentVerif.Props.C04PhysPlan
import AscentVerif.Props.C13Phys
import AscentVerif.Props.C13Agg
import AscentVerif.Proofs.NDAggRestart
import AscentVerif.Proofs.PhysAggTimeout
/-!
# C13 / C14 at the level of the physical indices, for stratified programs with aggregation / negation

`Props/C13Phys.lean` proves the re-run and `run_timeout` theorems for the generated code over its physical indices for
aggregation-free programs; `Props/C13Agg.lean` proves them for the abstract deterministic engine on stratified programs with aggregation.
This file proves them for the PHYSICAL engine (`Model/EnginePhys.lean`, `Model/EnginePhysTimeout.lean`) on stratified programs with
aggregation / negation.  As in `Props/C13Agg.lean` the statements are relative to a completed reference run `oM` from the original value
(the stratified model): with aggregation a fact derived from an incomplete relation could be wrong, so soundness of an interrupted run
means "only facts of the reference result".
-/
namespace AscentVerif.Phys
open AscentVerif AscentVerif.Engine AscentVerif.Index

variable {E B G P A : Type}

/-- the standing hypotheses on interpretation and program (stratified programs with aggregation) -/
structure CtxA (I : Interp E B G P A) (V : Hir.VarsOf E B) (p : Program E B G P A) (order : SccOrder) : Prop where
  ext : Plan.Ext I
  supp : Plan.Supp I V
  perm : AggPermInvariant I
  rel : RelationalAgg p
  valid : validOrder p order = true
  strat : Stratified p order
  arity : arityOk p = true
  aggArity : aggArityOk p = true
  rules : ∀ r ∈ p.rules, Hir.Desugared V r = true ∧ Plan.WellScoped V r = true

/-- `t` extends `s`: every row vector of `s` is a prefix of the one of `t`, the rows added are pairwise distinct and not among
the rows of `s` (what `run` / `run_timeout` do to a value).  `PExt` of `Proofs/PhysAggTimeout.lean`, in whose terms `Exec.restart`
and its companions are stated, unfolds to the same proposition. -/
def ExtendsP (p : Program E B G P A) (s t : PSt) : Prop :=
  ∀ r, r < p.rels.length → ∃ extra : List Tuple,
    (prel t r).rows = (prel s r).rows ++ extra ∧ extra.Nodup ∧ ∀ x ∈ extra, x ∉ (prel s r).rows

section
variable {I : Interp E B G P A} {V : Hir.VarsOf E B} {p : Program E B G P A} {order : SccOrder} (c : CtxA I V p order)
  {s : PSt} (hs : WFPSt p s)
include c hs

/-- a returned `run()` with the compiler's own index sets is an execution of the nondeterministic engine -/
theorem CtxA.exec {fuel : Nat} {o : ProgSt} (h : run I V p (ixSetsOfA V p) order fuel s = some o) :
    Exec I p (ixSetsOfA V p) order s o.st :=
  run_is_RunND_agg I c.ext V c.supp c.perm p _ order s fuel o c.rel c.strat (planOk_ixSetsOfA V p c.arity)
    (aggPlanOk_ixSetsOfA V p c.aggArity) c.rules hs h

/-- so is a `run_timeout` that returned `true` -/
theorem CtxA.execT {dl : Deadline} {fuel : Nat} {o : ProgStT}
    (h : runTimeout I V p (ixSetsOfA V p) order dl fuel s = .done o) : Exec I p (ixSetsOfA V p) order s o.st :=
  runTimeout_doneA I c.ext V c.supp c.perm p _ order dl s fuel o c.rel c.strat (planOk_ixSetsOfA V p c.arity)
    (aggPlanOk_ixSetsOfA V p c.aggArity) c.rules hs h

/-- a `run_timeout` that returned `false` is a prefix of one -/
theorem CtxA.preExec {dl : Deadline} {fuel : Nat} {o : ProgStT}
    (h : runTimeout I V p (ixSetsOfA V p) order dl fuel s = .timedOut o) : PreExec I p order s o.st :=
  runTimeout_timedOutA I c.ext V c.supp p _ order dl s fuel o c.rel c.strat
    (ruleFitA_of_planOk V p _ (planOk_ixSetsOfA V p c.arity) (aggPlanOk_ixSetsOfA V p c.aggArity) c.rules)
    (fun _ _ ag _ => c.perm ag.fn) hs h

end

/-- **stratified restart over the physical indices**: `oM` is a completed reference run from `s`; `t` extends
`s` and holds only facts of the reference result.  Then any completed run from `t` ends with exactly the facts of the reference result. -/
theorem restart_phys_agg (I : Interp E B G P A) (V : Hir.VarsOf E B) (p : Program E B G P A) (order : SccOrder)
    (c : CtxA I V p order) (s t : PSt) (fuelM fuel : Nat) (oM o : ProgSt)
    (hs : WFPSt p s) (ht : WFPSt p t)
    (hM : run I V p (ixSetsOfA V p) order fuelM s = some oM)
    (hext : ExtendsP p s t) (hsound : ∀ f, factsOf t f → factsOf oM.st f)
    (hrun : run I V p (ixSetsOfA V p) order fuel t = some o) :
    ∀ f, factsOf o.st f ↔ factsOf oM.st f :=
  Exec.restart c.rel c.valid c.strat c.perm (c.exec hs hM) (c.exec ht hrun) hs ht hext hsound

/-- **run() is idempotent over the physical indices, aggregation and negation included**: a second `run()` on the unmodified value
appends nothing -/
theorem rerun_idempotent_phys_agg (I : Interp E B G P A) (V : Hir.VarsOf E B) (p : Program E B G P A) (order : SccOrder)
    (c : CtxA I V p order) (s : PSt) (fuel₁ fuel₂ : Nat) (o₁ o₂ : ProgSt)
    (hs : WFPSt p s)
    (h₁ : run I V p (ixSetsOfA V p) order fuel₁ s = some o₁)
    (h₂ : run I V p (ixSetsOfA V p) order fuel₂ o₁.st = some o₂) :
    (∀ r, r < p.rels.length → (prel o₂.st r).rows = (prel o₁.st r).rows) ∧ (∀ f, factsOf o₂.st f ↔ factsOf o₁.st f) :=
  Exec.rerun c.rel c.valid c.strat c.perm (c.exec hs h₁) (c.exec (Exec.wf_extends c.rel c.valid c.strat (c.exec hs h₁) hs).1 h₂) hs

/-- **run_timeout returned `false`** (at whatever point the deadline struck, from any value between the inputs and the stratified
model): the value left behind is well-formed, extends the original value and holds only facts of the reference result -/
theorem timeout_false_sound_phys_agg (I : Interp E B G P A) (V : Hir.VarsOf E B) (p : Program E B G P A) (order : SccOrder)
    (c : CtxA I V p order) (dl : Deadline) (s t : PSt) (fuelM fuel : Nat) (oM : ProgSt) (o : ProgStT)
    (hs : WFPSt p s) (ht : WFPSt p t)
    (hM : run I V p (ixSetsOfA V p) order fuelM s = some oM)
    (hext : ExtendsP p s t) (hsound : ∀ f, factsOf t f → factsOf oM.st f)
    (hrun : runTimeout I V p (ixSetsOfA V p) order dl fuel t = .timedOut o) :
    WFPSt p o.st ∧ ExtendsP p s o.st ∧ (∀ f, factsOf o.st f → factsOf oM.st f) :=
  Exec.timeout_false c.rel c.valid c.strat c.perm (c.exec hs hM) (c.preExec ht hrun) hs ht hext hsound

/-- **run_timeout returned `true`**: the value holds exactly the facts of the reference result -/
theorem timeout_true_complete_phys_agg (I : Interp E B G P A) (V : Hir.VarsOf E B) (p : Program E B G P A) (order : SccOrder)
    (c : CtxA I V p order) (dl : Deadline) (s t : PSt) (fuelM fuel : Nat) (oM : ProgSt) (o : ProgStT)
    (hs : WFPSt p s) (ht : WFPSt p t)
    (hM : run I V p (ixSetsOfA V p) order fuelM s = some oM)
    (hext : ExtendsP p s t) (hsound : ∀ f, factsOf t f → factsOf oM.st f)
    (hrun : runTimeout I V p (ixSetsOfA V p) order dl fuel t = .done o) :
    ∀ f, factsOf o.st f ↔ factsOf oM.st f :=
  Exec.restart c.rel c.valid c.strat c.perm (c.exec hs hM) (c.execT ht hrun) hs ht hext hsound

/-- a history of interrupted `run_timeout` calls -/
inductive InterruptedPA (I : Interp E B G P A) (V : Hir.VarsOf E B) (p : Program E B G P A) (order : SccOrder) : PSt → PSt → Prop where
  | refl (s : PSt) : InterruptedPA I V p order s s
  | step {s s₁ s₂ : PSt} (dl : Deadline) (fuel : Nat) (o : ProgStT) :
      InterruptedPA I V p order s s₁ → runTimeout I V p (ixSetsOfA V p) order dl fuel s₁ = .timedOut o → s₂ = o.st →
      InterruptedPA I V p order s s₂

/-- **resumption completes to exactly the uninterrupted result**: after ANY number of interrupted calls at any points, a `run()` that
completes leaves exactly the facts of an uninterrupted `run()` from the original value -/
theorem resume_complete_phys_agg (I : Interp E B G P A) (V : Hir.VarsOf E B) (p : Program E B G P A) (order : SccOrder)
    (c : CtxA I V p order) (s s' : PSt) (fuelM fuel : Nat) (oM o : ProgSt)
    (hs : WFPSt p s)
    (hM : run I V p (ixSetsOfA V p) order fuelM s = some oM)
    (hi : InterruptedPA I V p order s s')
    (h : run I V p (ixSetsOfA V p) order fuel s' = some o) :
    ∀ f, factsOf o.st f ↔ factsOf oM.st f := by
  have hbetween : ∀ u, InterruptedPA I V p order s u →
      WFPSt p u ∧ ExtendsP p s u ∧ (∀ f, factsOf u f → factsOf oM.st f) := by
    intro u hu
    induction hu with
    | refl =>
      exact ⟨hs, PExt.refl p s, (Exec.wf_extends c.rel c.valid c.strat (c.exec hs hM) hs).2.facts hs⟩
    | @step s₁ s₂ dl fuel' o' _ hrun hu ih =>
      obtain ⟨hw, hext, hsound⟩ := ih
      subst hu
      exact timeout_false_sound_phys_agg I V p order c dl s s₁ fuelM fuel' oM o' hs hw hM hext hsound hrun
  obtain ⟨hw, hext, hsound⟩ := hbetween s' hi
  exact restart_phys_agg I V p order c s s' fuelM fuel oM o hs hw hM hext hsound h

/-! ## non-vacuity: the program of `Props/C04Phys.lean` (reachability, its complement by negation, out-degrees by `count`),
interrupted at the first and at the second reading of the clock and resumed -/

theorem negA_ctx : CtxA exA Plan.exV pNeg [[0], [1], [2]] :=
  { ext := exA_ext, supp := exA_supp, perm := exA_perm, rel := neg_hyps.1, valid := neg_hyps.2.1, strat := neg_hyps.2.2.1,
    arity := by decide, aggArity := by decide, rules := neg_hyps.2.2.2.2.2.1 }

def outcomeRowsA : Outcome ProgStT → Option (Bool × List (List Tuple))
  | .done o => some (true, o.st.map (·.rows))
  | .timedOut o => some (false, o.st.map (·.rows))
  | .outOfFuel => none

/-- interrupted at the first reading (inside the recursive stratum, before the pass that finds nothing new: nothing downstream
derived) and at the second (after the negation stratum: `outdeg` still empty); a `run()` from the first value ends with the rows
of the uninterrupted run -/
theorem negA_interrupted :
    outcomeRowsA (runTimeout exA Plan.exV pNeg (ixSetsOfA Plan.exV pNeg) [[0], [1], [2]] (fun k => k == 0) 10 sNeg) =
      some (false, [[[.int 1], [.int 2], [.int 3]], [[.int 1, .int 2]], [[.int 1], [.int 2]], [], []]) ∧
    outcomeRowsA (runTimeout exA Plan.exV pNeg (ixSetsOfA Plan.exV pNeg) [[0], [1], [2]] (fun k => k == 1) 10 sNeg) =
      some (false, [[[.int 1], [.int 2], [.int 3]], [[.int 1, .int 2]], [[.int 1], [.int 2]], [[.int 3]], []]) ∧
    (match runTimeout exA Plan.exV pNeg (ixSetsOfA Plan.exV pNeg) [[0], [1], [2]] (fun k => k == 0) 10 sNeg with
      | .timedOut o => (run exA Plan.exV pNeg (ixSetsOfA Plan.exV pNeg) [[0], [1], [2]] 10 o.st).map (fun o' => o'.st.map (·.rows))
      | _ => none) =
      some [[[.int 1], [.int 2], [.int 3]], [[.int 1, .int 2]], [[.int 1], [.int 2]], [[.int 3]],
            [[.int 1, .int 1], [.int 2, .int 0], [.int 3, .int 0]]] := by
  decide_conj

#print axioms restart_phys_agg
#print axioms rerun_idempotent_phys_agg
#print axioms timeout_false_sound_phys_agg
#print axioms timeout_true_complete_phys_agg
#print axioms resume_complete_phys_agg

end AscentVerif.Phys
