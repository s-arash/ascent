import AscentVerif.Model.Desugar
import AscentVerif.Model.StdOps
import AscentVerif.Proofs.C08Base
/-!
# C08 — in-program macros expand hygienically

`expandBody` / `expandHeads` / `expandRule` (Model/Desugar.lean) model `rule_expand_macro_invocations`; "the span of this
identifier lies in the macro definition" is the name `tagVar j x` while invocation `j` is in flight.  The IDEAL expansion
`idealBody` is the documented one: parameters substituted, every other variable `x` of the body becomes `tagVar j x` for good —
a name of invocation `j` alone (`tagVar_inj`) and no call-site name (`tagVar_ge`) — and there is no renaming pass to get wrong.
`expand_hygienic`: in body position the implemented expansion IS the ideal one up to an injective renaming that fixes the
call-site variables (`hyg_body`: from any start state, i.e. nested; hence the same documented meaning: Props/C08Sem.lean).
`recursive_rejected` (`_msg`, `_heads`): a macro that reaches itself is an error at every depth budget (expanding it invokes another
such macro with a smaller budget: `Cyclic.step`), and the budget is only a cut-off (`expandBody_mono`).  `F25`, `FM8`: the programs
of two fixed findings, evaluated.  `CE`: why `expand_hygienic` needs `hagg` and `hpar`, and `ideal_vars` needs `hbind`.

Not claimed: anything about head position beyond the rejection of recursion (`expandHeadsWith` renames nothing, as
`head_item_expand_macros`); macro definitions with an aggregation, or with a local variable that no item of the body itself binds
(`HygienicDefs`).  The token-level findings F26 (an `expr` argument pasted as raw tokens) and F27 are outside the model.
-/
namespace AscentVerif.Surface
open AscentVerif

variable {E B G P A : Type}

theorem tagVar_ge (j x : Nat) : reservedBase ≤ tagVar j x := gs_ge 4 (j * reservedBase + x)

def tagNum (v : Var) : Nat := (v - reservedBase) / 8 / reservedBase

theorem untag?_eq_some_iff {j v x : Nat} : untag? j v = some x ↔ v = tagVar j x ∧ x < reservedBase := by
  show (if v ≥ 1000 ∧ (v - 1000) % 8 = 4 ∧ (v - 1000) / 8 / 1000 = j then some ((v - 1000) / 8 % 1000) else none) = some x ↔
    v = 1000 + 8 * (j * 1000 + x) + 4 ∧ x < 1000
  -- `j` and `x` are the digits of `(v - 1000) / 8` in base 1000, and `4` is the last digit of `v - 1000` in base 8
  constructor
  · intro h
    split at h
    · next hc =>
      obtain ⟨hv, h4, hj⟩ := hc
      have h1 := (Nat.div_mod_unique (by decide : 0 < 1000)).1 ⟨hj, Option.some.inj h⟩
      have h2 := (Nat.div_mod_unique (by decide : 0 < 8)).1 ⟨rfl, h4⟩
      refine ⟨?_, h1.2⟩
      rw [Nat.mul_comm j, Nat.add_comm _ x, h1.1, Nat.add_assoc, Nat.add_comm _ 4, h2.1, Nat.add_sub_cancel' hv]
    · cases h
  · rintro ⟨rfl, hx⟩
    have h2 := (Nat.div_mod_unique (a := 1000 + 8 * (j * 1000 + x) + 4 - 1000) (c := 4) (d := j * 1000 + x) (by decide : 0 < 8)).2
      ⟨by rw [Nat.add_assoc, Nat.add_sub_cancel_left, Nat.add_comm], by decide⟩
    have h1 := (Nat.div_mod_unique (a := j * 1000 + x) (c := x) (d := j) (by decide : 0 < 1000)).2 ⟨by rw [Nat.mul_comm, Nat.add_comm], hx⟩
    rw [h2.1, if_pos ⟨Nat.le_add_right_of_le (Nat.le_add_right _ _), h2.2, h1.1⟩, h1.2]

theorem untag?_tagVar (j x : Nat) (hx : x < reservedBase) : untag? j (tagVar j x) = some x :=
  untag?_eq_some_iff.2 ⟨rfl, hx⟩

theorem tagNum_of_untag? {j v x : Nat} (h : untag? j v = some x) : tagNum v = j := by
  unfold untag? at h
  split at h
  · rename_i hc; exact hc.2.2
  · cases h

theorem tagNum_tagVar (j x : Nat) (hx : x < reservedBase) : tagNum (tagVar j x) = j :=
  tagNum_of_untag? (untag?_tagVar j x hx)

/-- two invocations never share a macro-local name; one invocation keeps its locals apart -/
theorem tagVar_inj {j j' x x' : Nat} (hx : x < reservedBase) (hx' : x' < reservedBase) (h : tagVar j x = tagVar j' x') : j = j' ∧ x = x' := by
  have hj : j = j' := by rw [← tagNum_tagVar j x hx, h, tagNum_tagVar j' x' hx']
  subst hj
  exact ⟨rfl, Option.some.inj (by rw [← untag?_tagVar j x hx, h, untag?_tagVar j x' hx'])⟩

theorem gensyms_disjoint (k k' j x : Nat) :
    gsRep k ≠ gsWild k' ∧ gsRep k ≠ gsPat k' ∧ gsRep k ≠ gsMac k' ∧ gsWild k ≠ gsPat k' ∧ gsWild k ≠ gsMac k' ∧ gsPat k ≠ gsMac k' ∧
    gsRep k ≠ tagVar j x ∧ gsWild k ≠ tagVar j x ∧ gsPat k ≠ tagVar j x ∧ gsMac k ≠ tagVar j x :=
  -- the five families are `gs 0`, .., `gs 4` (Proofs/C08Base.lean): different residues modulo 8
  ⟨gs_ne (d := 0) (d' := 1) (by decide) k k', gs_ne (d := 0) (d' := 2) (by decide) k k', gs_ne (d := 0) (d' := 3) (by decide) k k',
   gs_ne (d := 1) (d' := 2) (by decide) k k', gs_ne (d := 1) (d' := 3) (by decide) k k', gs_ne (d := 2) (d' := 3) (by decide) k k',
   gs_ne (d := 0) (d' := 4) (by decide) k _, gs_ne (d := 1) (d' := 4) (by decide) k _, gs_ne (d := 2) (d' := 4) (by decide) k _,
   gs_ne (d := 3) (d' := 4) (by decide) k _⟩

/-- the items of one sequence at one depth, ideal: an invocation is replaced by its body with the parameters substituted and
every other variable `x` renamed to `tagVar j x` (`j` = the number of the invocation); nothing else happens -/
def idealItemsWith (ops : Ops E B G A) (defs : Defs E B G P A)
    (recur : Nat → SItems E B G P A (MInv E) → Except ExpandErr (SItems E B G P A (MInv E) × Nat)) :
    Nat → SItems E B G P A (MInv E) → Except ExpandErr (SItems E B G P A (MInv E) × Nat)
  | n, .nil => .ok (.nil, n)
  | n, .cons i rest =>
    let one : Except ExpandErr (SItems E B G P A (MInv E) × Nat) :=
      match i with
      | .flat f => .ok (.cons (.flat f) .nil, n)
      | .disj alts =>
        match expandAltsWith recur n alts with
        | .error e => .error e
        | .ok (alts', n1) => .ok (.cons (.disj alts') .nil, n1)
      | .mac inv =>
        match defs[inv.mac]? with
        | none => .error .undefinedMacro
        | some d => if !argsOk d.params inv.args then .error .badArgs else recur (n + 1) (instItems ops inv.args (tagVar n) d.body)
    match one with
    | .error e => .error e
    | .ok (is, n1) =>
      match idealItemsWith ops defs recur n1 rest with
      | .error e => .error e
      | .ok (rest', n2) => .ok (is.append rest', n2)

def idealBody (ops : Ops E B G A) (defs : Defs E B G P A) :
    Nat → Nat → SItems E B G P A (MInv E) → Except ExpandErr (SItems E B G P A (MInv E) × Nat)
  | 0 => fun n items =>
    match items with
    | .nil => .ok (.nil, n)
    | .cons _ _ => .error .recursive
  | d + 1 => fun n items => idealItemsWith ops defs (idealBody ops defs d) n items

/-- the algebra of substitution the expansion relies on (no semantics involved) -/
structure OpsLaws (ops : Ops E B G A) : Prop where
  subE_var : ∀ θ v, ops.subE θ (ops.varE v) = θ v
  subE_comp : ∀ θ θ' e, ops.subE θ (ops.subE θ' e) = ops.subE (fun x => ops.subE θ (θ' x)) e
  subB_comp : ∀ θ θ' b, ops.subB θ (ops.subB θ' b) = ops.subB (fun x => ops.subE θ (θ' x)) b
  subG_comp : ∀ θ θ' g, ops.subG θ (ops.subG θ' g) = ops.subG (fun x => ops.subE θ (θ' x)) g
  subE_id : ∀ e, ops.subE ops.varE e = e
  subB_id : ∀ b, ops.subB ops.varE b = b
  subG_id : ∀ g, ops.subG ops.varE g = g
  subE_congr : ∀ θ θ' e, (∀ v ∈ ops.varsE e, θ v = θ' v) → ops.subE θ e = ops.subE θ' e

def varsCond (ops : Ops E B G A) (varsB : B → List Var) : Cond E B P → List Var
  | .ifc b => varsB b
  | .letc v e => v :: ops.varsE e
  | .ifLet _ vs e => vs ++ ops.varsE e

def varsFItem (ops : Ops E B G A) (varsB : B → List Var) (varsG : G → List Var) : FItem E B G P A → List Var
  | .clause _ as conds => (as.flatMap fun
      | .var v => [v]
      | .expr e => ops.varsE e
      | .wild => []
      | .pat _ vs => vs) ++ conds.flatMap (varsCond ops varsB)
  | .cond c => varsCond ops varsB c
  | .gen v g => v :: varsG g
  | .agg a => a.outs ++ a.boundArgs ++ a.args.flatMap fun
      | .wild => []
      | .bound v => [v]
      | .key e => ops.varsE e
  | .neg _ as => as.flatMap fun
      | .wild => []
      | .expr e => ops.varsE e

def varsMInv (ops : Ops E B G A) (inv : MInv E) : List Var :=
  inv.args.flatMap fun
    | .ident v => [v]
    | .expr e => ops.varsE e

mutual
def varsItem (ops : Ops E B G A) (varsB : B → List Var) (varsG : G → List Var) : SItem E B G P A (MInv E) → List Var
  | .flat f => varsFItem ops varsB varsG f
  | .disj alts => varsAlts ops varsB varsG alts
  | .mac m => varsMInv ops m
def varsItems (ops : Ops E B G A) (varsB : B → List Var) (varsG : G → List Var) : SItems E B G P A (MInv E) → List Var
  | .nil => []
  | .cons i rest => varsItem ops varsB varsG i ++ varsItems ops varsB varsG rest
def varsAlts (ops : Ops E B G A) (varsB : B → List Var) (varsG : G → List Var) : SAlts E B G P A (MInv E) → List Var
  | .nil => []
  | .cons a rest => varsItems ops varsB varsG a ++ varsAlts ops varsB varsG rest
end

mutual
def noAggItem : SItem E B G P A (MInv E) → Bool
  | .flat (.agg _) => false
  | .flat _ => true
  | .disj alts => noAggAlts alts
  | .mac _ => true
def noAggItems : SItems E B G P A (MInv E) → Bool
  | .nil => true
  | .cons i rest => noAggItem i && noAggItems rest
def noAggAlts : SAlts E B G P A (MInv E) → Bool
  | .nil => true
  | .cons a rest => noAggItems a && noAggAlts rest
end

/-- an aggregation lists the variables it marks as bound in its relation arguments; otherwise `renFItem` turns the argument into
a `.key`, whatever the renaming (`CE.expand_hygienic_false_agg`) -/
def aggOkF : FItem E B G P A → Prop
  | .agg a => ∀ v, AggArg.bound v ∈ a.args → v ∈ a.boundArgs
  | _ => True

mutual
def aggOkItem : SItem E B G P A (MInv E) → Prop
  | .flat f => aggOkF f
  | .disj alts => aggOkAlts alts
  | .mac _ => True
def aggOkItems : SItems E B G P A (MInv E) → Prop
  | .nil => True
  | .cons i rest => aggOkItem i ∧ aggOkItems rest
def aggOkAlts : SAlts E B G P A (MInv E) → Prop
  | .nil => True
  | .cons a rest => aggOkItems a ∧ aggOkAlts rest
end

/-- macro definitions the hygiene theorem covers: no aggregation, every variable of the body is a parameter or a local below
`paramBase`, and every local is bound by the body itself (it occurs in a binding position: a clause column, a pattern, `let`,
`if let` — free-standing or attached to a clause —, `for`; an argument of a nested invocation is none) -/
def HygienicDefs (ops : Ops E B G A) (varsB : B → List Var) (varsG : G → List Var) (defs : Defs E B G P A) : Prop :=
  ∀ d ∈ defs, noAggItems d.body = true ∧
    (∀ v ∈ varsItems ops varsB varsG d.body, v < paramBase + d.params.length) ∧
    (∀ v ∈ varsItems ops varsB varsG d.body, v < paramBase → v ∈ boundVarsS d.body)

section
variable {ops : Ops E B G A} {varsB : B → List Var} {varsG : G → List Var} {defs : Defs E B G P A} {d : MacroDef E B G P A}
  (h : HygienicDefs ops varsB varsG defs) (hd : d ∈ defs)
include h hd

theorem HygienicDefs.noAgg : noAggItems d.body = true := (h d hd).1

theorem HygienicDefs.lt : ∀ v ∈ varsItems ops varsB varsG d.body, v < paramBase + d.params.length := (h d hd).2.1

theorem HygienicDefs.bound : ∀ v ∈ varsItems ops varsB varsG d.body, v < paramBase → v ∈ boundVarsS d.body := (h d hd).2.2

end

/-- what `ops.varsE` etc. have to satisfy for the free-variable bookkeeping of the theorem -/
structure VarsLaws (ops : Ops E B G A) (varsB : B → List Var) (varsG : G → List Var) : Prop where
  varsE_var : ∀ v, ops.varsE (ops.varE v) = [v]
  varsE_sub : ∀ θ e v, v ∈ ops.varsE (ops.subE θ e) ↔ ∃ w ∈ ops.varsE e, v ∈ ops.varsE (θ w)
  varsB_sub : ∀ θ b v, v ∈ varsB (ops.subB θ b) ↔ ∃ w ∈ varsB b, v ∈ ops.varsE (θ w)
  varsG_sub : ∀ θ g v, v ∈ varsG (ops.subG θ g) ↔ ∃ w ∈ varsG g, v ∈ ops.varsE (θ w)
  subB_congr : ∀ θ θ' b, (∀ v ∈ varsB b, θ v = θ' v) → ops.subB θ b = ops.subB θ' b
  subG_congr : ∀ θ θ' g, (∀ v ∈ varsG g, θ v = θ' v) → ops.subG θ g = ops.subG θ' g

namespace StdLaws
open AscentVerif.Std

theorem subEx_var (θ : Var → Ex) (v : Var) : subEx θ (.var v) = θ v := rfl

theorem subEx_comp (θ θ' : Var → Ex) (e : Ex) : subEx θ (subEx θ' e) = subEx (fun x => subEx θ (θ' x)) e := by
  induction e <;> simp_all [subEx]

theorem subBx_comp (θ θ' : Var → Ex) (b : Bx) : subBx θ (subBx θ' b) = subBx (fun x => subEx θ (θ' x)) b := by
  induction b <;> simp_all [subBx, subEx_comp]

theorem subEx_id (e : Ex) : subEx .var e = e := by
  induction e <;> simp_all [subEx]

theorem subBx_id (b : Bx) : subBx .var b = b := by
  induction b <;> simp_all [subBx, subEx_id]

theorem subEx_congr (θ θ' : Var → Ex) (e : Ex) (h : ∀ v ∈ varsEx e, θ v = θ' v) : subEx θ e = subEx θ' e := by
  induction e with
  | const c => rfl
  | var x => exact h x List.mem_cons_self
  | add a b iha ihb | sub a b iha ihb | mul a b iha ihb | min a b iha ihb | max a b iha ihb =>
    simp only [varsEx, List.mem_append] at h
    simp only [subEx, iha fun v hv => h v (.inl hv), ihb fun v hv => h v (.inr hv)]
  | some a iha | single a iha => simp only [subEx, iha h]

theorem subBx_congr (θ θ' : Var → Ex) (b : Bx) (h : ∀ v ∈ varsBx b, θ v = θ' v) : subBx θ b = subBx θ' b := by
  induction b with
  | tt => rfl
  | lt a b | le a b | eq a b | ne a b =>
    simp only [varsBx, List.mem_append] at h
    simp only [subBx, subEx_congr θ θ' a fun v hv => h v (.inl hv), subEx_congr θ θ' b fun v hv => h v (.inr hv)]
  | and a b iha ihb | or a b iha ihb =>
    simp only [varsBx, List.mem_append] at h
    simp only [subBx, iha fun v hv => h v (.inl hv), ihb fun v hv => h v (.inr hv)]
  | not a iha => simp only [subBx, iha h]

theorem varsEx_sub (θ : Var → Ex) (e : Ex) (v : Var) : v ∈ varsEx (subEx θ e) ↔ ∃ w ∈ varsEx e, v ∈ varsEx (θ w) := by
  induction e with
  | const _ | var _ => simp [subEx, varsEx]
  | add a b iha ihb | sub a b iha ihb | mul a b iha ihb | min a b iha ihb | max a b iha ihb =>
    simp only [subEx, varsEx, List.mem_append, or_and_right, exists_or, iha, ihb]
  | some a iha | single a iha => exact iha

theorem varsBx_sub (θ : Var → Ex) (b : Bx) (v : Var) : v ∈ varsBx (subBx θ b) ↔ ∃ w ∈ varsBx b, v ∈ varsEx (θ w) := by
  induction b with
  | tt => simp [subBx, varsBx]
  | lt a b | le a b | eq a b | ne a b =>
    simp only [subBx, varsBx, List.mem_append, or_and_right, exists_or, varsEx_sub]
  | and a b iha ihb | or a b iha ihb =>
    simp only [subBx, varsBx, List.mem_append, or_and_right, exists_or, iha, ihb]
  | not a iha => exact iha

end StdLaws

open StdLaws AscentVerif.Std in
/-- the hypotheses are met by the expression language of the executable ties -/
theorem stdOps_opsLaws : OpsLaws Std.stdOps where
  subE_var := subEx_var
  subE_comp := subEx_comp
  subB_comp := subBx_comp
  subG_comp := by
    intro θ θ' g
    cases g <;> simp [stdOps, subGx, subEx_comp]
  subE_id := subEx_id
  subB_id := subBx_id
  subG_id := by
    intro g
    cases g with
    | range lo hi => simp [stdOps, subGx, subEx_id]
    | list xs =>
      simp only [stdOps, subGx]
      congr 1
      induction xs <;> simp_all [subEx_id]
  subE_congr := subEx_congr

open StdLaws AscentVerif.Std in
theorem stdOps_varsLaws : VarsLaws Std.stdOps Std.varsBx Std.varsGx where
  varsE_var := fun _ => rfl
  varsE_sub := varsEx_sub
  varsB_sub := varsBx_sub
  varsG_sub := by
    intro θ g v
    cases g with
    | range lo hi => simp [stdOps, subGx, varsGx, varsEx_sub]; grind
    | list xs =>
      simp only [stdOps, subGx, varsGx, List.mem_flatMap, List.mem_map]
      constructor
      · rintro ⟨_, ⟨e, he, rfl⟩, hv⟩
        obtain ⟨w, hw, hv'⟩ := (varsEx_sub θ e v).1 hv
        exact ⟨w, ⟨e, he, hw⟩, hv'⟩
      · rintro ⟨w, ⟨e, he, hw⟩, hv⟩
        exact ⟨_, ⟨e, he, rfl⟩, (varsEx_sub θ e v).2 ⟨w, hw, hv⟩⟩
  subB_congr := subBx_congr
  subG_congr := by
    intro θ θ' g h
    cases g with
    | range lo hi =>
      simp only [stdOps, subGx, varsGx] at *
      rw [subEx_congr θ θ' lo (by grind), subEx_congr θ θ' hi (by grind)]
    | list xs =>
      simp only [stdOps, subGx, varsGx] at *
      congr 1
      apply List.map_congr_left
      intro e he
      apply subEx_congr
      intro v hv
      apply h
      simp only [List.mem_flatMap]
      exact ⟨e, he, hv⟩

/-! the anonymous functions in `varsFItem` and `varsMInv`, named -/

def varsSArg (ops : Ops E B G A) : SArg E P → List Var
  | .var v => [v]
  | .expr e => ops.varsE e
  | .wild => []
  | .pat _ vs => vs

def varsNArg (ops : Ops E B G A) : NArg E → List Var
  | .wild => []
  | .expr e => ops.varsE e

def varsAggArg (ops : Ops E B G A) : AggArg E → List Var
  | .wild => []
  | .bound v => [v]
  | .key e => ops.varsE e

def varsMArg (ops : Ops E B G A) : MArg E → List Var
  | .ident v => [v]
  | .expr e => ops.varsE e

theorem varsFItem_clause (ops : Ops E B G A) (varsB : B → List Var) (varsG : G → List Var) (r : RelId) (as : List (SArg E P)) (conds : List (Cond E B P)) :
    varsFItem ops varsB varsG (.clause r as conds : FItem E B G P A) = as.flatMap (varsSArg ops) ++ conds.flatMap (varsCond ops varsB) := rfl

theorem varsFItem_agg (ops : Ops E B G A) (varsB : B → List Var) (varsG : G → List Var) (a : AggClause E A) :
    varsFItem ops varsB varsG (.agg a : FItem E B G P A) = a.outs ++ a.boundArgs ++ a.args.flatMap (varsAggArg ops) := rfl

theorem varsFItem_neg (ops : Ops E B G A) (varsB : B → List Var) (varsG : G → List Var) (r : RelId) (as : List (NArg E)) :
    varsFItem ops varsB varsG (.neg r as : FItem E B G P A) = as.flatMap (varsNArg ops) := rfl

theorem varsMInv_eq (ops : Ops E B G A) (inv : MInv E) : varsMInv ops inv = inv.args.flatMap (varsMArg ops) := rfl

section ren
variable {ops : Ops E B G A} {varsB : B → List Var} {varsG : G → List Var}

theorem renE_congr (hL : OpsLaws ops) {τ τ' : Var → Var} {e : E} (h : ∀ v ∈ ops.varsE e, τ v = τ' v) : renE ops τ e = renE ops τ' e :=
  hL.subE_congr _ _ _ (fun v hv => by rw [h v hv])

theorem renB_congr (hVL : VarsLaws ops varsB varsG) {τ τ' : Var → Var} {b : B} (h : ∀ v ∈ varsB b, τ v = τ' v) :
    ops.subB (fun x => ops.varE (τ x)) b = ops.subB (fun x => ops.varE (τ' x)) b :=
  hVL.subB_congr _ _ _ (fun v hv => by rw [h v hv])

theorem renG_congr (hVL : VarsLaws ops varsB varsG) {τ τ' : Var → Var} {g : G} (h : ∀ v ∈ varsG g, τ v = τ' v) :
    ops.subG (fun x => ops.varE (τ x)) g = ops.subG (fun x => ops.varE (τ' x)) g :=
  hVL.subG_congr _ _ _ (fun v hv => by rw [h v hv])

theorem renCond_congr (hL : OpsLaws ops) (hVL : VarsLaws ops varsB varsG) {τ τ' : Var → Var} {c : Cond E B P}
    (h : ∀ v ∈ varsCond ops varsB c, τ v = τ' v) : renCond ops τ c = renCond ops τ' c := by
  cases c with
  | ifc b => simp only [renCond]; rw [renB_congr hVL h]
  | letc v e =>
    simp only [varsCond, List.mem_cons] at h
    simp only [renCond]
    rw [h v (.inl rfl), renE_congr hL (fun w hw => h w (.inr hw))]
  | ifLet p vs e =>
    simp only [varsCond, List.mem_append] at h
    simp only [renCond]
    rw [List.map_congr_left (fun w hw => h w (.inl hw)), renE_congr hL (fun w hw => h w (.inr hw))]

theorem renSArg_congr (hL : OpsLaws ops) {τ τ' : Var → Var} {a : SArg E P}
    (h : ∀ v ∈ varsSArg ops a, τ v = τ' v) : renSArg ops τ a = renSArg ops τ' a := by
  cases a with
  | var v => simp only [renSArg]; rw [h v (by simp [varsSArg])]
  | expr e => simp only [renSArg]; rw [renE_congr hL h]
  | wild => rfl
  | pat p vs => simp only [renSArg]; rw [List.map_congr_left (l := vs) h]

theorem renFItem_congr (hL : OpsLaws ops) (hVL : VarsLaws ops varsB varsG) {τ τ' : Var → Var} {f : FItem E B G P A}
    (h : ∀ v ∈ varsFItem ops varsB varsG f, τ v = τ' v) : renFItem ops true τ f = renFItem ops true τ' f := by
  cases f with
  | clause r as conds =>
    rw [varsFItem_clause] at h
    simp only [List.mem_append, List.mem_flatMap] at h
    simp only [renFItem]
    congr 1
    · exact List.map_congr_left fun a ha => renSArg_congr hL fun v hv => h v (.inl ⟨a, ha, hv⟩)
    · exact List.map_congr_left fun c hc => renCond_congr hL hVL fun v hv => h v (.inr ⟨c, hc, hv⟩)
  | cond c => simp only [renFItem]; rw [renCond_congr hL hVL h]
  | gen v g =>
    simp only [varsFItem, List.mem_cons] at h
    simp only [renFItem]
    rw [h v (.inl rfl), renG_congr hVL (fun w hw => h w (.inr hw))]
  | agg a =>
    rw [varsFItem_agg] at h
    simp only [List.mem_append, List.mem_flatMap] at h
    simp only [renFItem, if_true]
    have h1 : a.outs.map τ = a.outs.map τ' := List.map_congr_left fun v hv => h v (.inl (.inl hv))
    have h2 : a.boundArgs.map τ = a.boundArgs.map τ' := List.map_congr_left fun v hv => h v (.inl (.inr hv))
    rw [h1, h2]
    congr 2
    apply List.map_congr_left
    intro x hx
    cases x with
    | wild => rfl
    | bound v =>
      have : τ v = τ' v := h v (.inr ⟨_, hx, by simp [varsAggArg]⟩)
      simp only [this]
    | key e =>
      simp only
      rw [renE_congr hL fun v hv => h v (.inr ⟨_, hx, hv⟩)]
  | neg r as =>
    rw [varsFItem_neg] at h
    simp only [List.mem_flatMap] at h
    simp only [renFItem]
    congr 1
    apply List.map_congr_left
    intro x hx
    cases x with
    | wild => rfl
    | expr e => simp only; rw [renE_congr hL fun v hv => h v ⟨_, hx, hv⟩]

theorem renMInv_congr (hL : OpsLaws ops) {τ τ' : Var → Var} {m : MInv E}
    (h : ∀ v ∈ varsMInv ops m, τ v = τ' v) : renMInv ops τ m = renMInv ops τ' m := by
  rw [varsMInv_eq] at h
  simp only [List.mem_flatMap] at h
  simp only [renMInv]
  congr 1
  apply List.map_congr_left
  intro x hx
  cases x with
  | ident v => simp only; rw [h v ⟨_, hx, by simp [varsMArg]⟩]
  | expr e => simp only; rw [renE_congr hL fun v hv => h v ⟨_, hx, hv⟩]

theorem ren_congr (hL : OpsLaws ops) (hVL : VarsLaws ops varsB varsG) {τ τ' : Var → Var} :
    (∀ i : SItem E B G P A (MInv E), (∀ v ∈ varsItem ops varsB varsG i, τ v = τ' v) → renItem ops true τ i = renItem ops true τ' i) ∧
    (∀ is : SItems E B G P A (MInv E), (∀ v ∈ varsItems ops varsB varsG is, τ v = τ' v) → renItems ops true τ is = renItems ops true τ' is) ∧
    ∀ as : SAlts E B G P A (MInv E), (∀ v ∈ varsAlts ops varsB varsG as, τ v = τ' v) → renAlts ops true τ as = renAlts ops true τ' as :=
  SItem.induct
    (fun f h => by simp only [renItem]; rw [renFItem_congr hL hVL h])
    (fun alts ih h => by simp only [renItem]; rw [ih h])
    (fun m h => by simp only [renItem]; rw [renMInv_congr hL h])
    (fun _ => rfl)
    (fun i rest ihi ihs h => by
      simp only [varsItems, List.mem_append] at h
      simp only [renItems]
      rw [ihi (fun v hv => h v (.inl hv)), ihs (fun v hv => h v (.inr hv))])
    (fun _ => rfl)
    (fun a rest ihs iha h => by
      simp only [varsAlts, List.mem_append] at h
      simp only [renAlts]
      rw [ihs (fun v hv => h v (.inl hv)), iha (fun v hv => h v (.inr hv))])

theorem renE_id (hL : OpsLaws ops) (e : E) : renE ops id e = e := hL.subE_id e

theorem renCond_id (hL : OpsLaws ops) (c : Cond E B P) : renCond ops id c = c := by
  cases c with
  | ifc b => simp only [renCond]; exact congrArg _ (hL.subB_id b)
  | letc v e => simp only [renCond, renE_id hL, id]
  | ifLet p vs e => simp only [renCond, renE_id hL, List.map_id]

theorem renSArg_id (hL : OpsLaws ops) (a : SArg E P) : renSArg ops id a = a := by
  cases a with
  | var _ | wild => rfl
  | expr e => simp only [renSArg, renE_id hL]
  | pat p vs => simp only [renSArg, List.map_id]

theorem map_eq_self {α : Type} {f : α → α} {l : List α} (h : ∀ a ∈ l, f a = a) : l.map f = l :=
  (List.map_congr_left h).trans (List.map_id l)

theorem renFItem_id (hL : OpsLaws ops) {f : FItem E B G P A} (hf : aggOkF f) : renFItem ops true id f = f := by
  cases f with
  | clause r as conds =>
    simp only [renFItem]
    rw [map_eq_self fun a _ => renSArg_id hL a, map_eq_self fun c _ => renCond_id hL c]
  | cond c => simp only [renFItem, renCond_id hL]
  | gen v g => simp only [renFItem, id]; exact congrArg _ (hL.subG_id g)
  | agg a =>
    obtain ⟨outs, fn, bnd, rel, args⟩ := a
    simp only [renFItem, if_true, List.map_id, id]
    refine congrArg FItem.agg (congrArg (AggClause.mk outs fn bnd rel) ?_)
    apply map_eq_self
    intro x hx
    cases x with
    | wild => rfl
    | bound v =>
      have : v ∈ bnd := hf v hx
      simp [this]
    | key e => simp only; exact congrArg _ (hL.subE_id e)
  | neg r as =>
    simp only [renFItem]
    congr 1
    apply map_eq_self
    intro x _
    cases x with
    | wild => rfl
    | expr e => simp only [renE_id hL]

theorem renMInv_id (hL : OpsLaws ops) (m : MInv E) : renMInv ops id m = m := by
  obtain ⟨mac, args⟩ := m
  simp only [renMInv]
  refine congrArg (MInv.mk mac) ?_
  apply map_eq_self
  intro x _
  cases x with
  | ident v => rfl
  | expr e => simp only [renE_id hL]

theorem ren_id (hL : OpsLaws ops) :
    (∀ i : SItem E B G P A (MInv E), aggOkItem i → renItem ops true id i = i) ∧
    (∀ is : SItems E B G P A (MInv E), aggOkItems is → renItems ops true id is = is) ∧
    ∀ as : SAlts E B G P A (MInv E), aggOkAlts as → renAlts ops true id as = as :=
  SItem.induct
    (fun f h => by simp only [renItem]; rw [renFItem_id hL h])
    (fun alts ih h => by simp only [renItem]; rw [ih h])
    (fun m _ => by simp only [renItem]; rw [renMInv_id hL])
    (fun _ => rfl)
    (fun i rest ihi ihs h => by simp only [renItems]; rw [ihi h.1, ihs h.2])
    (fun _ => rfl)
    (fun a rest ihs iha h => by simp only [renAlts]; rw [ihs h.1, iha h.2])

theorem renAlts_id (hL : OpsLaws ops) : ∀ as : SAlts E B G P A (MInv E), aggOkAlts as → renAlts ops true id as = as :=
  (ren_id hL).2.2

theorem renItems_fix (hL : OpsLaws ops) (hVL : VarsLaws ops varsB varsG) {τ : Var → Var} {is : SItems E B G P A (MInv E)}
    (hagg : aggOkItems is) (h : ∀ v ∈ varsItems ops varsB varsG is, τ v = v) : renItems ops true τ is = is := by
  rw [(ren_congr hL hVL (τ' := id)).2.1 is h, (ren_id hL).2.1 is hagg]

theorem renItem_fix (hL : OpsLaws ops) (hVL : VarsLaws ops varsB varsG) {τ : Var → Var} {i : SItem E B G P A (MInv E)}
    (hagg : aggOkItem i) (h : ∀ v ∈ varsItem ops varsB varsG i, τ v = v) : renItem ops true τ i = i := by
  rw [(ren_congr hL hVL (τ' := id)).1 i h, (ren_id hL).1 i hagg]

/-! items without aggregation: the real renaming pass (`full = false`) and the one that renames everywhere agree, renamings compose -/

theorem renE_comp (hL : OpsLaws ops) (σ τ : Var → Var) (e : E) : renE ops σ (renE ops τ e) = renE ops (σ ∘ τ) e := by
  simp only [renE, hL.subE_comp, hL.subE_var, Function.comp]

theorem renCond_comp (hL : OpsLaws ops) (σ τ : Var → Var) (c : Cond E B P) : renCond ops σ (renCond ops τ c) = renCond ops (σ ∘ τ) c := by
  cases c with
  | ifc b => simp only [renCond, hL.subB_comp, hL.subE_var, Function.comp]
  | letc v e => simp only [renCond, renE_comp hL, Function.comp]
  | ifLet p vs e => simp only [renCond, renE_comp hL, List.map_map]

theorem renSArg_comp (hL : OpsLaws ops) (σ τ : Var → Var) (a : SArg E P) : renSArg ops σ (renSArg ops τ a) = renSArg ops (σ ∘ τ) a := by
  cases a with
  | var _ | wild => rfl
  | expr e => simp only [renSArg, renE_comp hL]
  | pat p vs => simp only [renSArg, List.map_map]

theorem renFItem_noAgg (att : Bool) (τ : Var → Var) {f : FItem E B G P A} (h : noAggItem (.flat f : SItem E B G P A (MInv E)) = true) :
    renFItem ops att τ f = renFItem ops true τ f ∧ noAggItem (.flat (renFItem ops att τ f) : SItem E B G P A (MInv E)) = true := by
  cases f with
  | agg a => cases h
  | _ => exact ⟨rfl, rfl⟩

theorem renFItem_comp (hL : OpsLaws ops) (σ τ : Var → Var) {f : FItem E B G P A} (h : noAggItem (.flat f : SItem E B G P A (MInv E)) = true) :
    renFItem ops true σ (renFItem ops true τ f) = renFItem ops true (σ ∘ τ) f := by
  cases f with
  | clause r as conds =>
    simp only [renFItem, List.map_map]
    congr 1
    · exact List.map_congr_left fun a _ => renSArg_comp hL σ τ a
    · exact List.map_congr_left fun c _ => renCond_comp hL σ τ c
  | cond c => simp only [renFItem, renCond_comp hL]
  | gen v g => simp only [renFItem, hL.subG_comp, hL.subE_var, Function.comp]
  | agg a => cases h
  | neg r as =>
    simp only [renFItem, List.map_map]
    congr 1
    apply List.map_congr_left
    intro a _
    cases a with
    | wild => rfl
    | expr e => simp only [Function.comp, renE_comp hL]

theorem renMInv_comp (hL : OpsLaws ops) (σ τ : Var → Var) (m : MInv E) : renMInv ops σ (renMInv ops τ m) = renMInv ops (σ ∘ τ) m := by
  simp only [renMInv, List.map_map]
  congr 1
  apply List.map_congr_left
  intro a _
  cases a with
  | ident v => rfl
  | expr e => simp only [Function.comp, renE_comp hL]

theorem ren_noAgg (att : Bool) (τ : Var → Var) :
    (∀ i : SItem E B G P A (MInv E), noAggItem i = true →
      renItem ops att τ i = renItem ops true τ i ∧ noAggItem (renItem ops att τ i) = true) ∧
    (∀ is : SItems E B G P A (MInv E), noAggItems is = true →
      renItems ops att τ is = renItems ops true τ is ∧ noAggItems (renItems ops att τ is) = true) ∧
    ∀ as : SAlts E B G P A (MInv E), noAggAlts as = true →
      renAlts ops att τ as = renAlts ops true τ as ∧ noAggAlts (renAlts ops att τ as) = true :=
  SItem.induct
    (fun f h => by
      have := renFItem_noAgg (ops := ops) att τ h
      simp only [renItem]
      exact ⟨by rw [this.1], this.2⟩)
    (fun alts ih h => by
      simp only [noAggItem] at h
      have := ih h
      simp only [renItem, noAggItem]
      exact ⟨by rw [this.1], this.2⟩)
    (fun _ _ => ⟨rfl, rfl⟩)
    (fun _ => ⟨rfl, rfl⟩)
    (fun i rest ihi ihs h => by
      simp only [noAggItems, Bool.and_eq_true] at h
      have h1 := ihi h.1
      have h2 := ihs h.2
      simp only [renItems, noAggItems, Bool.and_eq_true]
      exact ⟨by rw [h1.1, h2.1], h1.2, h2.2⟩)
    (fun _ => ⟨rfl, rfl⟩)
    (fun a rest ihs iha h => by
      simp only [noAggAlts, Bool.and_eq_true] at h
      have h1 := ihs h.1
      have h2 := iha h.2
      simp only [renAlts, noAggAlts, Bool.and_eq_true]
      exact ⟨by rw [h1.1, h2.1], h1.2, h2.2⟩)

theorem renItem_noAgg (att : Bool) (τ : Var → Var) : ∀ i : SItem E B G P A (MInv E), noAggItem i = true →
    renItem ops att τ i = renItem ops true τ i ∧ noAggItem (renItem ops att τ i) = true :=
  (ren_noAgg att τ).1
theorem renAlts_noAgg (att : Bool) (τ : Var → Var) : ∀ as : SAlts E B G P A (MInv E), noAggAlts as = true →
    renAlts ops att τ as = renAlts ops true τ as ∧ noAggAlts (renAlts ops att τ as) = true :=
  (ren_noAgg att τ).2.2

theorem ren_comp (hL : OpsLaws ops) (σ τ : Var → Var) :
    (∀ i : SItem E B G P A (MInv E), noAggItem i = true →
      renItem ops true σ (renItem ops true τ i) = renItem ops true (σ ∘ τ) i) ∧
    (∀ is : SItems E B G P A (MInv E), noAggItems is = true →
      renItems ops true σ (renItems ops true τ is) = renItems ops true (σ ∘ τ) is) ∧
    ∀ as : SAlts E B G P A (MInv E), noAggAlts as = true →
      renAlts ops true σ (renAlts ops true τ as) = renAlts ops true (σ ∘ τ) as :=
  SItem.induct
    (fun f h => by simp only [renItem]; rw [renFItem_comp hL σ τ h])
    (fun alts ih h => by simp only [noAggItem] at h; simp only [renItem]; rw [ih h])
    (fun m _ => by simp only [renItem]; rw [renMInv_comp hL])
    (fun _ => rfl)
    (fun i rest ihi ihs h => by
      simp only [noAggItems, Bool.and_eq_true] at h
      simp only [renItems]
      rw [ihi h.1, ihs h.2])
    (fun _ => rfl)
    (fun a rest ihs iha h => by
      simp only [noAggAlts, Bool.and_eq_true] at h
      simp only [renAlts]
      rw [ihs h.1, iha h.2])

theorem renItem_comp (hL : OpsLaws ops) (σ τ : Var → Var) : ∀ i : SItem E B G P A (MInv E), noAggItem i = true →
    renItem ops true σ (renItem ops true τ i) = renItem ops true (σ ∘ τ) i :=
  (ren_comp hL σ τ).1
theorem renAlts_comp (hL : OpsLaws ops) (σ τ : Var → Var) : ∀ as : SAlts E B G P A (MInv E), noAggAlts as = true →
    renAlts ops true σ (renAlts ops true τ as) = renAlts ops true (σ ∘ τ) as :=
  (ren_comp hL σ τ).2.2

theorem boundVarsF_ren (att : Bool) (τ : Var → Var) (f : FItem E B G P A) : boundVarsF (renFItem ops att τ f) = (boundVarsF f).map τ := by
  cases f with
  | clause r as conds =>
    simp only [renFItem, boundVarsF, List.flatMap_map, List.map_flatMap, List.map_append]
    congr 2
    · funext a
      cases a <;> rfl
    · funext c
      cases c <;> rfl
  | cond c => cases c <;> rfl
  | gen _ _ | agg _ | neg _ _ => rfl

theorem boundVars_ren (att : Bool) (τ : Var → Var) :
    (∀ i : SItem E B G P A (MInv E), boundVarsI (renItem ops att τ i) = (boundVarsI i).map τ) ∧
    (∀ is : SItems E B G P A (MInv E), boundVarsS (renItems ops att τ is) = (boundVarsS is).map τ) ∧
    ∀ as : SAlts E B G P A (MInv E), boundVarsA (renAlts ops att τ as) = (boundVarsA as).map τ :=
  SItem.induct
    (fun f => by simp only [renItem, boundVarsI, boundVarsF_ren])
    (fun alts ih => by simp only [renItem, boundVarsI, ih])
    (fun _ => rfl)
    rfl
    (fun i rest ihi ihs => by simp only [renItems, boundVarsS, ihi, ihs, List.map_append])
    rfl
    (fun a rest ihs iha => by simp only [renAlts, boundVarsA, ihs, iha, List.map_append])

theorem boundVarsI_ren (att : Bool) (τ : Var → Var) : ∀ i : SItem E B G P A (MInv E), boundVarsI (renItem ops att τ i) = (boundVarsI i).map τ :=
  (boundVars_ren att τ).1
theorem boundVarsA_ren (att : Bool) (τ : Var → Var) : ∀ as : SAlts E B G P A (MInv E), boundVarsA (renAlts ops att τ as) = (boundVarsA as).map τ :=
  (boundVars_ren att τ).2.2

theorem varsItems_append (xs ys : SItems E B G P A (MInv E)) :
    varsItems ops varsB varsG (xs.append ys) = varsItems ops varsB varsG xs ++ varsItems ops varsB varsG ys := by
  induction xs using SItems.induct with
  | nil => rfl
  | cons i rest ih => simp only [SItems.append, varsItems, ih, List.append_assoc]

theorem boundVarsS_append (xs ys : SItems E B G P A (MInv E)) : boundVarsS (xs.append ys) = boundVarsS xs ++ boundVarsS ys := by
  induction xs using SItems.induct with
  | nil => rfl
  | cons i rest ih => simp only [SItems.append, boundVarsS, ih, List.append_assoc]

theorem renItems_append (att : Bool) (τ : Var → Var) (xs ys : SItems E B G P A (MInv E)) :
    renItems ops att τ (xs.append ys) = (renItems ops att τ xs).append (renItems ops att τ ys) := by
  induction xs using SItems.induct with
  | nil => rfl
  | cons i rest ih => simp only [SItems.append, renItems, ih]

theorem noAggItems_append (xs ys : SItems E B G P A (MInv E)) : noAggItems (xs.append ys) = (noAggItems xs && noAggItems ys) := by
  induction xs using SItems.induct with
  | nil => rfl
  | cons i rest ih => simp only [SItems.append, noAggItems, ih, Bool.and_assoc]

theorem aggOkItems_append (xs ys : SItems E B G P A (MInv E)) : aggOkItems xs → aggOkItems ys → aggOkItems (xs.append ys) := by
  induction xs using SItems.induct with
  | nil => exact fun _ hy => hy
  | cons i rest ih => exact fun hx hy => ⟨hx.1, ih hx.2 hy⟩

end ren

def binderVarsC : Cond E B P → List Var
  | .ifc _ => []
  | .letc v _ => [v]
  | .ifLet _ vs _ => vs

def binderVarsSArg : SArg E P → List Var
  | .pat _ vs => vs
  | _ => []

def binderVarsAggArg : AggArg E → List Var
  | .bound v => [v]
  | _ => []

/-- the variables of a flat item in pattern / `let` / `if let` / `for` / aggregation-result positions (where only an identifier makes sense) -/
def binderVarsF : FItem E B G P A → List Var
  | .clause _ as conds => as.flatMap binderVarsSArg ++ conds.flatMap binderVarsC
  | .cond c => binderVarsC c
  | .gen v _ => [v]
  | .agg a => a.outs ++ a.boundArgs ++ a.args.flatMap binderVarsAggArg
  | .neg _ _ => []

mutual
def binderVarsI : SItem E B G P A (MInv E) → List Var
  | .flat f => binderVarsF f
  | .disj alts => binderVarsA alts
  | .mac _ => []
def binderVarsS : SItems E B G P A (MInv E) → List Var
  | .nil => []
  | .cons i rest => binderVarsI i ++ binderVarsS rest
def binderVarsA : SAlts E B G P A (MInv E) → List Var
  | .nil => []
  | .cons a rest => binderVarsS a ++ binderVarsA rest
end

section inst
variable {ops : Ops E B G A} {varsB : B → List Var} {varsG : G → List Var}

/-- where a variable of an instantiated body comes from: from the instance of a variable `w` of the body, or it is a parameter `w`
in a binder position that received an expression (`instBinder` leaves the parameter's own number there) -/
def InstFrom (ops : Ops E B G A) (args : List (MArg E)) (tag : Var → Var) (X Bd : List Var) (v : Var) : Prop :=
  (∃ w ∈ X, v ∈ ops.varsE ((instVar args tag w).toE ops)) ∨ (∃ w, w ∈ Bd ∧ w ∈ X ∧ v = w ∧ ∃ e, instVar args tag w = .expr e)

theorem InstFrom.mono {args : List (MArg E)} {tag : Var → Var} {X Bd X' Bd' : List Var} {v : Var}
    (hX : ∀ w ∈ X, w ∈ X') (hB : ∀ w ∈ Bd, w ∈ Bd') (h : InstFrom ops args tag X Bd v) : InstFrom ops args tag X' Bd' v := by
  rcases h with ⟨w, hw, hv⟩ | ⟨w, hb, hw, hv, he⟩
  · exact .inl ⟨w, hX w hw, hv⟩
  · exact .inr ⟨w, hB w hb, hX w hw, hv, he⟩

theorem InstFrom.left {args : List (MArg E)} {tag : Var → Var} {X Bd X' Bd' : List Var} {v : Var}
    (h : InstFrom ops args tag X Bd v) : InstFrom ops args tag (X ++ X') (Bd ++ Bd') v :=
  h.mono (fun _ => List.mem_append_left _) fun _ => List.mem_append_left _

theorem InstFrom.right {args : List (MArg E)} {tag : Var → Var} {X Bd X' Bd' : List Var} {v : Var}
    (h : InstFrom ops args tag X' Bd' v) : InstFrom ops args tag (X ++ X') (Bd ++ Bd') v :=
  h.mono (fun _ => List.mem_append_right _) fun _ => List.mem_append_right _

theorem InstFrom.flatMap {args : List (MArg E)} {tag : Var → Var} {α : Type} {as : List α} {a : α} (ha : a ∈ as) {fX fB : α → List Var}
    {v : Var} (h : InstFrom ops args tag (fX a) (fB a) v) : InstFrom ops args tag (as.flatMap fX) (as.flatMap fB) v :=
  h.mono (fun _ hw => List.mem_flatMap.2 ⟨a, ha, hw⟩) fun _ hw => List.mem_flatMap.2 ⟨a, ha, hw⟩

theorem margToE_vars (hVL : VarsLaws ops varsB varsG) (a : MArg E) : ops.varsE (a.toE ops) = varsMArg ops a := by
  cases a with
  | ident v => exact hVL.varsE_var v
  | expr e => rfl

theorem instBinder_from (hVL : VarsLaws ops varsB varsG) (args : List (MArg E)) (tag : Var → Var) (x : Var) :
    InstFrom ops args tag [x] [x] (instBinder args tag x) := by
  unfold instBinder
  cases h : instVar args tag x with
  | ident u => exact .inl ⟨x, by simp, by rw [h]; simp [MArg.toE, hVL.varsE_var]⟩
  | expr e => exact .inr ⟨x, by simp, by simp, rfl, e, h⟩

theorem instBinders_from (hVL : VarsLaws ops varsB varsG) (args : List (MArg E)) (tag : Var → Var) (vs : List Var) {v : Var}
    (h : v ∈ vs.map (instBinder args tag)) : InstFrom ops args tag vs vs v := by
  obtain ⟨x, hx, rfl⟩ := List.mem_map.1 h
  exact (instBinder_from hVL args tag x).mono (by simp [hx]) (by simp [hx])

theorem instE_from (hVL : VarsLaws ops varsB varsG) (args : List (MArg E)) (tag : Var → Var) (e : E) {v : Var}
    (h : v ∈ ops.varsE (instE ops args tag e)) : InstFrom ops args tag (ops.varsE e) [] v := by
  obtain ⟨w, hw, hv⟩ := (hVL.varsE_sub _ e v).1 h
  exact .inl ⟨w, hw, hv⟩

theorem instCond_from (hVL : VarsLaws ops varsB varsG) (args : List (MArg E)) (tag : Var → Var) (c : Cond E B P) {v : Var}
    (h : v ∈ varsCond ops varsB (instCond ops args tag c)) : InstFrom ops args tag (varsCond ops varsB c) (binderVarsC c) v := by
  cases c with
  | ifc b =>
    obtain ⟨w, hw, hv⟩ := (hVL.varsB_sub _ b v).1 h
    exact .inl ⟨w, hw, hv⟩
  | letc x e =>
    simp only [instCond, varsCond, List.mem_cons] at h
    rcases h with rfl | h
    · exact (instBinder_from hVL args tag x).mono (by simp [varsCond]) (by simp [binderVarsC])
    · exact (instE_from hVL args tag e h).mono (by simp +contextual [varsCond]) (by simp)
  | ifLet p vs e =>
    simp only [instCond, varsCond, List.mem_append] at h
    rcases h with h | h
    · exact (instBinders_from hVL args tag vs h).mono (by simp +contextual [varsCond]) (by simp [binderVarsC])
    · exact (instE_from hVL args tag e h).mono (by simp +contextual [varsCond]) (by simp)

theorem instSArg_from (hVL : VarsLaws ops varsB varsG) (args : List (MArg E)) (tag : Var → Var) (a : SArg E P) {v : Var}
    (h : v ∈ varsSArg ops (instSArg ops args tag a)) : InstFrom ops args tag (varsSArg ops a) (binderVarsSArg a) v := by
  cases a with
  | var x =>
    simp only [instSArg] at h
    refine .inl ⟨x, by simp [varsSArg], ?_⟩
    cases hx : instVar args tag x with
    | ident u => rw [hx] at h; simpa [varsSArg, MArg.toE, hVL.varsE_var] using h
    | expr e => rw [hx] at h; simpa [varsSArg, MArg.toE] using h
  | expr e => exact (instE_from hVL args tag e h).mono (by simp +contextual [varsSArg]) (by simp)
  | wild => simp [instSArg, varsSArg] at h
  | pat p vs => exact (instBinders_from hVL args tag vs h).mono (by simp +contextual [varsSArg]) (by simp [binderVarsSArg])

theorem instFItem_from (hVL : VarsLaws ops varsB varsG) (args : List (MArg E)) (tag : Var → Var) (f : FItem E B G P A) {v : Var}
    (h : v ∈ varsFItem ops varsB varsG (instFItem ops args tag f)) :
    InstFrom ops args tag (varsFItem ops varsB varsG f) (binderVarsF f) v := by
  cases f with
  | clause r as conds =>
    simp only [instFItem] at h
    rw [varsFItem_clause] at h ⊢
    simp only [List.mem_append, List.mem_flatMap, List.mem_map] at h
    rcases h with ⟨_, ⟨a, ha, rfl⟩, hv⟩ | ⟨_, ⟨c, hc, rfl⟩, hv⟩
    · exact ((instSArg_from hVL args tag a hv).flatMap ha).left
    · exact ((instCond_from hVL args tag c hv).flatMap hc).right
  | cond c => exact instCond_from hVL args tag c h
  | gen x g =>
    simp only [instFItem, varsFItem, List.mem_cons] at h
    rcases h with rfl | h
    · exact (instBinder_from hVL args tag x).mono (by simp [varsFItem]) (by simp [binderVarsF])
    · obtain ⟨w, hw, hv⟩ := (hVL.varsG_sub _ g v).1 h
      exact .inl ⟨w, by simp [varsFItem, hw], hv⟩
  | agg a =>
    simp only [instFItem] at h
    rw [varsFItem_agg] at h ⊢
    simp only [List.mem_append, List.mem_flatMap, List.mem_map] at h
    rcases h with (h | h) | ⟨_, ⟨x, hx, rfl⟩, hv⟩
    · exact (instBinders_from hVL args tag a.outs (List.mem_map.2 h)).left.left
    · exact (instBinders_from hVL args tag a.boundArgs (List.mem_map.2 h)).right.left
    · refine (InstFrom.flatMap hx ?_).right
      cases x with
      | wild => simp [varsAggArg] at hv
      | bound y =>
        simp only [varsAggArg, List.mem_singleton] at hv
        subst hv
        exact instBinder_from hVL args tag y
      | key e => exact instE_from hVL args tag e hv
  | neg r as =>
    simp only [instFItem] at h
    rw [varsFItem_neg] at h ⊢
    simp only [List.mem_flatMap, List.mem_map] at h
    obtain ⟨_, ⟨x, hx, rfl⟩, hv⟩ := h
    refine (InstFrom.flatMap (fB := fun _ => []) hx ?_).mono (fun _ h => h) (by simp)
    cases x with
    | wild => simp [varsNArg] at hv
    | expr e => exact instE_from hVL args tag e hv

theorem instMInv_from (hVL : VarsLaws ops varsB varsG) (args : List (MArg E)) (tag : Var → Var) (m : MInv E) {v : Var}
    (h : v ∈ varsMInv ops (instMInv ops args tag m)) : InstFrom ops args tag (varsMInv ops m) [] v := by
  rw [varsMInv_eq] at h ⊢
  simp only [instMInv, List.mem_flatMap, List.mem_map] at h
  obtain ⟨_, ⟨x, hx, rfl⟩, hv⟩ := h
  refine (InstFrom.flatMap (fB := fun _ => []) hx ?_).mono (fun _ h => h) (by simp)
  cases x with
  | ident y => exact .inl ⟨y, by simp [varsMArg], by rw [margToE_vars hVL]; exact hv⟩
  | expr e => exact instE_from hVL args tag e hv

theorem inst_from (hVL : VarsLaws ops varsB varsG) (args : List (MArg E)) (tag : Var → Var) (v : Var) :
    (∀ i : SItem E B G P A (MInv E), v ∈ varsItem ops varsB varsG (instItem ops args tag i) →
      InstFrom ops args tag (varsItem ops varsB varsG i) (binderVarsI i) v) ∧
    (∀ is : SItems E B G P A (MInv E), v ∈ varsItems ops varsB varsG (instItems ops args tag is) →
      InstFrom ops args tag (varsItems ops varsB varsG is) (binderVarsS is) v) ∧
    ∀ as : SAlts E B G P A (MInv E), v ∈ varsAlts ops varsB varsG (instAlts ops args tag as) →
      InstFrom ops args tag (varsAlts ops varsB varsG as) (binderVarsA as) v :=
  SItem.induct
    (fun f h => instFItem_from hVL args tag f h)
    (fun _ ih h => ih h)
    (fun m h => instMInv_from hVL args tag m h)
    (fun h => by simp [instItems, varsItems] at h)
    (fun i rest ihi ihs h => by
      simp only [instItems, varsItems, List.mem_append] at h
      exact h.elim (fun h => (ihi h).left) fun h => (ihs h).right)
    (fun h => by simp [instAlts, varsAlts] at h)
    (fun a rest ihs iha h => by
      simp only [instAlts, varsAlts, List.mem_append] at h
      exact h.elim (fun h => (ihs h).left) fun h => (iha h).right)

theorem instItem_from (hVL : VarsLaws ops varsB varsG) (args : List (MArg E)) (tag : Var → Var) (v : Var) :
    ∀ i : SItem E B G P A (MInv E), v ∈ varsItem ops varsB varsG (instItem ops args tag i) →
      InstFrom ops args tag (varsItem ops varsB varsG i) (binderVarsI i) v :=
  (inst_from hVL args tag v).1
theorem instAlts_from (hVL : VarsLaws ops varsB varsG) (args : List (MArg E)) (tag : Var → Var) (v : Var) :
    ∀ as : SAlts E B G P A (MInv E), v ∈ varsAlts ops varsB varsG (instAlts ops args tag as) →
      InstFrom ops args tag (varsAlts ops varsB varsG as) (binderVarsA as) v :=
  (inst_from hVL args tag v).2.2

theorem instVar_vars (hVL : VarsLaws ops varsB varsG) (args : List (MArg E)) (tag : Var → Var) (w v : Var)
    (h : v ∈ ops.varsE ((instVar args tag w).toE ops)) :
    (w < paramBase ∧ v = tag w) ∨ (paramBase ≤ w ∧ v ∈ args.flatMap (varsMArg ops)) ∨ (paramBase + args.length ≤ w ∧ v = w) := by
  rw [margToE_vars hVL] at h
  unfold instVar at h
  by_cases hw : paramBase ≤ w
  · rw [if_pos hw] at h
    rcases Nat.lt_or_ge (w - paramBase) args.length with hlt | hge
    · right; left
      refine ⟨hw, ?_⟩
      simp only [List.mem_flatMap]
      refine ⟨args[w - paramBase], List.getElem_mem hlt, ?_⟩
      simpa [List.getD, List.getElem?_eq_getElem hlt] using h
    · right; right
      rw [List.getD_eq_getElem?_getD, List.getElem?_eq_none hge] at h
      simp only [Option.getD_none, varsMArg, List.mem_singleton] at h
      exact ⟨Nat.add_le_of_le_sub' hw hge, h⟩
  · rw [if_neg hw] at h
    simp only [varsMArg, List.mem_singleton] at h
    exact .inl ⟨Nat.lt_of_not_le hw, h⟩

theorem instBinder_local (args : List (MArg E)) (tag : Var → Var) {x : Var} (hx : x < paramBase) : instBinder args tag x = tag x := by
  unfold instBinder instVar
  rw [if_neg (Nat.not_le.2 hx)]

theorem boundVarsC_inst (args : List (MArg E)) (tag : Var → Var) (c : Cond E B P) {x : Var} (hx : x < paramBase)
    (h : x ∈ boundVarsC c) : tag x ∈ boundVarsC (instCond ops args tag c) := by
  cases c with
  | ifc b => simp [boundVarsC] at h
  | letc y e =>
    simp only [boundVarsC, List.mem_singleton] at h
    subst h
    simp [instCond, boundVarsC, instBinder_local args tag hx]
  | ifLet p vs e => exact List.mem_map.2 ⟨x, h, instBinder_local args tag hx⟩

theorem boundVarsF_inst (args : List (MArg E)) (tag : Var → Var) (f : FItem E B G P A) {x : Var} (hx : x < paramBase)
    (h : x ∈ boundVarsF f) : tag x ∈ boundVarsF (instFItem ops args tag f) := by
  have hb : ∀ vs : List Var, x ∈ vs → tag x ∈ vs.map (instBinder args tag) := fun vs hvs =>
    List.mem_map.2 ⟨x, hvs, instBinder_local args tag hx⟩
  cases f with
  | clause r as conds =>
    simp only [boundVarsF, List.mem_append, List.mem_flatMap] at h
    simp only [instFItem, boundVarsF, List.mem_append, List.mem_flatMap, List.mem_map]
    rcases h with ⟨a, ha, hxa⟩ | ⟨c, hc, hxc⟩
    · refine .inl ⟨_, ⟨a, ha, rfl⟩, ?_⟩
      cases a with
      | var y =>
        simp only [List.mem_singleton] at hxa
        subst hxa
        simp [instSArg, instVar, Nat.not_le.2 hx]
      | expr _ | wild => simp at hxa
      | pat p vs => exact hb vs hxa
    · exact .inr ⟨_, ⟨c, hc, rfl⟩, boundVarsC_inst args tag c hx hxc⟩
  | cond c => exact boundVarsC_inst args tag c hx h
  | gen y g =>
    simp only [boundVarsF, List.mem_singleton] at h
    subst h
    simp [instFItem, boundVarsF, instBinder_local args tag hx]
  | agg a => exact hb a.outs h
  | neg r as => simp [boundVarsF] at h

theorem boundVars_inst (args : List (MArg E)) (tag : Var → Var) {x : Var} (hx : x < paramBase) :
    (∀ i : SItem E B G P A (MInv E), x ∈ boundVarsI i → tag x ∈ boundVarsI (instItem ops args tag i)) ∧
    (∀ is : SItems E B G P A (MInv E), x ∈ boundVarsS is → tag x ∈ boundVarsS (instItems ops args tag is)) ∧
    ∀ as : SAlts E B G P A (MInv E), x ∈ boundVarsA as → tag x ∈ boundVarsA (instAlts ops args tag as) :=
  SItem.induct
    (fun f h => boundVarsF_inst args tag f hx h)
    (fun _ ih h => ih h)
    (fun _ h => by simp [boundVarsI] at h)
    (fun h => by simp [boundVarsS] at h)
    (fun i rest ihi ihs h => by
      simp only [boundVarsS, List.mem_append] at h
      simp only [instItems, boundVarsS, List.mem_append]
      exact h.imp ihi ihs)
    (fun h => by simp [boundVarsA] at h)
    (fun a rest ihs iha h => by
      simp only [boundVarsA, List.mem_append] at h
      simp only [instAlts, boundVarsA, List.mem_append]
      exact h.imp ihs iha)

theorem boundVarsI_inst (args : List (MArg E)) (tag : Var → Var) {x : Var} (hx : x < paramBase) :
    ∀ i : SItem E B G P A (MInv E), x ∈ boundVarsI i → tag x ∈ boundVarsI (instItem ops args tag i) :=
  (boundVars_inst args tag hx).1
theorem boundVarsA_inst (args : List (MArg E)) (tag : Var → Var) {x : Var} (hx : x < paramBase) :
    ∀ as : SAlts E B G P A (MInv E), x ∈ boundVarsA as → tag x ∈ boundVarsA (instAlts ops args tag as) :=
  (boundVars_inst args tag hx).2.2

theorem noAgg_inst (args : List (MArg E)) (tag : Var → Var) :
    (∀ i : SItem E B G P A (MInv E), noAggItem (instItem ops args tag i) = noAggItem i) ∧
    (∀ is : SItems E B G P A (MInv E), noAggItems (instItems ops args tag is) = noAggItems is) ∧
    ∀ as : SAlts E B G P A (MInv E), noAggAlts (instAlts ops args tag as) = noAggAlts as :=
  SItem.induct
    (fun f => by cases f <;> rfl)
    (fun _ ih => ih)
    (fun _ => rfl)
    rfl
    (fun i rest ihi ihs => by simp only [instItems, noAggItems, ihi, ihs])
    rfl
    (fun a rest ihs iha => by simp only [instAlts, noAggAlts, ihs, iha])

theorem noAggItem_inst (args : List (MArg E)) (tag : Var → Var) :
    ∀ i : SItem E B G P A (MInv E), noAggItem (instItem ops args tag i) = noAggItem i :=
  (noAgg_inst args tag).1
theorem noAggAlts_inst (args : List (MArg E)) (tag : Var → Var) :
    ∀ as : SAlts E B G P A (MInv E), noAggAlts (instAlts ops args tag as) = noAggAlts as :=
  (noAgg_inst args tag).2.2

theorem aggOk_of_noAgg :
    (∀ i : SItem E B G P A (MInv E), noAggItem i = true → aggOkItem i) ∧
    (∀ is : SItems E B G P A (MInv E), noAggItems is = true → aggOkItems is) ∧
    ∀ as : SAlts E B G P A (MInv E), noAggAlts as = true → aggOkAlts as :=
  SItem.induct
    (fun f h => by cases f <;> simp_all [noAggItem, aggOkItem, aggOkF])
    (fun _ ih h => ih h)
    (fun _ _ => trivial)
    (fun _ => trivial)
    (fun i rest ihi ihs h => by
      simp only [noAggItems, Bool.and_eq_true] at h
      exact ⟨ihi h.1, ihs h.2⟩)
    (fun _ => trivial)
    (fun a rest ihs iha h => by
      simp only [noAggAlts, Bool.and_eq_true] at h
      exact ⟨ihs h.1, iha h.2⟩)

theorem aggOkItem_of_noAgg : ∀ i : SItem E B G P A (MInv E), noAggItem i = true → aggOkItem i :=
  aggOk_of_noAgg.1
theorem aggOkAlts_of_noAgg : ∀ as : SAlts E B G P A (MInv E), noAggAlts as = true → aggOkAlts as :=
  aggOk_of_noAgg.2.2

end inst

/-- the local `one` of `idealItemsWith` (compare `expandOne`) -/
def idealOne (ops : Ops E B G A) (defs : Defs E B G P A)
    (recur : Nat → SItems E B G P A (MInv E) → Except ExpandErr (SItems E B G P A (MInv E) × Nat))
    (n : Nat) : SItem E B G P A (MInv E) → Except ExpandErr (SItems E B G P A (MInv E) × Nat)
  | .flat f => .ok (.cons (.flat f) .nil, n)
  | .disj alts =>
    match expandAltsWith recur n alts with
    | .error e => .error e
    | .ok (alts', n1) => .ok (.cons (.disj alts') .nil, n1)
  | .mac inv =>
    match defs[inv.mac]? with
    | none => .error .undefinedMacro
    | some d => if !argsOk d.params inv.args then .error .badArgs else recur (n + 1) (instItems ops inv.args (tagVar n) d.body)

section
variable {ops : Ops E B G A} {defs : Defs E B G P A}
  {recur : Nat → SItems E B G P A (MInv E) → Except ExpandErr (SItems E B G P A (MInv E) × Nat)} {n : Nat}

theorem idealItemsWith_cons {i : SItem E B G P A (MInv E)} {rest : SItems E B G P A (MInv E)} :
    idealItemsWith ops defs recur n (.cons i rest) =
      match idealOne ops defs recur n i with
      | .error e => .error e
      | .ok (is, n1) =>
        match idealItemsWith ops defs recur n1 rest with
        | .error e => .error e
        | .ok (rest', n2) => .ok (is.append rest', n2) := by
  cases i <;> rfl

theorem idealItemsWith_cons_ok {i : SItem E B G P A (MInv E)} {rest out : SItems E B G P A (MInv E)} {n' : Nat}
    (h : idealItemsWith ops defs recur n (.cons i rest) = .ok (out, n')) :
    ∃ is n1 rest', idealOne ops defs recur n i = .ok (is, n1) ∧
      idealItemsWith ops defs recur n1 rest = .ok (rest', n') ∧ out = is.append rest' := by
  rw [idealItemsWith_cons] at h
  split at h
  · cases h
  · next is n1 h1 =>
    split at h
    · cases h
    · next rest' n2 h2 =>
      cases h
      exact ⟨is, n1, rest', h1, h2, rfl⟩

theorem idealOne_mac_eq {inv : MInv E} {d : MacroDef E B G P A} (hd : defs[inv.mac]? = some d) (ha : argsOk d.params inv.args = true) :
    idealOne ops defs recur n (.mac inv) = recur (n + 1) (instItems ops inv.args (tagVar n) d.body) := by
  simp only [idealOne, hd, ha, Bool.not_true, Bool.false_eq_true, if_false]

theorem idealOne_mac_ok {inv : MInv E} {r : SItems E B G P A (MInv E) × Nat} (h : idealOne ops defs recur n (.mac inv) = .ok r) :
    ∃ d, defs[inv.mac]? = some d ∧ argsOk d.params inv.args = true ∧
      recur (n + 1) (instItems ops inv.args (tagVar n) d.body) = .ok r := by
  cases hd : defs[inv.mac]? with
  | none => simp only [idealOne, hd] at h; cases h
  | some d =>
    cases ha : argsOk d.params inv.args with
    | false => simp only [idealOne, hd, ha] at h; cases h
    | true => exact ⟨d, rfl, ha, by rwa [idealOne_mac_eq hd ha] at h⟩

theorem idealOne_disj_ok {alts : SAlts E B G P A (MInv E)} {out : SItems E B G P A (MInv E)} {n' : Nat}
    (h : idealOne ops defs recur n (.disj alts) = .ok (out, n')) :
    ∃ alts', expandAltsWith recur n alts = .ok (alts', n') ∧ out = .cons (.disj alts') .nil := by
  simp only [idealOne] at h
  split at h
  · cases h
  · next alts' n1 h1 =>
    cases h
    exact ⟨alts', h1, rfl⟩

end

def TagIn (a b : Nat) (v : Var) : Prop := ∃ j x, a ≤ j ∧ j < b ∧ x < paramBase ∧ v = tagVar j x

theorem TagIn.mono {a b a' b' : Nat} {v : Var} (ha : a' ≤ a) (hb : b ≤ b') (h : TagIn a b v) : TagIn a' b' v := by
  obtain ⟨j, x, h1, h2, h3, h4⟩ := h
  exact ⟨j, x, Nat.le_trans ha h1, Nat.lt_of_lt_of_le h2 hb, h3, h4⟩

section idealvars
variable {ops : Ops E B G A} {varsB : B → List Var} {varsG : G → List Var}
  {defs : Defs E B G P A} {Q : Var → Prop}

/-- a parameter in a binder position is an `ident` parameter, or its own number is harmless (`Q`) -/
def BinderOK (ops : Ops E B G A) (varsB : B → List Var) (varsG : G → List Var) (defs : Defs E B G P A) (Q : Var → Prop) : Prop :=
  ∀ d ∈ defs, ∀ x ∈ binderVarsS d.body, x ∈ varsItems ops varsB varsG d.body → paramBase ≤ x → d.params[x - paramBase]? = some .ident ∨ Q x

theorem BinderOK.mono {Q Q' : Var → Prop} (h : ∀ v, Q v → Q' v)
    (hb : BinderOK ops varsB varsG defs Q) : BinderOK ops varsB varsG defs Q' :=
  fun d hd x hx hx' hp => (hb d hd x hx hx' hp).imp id (h x)

theorem inst_body_vars (hVL : VarsLaws ops varsB varsG) (hH : HygienicDefs ops varsB varsG defs)
    (hB : BinderOK ops varsB varsG defs Q) {d : MacroDef E B G P A} (hd : d ∈ defs)
    {args : List (MArg E)} (hargs : argsOk d.params args = true) (hQ : ∀ v ∈ args.flatMap (varsMArg ops), Q v) (tag : Var → Var) :
    ∀ v ∈ varsItems ops varsB varsG (instItems ops args tag d.body),
      Q v ∨ ∃ x ∈ varsItems ops varsB varsG d.body, x < paramBase ∧ v = tag x := by
  intro v hv
  obtain ⟨hlen, hid⟩ := (argsOk_iff _ _).1 hargs
  rcases (inst_from hVL args tag v).2.1 d.body hv with ⟨w, hw, hvw⟩ | ⟨w, hwb, hw, rfl, e, he⟩
  · rcases instVar_vars hVL args tag w v hvw with ⟨h1, h2⟩ | ⟨_, h2⟩ | ⟨h1, _⟩
    · exact .inr ⟨w, hw, h1, h2⟩
    · exact .inl (hQ v h2)
    · exact absurd (hlen ▸ hH.lt hd w hw) (Nat.not_lt.2 h1)
  · have hp : paramBase ≤ v := by
      unfold instVar at he
      by_cases hp : paramBase ≤ v
      · exact hp
      · rw [if_neg hp] at he; cases he
    rcases hB d hd v hwb hw hp with hi | hq
    · obtain ⟨u, hu⟩ := hid _ hi
      rw [instVar_param hp hu] at he
      cases he
    · exact .inl hq

/-- what the ideal expansion `out` (invocations numbered `n .. n'`) of some items keeps of them: `vs` are their variables, `bs` their
bound variables, `na` / `ao` say whether they are free of aggregations / have well-formed ones.  The items themselves do not occur,
so that an item, a sequence and a disjunction (as the one-item sequence of its expanded alternatives) are covered alike -/
structure IdealSpec (ops : Ops E B G A) (varsB : B → List Var) (varsG : G → List Var) (defs : Defs E B G P A)
    (n n' : Nat) (vs bs : List Var) (na : Bool) (ao : Prop) (out : SItems E B G P A (MInv E)) : Prop where
  le : n ≤ n'
  noAgg : na = true → noAggItems out = true
  aggOk : ao → aggOkItems out
  bound : ∀ v ∈ bs, v ∈ boundVarsS out
  /-- every variable is one of the items' or a macro-local name of an invocation expanded meanwhile -/
  vars : ∀ Q, BinderOK ops varsB varsG defs Q → (∀ v ∈ vs, Q v) → ∀ v ∈ varsItems ops varsB varsG out, Q v ∨ TagIn n n' v

theorem IdealSpec.refl (n : Nat) (is : SItems E B G P A (MInv E)) :
    IdealSpec ops varsB varsG defs n n (varsItems ops varsB varsG is) (boundVarsS is) (noAggItems is) (aggOkItems is) is :=
  ⟨Nat.le_refl _, id, id, fun _ h => h, fun _ _ hQ v hv => .inl (hQ v hv)⟩

theorem IdealSpec.append {n n1 n2 : Nat} {vs vs' bs bs' : List Var} {na na' : Bool} {ao ao' : Prop} {is rest : SItems E B G P A (MInv E)}
    (h1 : IdealSpec ops varsB varsG defs n n1 vs bs na ao is) (h2 : IdealSpec ops varsB varsG defs n1 n2 vs' bs' na' ao' rest) :
    IdealSpec ops varsB varsG defs n n2 (vs ++ vs') (bs ++ bs') (na && na') (ao ∧ ao') (is.append rest) where
  le := Nat.le_trans h1.le h2.le
  noAgg h := by
    rw [Bool.and_eq_true] at h
    rw [noAggItems_append, h1.noAgg h.1, h2.noAgg h.2]
    rfl
  aggOk h := aggOkItems_append _ _ (h1.aggOk h.1) (h2.aggOk h.2)
  bound v hv := by
    rw [boundVarsS_append]
    exact List.mem_append.2 ((List.mem_append.1 hv).imp (h1.bound v) (h2.bound v))
  vars Q hB hQ v hv := by
    rw [varsItems_append] at hv
    rcases List.mem_append.1 hv with hv | hv
    · exact (h1.vars Q hB (fun v hv => hQ v (List.mem_append_left _ hv)) v hv).imp id (TagIn.mono (Nat.le_refl _) h2.le)
    · exact (h2.vars Q hB (fun v hv => hQ v (List.mem_append_right _ hv)) v hv).imp id (TagIn.mono h1.le (Nat.le_refl _))

theorem IdealSpec.disj_cons {n n1 n2 : Nat} {vs vs' bs bs' : List Var} {na na' : Bool} {ao ao' : Prop} {a : SItems E B G P A (MInv E)}
    {rest : SAlts E B G P A (MInv E)} (h1 : IdealSpec ops varsB varsG defs n n1 vs bs na ao a)
    (h2 : IdealSpec ops varsB varsG defs n1 n2 vs' bs' na' ao' (.cons (.disj rest) .nil)) :
    IdealSpec ops varsB varsG defs n n2 (vs ++ vs') (bs ++ bs') (na && na') (ao ∧ ao') (.cons (.disj (.cons a rest)) .nil) := by
  have h := h1.append h2
  refine ⟨h.le, fun hna => ?_, fun hao => ?_, fun v hv => ?_, fun Q hB hQ v hv => h.vars Q hB hQ v ?_⟩
  · simpa only [noAggItems_append, noAggItems, noAggItem, noAggAlts, Bool.and_true] using h.noAgg hna
  · have := h2.aggOk hao.2
    simp only [aggOkItems, aggOkItem, aggOkAlts, and_true] at this ⊢
    exact ⟨h1.aggOk hao.1, this⟩
  · simpa only [boundVarsS_append, boundVarsS, boundVarsI, boundVarsA, List.append_nil] using h.bound v hv
  · simpa only [varsItems_append, varsItems, varsItem, varsAlts, List.append_nil] using hv

theorem IdealSpec.of_body (hVL : VarsLaws ops varsB varsG) (hH : HygienicDefs ops varsB varsG defs) {n n' : Nat} {inv : MInv E}
    {d : MacroDef E B G P A} (hd : d ∈ defs) (hargs : argsOk d.params inv.args = true) {bs : List Var}
    {out : SItems E B G P A (MInv E)}
    (h0 : IdealSpec ops varsB varsG defs (n + 1) n' (varsItems ops varsB varsG (instItems ops inv.args (tagVar n) d.body)) bs
      (noAggItems (instItems ops inv.args (tagVar n) d.body)) (aggOkItems (instItems ops inv.args (tagVar n) d.body)) out) :
    IdealSpec ops varsB varsG defs n n' (varsMInv ops inv) [] true True out := by
  -- the body of a definition has no aggregation, hence neither has its expansion
  have hpb : noAggItems (instItems ops inv.args (tagVar n) d.body) = true := ((noAgg_inst _ _).2.1 _).trans (hH.noAgg hd)
  refine ⟨Nat.le_of_succ_le h0.le, fun _ => h0.noAgg hpb, fun _ => h0.aggOk (aggOk_of_noAgg.2.1 _ hpb), (fun _ hv => nomatch hv), ?_⟩
  intro Q hB hQ v hv
  rw [varsMInv_eq] at hQ
  have hbody : ∀ v ∈ varsItems ops varsB varsG (instItems ops inv.args (tagVar n) d.body), Q v ∨ TagIn n (n + 1) v := fun v hv =>
    (inst_body_vars hVL hH hB hd hargs hQ (tagVar n) v hv).imp id fun ⟨x, _, hx, e⟩ => ⟨n, x, Nat.le_refl _, Nat.lt_succ_self _, hx, e⟩
  rcases h0.vars (fun v => Q v ∨ TagIn n (n + 1) v) (hB.mono fun _ => .inl) hbody v hv with (hq | ht) | ht
  · exact .inl hq
  · exact .inr (ht.mono (Nat.le_refl _) h0.le)
  · exact .inr (ht.mono (Nat.le_succ n) (Nat.le_refl _))

theorem idealBody_cons {d n : Nat} {i : SItem E B G P A (MInv E)} {rest : SItems E B G P A (MInv E)} :
    idealBody ops defs (d + 1) n (.cons i rest) =
      match idealOne ops defs (idealBody ops defs d) n i with
      | .error e => .error e
      | .ok (is, n1) =>
        match idealBody ops defs (d + 1) n1 rest with
        | .error e => .error e
        | .ok (rest', n2) => .ok (is.append rest', n2) :=
  idealItemsWith_cons (recur := idealBody ops defs d)

theorem ideal_spec (hVL : VarsLaws ops varsB varsG) (hH : HygienicDefs ops varsB varsG defs) :
    (∀ d (i : SItem E B G P A (MInv E)) n is n', idealOne ops defs (idealBody ops defs d) n i = .ok (is, n') →
      IdealSpec ops varsB varsG defs n n' (varsItem ops varsB varsG i) (boundVarsI i) (noAggItem i) (aggOkItem i) is) ∧
    (∀ d (items : SItems E B G P A (MInv E)) n ideal n', idealBody ops defs d n items = .ok (ideal, n') →
      IdealSpec ops varsB varsG defs n n' (varsItems ops varsB varsG items) (boundVarsS items) (noAggItems items) (aggOkItems items) ideal) ∧
    ∀ d (alts : SAlts E B G P A (MInv E)) n out n', expandAltsWith (idealBody ops defs d) n alts = .ok (out, n') →
      IdealSpec ops varsB varsG defs n n' (varsAlts ops varsB varsG alts) (boundVarsA alts) (noAggAlts alts) (aggOkAlts alts)
        (.cons (.disj out) .nil) :=
  fuel_induct
    (fun items n ideal n' h => by
      cases items with
      | nil => cases h; exact .refl n .nil
      | cons _ _ => cases h)
    (fun d f n is n' h => by
      cases h
      simpa only [varsItems, varsItem, boundVarsS, boundVarsI, noAggItems, aggOkItems, List.append_nil, Bool.and_true, and_true]
        using IdealSpec.refl (ops := ops) (varsB := varsB) (varsG := varsG) (defs := defs) n (.cons (.flat f) .nil))
    (fun d alts iha n is n' h => by
      obtain ⟨alts', h1, rfl⟩ := idealOne_disj_ok h
      exact iha _ _ _ h1)
    (fun d inv ihb n is n' h => by
      obtain ⟨df, hd, hargs, hr⟩ := idealOne_mac_ok h
      exact (ihb _ _ _ _ hr).of_body hVL hH (List.mem_of_getElem? hd) hargs)
    (fun d n ideal n' h => by cases h; exact .refl n .nil)
    (fun d i rest ihi ih n ideal n' h => by
      obtain ⟨is, n1, rest', h1, h2, rfl⟩ := idealItemsWith_cons_ok (recur := idealBody ops defs d) h
      exact (ihi _ _ _ h1).append (ih _ _ _ h2))
    (fun d n out n' h => by
      cases h
      simpa only [varsItems, varsItem, varsAlts, boundVarsS, boundVarsI, boundVarsA, noAggItems, noAggItem, noAggAlts, aggOkItems,
        aggOkItem, aggOkAlts, List.append_nil, Bool.and_true, and_true]
        using IdealSpec.refl (ops := ops) (varsB := varsB) (varsG := varsG) (defs := defs) n (.cons (.disj .nil) .nil))
    (fun d a rest ihs iha n out n' h => by
      obtain ⟨a', n1, rest', h1, h2, rfl⟩ := expandAltsWith_cons_ok h
      exact (ihs _ _ _ h1).disj_cons (iha _ _ _ h2))

end idealvars

theorem paramBase_lt_reservedBase : paramBase < reservedBase := by decide

theorem gsMac_inj {k k' : Nat} (h : gsMac k = gsMac k') : k = k' := gs_inj 3 k k' h

theorem gsMac_ge (k : Nat) : reservedBase ≤ gsMac k := gs_ge 3 k

theorem gsMac_ne_tagVar (k j x : Nat) : gsMac k ≠ tagVar j x := gs_ne (d := 3) (d' := 4) (by decide) k _

theorem untag?_gsMac (j k : Nat) : untag? j (gsMac k) = none := by
  cases h : untag? j (gsMac k) with
  | none => rfl
  | some x => exact absurd (untag?_eq_some_iff.1 h).1 (gsMac_ne_tagVar k j x)

/-- what an expansion from invocation number `n` on leaves alone: the names below `reservedBase` (call-site variables; a parameter's
own number where `instBinder` left it, by `hpar`: `binderOK_QV`) and the names of the invocations numbered below `n` -/
def QV (n : Nat) (v : Var) : Prop := v < reservedBase ∨ TagIn 0 n v

theorem QV.mono {n n' : Nat} {v : Var} (h : n ≤ n') (hq : QV n v) : QV n' v :=
  hq.imp id (TagIn.mono (Nat.le_refl _) h)

theorem TagIn.num {a b : Nat} {v : Var} (h : TagIn a b v) : a ≤ tagNum v ∧ tagNum v < b ∧ reservedBase ≤ v := by
  obtain ⟨j, x, h1, h2, h3, rfl⟩ := h
  rw [tagNum_tagVar j x (Nat.lt_trans h3 paramBase_lt_reservedBase)]
  exact ⟨h1, h2, tagVar_ge j x⟩

theorem QV.not_tagIn {n b : Nat} {v : Var} (hq : QV n v) (ht : TagIn n b v) : False := by
  have := ht.num
  rcases hq with hq | hq
  · exact absurd hq (Nat.not_lt.2 this.2.2)
  · exact absurd this.1 (Nat.not_le.2 hq.num.2.1)

theorem QV.ne_gsMac {n k : Nat} {v : Var} (hq : QV n v) : v ≠ gsMac k := by
  rintro rfl
  rcases hq with hq | ⟨j, x, _, _, _, h⟩
  · exact absurd hq (Nat.not_lt.2 (gsMac_ge k))
  · exact gsMac_ne_tagVar k j x h

theorem untag?_none_of_num {n : Nat} {v : Var} (h : tagNum v ≠ n) : untag? n v = none := by
  cases hu : untag? n v with
  | none => rfl
  | some x => exact absurd (tagNum_of_untag? hu) h

theorem QV.untag_none {n : Nat} {v : Var} (hq : QV n v) : untag? n v = none := by
  cases hu : untag? n v with
  | none => rfl
  | some x =>
    obtain ⟨rfl, hx⟩ := untag?_eq_some_iff.1 hu
    rcases hq with hq | hq
    · exact absurd hq (Nat.not_lt.2 (tagVar_ge n x))
    · have := hq.num
      rw [tagNum_tagVar n x hx] at this
      exact absurd this.2.1 (Nat.lt_irrefl n)

/-- `τ` renames the macro-local names of the invocations numbered `[n, n')` (as far as they occur in `vs`) to distinct gensyms numbered
`[gs, gs')` and fixes call-site variables and the names of enclosing / earlier invocations -/
structure HygTau (n n' gs gs' : Nat) (vs : List Var) (τ : Var → Var) : Prop where
  fix : ∀ v, QV n v → τ v = v
  fresh : ∀ v ∈ vs, TagIn n n' v → ∃ k, gs ≤ k ∧ k < gs' ∧ τ v = gsMac k
  inj : ∀ v ∈ vs, ∀ w ∈ vs, τ v = τ w → v = w

theorem HygTau.congr_mem {n n' gs gs' : Nat} {vs vs' : List Var} {τ : Var → Var} (h : HygTau n n' gs gs' vs τ)
    (hm : ∀ v, v ∈ vs' → v ∈ vs) : HygTau n n' gs gs' vs' τ :=
  ⟨h.fix, fun v hv => h.fresh v (hm v hv), fun v hv w hw => h.inj v (hm v hv) w (hm w hw)⟩

theorem HygTau.id (n gs : Nat) (vs : List Var) : HygTau n n gs gs vs id := by
  refine ⟨fun _ _ => rfl, ?_, fun _ _ _ _ h => h⟩
  intro v _ ht
  exact absurd (Nat.lt_of_le_of_lt ht.num.1 ht.num.2.1) (Nat.lt_irrefl n)

/-- a map that fixes `QV n` and sends the other elements of `vs` into two consecutive ranges of gensyms, injectively within each
range (`C1`, `C2` say which element goes where) -/
theorem HygTau.of_classes {n n' g1 g2 g3 : Nat} {vs : List Var} {τ : Var → Var} {C1 C2 : Var → Prop}
    (hfix : ∀ v, QV n v → τ v = v) (h12 : g1 ≤ g2) (h23 : g2 ≤ g3)
    (cls : ∀ v ∈ vs, QV n v ∨ (C1 v ∧ ∃ k, g1 ≤ k ∧ k < g2 ∧ τ v = gsMac k) ∨ (C2 v ∧ ∃ k, g2 ≤ k ∧ k < g3 ∧ τ v = gsMac k))
    (inj1 : ∀ v w, C1 v → C1 w → τ v = τ w → v = w) (inj2 : ∀ v w, C2 v → C2 w → τ v = τ w → v = w) :
    HygTau n n' g1 g3 vs τ := by
  refine ⟨hfix, ?_, ?_⟩
  · intro v hv ht
    rcases cls v hv with hq | ⟨_, k, hk1, hk2, hk⟩ | ⟨_, k, hk1, hk2, hk⟩
    · exact (hq.not_tagIn ht).elim
    · exact ⟨k, hk1, Nat.lt_of_lt_of_le hk2 h23, hk⟩
    · exact ⟨k, Nat.le_trans h12 hk1, hk2, hk⟩
  · intro v hv w hw hvw
    rcases cls v hv with hq | ⟨hc, k, hk1, hk2, hk⟩ | ⟨hc, k, hk1, hk2, hk⟩ <;>
    rcases cls w hw with hq' | ⟨hc', k', hk1', hk2', hk'⟩ | ⟨hc', k', hk1', hk2', hk'⟩
    · rw [hfix v hq, hfix w hq'] at hvw; exact hvw
    · rw [hfix v hq, hk'] at hvw; exact (hq.ne_gsMac hvw).elim
    · rw [hfix v hq, hk'] at hvw; exact (hq.ne_gsMac hvw).elim
    · rw [hfix w hq', hk] at hvw; exact (hq'.ne_gsMac hvw.symm).elim
    · exact inj1 v w hc hc' hvw
    · rw [hk, hk'] at hvw; exact absurd (gsMac_inj hvw ▸ hk2) (Nat.not_lt.2 hk1')
    · rw [hfix w hq', hk] at hvw; exact (hq'.ne_gsMac hvw.symm).elim
    · rw [hk, hk'] at hvw; exact absurd (gsMac_inj hvw ▸ hk2') (Nat.not_lt.2 hk1)
    · exact inj2 v w hc hc' hvw

theorem HygTau.append {n n1 n2 gs gs1 gs2 : Nat} {vs1 vs2 : List Var} {τ1 τ2 : Var → Var}
    (h1 : HygTau n n1 gs gs1 vs1 τ1) (h2 : HygTau n1 n2 gs1 gs2 vs2 τ2)
    (hv1 : ∀ v ∈ vs1, QV n v ∨ TagIn n n1 v) (hv2 : ∀ v ∈ vs2, QV n v ∨ TagIn n1 n2 v)
    (hn1 : n ≤ n1) (_hn2 : n1 ≤ n2) (hg1 : gs ≤ gs1) (hg2 : gs1 ≤ gs2) :
    ∃ τ : Var → Var, HygTau n n2 gs gs2 (vs1 ++ vs2) τ ∧ (∀ v ∈ vs1, τ v = τ1 v) ∧ (∀ v ∈ vs2, τ v = τ2 v) := by
  let τ : Var → Var := fun v => if tagNum v < n1 then τ1 v else τ2 v
  have hfix : ∀ v, QV n v → τ v = v := by
    intro v hq
    show (if tagNum v < n1 then τ1 v else τ2 v) = v
    rw [h1.fix v hq, h2.fix v (hq.mono hn1)]
    split <;> rfl
  have e1 : ∀ v ∈ vs1, τ v = τ1 v := by
    intro v hv
    rcases hv1 v hv with hq | ht
    · rw [hfix v hq, h1.fix v hq]
    · exact if_pos ht.num.2.1
  have e2 : ∀ v ∈ vs2, τ v = τ2 v := by
    intro v hv
    rcases hv2 v hv with hq | ht
    · rw [hfix v hq, h2.fix v (hq.mono hn1)]
    · exact if_neg (Nat.not_lt.2 ht.num.1)
  refine ⟨τ, .of_classes (C1 := fun v => v ∈ vs1 ∧ τ v = τ1 v) (C2 := fun v => v ∈ vs2 ∧ τ v = τ2 v) hfix hg1 hg2 ?_ ?_ ?_, e1, e2⟩
  · intro v hv
    rcases List.mem_append.1 hv with hv | hv
    · rcases hv1 v hv with hq | ht
      · exact .inl hq
      · obtain ⟨k, hk1, hk2, hk⟩ := h1.fresh v hv ht
        exact .inr (.inl ⟨⟨hv, e1 v hv⟩, k, hk1, hk2, by rw [e1 v hv, hk]⟩)
    · rcases hv2 v hv with hq | ht
      · exact .inl hq
      · obtain ⟨k, hk1, hk2, hk⟩ := h2.fresh v hv ht
        exact .inr (.inr ⟨⟨hv, e2 v hv⟩, k, hk1, hk2, by rw [e2 v hv, hk]⟩)
  · rintro v w ⟨hm, he⟩ ⟨hm', he'⟩ hvw
    rw [he, he'] at hvw
    exact h1.inj v hm w hm' hvw
  · rintro v w ⟨hm, he⟩ ⟨hm', he'⟩ hvw
    rw [he, he'] at hvw
    exact h2.inj v hm w hm' hvw

/-- the renaming pass of one invocation (`renameMap`, then `untagMap`) after the renaming of the nested invocations -/
theorem HygTau.invoke {n n' gs gs' : Nat} {vs orig : List Var} {τin : Var → Var}
    (h : HygTau (n + 1) n' gs gs' vs τin) (hg : gs ≤ gs')
    (hvs : ∀ v ∈ vs, QV n v ∨ TagIn n (n + 1) v ∨ TagIn (n + 1) n' v)
    (ho1 : ∀ v ∈ orig, ∃ x, untag? n v = some x) (ho2 : ∀ v ∈ vs, TagIn n (n + 1) v → v ∈ orig) :
    HygTau n n' gs (gs' + orig.length) vs
      (untagMap n ∘ (fun v => match indexOf? v orig with | some i => gsMac (gs' + i) | none => v) ∘ τin) := by
  -- all that matters of the renaming map: it fixes what is not in `orig` and sends the `i`-th element of `orig` to gensym `gs' + i`
  generalize hρ : (fun v => match indexOf? v orig with | some i => gsMac (gs' + i) | none => v) = ρ
  have hρ_notin : ∀ v, v ∉ orig → ρ v = v := by
    intro v hv
    subst hρ
    cases hi : indexOf? v orig with
    | none => simp only [hi]
    | some i => exact absurd (List.mem_of_getElem? (indexOf?_some hi)) hv
  have hρ_in : ∀ v i, indexOf? v orig = some i → ρ v = gsMac (gs' + i) := by
    intro v i hi
    subst hρ
    simp only [hi]
  have hu_gs : ∀ k, untagMap n (gsMac k) = gsMac k := fun k => by simp [untagMap, untag?_gsMac]
  have hgs_notin : ∀ k, gsMac k ∉ orig := by
    intro k hk
    obtain ⟨x, hx⟩ := ho1 _ hk
    rw [untag?_gsMac] at hx
    cases hx
  have hfix : ∀ v, QV n v → (untagMap n ∘ ρ ∘ τin) v = v := by
    intro v hq
    have hno : v ∉ orig := by
      intro hv
      obtain ⟨x, hx⟩ := ho1 v hv
      rw [hq.untag_none] at hx
      cases hx
    simp only [Function.comp, h.fix v (hq.mono (Nat.le_succ n)), hρ_notin v hno, untagMap, hq.untag_none, Option.getD_none]
  refine .of_classes (C1 := fun v => v ∈ vs ∧ (untagMap n ∘ ρ ∘ τin) v = τin v)
    (C2 := fun v => ∃ i, orig[i]? = some v ∧ (untagMap n ∘ ρ ∘ τin) v = gsMac (gs' + i)) hfix hg (Nat.le_add_right _ _) ?_ ?_ ?_
  · intro v hv
    rcases hvs v hv with hq | ht | ht
    · exact .inl hq
    · obtain ⟨i, hi, hidx⟩ := indexOf?_of_mem (ho2 v hv ht)
      have : τin v = v := h.fix v (.inr (ht.mono (Nat.zero_le _) (Nat.le_refl _)))
      have he : (untagMap n ∘ ρ ∘ τin) v = gsMac (gs' + i) := by simp only [Function.comp, this, hρ_in v i hidx, hu_gs]
      exact .inr (.inr ⟨⟨i, indexOf?_some hidx, he⟩, gs' + i, Nat.le_add_right _ _, Nat.add_lt_add_left hi gs', he⟩)
    · obtain ⟨k, hk1, hk2, hk⟩ := h.fresh v hv ht
      have he : (untagMap n ∘ ρ ∘ τin) v = gsMac k := by simp only [Function.comp, hk, hρ_notin _ (hgs_notin k), hu_gs]
      exact .inr (.inl ⟨⟨hv, he.trans hk.symm⟩, k, hk1, hk2, he⟩)
  · rintro v w ⟨hv, he⟩ ⟨hw, he'⟩ hvw
    rw [he, he'] at hvw
    exact h.inj v hv w hw hvw
  · rintro v w ⟨i, hio, he⟩ ⟨i', hio', he'⟩ hvw
    rw [he, he'] at hvw
    have : i = i' := Nat.add_left_cancel (gsMac_inj hvw)
    rw [this, hio'] at hio
    exact (Option.some.inj hio).symm

/-- the implemented result is the ideal result up to a renaming of the names of the invocations expanded meanwhile.
The statement of `expand_hygienic` is this relation at the start state, written out (Lean elaborates its `match` to `HygRel.match_1`) -/
def HygRel (ops : Ops E B G A) (varsB : B → List Var) (varsG : G → List Var) (st : ExpSt) :
    Except ExpandErr (SItems E B G P A (MInv E) × ExpSt) → Except ExpandErr (SItems E B G P A (MInv E) × Nat) → Prop
  | .ok (out, st'), .ok (ideal, n') => st'.inv = n' ∧ st.gs ≤ st'.gs ∧
      ∃ τ : Var → Var, HygTau st.inv n' st.gs st'.gs (varsItems ops varsB varsG ideal) τ ∧ out = renItems ops true τ ideal
  | .error e, .error e' => e = e'
  | _, _ => False

section hygrel
variable {ops : Ops E B G A} {varsB : B → List Var} {varsG : G → List Var} {st : ExpSt}

theorem HygRel.error (e : ExpandErr) : HygRel ops varsB varsG st (.error e : Except _ (SItems E B G P A (MInv E) × ExpSt)) (.error e) := by
  simp only [HygRel]

theorem HygRel.ok {st' : ExpSt} {ideal : SItems E B G P A (MInv E)} {τ : Var → Var} (hg : st.gs ≤ st'.gs)
    (hτ : HygTau st.inv st'.inv st.gs st'.gs (varsItems ops varsB varsG ideal) τ) :
    HygRel ops varsB varsG st (.ok (renItems ops true τ ideal, st')) (.ok (ideal, st'.inv)) := by
  simp only [HygRel]
  exact ⟨trivial, hg, τ, hτ, rfl⟩

theorem HygRel.cases {x : Except ExpandErr (SItems E B G P A (MInv E) × ExpSt)} {y : Except ExpandErr (SItems E B G P A (MInv E) × Nat)}
    (h : HygRel ops varsB varsG st x y) :
    (∃ e, x = .error e ∧ y = .error e) ∨
    ∃ ideal st' τ, x = .ok (renItems ops true τ ideal, st') ∧ y = .ok (ideal, st'.inv) ∧ st.gs ≤ st'.gs ∧
      HygTau st.inv st'.inv st.gs st'.gs (varsItems ops varsB varsG ideal) τ := by
  unfold HygRel at h
  split at h
  · obtain ⟨rfl, hg, τ, hτ, rfl⟩ := h
    exact .inr ⟨_, _, τ, rfl, rfl, hg, hτ⟩
  · exact .inl ⟨_, rfl, congrArg _ h.symm⟩
  · exact h.elim

end hygrel

section main
variable {ops : Ops E B G A} {varsB : B → List Var} {varsG : G → List Var} {defs : Defs E B G P A} {d : Nat}

theorem binderOK_QV (hH : HygienicDefs ops varsB varsG defs)
    (hpar : ∀ d ∈ defs, paramBase + d.params.length ≤ reservedBase) (n : Nat) : BinderOK ops varsB varsG defs (QV n) := by
  intro d hd x _ hx _
  exact .inr (.inl (Nat.lt_of_lt_of_le (hH.lt hd x hx) (hpar d hd)))

variable (hL : OpsLaws ops) (hVL : VarsLaws ops varsB varsG) (hH : HygienicDefs ops varsB varsG defs)
  (hpar : ∀ d ∈ defs, paramBase + d.params.length ≤ reservedBase)
include hL hVL hH hpar

/-- one invocation, given the statement for every body with the budget of the invoked macro's body -/
theorem hyg_inv (hrec : ∀ (st : ExpSt) (items : SItems E B G P A (MInv E)), (∀ v ∈ varsItems ops varsB varsG items, QV st.inv v) →
      aggOkItems items → HygRel ops varsB varsG st (expandBody ops defs false d st items) (idealBody ops defs d st.inv items))
    (inv : MInv E) (st : ExpSt) (hq : ∀ v ∈ varsMInv ops inv, QV st.inv v) :
    HygRel ops varsB varsG st (expandInv ops defs false (expandBody ops defs false d) st inv)
      (idealOne ops defs (idealBody ops defs d) st.inv (.mac inv)) := by
  cases hd : defs[inv.mac]? with
  | none =>
    simp only [expandInv, idealOne, hd]
    exact HygRel.error _
  | some df =>
    have hdm : df ∈ defs := List.mem_of_getElem? hd
    cases ha : argsOk df.params inv.args with
    | false =>
      simp only [expandInv, idealOne, hd, ha, Bool.not_false, if_true]
      exact HygRel.error _
    | true =>
      rw [expandInv_eq hd ha, idealOne_mac_eq hd ha]
      rw [varsMInv_eq] at hq
      have hB := binderOK_QV hH hpar st.inv
      have hbody := inst_body_vars hVL hH hB hdm ha hq (tagVar st.inv)
      have hpb : noAggItems (instItems ops inv.args (tagVar st.inv) df.body) = true := ((noAgg_inst _ _).2.1 _).trans (hH.noAgg hdm)
      have hr := hrec { st with inv := st.inv + 1 } (instItems ops inv.args (tagVar st.inv) df.body)
        (fun v hv => (hbody v hv).elim (fun hq' => hq'.mono (Nat.le_succ _))
          fun ⟨x, _, hx, e⟩ => .inr ⟨st.inv, x, Nat.zero_le _, Nat.lt_succ_self _, hx, e⟩)
        (aggOk_of_noAgg.2.1 _ hpb)
      rcases hr.cases with ⟨e, h1, h2⟩ | ⟨idl, st', τin, h1, h2, hg, hτin⟩
      · rw [h1, h2]
        exact HygRel.error e
      · let Q' : Var → Prop := fun v => QV st.inv v ∨ ∃ x ∈ varsItems ops varsB varsG df.body, x < paramBase ∧ v = tagVar st.inv x
        have hsp := (ideal_spec hVL hH).2.1 d _ (st.inv + 1) _ _ h2
        have hvs' := hsp.vars Q' (hB.mono fun v hv => .inl hv) hbody
        have hpi : noAggItems idl = true := hsp.noAgg hpb
        have hvs : ∀ v ∈ varsItems ops varsB varsG idl, QV st.inv v ∨ TagIn st.inv (st.inv + 1) v ∨ TagIn (st.inv + 1) st'.inv v := by
          intro v hv
          rcases hvs' v hv with (hq' | ⟨x, _, hx, rfl⟩) | ht
          · exact .inl hq'
          · exact .inr (.inl ⟨st.inv, x, Nat.le_refl _, Nat.lt_succ_self _, hx, rfl⟩)
          · exact .inr (.inr ht)
        have ho1 : ∀ v ∈ originated st.inv (renItems ops true τin idl), ∃ x, untag? st.inv v = some x := fun v hv => (mem_originated.1 hv).2
        -- a local of this invocation is bound by the body (`HygienicDefs`), so it is among the names the pass renames
        have ho2 : ∀ v ∈ varsItems ops varsB varsG idl, TagIn st.inv (st.inv + 1) v → v ∈ originated st.inv (renItems ops true τin idl) := by
          intro v hv ht
          rcases hvs' v hv with (hq' | ⟨x, hxv, hx, rfl⟩) | ht'
          · exact (hq'.not_tagIn ht).elim
          · rw [mem_originated]
            refine ⟨?_, x, untag?_tagVar st.inv x (Nat.lt_trans hx paramBase_lt_reservedBase)⟩
            have hb := hsp.bound _ ((boundVars_inst (ops := ops) inv.args (tagVar st.inv) hx).2.1 df.body (hH.bound hdm x hxv hx))
            rw [(boundVars_ren _ _).2.1]
            exact List.mem_map.2 ⟨_, hb, hτin.fix _ (.inr (ht.mono (Nat.zero_le _) (Nat.le_refl _)))⟩
          · exact absurd ht.num.2.1 (Nat.not_lt.2 ht'.num.1)
        have hτ := HygTau.invoke hτin hg hvs ho1 ho2
        rw [h1, h2]
        dsimp only
        -- without aggregations the real pass (`full = false`) renames everywhere; the three renamings are the one of `HygTau.invoke`
        rw [((ren_noAgg false _).2.1 _ ((ren_noAgg true τin).2.1 idl hpi).2).1, (ren_comp hL _ τin).2.1 idl hpi, (ren_comp hL _ _).2.1 idl hpi]
        exact HygRel.ok (st' := { st' with gs := st'.gs + (originated st.inv (renItems ops true τin idl)).length })
          (Nat.le_trans hg (Nat.le_add_right _ _)) hτ

/-- **hygiene from any start state** (nested, or after earlier invocations): for one item, a sequence, the alternatives of a
disjunction -/
theorem hyg :
    (∀ d (i : SItem E B G P A (MInv E)) (st : ExpSt), (∀ v ∈ varsItem ops varsB varsG i, QV st.inv v) → aggOkItem i →
      HygRel ops varsB varsG st (expandOne ops defs false (expandBody ops defs false d) st i)
        (idealOne ops defs (idealBody ops defs d) st.inv i)) ∧
    (∀ d (items : SItems E B G P A (MInv E)) (st : ExpSt), (∀ v ∈ varsItems ops varsB varsG items, QV st.inv v) → aggOkItems items →
      HygRel ops varsB varsG st (expandBody ops defs false d st items) (idealBody ops defs d st.inv items)) ∧
    ∀ d (alts : SAlts E B G P A (MInv E)) (st : ExpSt), (∀ v ∈ varsAlts ops varsB varsG alts, QV st.inv v) → aggOkAlts alts →
      (∃ e, expandAltsWith (expandBody ops defs false d) st alts = .error e ∧
        expandAltsWith (idealBody ops defs d) st.inv alts = .error e) ∨
      ∃ ideal st' τ, expandAltsWith (expandBody ops defs false d) st alts = .ok (renAlts ops true τ ideal, st') ∧
        expandAltsWith (idealBody ops defs d) st.inv alts = .ok (ideal, st'.inv) ∧ st.gs ≤ st'.gs ∧
        HygTau st.inv st'.inv st.gs st'.gs (varsAlts ops varsB varsG ideal) τ :=
  fuel_induct
    (fun items st _ _ => by
      cases items with
      | nil => exact HygRel.ok (ideal := SItems.nil) (τ := id) (Nat.le_refl _) (HygTau.id _ _ _)
      | cons i rest => exact HygRel.error _)
    (fun d f st _ hagg => by
      have h := HygRel.ok (ops := ops) (varsB := varsB) (varsG := varsG) (st := st) (st' := st)
        (ideal := .cons (.flat f) .nil) (Nat.le_refl _) (HygTau.id _ _ _)
      rw [(ren_id hL).2.1 _ (by simp only [aggOkItems, and_true]; exact hagg)] at h
      exact h)
    (fun d alts iha st hq hagg => by
      simp only [expandOne, idealOne]
      rcases iha st hq hagg with ⟨e, h1, h2⟩ | ⟨ai, st1, τ1, h1, h2, hg1, hτ1⟩
      · rw [h1, h2]
        exact HygRel.error e
      · rw [h1, h2]
        exact HygRel.ok (ideal := SItems.cons (.disj ai) .nil) hg1 (hτ1.congr_mem fun v hv => by simpa [varsItems, varsItem] using hv))
    (fun d inv ihb st hq _ => hyg_inv hL hVL hH hpar (fun st items => ihb items st) inv st hq)
    (fun d st _ _ => HygRel.ok (ideal := SItems.nil) (τ := id) (Nat.le_refl _) (HygTau.id _ _ _))
    (fun d i rest ihi ih st hq hagg => by
      simp only [varsItems, List.mem_append] at hq
      have hB := binderOK_QV hH hpar st.inv
      rw [expandBody_cons, idealBody_cons]
      rcases (ihi st (fun v hv => hq v (.inl hv)) hagg.1).cases with ⟨e, h1, h2⟩ | ⟨isi, st1, τ1, h1, h2, hg1, hτ1⟩
      · rw [h1, h2]
        exact HygRel.error e
      · have hs1 := (ideal_spec hVL hH).1 d i st.inv isi st1.inv h2
        rw [h1, h2]
        rcases (ih st1 (fun v hv => (hq v (.inr hv)).mono hs1.le) hagg.2).cases with
          ⟨e, h3, h4⟩ | ⟨resti, st2, τ2, h3, h4, hg2, hτ2⟩
        · simp only [h3, h4]
          exact HygRel.error e
        · have hs2 := (ideal_spec hVL hH).2.1 (d + 1) rest st1.inv resti st2.inv h4
          -- the two parts rename the names of disjoint ranges of invocations: one `τ` does for both
          obtain ⟨τ, hτ, e1, e2⟩ := HygTau.append hτ1 hτ2 (hs1.vars _ hB fun v hv => hq v (.inl hv))
            (hs2.vars _ hB fun v hv => hq v (.inr hv)) hs1.le hs2.le hg1 hg2
          simp only [h3, h4]
          rw [← (ren_congr hL hVL).2.1 isi e1, ← (ren_congr hL hVL).2.1 resti e2, ← renItems_append]
          exact HygRel.ok (Nat.le_trans hg1 hg2) (hτ.congr_mem fun v hv => by rwa [varsItems_append] at hv))
    (fun d st _ _ => .inr ⟨.nil, st, id, rfl, rfl, Nat.le_refl _, HygTau.id _ _ _⟩)
    (fun d a rest ihs iha st hq hagg => by
      simp only [varsAlts, List.mem_append] at hq
      have hB := binderOK_QV hH hpar st.inv
      simp only [expandAltsWith]
      rcases (ihs st (fun v hv => hq v (.inl hv)) hagg.1).cases with ⟨e, h1, h2⟩ | ⟨ai, st1, τ1, h1, h2, hg1, hτ1⟩
      · rw [h1, h2]
        exact .inl ⟨e, rfl, rfl⟩
      · have hs1 := (ideal_spec hVL hH).2.1 d a st.inv ai st1.inv h2
        rw [h1, h2]
        rcases iha st1 (fun v hv => (hq v (.inr hv)).mono hs1.le) hagg.2 with
          ⟨e, h3, h4⟩ | ⟨resti, st2, τ2, h3, h4, hg2, hτ2⟩
        · simp only [h3, h4]
          exact .inl ⟨e, rfl, rfl⟩
        · have hs2 := (ideal_spec hVL hH).2.2 d rest st1.inv resti st2.inv h4
          obtain ⟨τ, hτ, e1, e2⟩ := HygTau.append hτ1 hτ2 (hs1.vars _ hB fun v hv => hq v (.inl hv))
            (fun v hv => hs2.vars _ hB (fun v hv => hq v (.inr hv)) v (by simpa only [varsItems, varsItem, List.append_nil] using hv))
            hs1.le hs2.le hg1 hg2
          simp only [h3, h4]
          rw [← (ren_congr hL hVL).2.1 ai e1, ← (ren_congr hL hVL).2.2 resti e2]
          exact .inr ⟨.cons ai resti, st2, τ, rfl, rfl, Nat.le_trans hg1 hg2, hτ⟩)

theorem hyg_body : ∀ d (st : ExpSt) (items : SItems E B G P A (MInv E)), (∀ v ∈ varsItems ops varsB varsG items, QV st.inv v) →
    aggOkItems items → HygRel ops varsB varsG st (expandBody ops defs false d st items) (idealBody ops defs d st.inv items) :=
  fun d st items => (hyg hL hVL hH hpar).2.1 d items st

end main

/-- **C08 (hygiene)**: the implemented expansion of a call-site body is the ideal expansion up to a renaming `τ` of the
macro-local names: `τ` fixes every variable below `reservedBase` (all call-site variables) and is injective on the
variables of the ideal expansion.  Errors coincide.

Neither `hagg` nor `hpar` can be dropped; both are artefacts of the model's encoding, not of the Rust code:
* `hagg` (call site): `renFItem ops true τ` rewrites a relation argument `.bound v` of an aggregation whose `boundArgs` do NOT
  list `v` into `.key (varE (τ v))`, for every `τ`, so `out = renItems ops true τ ideal` has no solution for such an (ill-formed)
  aggregation, even without any macro (`CE.expand_hygienic_false_agg`);
* `hpar` (definitions): parameter `i` is the variable `paramBase + i`; in a `let $p = ..` position with an EXPRESSION argument
  `instBinder` leaves that number there; with more than `reservedBase - paramBase = 100` parameters it can be the tagged name
  of a LATER invocation (`900 + 8104 = tagVar 1 0`), which the ideal expansion then identifies with that invocation's local
  while the implemented one renames only the latter (`CE.expand_hygienic_false_params`). -/
theorem expand_hygienic (ops : Ops E B G A) {varsB : B → List Var} {varsG : G → List Var} (hL : OpsLaws ops) (hVL : VarsLaws ops varsB varsG)
    (defs : Defs E B G P A) (hH : HygienicDefs ops varsB varsG defs)
    (hpar : ∀ d ∈ defs, paramBase + d.params.length ≤ reservedBase) (items : SItems E B G P A (MInv E))
    (hsite : ∀ v ∈ varsItems ops varsB varsG items, v < paramBase) (hagg : aggOkItems items) (d : Nat) :
    match expandBody ops defs false d {} items, idealBody ops defs d 0 items with
    | .ok (out, _), .ok (ideal, _) =>
        ∃ τ : Var → Var, (∀ v, v < reservedBase → τ v = v) ∧
          (∀ v ∈ varsItems ops varsB varsG ideal, ∀ w ∈ varsItems ops varsB varsG ideal, τ v = τ w → v = w) ∧
          out = renItems ops true τ ideal
    | .error e, .error e' => e = e'
    | _, _ => False := by
  rcases (hyg_body hL hVL hH hpar d {} items (fun v hv => .inl (Nat.lt_trans (hsite v hv) paramBase_lt_reservedBase)) hagg).cases with
    ⟨e, h1, h2⟩ | ⟨ideal, st', τ, h1, h2, _, hτ⟩
  · rw [h1, h2]
  · rw [h1, h2]
    exact ⟨τ, fun v hv => hτ.fix v (.inl hv), hτ.inj, rfl⟩

/-- in the ideal expansion every variable is a call-site variable or belongs to exactly one invocation.
Without `hbind` this fails (`CE.ideal_vars_false`): a parameter of kind `expr` in a `let` / `if let` / `for` / pattern position
that receives an expression leaves its own number `paramBase + i` in the expansion (`instBinder`), which is neither
`< paramBase` nor a tag. -/
theorem ideal_vars (ops : Ops E B G A) {varsB : B → List Var} {varsG : G → List Var} (hVL : VarsLaws ops varsB varsG)
    (defs : Defs E B G P A) (hH : HygienicDefs ops varsB varsG defs)
    (hbind : ∀ d ∈ defs, ∀ x ∈ binderVarsS d.body, paramBase ≤ x → d.params[x - paramBase]? = some .ident)
    (items : SItems E B G P A (MInv E))
    (hsite : ∀ v ∈ varsItems ops varsB varsG items, v < paramBase) (d n n' : Nat) (ideal : SItems E B G P A (MInv E))
    (h : idealBody ops defs d n items = .ok (ideal, n')) :
    ∀ v ∈ varsItems ops varsB varsG ideal, v < paramBase ∨ ∃ j x, n ≤ j ∧ j < n' ∧ x < paramBase ∧ v = tagVar j x :=
  ((ideal_spec hVL hH).2.1 d items n ideal n' h).vars (fun v => v < paramBase) (fun d hd x hx _ hp => .inl (hbind d hd x hx hp)) hsite

mutual
def callsItem : SItem E B G P A (MInv E) → List Nat
  | .flat _ => []
  | .disj alts => callsAlts alts
  | .mac m => [m.mac]
def callsItems : SItems E B G P A (MInv E) → List Nat
  | .nil => []
  | .cons i rest => callsItem i ++ callsItems rest
def callsAlts : SAlts E B G P A (MInv E) → List Nat
  | .nil => []
  | .cons a rest => callsItems a ++ callsAlts rest
end

/-- `m` invokes `n` directly (in body position) -/
def Calls (defs : Defs E B G P A) (m n : Nat) : Prop := ∃ d, defs[m]? = some d ∧ n ∈ callsItems d.body

inductive Reaches (defs : Defs E B G P A) : Nat → Nat → Prop where
  | step {m n : Nat} : Calls defs m n → Reaches defs m n
  | trans {m n k : Nat} : Calls defs m n → Reaches defs n k → Reaches defs m k

/-- holds of every Lean function: that the expansion terminates IS that Lean accepts the definition of `expandBody`, by
structural recursion on the depth budget (and of `expandItemsWith` / `expandAltsWith`, on the items) -/
theorem expandBody_total (ops : Ops E B G A) (defs : Defs E B G P A) (full : Bool) (d : Nat) (st : ExpSt) (items : SItems E B G P A (MInv E)) :
    ∃ r, expandBody ops defs full d st items = r := ⟨_, rfl⟩

theorem calls_inst (ops : Ops E B G A) (args : List (MArg E)) (tag : Var → Var) :
    (∀ i : SItem E B G P A (MInv E), callsItem (instItem ops args tag i) = callsItem i) ∧
    (∀ is : SItems E B G P A (MInv E), callsItems (instItems ops args tag is) = callsItems is) ∧
    ∀ as : SAlts E B G P A (MInv E), callsAlts (instAlts ops args tag as) = callsAlts as :=
  SItem.induct (fun _ => rfl) (fun _ ih => ih) (fun _ => rfl)
    rfl (fun _ _ ihi ihs => by show _ ++ _ = _ ++ _; rw [ihi, ihs])
    rfl (fun _ _ ihs iha => by show _ ++ _ = _ ++ _; rw [ihs, iha])

theorem callsItem_inst (ops : Ops E B G A) (args : List (MArg E)) (tag : Var → Var) :
    ∀ i : SItem E B G P A (MInv E), callsItem (instItem ops args tag i) = callsItem i :=
  (calls_inst ops args tag).1
theorem callsAlts_inst (ops : Ops E B G A) (args : List (MArg E)) (tag : Var → Var) :
    ∀ as : SAlts E B G P A (MInv E), callsAlts (instAlts ops args tag as) = callsAlts as :=
  (calls_inst ops args tag).2.2

/-- `m` reaches itself or something that does, along `R`: what `recursive_rejected` (`_heads`) assumes of an invoked macro -/
def Cyclic (R : Nat → Nat → Prop) (m : Nat) : Prop := ∃ k, (m = k ∨ R m k) ∧ R k k

/-- such a macro invokes one of the same kind (`inv`: the first step of a path) -/
theorem Cyclic.step {C R : Nat → Nat → Prop} (inv : ∀ {m k}, R m k → ∃ n, C m n ∧ (n = k ∨ R n k)) {m : Nat}
    (h : Cyclic R m) : ∃ n, C m n ∧ Cyclic R n := by
  obtain ⟨k, hk, hcyc⟩ := h
  have hmk : R m k := by
    rcases hk with rfl | hk
    · exact hcyc
    · exact hk
  obtain ⟨n, hc, hn⟩ := inv hmk
  exact ⟨n, hc, k, hn, hcyc⟩

theorem Reaches.inv {defs : Defs E B G P A} {m k : Nat} (h : Reaches defs m k) : ∃ n, Calls defs m n ∧ (n = k ∨ Reaches defs n k) := by
  cases h with
  | step hc => exact ⟨k, hc, .inl rfl⟩
  | trans hc hr => exact ⟨_, hc, .inr hr⟩

/-- no successful expansion invokes such a macro: expanding it invokes another one, with a smaller budget -/
theorem expandBody_noCyclic (ops : Ops E B G A) (defs : Defs E B G P A) (full : Bool) :
    ∀ d items st r, expandBody ops defs full d st items = .ok r → ∀ m ∈ callsItems items, ¬ Cyclic (Reaches defs) m :=
  (fuel_induct
    (pI := fun d i => ∀ st r, expandOne ops defs full (expandBody ops defs full d) st i = .ok r →
      ∀ m ∈ callsItem i, ¬ Cyclic (Reaches defs) m)
    (pA := fun d alts => ∀ st r, expandAltsWith (expandBody ops defs full d) st alts = .ok r →
      ∀ m ∈ callsAlts alts, ¬ Cyclic (Reaches defs) m)
    (fun items st r h m hm => by
      cases items with
      | nil => simp [callsItems] at hm
      | cons _ _ => cases h)
    (fun _ _ _ _ _ m hm => by simp [callsItem] at hm)
    (fun d alts iha st r h m hm => by
      simp only [expandOne] at h
      split at h
      · cases h
      · next alts' st1 h1 => exact iha st _ h1 m hm)
    (fun d inv ihb st r h m hm hcyc => by
      simp only [callsItem, List.mem_singleton] at hm
      subst hm
      obtain ⟨df, exp, st', hdf, _, hr, _⟩ := expandInv_ok h
      obtain ⟨n, ⟨df', hdf', hn⟩, hcn⟩ := hcyc.step Reaches.inv
      rw [hdf] at hdf'
      cases hdf'
      exact ihb _ _ _ hr n (by rw [(calls_inst _ _ _).2.1]; exact hn) hcn)
    (fun _ _ _ _ m hm => by simp [callsItems] at hm)
    (fun d i rest ihi ih st (out, st') h m hm => by
      obtain ⟨is, st1, rest', h1, h2, _⟩ := expandBody_cons_ok h
      simp only [callsItems, List.mem_append] at hm
      exact hm.elim (ihi _ _ h1 m) (ih _ _ h2 m))
    (fun _ _ _ _ m hm => by simp [callsAlts] at hm)
    (fun d a rest ihs iha st (out, st') h m hm => by
      obtain ⟨a', st1, rest', h1, h2, _⟩ := expandAltsWith_cons_ok h
      simp only [callsAlts, List.mem_append] at hm
      exact hm.elim (ihs _ _ h1 m) (iha _ _ h2 m))).2.1

/-- **C08 (recursion)**: a body that invokes a macro which reaches itself (or reaches one that does) is rejected, whatever the
depth budget — in particular with the real budget `macroDepth`; no hypothesis on the definitions -/
theorem recursive_rejected (ops : Ops E B G A) (defs : Defs E B G P A) (full : Bool) (d : Nat) (st : ExpSt) (items : SItems E B G P A (MInv E))
    (m k : Nat) (hm : m ∈ callsItems items) (hk : m = k ∨ Reaches defs m k) (hcyc : Reaches defs k k) :
    ∀ r, expandBody ops defs full d st items ≠ .ok r :=
  fun r h => expandBody_noCyclic ops defs full d items st r h m hm ⟨k, hk, hcyc⟩

mutual
/-- every invocation names a defined macro and hands identifiers (not expressions) to `ident` parameters; `ks` are the
kinds of the enclosing definition's parameters (`[]` at the call site) -/
def callsOkItem (defs : Defs E B G P A) (ks : List ParamKind) : SItem E B G P A (MInv E) → Prop
  | .flat _ => True
  | .disj alts => callsOkAlts defs ks alts
  | .mac m => ∃ d, defs[m.mac]? = some d ∧ d.params.length = m.args.length ∧
      ∀ i (h : i < m.args.length), d.params[i]? = some .ident →
        ∃ x, m.args[i] = .ident x ∧ (paramBase ≤ x → ks[x - paramBase]? = some .ident)
def callsOkItems (defs : Defs E B G P A) (ks : List ParamKind) : SItems E B G P A (MInv E) → Prop
  | .nil => True
  | .cons i rest => callsOkItem defs ks i ∧ callsOkItems defs ks rest
def callsOkAlts (defs : Defs E B G P A) (ks : List ParamKind) : SAlts E B G P A (MInv E) → Prop
  | .nil => True
  | .cons a rest => callsOkItems defs ks a ∧ callsOkAlts defs ks rest
end

mutual
/-- every invocation names a defined macro and its arguments pass `parse_args` -/
def goodItem (defs : Defs E B G P A) : SItem E B G P A (MInv E) → Prop
  | .flat _ => True
  | .disj alts => goodAlts defs alts
  | .mac m => ∃ d, defs[m.mac]? = some d ∧ argsOk d.params m.args = true
def goodItems (defs : Defs E B G P A) : SItems E B G P A (MInv E) → Prop
  | .nil => True
  | .cons i rest => goodItem defs i ∧ goodItems defs rest
def goodAlts (defs : Defs E B G P A) : SAlts E B G P A (MInv E) → Prop
  | .nil => True
  | .cons a rest => goodItems defs a ∧ goodAlts defs rest
end

theorem good_site (defs : Defs E B G P A) :
    (∀ i : SItem E B G P A (MInv E), callsOkItem defs [] i → goodItem defs i) ∧
    (∀ is : SItems E B G P A (MInv E), callsOkItems defs [] is → goodItems defs is) ∧
    ∀ as : SAlts E B G P A (MInv E), callsOkAlts defs [] as → goodAlts defs as :=
  SItem.induct
    (fun _ _ => trivial)
    (fun _ ih h => ih h)
    (fun m h => by
      simp only [callsOkItem] at h
      obtain ⟨d, hd, hl, h⟩ := h
      refine ⟨d, hd, (argsOk_iff _ _).2 ⟨hl, ?_⟩⟩
      intro i hi
      have hi' : i < m.args.length := hl ▸ (List.getElem?_eq_some_iff.1 hi).1
      obtain ⟨x, hx, _⟩ := h i hi' hi
      exact ⟨x, by rw [List.getElem?_eq_getElem hi', hx]⟩)
    (fun _ => trivial)
    (fun i rest ihi ihs h => ⟨ihi h.1, ihs h.2⟩)
    (fun _ => trivial)
    (fun a rest ihs iha h => ⟨ihs h.1, iha h.2⟩)

theorem goodItem_site (defs : Defs E B G P A) : ∀ i : SItem E B G P A (MInv E), callsOkItem defs [] i → goodItem defs i :=
  (good_site defs).1
theorem goodAlts_site (defs : Defs E B G P A) : ∀ as : SAlts E B G P A (MInv E), callsOkAlts defs [] as → goodAlts defs as :=
  (good_site defs).2.2

theorem good_inst (ops : Ops E B G A) (defs : Defs E B G P A) (ks : List ParamKind) (args : List (MArg E)) (tag : Var → Var)
    (hargs : argsOk ks args = true) :
    (∀ i : SItem E B G P A (MInv E), callsOkItem defs ks i → goodItem defs (instItem ops args tag i)) ∧
    (∀ is : SItems E B G P A (MInv E), callsOkItems defs ks is → goodItems defs (instItems ops args tag is)) ∧
    ∀ as : SAlts E B G P A (MInv E), callsOkAlts defs ks as → goodAlts defs (instAlts ops args tag as) :=
  SItem.induct
    (fun _ _ => trivial)
    (fun _ ih h => ih h)
    (fun m h => by
      simp only [callsOkItem] at h
      obtain ⟨d, hd, hl, h⟩ := h
      refine ⟨d, hd, (argsOk_iff _ _).2 ⟨by simp [instMInv, hl], ?_⟩⟩
      intro i hi
      have hi' : i < m.args.length := hl ▸ (List.getElem?_eq_some_iff.1 hi).1
      obtain ⟨x, hx, hp⟩ := h i hi' hi
      simp only [instMInv, List.getElem?_map, List.getElem?_eq_getElem hi', hx, Option.map_some]
      by_cases hpx : paramBase ≤ x
      · obtain ⟨z, hz⟩ := ((argsOk_iff _ _).1 hargs).2 _ (hp hpx)
        exact ⟨z, by rw [instVar_param hpx hz]⟩
      · unfold instVar
        rw [if_neg hpx]
        exact ⟨_, rfl⟩)
    (fun _ => trivial)
    (fun i rest ihi ihs h => ⟨ihi h.1, ihs h.2⟩)
    (fun _ => trivial)
    (fun a rest ihs iha h => ⟨ihs h.1, iha h.2⟩)

theorem goodItem_inst (ops : Ops E B G A) (defs : Defs E B G P A) (ks : List ParamKind) (args : List (MArg E)) (tag : Var → Var)
    (hargs : argsOk ks args = true) :
    ∀ i : SItem E B G P A (MInv E), callsOkItem defs ks i → goodItem defs (instItem ops args tag i) :=
  (good_inst ops defs ks args tag hargs).1
theorem goodAlts_inst (ops : Ops E B G A) (defs : Defs E B G P A) (ks : List ParamKind) (args : List (MArg E)) (tag : Var → Var)
    (hargs : argsOk ks args = true) :
    ∀ as : SAlts E B G P A (MInv E), callsOkAlts defs ks as → goodAlts defs (instAlts ops args tag as) :=
  (good_inst ops defs ks args tag hargs).2.2

/-- with well-formed invocations everywhere an expansion can fail in one way only -/
theorem expandBody_good (ops : Ops E B G A) (defs : Defs E B G P A) (full : Bool)
    (hdefs : ∀ df ∈ defs, callsOkItems defs df.params df.body) :
    ∀ d items st, goodItems defs items →
      (∃ r, expandBody ops defs full d st items = .ok r) ∨ expandBody ops defs full d st items = .error .recursive :=
  (fuel_induct
    (pI := fun d i => ∀ st, goodItem defs i → (∃ r, expandOne ops defs full (expandBody ops defs full d) st i = .ok r) ∨
      expandOne ops defs full (expandBody ops defs full d) st i = .error .recursive)
    (pA := fun d alts => ∀ st, goodAlts defs alts → (∃ r, expandAltsWith (expandBody ops defs full d) st alts = .ok r) ∨
      expandAltsWith (expandBody ops defs full d) st alts = .error .recursive)
    (fun items st _ => by
      cases items with
      | nil => exact .inl ⟨_, rfl⟩
      | cons i rest => exact .inr rfl)
    (fun _ _ _ _ => .inl ⟨_, rfl⟩)
    (fun d alts iha st h => by
      simp only [goodItem] at h
      simp only [expandOne]
      rcases iha st h with ⟨⟨alts', st1⟩, h1⟩ | h1
      · rw [h1]; exact .inl ⟨_, rfl⟩
      · rw [h1]; exact .inr rfl)
    (fun d inv ihb st h => by
      obtain ⟨df, hd, ha⟩ := h
      simp only [expandOne, expandInv, hd, ha, Bool.not_true, Bool.false_eq_true, if_false]
      rcases ihb _ { st with inv := st.inv + 1 }
          ((good_inst ops defs df.params inv.args (tagVar st.inv) ha).2.1 df.body (hdefs df (List.mem_of_getElem? hd)))
        with ⟨⟨exp, st'⟩, h1⟩ | h1
      · rw [h1]; exact .inl ⟨_, rfl⟩
      · rw [h1]; exact .inr rfl)
    (fun _ _ _ => .inl ⟨_, rfl⟩)
    (fun d i rest ihi ih st h => by
      simp only [goodItems] at h
      rw [expandBody_cons]
      rcases ihi st h.1 with ⟨⟨is, st1⟩, h1⟩ | h1
      · rw [h1]
        simp only
        rcases ih st1 h.2 with ⟨⟨rest', st2⟩, h2⟩ | h2
        · rw [h2]; exact .inl ⟨_, rfl⟩
        · rw [h2]; exact .inr rfl
      · rw [h1]; exact .inr rfl)
    (fun _ _ _ => .inl ⟨_, rfl⟩)
    (fun d a rest ihs iha st h => by
      simp only [goodAlts] at h
      simp only [expandAltsWith]
      rcases ihs st h.1 with ⟨⟨a', st1⟩, h1⟩ | h1
      · rw [h1]
        simp only
        rcases iha st1 h.2 with ⟨⟨rest', st2⟩, h2⟩ | h2
        · rw [h2]; exact .inl ⟨_, rfl⟩
        · rw [h2]; exact .inr rfl
      · rw [h1]; exact .inr rfl)).2.1

/-- with well-formed invocations everywhere the rejection is the documented error "recursively defined Ascent macro" -/
theorem recursive_rejected_msg (ops : Ops E B G A) (defs : Defs E B G P A) (full : Bool) (d : Nat) (st : ExpSt) (items : SItems E B G P A (MInv E))
    (hok : callsOkItems defs [] items) (hdefs : ∀ df ∈ defs, callsOkItems defs df.params df.body)
    (m k : Nat) (hm : m ∈ callsItems items) (hk : m = k ∨ Reaches defs m k) (hcyc : Reaches defs k k) :
    expandBody ops defs full d st items = .error .recursive := by
  rcases expandBody_good ops defs full hdefs d items st ((good_site defs).2.1 items hok) with ⟨r, h⟩ | h
  · exact absurd h (recursive_rejected ops defs full d st items m k hm hk hcyc r)
  · exact h

/-- the depth budget is only a cut-off: a successful expansion does not depend on it -/
theorem expandBody_mono (ops : Ops E B G A) (defs : Defs E B G P A) (full : Bool) (d : Nat) (st : ExpSt) (items : SItems E B G P A (MInv E))
    (r : SItems E B G P A (MInv E) × ExpSt) (h : expandBody ops defs full d st items = .ok r) :
    expandBody ops defs full (d + 1) st items = .ok r :=
  expandBody_succ ops defs full d items st r h

def CallsH (defs : Defs E B G P A) (m n : Nat) : Prop := ∃ d inv, defs[m]? = some d ∧ SHead.mac inv ∈ d.heads ∧ inv.mac = n

inductive ReachesH (defs : Defs E B G P A) : Nat → Nat → Prop where
  | step {m n : Nat} : CallsH defs m n → ReachesH defs m n
  | trans {m n k : Nat} : CallsH defs m n → ReachesH defs n k → ReachesH defs m k

theorem ReachesH.inv {defs : Defs E B G P A} {m k : Nat} (h : ReachesH defs m k) : ∃ n, CallsH defs m n ∧ (n = k ∨ ReachesH defs n k) := by
  cases h with
  | step hc => exact ⟨k, hc, .inl rfl⟩
  | trans hc hr => exact ⟨_, hc, .inr hr⟩

theorem expandHeadsWith_noCyclic {ops : Ops E B G A} {defs : Defs E B G P A}
    {recur : List (SHead E (MInv E)) → Except ExpandErr (List (SHead E (MInv E)))}
    (hrec : ∀ hs r, recur hs = .ok r → ∀ inv, SHead.mac inv ∈ hs → ¬ Cyclic (ReachesH defs) inv.mac) :
    ∀ (hs : List (SHead E (MInv E))) r, expandHeadsWith ops defs recur hs = .ok r →
      ∀ inv, SHead.mac inv ∈ hs → ¬ Cyclic (ReachesH defs) inv.mac := by
  intro hs
  induction hs with
  | nil => intro _ _ inv hm; simp at hm
  | cons hd rest ih =>
    intro r h inv hm
    cases hd with
    | clause c =>
      simp only [List.mem_cons, reduceCtorEq, false_or] at hm
      simp only [expandHeadsWith] at h
      split at h
      · cases h
      · next rest' h1 => exact ih rest' h1 inv hm
    | mac inv0 =>
      simp only [expandHeadsWith] at h
      split at h
      · cases h
      · next df hd =>
        split at h
        · cases h
        · split at h
          · cases h
          · next hs' hr =>
            split at h
            · cases h
            · next rest' h1 =>
              simp only [List.mem_cons, SHead.mac.injEq] at hm
              rcases hm with rfl | hm
              · intro hcyc
                obtain ⟨_, ⟨df', inv', hdf', hinv', rfl⟩, hcn⟩ := hcyc.step ReachesH.inv
                rw [hd] at hdf'
                cases hdf'
                exact hrec _ _ hr (instMInv ops inv.args id inv') (List.mem_map.2 ⟨_, hinv', rfl⟩) hcn
              · exact ih rest' h1 inv hm

theorem expandHeads_noCyclic (ops : Ops E B G A) (defs : Defs E B G P A) :
    ∀ d hs r, expandHeads ops defs d hs = .ok r → ∀ inv, SHead.mac inv ∈ hs → ¬ Cyclic (ReachesH defs) inv.mac := by
  intro d
  induction d with
  | zero =>
    intro hs r h inv hm
    cases hs with
    | nil => simp at hm
    | cons _ _ => cases h
  | succ d ih => exact expandHeadsWith_noCyclic ih

/-- **C08 (recursion, head position)**: a head macro that reaches itself is rejected as well -/
theorem recursive_rejected_heads (ops : Ops E B G A) (defs : Defs E B G P A) (d : Nat) (hs : List (SHead E (MInv E)))
    (inv : MInv E) (k : Nat) (hm : SHead.mac inv ∈ hs) (hk : inv.mac = k ∨ ReachesH defs inv.mac k) (hcyc : ReachesH defs k k) :
    ∀ r, expandHeads ops defs d hs ≠ .ok r :=
  fun r h => expandHeads_noCyclic ops defs d hs r h inv hm ⟨k, hk, hcyc⟩

/-! ## finding F25 (fixed by 3a6dc9a): a condition attached to a clause inside a macro body was not renamed

Before the fix the implemented expansion of the program below was `r1(v0), r0(__v0_, v1) if v0 == v0`: the renaming pass did not
visit attached conditions, and the macro-local `v0` there read the CALL SITE's `v0`.  Since the fix the condition is renamed with
the clause (`renFItem`, `boundVarsF`), and macro bodies with attached conditions fall under `expand_hygienic`. -/

namespace F25
def ops0 : Ops Var (Var × Var) Unit Unit where
  varE v := v
  eqB v e := (v, e)
  notA := ()
  varsE e := [e]
  subE θ e := θ e
  subB θ b := (θ b.1, θ b.2)
  subG _ g := g

/-- `macro m0($p0: ident) { r0(v0, $p0) if v0 == v0 }` (the test stands for any test that reads the macro-local `v0`) -/
def defs : Defs Var (Var × Var) Unit Unit Unit :=
  [{ params := [.ident], body := .cons (.flat (.clause 0 [.var 0, .var paramBase] [.ifc (0, 0)])) .nil, heads := [] }]

/-- call site `r1(v0), m0!(v1)` -/
def site : SItems Var (Var × Var) Unit Unit Unit (MInv Var) :=
  .cons (.flat (.clause 1 [.var 0] [])) (.cons (.mac { mac := 0, args := [.ident 1] }) .nil)

def varsB0 : Var × Var → List Var := fun b => [b.1, b.2]
def varsG0 : Unit → List Var := fun _ => []

/-- the implemented expansion (since fix 3a6dc9a): the clause column AND the attached condition are renamed (`gsMac 0`);
the call site's `v0` (variable `0`) is not touched -/
theorem f25_fixed :
    expandBody ops0 defs false macroDepth {} site =
      .ok (.cons (.flat (.clause 1 [.var 0] [])) (.cons (.flat (.clause 0 [.var (gsMac 0), .var 1] [.ifc (gsMac 0, gsMac 0)])) .nil),
           { inv := 1, gs := 1 }) := by
  rfl

/-- the ideal expansion keeps the macro-local apart from the call site's `v0` -/
theorem f25_ideal :
    idealBody ops0 defs macroDepth 0 site =
      .ok (.cons (.flat (.clause 1 [.var 0] [])) (.cons (.flat (.clause 0 [.var (tagVar 0 0), .var 1] [.ifc (tagVar 0 0, tagVar 0 0)])) .nil), 1) := by
  rfl

/-- the α-renaming between the two: the macro-local `v0` of invocation 0 becomes the gensym `__v0_` -/
def τ0 (v : Var) : Var := if v = tagVar 0 0 then gsMac 0 else v

/-- the conclusion of `expand_hygienic` for this program, checked by evaluation: the implemented expansion IS the ideal expansion
renamed by `τ0`, which is injective on the variables of the ideal expansion and fixes every call-site variable
(`CE.f25_by_theorem` obtains it from the theorem) -/
theorem f25_hygienic :
    match expandBody ops0 defs false macroDepth {} site, idealBody ops0 defs macroDepth 0 site with
    | .ok (out, _), .ok (ideal, _) =>
        out = renItems ops0 true τ0 ideal ∧
        (∀ v ∈ varsItems ops0 varsB0 varsG0 ideal, ∀ w ∈ varsItems ops0 varsB0 varsG0 ideal, τ0 v = τ0 w → v = w) ∧
        (∀ v, v < reservedBase → τ0 v = v)
    | _, _ => False := by
  rw [f25_fixed, f25_ideal]
  refine ⟨rfl, by decide, ?_⟩
  intro v hv
  have h : v ≠ tagVar 0 0 := by
    intro e
    have := tagVar_ge 0 0
    rw [← e] at this
    exact absurd hv (Nat.not_lt.2 this)
  simp [τ0, h]
end F25

/-! ## finding FM8 (fixed by deae510): a macro that invokes itself twice per level

`recursive_rejected` / `recursive_rejected_heads` say WHAT the answer is; the real code needed 2^50 (two invocations inside one
disjunction) resp. 2^100 (two invocations in a head macro) expansions to reach it, because heads and disjunctions expanded ALL their
items before looking for an error.  Since the fix the first error is returned at once (`punctuated_try_map`), which is how
`expandAltsWith` / `expandItemsWith` / `expandHeadsWith` thread their `Except` — left to right, nothing behind the first error is
evaluated: the kernel reaches the answer along the leftmost branch, 100 steps deep.  (`decide +kernel`: the instance is evaluated
by the kernel, which shares the expansion state threaded through the items; the elaborator's own call-by-name evaluation, which plain
`decide` runs first, re-evaluates it at every use and gives up beyond depth ~30.  Neither adds an axiom.) -/

namespace FM8
open F25

/-- `m0!($p0)` -/
def self : MInv Var := { mac := 0, args := [.ident paramBase] }
/-- `macro m0($p0: ident) { (m0!($p0) | m0!($p0)) }` and, in head position, `macro m0($p0: ident) { m0!($p0), m0!($p0) }` -/
def defs : Defs Var (Var × Var) Unit Unit Unit :=
  [{ params := [.ident],
     body := .cons (.disj (.cons (.cons (.mac self) .nil) (.cons (.cons (.mac self) .nil) .nil))) .nil,
     heads := [.mac self, .mac self] }]

/-- call site `r1(v0), m0!(v0)` -/
def site : SItems Var (Var × Var) Unit Unit Unit (MInv Var) :=
  .cons (.flat (.clause 1 [.var 0] [])) (.cons (.mac { mac := 0, args := [.ident 0] }) .nil)

def isRecursive {α : Type} : Except ExpandErr α → Bool
  | .error .recursive => true
  | _ => false

theorem isRecursive_iff {α : Type} {x : Except ExpandErr α} : isRecursive x = true ↔ x = .error .recursive := by
  cases x with
  | ok a => simp [isRecursive]
  | error e => cases e <;> simp [isRecursive]

/-- `r3(v0) <-- r1(v0), m0!(v0);` is answered "recursively defined Ascent macro", by evaluation -/
theorem branching_disjunction_rejected : isRecursive (expandBody ops0 defs false macroDepth {} site) = true := by
  decide +kernel

/-- `m0!(v0) <-- r1(v0);` likewise -/
theorem branching_head_rejected :
    isRecursive (expandHeads ops0 defs macroDepth [.mac { mac := 0, args := [.ident 0] }]) = true := by
  decide +kernel

/-- the whole rule (`expandRule`: body, then heads), with the branching macro in the body resp. only in the head -/
theorem branching_rule_rejected :
    isRecursive (expandRule ops0 defs false { heads := [], body := site }) = true ∧
    isRecursive (expandRule ops0 defs false
      { heads := [.mac { mac := 0, args := [.ident 0] }], body := .cons (.flat (.clause 1 [.var 0] [])) .nil }) = true :=
  ⟨isRecursive_iff.2 (expandRule_body_error (isRecursive_iff.1 branching_disjunction_rejected)),
   isRecursive_iff.2 (expandRule_heads_error (p := (_, _)) rfl (isRecursive_iff.1 branching_head_rejected))⟩
end FM8

/-! ## `hagg` and `hpar` of `expand_hygienic`, `hbind` of `ideal_vars` cannot be dropped: counterexamples

All three use the one-sorted operations `F25.ops0` (an expression is a variable), which satisfy `OpsLaws` and `VarsLaws`. -/

namespace CE
open F25

theorem ops0_opsLaws : OpsLaws ops0 where
  subE_var := fun _ _ => rfl
  subE_comp := fun _ _ _ => rfl
  subB_comp := fun _ _ _ => rfl
  subG_comp := fun _ _ _ => rfl
  subE_id := fun _ => rfl
  subB_id := fun _ => rfl
  subG_id := fun _ => rfl
  subE_congr := by
    intro θ θ' e h
    exact h e (by simp [ops0])

theorem ops0_varsLaws : VarsLaws ops0 varsB0 varsG0 where
  varsE_var := fun _ => rfl
  varsE_sub := by intro θ e v; simp [ops0]
  varsB_sub := by intro θ b v; simp [ops0, varsB0]
  varsG_sub := by intro θ g v; simp [varsG0]
  subB_congr := by
    intro θ θ' b h
    simp only [ops0, varsB0] at *
    rw [h b.1 (by simp), h b.2 (by simp)]
  subG_congr := fun _ _ _ _ => rfl

/-- call site `agg () = f() in r0(v0)` where the relation argument is marked "bound" but is not listed (ill-formed aggregation) -/
def siteA : SItems Var (Var × Var) Unit Unit Unit (MInv Var) :=
  .cons (.flat (.agg { outs := [], fn := (), boundArgs := [], rel := 0, args := [.bound 0] })) .nil

theorem expand_hygienic_false_agg :
    ¬ (match expandBody ops0 ([] : Defs Var (Var × Var) Unit Unit Unit) false 1 {} siteA, idealBody ops0 [] 1 0 siteA with
    | .ok (out, _), .ok (ideal, _) =>
        ∃ τ : Var → Var, (∀ v, v < reservedBase → τ v = v) ∧
          (∀ v ∈ varsItems ops0 varsB0 varsG0 ideal, ∀ w ∈ varsItems ops0 varsB0 varsG0 ideal, τ v = τ w → v = w) ∧
          out = renItems ops0 true τ ideal
    | .error e, .error e' => e = e'
    | _, _ => False) := by
  show ¬ (∃ τ : Var → Var, (∀ v, v < reservedBase → τ v = v) ∧
          (∀ v ∈ varsItems ops0 varsB0 varsG0 siteA, ∀ w ∈ varsItems ops0 varsB0 varsG0 siteA, τ v = τ w → v = w) ∧
          siteA = renItems ops0 true τ siteA)
  rintro ⟨τ, _, _, h⟩
  simp [siteA, renItems, renItem, renFItem] at h

theorem siteA_hyps : HygienicDefs ops0 varsB0 varsG0 ([] : Defs Var (Var × Var) Unit Unit Unit) ∧
    ∀ v ∈ varsItems ops0 varsB0 varsG0 siteA, v < paramBase := by
  unfold HygienicDefs
  exact ⟨by decide, by decide⟩

/-- `macro m0($p0: expr) { r0(v0), let $p0 = v0 }` -/
def defsB : Defs Var (Var × Var) Unit Unit Unit :=
  [{ params := [.expr], body := .cons (.flat (.clause 0 [.var 0] [])) (.cons (.flat (.cond (.letc paramBase 0))) .nil), heads := [] }]

/-- call site `m0!(v1 + 0)` (an expression argument) -/
def siteB : SItems Var (Var × Var) Unit Unit Unit (MInv Var) :=
  .cons (.mac { mac := 0, args := [.expr 1] }) .nil

theorem siteB_hyps : HygienicDefs ops0 varsB0 varsG0 defsB ∧ ∀ v ∈ varsItems ops0 varsB0 varsG0 siteB, v < paramBase := by
  unfold HygienicDefs
  exact ⟨by decide, by decide⟩

theorem siteB_ideal : idealBody ops0 defsB 2 0 siteB =
    .ok (.cons (.flat (.clause 0 [.var (tagVar 0 0)] [])) (.cons (.flat (.cond (.letc paramBase (tagVar 0 0)))) .nil), 1) := by
  rfl

theorem ideal_vars_false :
    ¬ (∀ v ∈ varsItems ops0 varsB0 varsG0 (.cons (.flat (.clause 0 [.var (tagVar 0 0)] [])) (.cons (.flat (.cond (.letc paramBase (tagVar 0 0)))) .nil) :
          SItems Var (Var × Var) Unit Unit Unit (MInv Var)),
        v < paramBase ∨ ∃ j x, 0 ≤ j ∧ j < 1 ∧ x < paramBase ∧ v = tagVar j x) := by
  intro h
  have := h paramBase (by simp [varsItems, varsItem, varsFItem, varsCond])
  rcases this with h | ⟨j, x, _, _, _, h⟩
  · exact absurd h (by decide)
  · have := tagVar_ge j x
    rw [← h] at this
    exact absurd this (by decide)

/-- `macro m0($p0: expr, .., $p8104: expr) { r0(v0), let $p8104 = v0 }`, `macro m1() { r0(v0) }`: parameter number 8104 is the
variable `900 + 8104 = 9004 = tagVar 1 0` -/
def defsC : Defs Var (Var × Var) Unit Unit Unit :=
  [{ params := List.replicate 8105 .expr,
     body := .cons (.flat (.clause 0 [.var 0] [])) (.cons (.flat (.cond (.letc (paramBase + 8104) 0))) .nil), heads := [] },
   { params := [], body := .cons (.flat (.clause 0 [.var 0] [])) .nil, heads := [] }]

def siteC : SItems Var (Var × Var) Unit Unit Unit (MInv Var) :=
  .cons (.mac { mac := 0, args := List.replicate 8105 (.expr 1) }) (.cons (.mac { mac := 1, args := [] }) .nil)

/-- the body of the first macro, instantiated for invocation `j`: the `let` position of parameter 8104 received an expression and
keeps the parameter's own number (the 8105 arguments are never traversed: `argsOk_replicate_expr`, `instVar_param`) -/
theorem defsC_inst (j : Nat) : instItems ops0 (List.replicate 8105 (.expr 1)) (tagVar j)
      (.cons (.flat (.clause 0 [.var 0] [])) (.cons (.flat (.cond (.letc (paramBase + 8104) 0))) .nil)
        : SItems Var (Var × Var) Unit Unit Unit (MInv Var)) =
    .cons (.flat (.clause 0 [.var (tagVar j 0)] [])) (.cons (.flat (.cond (.letc 9004 (tagVar j 0)))) .nil) := by
  have h : instBinder (List.replicate 8105 (MArg.expr (1 : Var))) (tagVar j) (paramBase + 8104) = 9004 := by
    rw [instBinder, instVar_param (a := .expr 1) (by decide) (by rw [List.getElem?_replicate, if_pos (by decide)])]
    rfl
  show SItems.cons (.flat (.clause 0 [.var (tagVar j 0)] []))
    (.cons (.flat (.cond (.letc (instBinder (List.replicate 8105 (MArg.expr (1 : Var))) (tagVar j) (paramBase + 8104)) (tagVar j 0)))) .nil) = _
  rw [h]

theorem siteC_impl : expandBody ops0 defsC false 2 {} siteC =
    .ok (.cons (.flat (.clause 0 [.var (gsMac 0)] [])) (.cons (.flat (.cond (.letc 9004 (gsMac 0))))
          (.cons (.flat (.clause 0 [.var (gsMac 1)] [])) .nil)), { inv := 2, gs := 2 }) := by
  show expandItemsWith ops0 defsC false (expandBody ops0 defsC false 1) {}
    (.cons (.mac { mac := 0, args := List.replicate 8105 (.expr 1) }) (.cons (.mac { mac := 1, args := [] }) .nil)) = _
  rw [expandItemsWith_cons, expandOne, expandInv_eq (inv := ⟨0, List.replicate 8105 (.expr 1)⟩)
    (d := ⟨List.replicate 8105 .expr, _, []⟩) rfl (argsOk_replicate_expr _ _), defsC_inst]
  rfl

theorem siteC_ideal : idealBody ops0 defsC 2 0 siteC =
    .ok (.cons (.flat (.clause 0 [.var (tagVar 0 0)] [])) (.cons (.flat (.cond (.letc 9004 (tagVar 0 0))))
          (.cons (.flat (.clause 0 [.var 9004] [])) .nil)), 2) := by
  show idealItemsWith ops0 defsC (idealBody ops0 defsC 1) 0
    (.cons (.mac { mac := 0, args := List.replicate 8105 (.expr 1) }) (.cons (.mac { mac := 1, args := [] }) .nil)) = _
  rw [idealItemsWith_cons, idealOne_mac_eq (inv := ⟨0, List.replicate 8105 (.expr 1)⟩)
    (d := ⟨List.replicate 8105 .expr, _, []⟩) rfl (argsOk_replicate_expr _ _), defsC_inst]
  rfl

theorem siteC_hyps : HygienicDefs ops0 varsB0 varsG0 defsC ∧ (∀ v ∈ varsItems ops0 varsB0 varsG0 siteC, v < paramBase) := by
  constructor
  · intro d hd
    simp only [defsC, List.mem_cons, List.not_mem_nil, or_false] at hd
    rcases hd with rfl | rfl
    · refine ⟨rfl, ?_, ?_⟩
      · intro v hv
        simp only [varsItems, varsItem, varsFItem, varsCond, ops0, List.flatMap_cons, List.flatMap_nil, List.append_nil,
          List.mem_append, List.mem_cons, List.not_mem_nil, or_false, List.length_replicate] at hv ⊢
        rcases hv with rfl | rfl | rfl <;> decide
      · intro v hv hp
        simp only [varsItems, varsItem, varsFItem, varsCond, ops0, List.flatMap_cons, List.flatMap_nil, List.append_nil,
          List.mem_append, List.mem_cons, List.not_mem_nil, or_false] at hv
        rcases hv with rfl | rfl | rfl
        · simp [boundVarsS, boundVarsI, boundVarsF]
        · exact absurd hp (by decide)
        · simp [boundVarsS, boundVarsI, boundVarsF]
    · simp [noAggItems, noAggItem, varsItems, varsItem, varsFItem, ops0, boundVarsS, boundVarsI, boundVarsF, paramBase]
  · intro v hv
    simp only [siteC, varsItems, varsItem, varsMInv, ops0, List.mem_append, List.mem_flatMap, List.mem_replicate,
      List.not_mem_nil, or_false, false_and, exists_false] at hv
    obtain ⟨a, ⟨_, rfl⟩, hv⟩ := hv
    simp only [List.mem_singleton] at hv
    subst hv
    decide

theorem expand_hygienic_false_params :
    ¬ (match expandBody ops0 defsC false 2 {} siteC, idealBody ops0 defsC 2 0 siteC with
    | .ok (out, _), .ok (ideal, _) =>
        ∃ τ : Var → Var, (∀ v, v < reservedBase → τ v = v) ∧
          (∀ v ∈ varsItems ops0 varsB0 varsG0 ideal, ∀ w ∈ varsItems ops0 varsB0 varsG0 ideal, τ v = τ w → v = w) ∧
          out = renItems ops0 true τ ideal
    | .error e, .error e' => e = e'
    | _, _ => False) := by
  rw [siteC_impl, siteC_ideal]
  rintro ⟨τ, _, _, h⟩
  simp only [renItems, renItem, renFItem, renSArg, renCond, renE, ops0, List.map, SItems.cons.injEq, SItem.flat.injEq,
    FItem.clause.injEq, FItem.cond.injEq, Cond.letc.injEq, List.cons.injEq, SArg.var.injEq, and_true, true_and] at h
  obtain ⟨_, ⟨h1, _⟩, h2⟩ := h
  rw [← h1] at h2
  exact absurd h2 (by decide)

/-! ### the hypotheses of `expand_hygienic` are satisfiable: F25's macro as it is (attached condition), and with its condition
as a separate item -/

theorem f25_hyps : HygienicDefs ops0 varsB0 varsG0 F25.defs ∧ (∀ d ∈ F25.defs, paramBase + d.params.length ≤ reservedBase) ∧
    (∀ v ∈ varsItems ops0 varsB0 varsG0 site, v < paramBase) ∧ aggOkItems site := by
  unfold HygienicDefs
  exact ⟨by decide, by decide, by decide, trivial, trivial, trivial⟩

/-- the program of F25 is an instance of `expand_hygienic` (macro body with an attached condition) -/
theorem f25_by_theorem :
    ∃ τ : Var → Var, (∀ v, v < reservedBase → τ v = v) ∧
      (∀ v ∈ varsItems ops0 varsB0 varsG0 (.cons (.flat (.clause 1 [.var 0] []))
          (.cons (.flat (.clause 0 [.var (tagVar 0 0), .var 1] [.ifc (tagVar 0 0, tagVar 0 0)])) .nil) : SItems Var (Var × Var) Unit Unit Unit (MInv Var)),
        ∀ w ∈ varsItems ops0 varsB0 varsG0 (.cons (.flat (.clause 1 [.var 0] []))
          (.cons (.flat (.clause 0 [.var (tagVar 0 0), .var 1] [.ifc (tagVar 0 0, tagVar 0 0)])) .nil) : SItems Var (Var × Var) Unit Unit Unit (MInv Var)),
        τ v = τ w → v = w) ∧
      (.cons (.flat (.clause 1 [.var 0] [])) (.cons (.flat (.clause 0 [.var (gsMac 0), .var 1] [.ifc (gsMac 0, gsMac 0)])) .nil)
          : SItems Var (Var × Var) Unit Unit Unit (MInv Var)) =
        renItems ops0 true τ (.cons (.flat (.clause 1 [.var 0] []))
          (.cons (.flat (.clause 0 [.var (tagVar 0 0), .var 1] [.ifc (tagVar 0 0, tagVar 0 0)])) .nil)) := by
  have h := expand_hygienic ops0 ops0_opsLaws ops0_varsLaws F25.defs f25_hyps.1 f25_hyps.2.1 site f25_hyps.2.2.1 f25_hyps.2.2.2 macroDepth
  rw [f25_fixed, f25_ideal] at h
  exact h

/-- `macro m0($p0: ident) { r0(v0, $p0), if v0 == v0 }` -/
def defsOk : Defs Var (Var × Var) Unit Unit Unit :=
  [{ params := [.ident], body := .cons (.flat (.clause 0 [.var 0, .var paramBase] [])) (.cons (.flat (.cond (.ifc (0, 0)))) .nil), heads := [] }]

theorem defsOk_hyps : HygienicDefs ops0 varsB0 varsG0 defsOk ∧ (∀ d ∈ defsOk, paramBase + d.params.length ≤ reservedBase) ∧
    (∀ v ∈ varsItems ops0 varsB0 varsG0 site, v < paramBase) ∧ aggOkItems site := by
  unfold HygienicDefs
  exact ⟨by decide, by decide, f25_hyps.2.2⟩

/-- with the condition as a separate item the macro-local `v0` is renamed everywhere as well (compare `F25.f25_fixed`) -/
theorem defsOk_expand :
    expandBody ops0 defsOk false macroDepth {} site =
      .ok (.cons (.flat (.clause 1 [.var 0] [])) (.cons (.flat (.clause 0 [.var (gsMac 0), .var 1] []))
            (.cons (.flat (.cond (.ifc (gsMac 0, gsMac 0)))) .nil)), { inv := 1, gs := 1 }) := by
  rfl

end CE

end AscentVerif.Surface

section axioms_check
open AscentVerif.Surface
#print axioms tagVar_ge
#print axioms tagVar_inj
#print axioms untag?_tagVar
#print axioms gensyms_disjoint
#print axioms stdOps_opsLaws
#print axioms stdOps_varsLaws
#print axioms hyg_body
#print axioms expand_hygienic
#print axioms ideal_vars
#print axioms expandBody_total
#print axioms recursive_rejected
#print axioms recursive_rejected_msg
#print axioms expandBody_mono
#print axioms recursive_rejected_heads
#print axioms F25.f25_fixed
#print axioms F25.f25_ideal
#print axioms F25.f25_hygienic
#print axioms FM8.branching_disjunction_rejected
#print axioms FM8.branching_head_rejected
#print axioms FM8.branching_rule_rejected
#print axioms CE.f25_hyps
#print axioms CE.f25_by_theorem
#print axioms CE.expand_hygienic_false_agg
#print axioms CE.siteA_hyps
#print axioms CE.expand_hygienic_false_params
#print axioms CE.siteC_hyps
#print axioms CE.ideal_vars_false
#print axioms CE.siteB_hyps
#print axioms CE.siteB_ideal
#print axioms CE.defsOk_hyps
#print axioms CE.defsOk_expand
end axioms_check
