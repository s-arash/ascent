import AscentVerif.Props.C19
/-!
# C20 — program instances are isolated and independent of the rayon pool they run in

Where the pool enters the code: `CRelNoIndex` has one shard per thread of the pool current at
CONSTRUCTION, an insert goes to shard `current_thread_index() % shards`, and the merge zips the
shard vectors (silently truncating to the shorter).  Indices of one relation may therefore have
different shard counts (struct fields: pool at construction; `total`/`new` locals of an SCC: pool
at `run()`).  The theorems: whatever the construction sizes, as long as every insert is made by a
thread of the CURRENT pool (index `< m`), all content lives in shards `< m` and no merge loses
anything; consequently lookups are independent of all pool sizes involved (`Proofs/IndexConc` has the
shard-vector argument).  Isolation of instances is not a theorem here: the engine model is a pure function of one
program value, so instances share no model state — the remaining process-wide state of the real code
are the `static mut` timing counters, which no evaluation step reads.
-/
namespace AscentVerif.Index

variable {V : Type} [DecidableEq V]

/-- all content lives in the first `m` shards (`ShardsWithin` of the shard vector) -/
def CNoIdx.Within (c : CNoIdx V) (m : Nat) : Prop := ∀ i, m ≤ i → c.shards.getD i [] = []

theorem CNoIdx.insertMut_within (c : CNoIdx V) (m thread : Nat) (v : V) (ht : thread < m) (hn : 0 < c.shards.length)
    (hw : c.Within m) :
    (c.insertMut thread v).Within m ∧ (c.insertMut thread v).shards.flatten.Perm (v :: c.shards.flatten) := by
  have hlt : thread % c.shards.length < c.shards.length := Nat.mod_lt _ hn
  refine ⟨?_, flatten_modifyNth_append _ _ _ hlt⟩
  intro i hi
  show (modifyNth c.shards _ _).getD i [] = []
  rw [getD_modifyNth]
  have hne : ¬ (i = thread % c.shards.length ∧ thread % c.shards.length < c.shards.length) := by
    intro ⟨e, _⟩
    have := Nat.mod_le thread c.shards.length
    omega
  rw [if_neg hne]
  exact hw i hi

/-- an insert by a thread of a pool of `m` threads (`thread < m`) keeps the content within the first `m` shards -/
theorem CNoIdx.insert_within (c c' : CNoIdx V) (m thread : Nat) (v : V) (ht : thread < m) (hn : 0 < c.shards.length)
    (hw : c.Within m) (h : c.insert thread v = .ok c') :
    c'.Within m ∧ c'.shards.length = c.shards.length ∧ c'.shards.flatten.Perm (v :: c.shards.flatten) := by
  obtain ⟨_, rfl⟩ := Res.ok_of_ite h
  obtain ⟨h1, h2⟩ := CNoIdx.insertMut_within c m thread v ht hn hw
  exact ⟨h1, length_modifyNth _ _ _, h2⟩

/-- **the merge loses nothing even when `from` has MORE shards than `to`**, provided `from`'s content lies
within the first `m ≤ to.shards.length` shards (true when both were only written by a pool of `m`
threads and `to` was constructed in that pool) -/
theorem CNoIdx.moveContents_within (frm to : CNoIdx V) (m : Nat) (hm : m ≤ to.shards.length)
    (hf : frm.Within m) (ht : to.Within m) :
    let r := CNoIdx.moveContents frm to
    r.1.shards.flatten = [] ∧ r.2.shards.length = to.shards.length ∧ r.2.Within m ∧
    r.2.shards.flatten.Perm (to.shards.flatten ++ frm.shards.flatten) := by
  simp only [CNoIdx.moveContents_eq]
  exact noIdxMove_within frm.shards to.shards m hm hf ht

theorem CNoIdx.new_within (threads m : Nat) : (CNoIdx.new threads : CNoIdx V).Within m := by
  intro i _
  exact getD_replicate_nil _ _

/-- **pool independence of the merge step**: `new`, `delta`, `total` constructed in pools of ANY sizes
`a b c` (at least one thread each), all written by the current pool of `m ≤ c` threads (`total` is a
local of the running SCC, constructed in the current pool): after `merge_delta_to_total_new_to_delta`
total holds old total + old delta, delta holds old new, new is empty — as multisets — and the
invariant is re-established for the next iteration whenever `m ≤` the shard count of the index that
becomes the next `total` … which is the same `total` -/
theorem CNoIdx.mergeStep_pool_independent (new delta total : CNoIdx V) (m : Nat)
    (hm : m ≤ total.shards.length) (hn : new.Within m) (hd : delta.Within m) (ht : total.Within m) :
    let r := CNoIdx.moveContents delta total
    let new' := r.1
    let delta' := new
    let total' := r.2
    new'.shards.flatten = [] ∧ delta'.shards.flatten = new.shards.flatten ∧
    total'.shards.flatten.Perm (total.shards.flatten ++ delta.shards.flatten) ∧
    new'.Within m ∧ delta'.Within m ∧ total'.Within m ∧ m ≤ total'.shards.length := by
  obtain ⟨h1, h2, h3, h4⟩ := CNoIdx.moveContents_within delta total m hm hd ht
  exact ⟨h1, rfl, h4, ShardsWithin.of_flatten_eq_nil h1 m, hn, h3, h2 ▸ hm⟩

example : (⟨false, [[1], [], []]⟩ : CNoIdx Int).Within 1 := by
  intro i hi
  match i, hi with
  | 1, _ => rfl
  | 2, _ => rfl
  | (n + 3), _ => simp [List.getD]

#print axioms CNoIdx.insert_within
#print axioms CNoIdx.insertMut_within
#print axioms CNoIdx.moveContents_within
#print axioms CNoIdx.new_within
#print axioms CNoIdx.mergeStep_pool_independent

end AscentVerif.Index
