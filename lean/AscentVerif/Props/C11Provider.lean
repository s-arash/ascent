import AscentVerif.Proofs.TrRelIndRun
/-!
# C11 (b) — the model of the binary trrel provider (`TrRelIndCommon`) meets its contract

The `rel_ind_common` triple `(new, delta, total)` of a binary `#[ds(trrel)]` relation, driven the way generated code drives
it (`init`; per iteration: head updates = `contains_key(total)`, `contains_key(delta)`, `insert_if_not_present(new)`; then
`merge_delta_to_total_new_to_delta`), simulates the set-level specification `Spec`:

* `total' = total ∪ delta`
* `delta' = (new ∪ {(x,y) | x ≠ y, x ⟶⁺ y through total ∪ delta ∪ new}) \ total'`        (`DeltaSpec`)
* `new' = ∅`

This is the contract the code actually meets.  It differs from "delta' = transitive closure \ total'" in exactly one
respect: derived pairs `(x,x)` are dropped (`anti_reflexive` is constantly `true` — finding F7); for inputs without cycles the
two coincide (`deltaSpec_eq_closure_of_acyclic`).

The specification and the driven model (`Reach`, `Common.Has`, `DeltaSpec`, `Spec`, `Op`, `St`, `Sim`, …) are defined in
Proofs/TrRelIndSpec.lean.  Also here: the views of `delta` and `total` answer by selection, each tuple once (`view0_spec`, …), and
the driven model panics only by running out of the merge loop's fuel (`provider_no_variant_panic`).

NOT PROVED: that the merge loop ends within the model's fuel; anything general about the ternary wrapper (`Tern`), of which
only findings are shown, by evaluation: F23 (the delta views [1], [2], [1,2] lose derived tuples) and the repaired F24.
-/
namespace AscentVerif.TrRelInd

/-- **(b) provider contract, binary**: after any sequence of head updates and merges on a fresh triple, if the model
returned, the three copies hold exactly what the specification says -/
theorem provider_contract_bin (ops : List Op) (s₀ s : St) (h₀ : St.init = .ok s₀) (h : St.run s₀ ops = .ok s) :
    Sim s (Spec.run Spec.init ops) :=
  (reachable h₀ h).2.1

/-- the driven model can only panic inside a merge (i.e. by running out of the merge loop's fuel): the variant
discipline (`new` is `New`, `delta`/`total` are `Old`) is never broken -/
theorem provider_no_variant_panic (ops : List Op) (s₀ : St) (h₀ : St.init = .ok s₀) :
    St.run s₀ ops = .panic → ∃ pre nw dl tt, (∃ post, ops = pre ++ [Op.merge] ++ post) ∧ St.run s₀ pre = .ok ⟨nw, dl, tt⟩ ∧
      Common.merge nw dl tt = .panic :=
  run_panic (StWF.init h₀) (Sim.init h₀) SpecInv.init

/-- the views of a copy answer by selection: `TrRelInd0` (first column bound) -/
theorem view0_spec (ops : List Op) (s₀ s : St) (h₀ : St.init = .ok s₀) (h : St.run s₀ ops = .ok s) (c : Common)
    (hc : c = s.dl ∨ c = s.tt) (x : Int) :
    ∃ r, c.get0 x = .ok r ∧ (∀ y, y ∈ r.getD [] ↔ c.Has x y) ∧ (r.getD []).Nodup := by
  obtain ⟨r, rfl, hr⟩ := (reachable h₀ h).1.old_copy hc
  exact view0_old hr true x

/-- `TrRelInd1` (second column bound): the reverse map mirrors the map -/
theorem view1_spec (ops : List Op) (s₀ s : St) (h₀ : St.init = .ok s₀) (h : St.run s₀ ops = .ok s) (c : Common)
    (hc : c = s.dl ∨ c = s.tt) (y : Int) :
    (∀ x, x ∈ (c.get1 y).getD [] ↔ c.Has x y) ∧ ((c.get1 y).getD []).Nodup := by
  obtain ⟨r, rfl, hr⟩ := (reachable h₀ h).1.old_copy hc
  exact view1_old hr true y

/-- `TrRelIndNone` / `TrRelIndFull::iter_all`: every pair exactly once -/
theorem viewNone_spec (ops : List Op) (s₀ s : St) (h₀ : St.init = .ok s₀) (h : St.run s₀ ops = .ok s) (c : Common)
    (hc : c = s.dl ∨ c = s.tt) :
    (∀ x y, (x, y) ∈ c.getNone ↔ c.Has x y) ∧ c.getNone.Nodup := by
  obtain ⟨r, rfl, hr⟩ := (reachable h₀ h).1.old_copy hc
  exact viewNone_old hr true

/-- total and delta stay disjoint, and `new` never holds a pair of either -/
theorem provider_disjoint (ops : List Op) (s₀ s : St) (h₀ : St.init = .ok s₀) (h : St.run s₀ ops = .ok s) :
    ∀ x y, ¬ (s.dl.Has x y ∧ s.tt.Has x y) ∧ (s.nw.Has x y → ¬ s.dl.Has x y ∧ ¬ s.tt.Has x y) := by
  obtain ⟨_, ⟨sN, sD, sT⟩, hinv⟩ := reachable h₀ h
  intro x y
  rw [sN, sD, sT]
  exact ⟨fun hh => hinv.disjDT x y hh.1 hh.2, fun hn => ⟨(hinv.disjN x y hn).2, (hinv.disjN x y hn).1⟩⟩

/-- without cycles the anti-reflexive reading is the transitive closure itself -/
theorem deltaSpec_eq_closure_of_acyclic (T N : Int → Int → Prop)
    (hac : ∀ x, ¬ Reach (fun a b => T a b ∨ N a b) x x) (x y : Int) :
    DeltaSpec T N x y ↔ (Reach (fun a b => T a b ∨ N a b) x y ∧ ¬ T x y) := by
  constructor
  · rintro ⟨hh | hh, hnt⟩
    · exact ⟨.one (Or.inr hh), hnt⟩
    · exact ⟨hh.2, hnt⟩
  · rintro ⟨hr, hnt⟩
    refine ⟨Or.inr ⟨?_, hr⟩, hnt⟩
    rintro rfl
    exact hac x hr

def inserted : List Op → Int → Int → Prop
  | [], _, _ => False
  | .add x y :: rest, p, q => (p = x ∧ q = y) ∨ inserted rest p q
  | .merge :: rest, p, q => inserted rest p q

theorem insInv_run (ops : List Op) (a : Spec) (I : Int → Int → Prop) (h : InsInv a I) :
    InsInv (a.run ops) (fun p q => I p q ∨ inserted ops p q) := by
  induction ops generalizing a I with
  | nil => simpa only [Spec.run, inserted, or_false] using h
  | cons o rest ih =>
    have h1 := ih (a.step o) _ (h.step o)
    cases o with
    | add x y => simpa only [Spec.run, inserted, Op.ins, or_assoc] using h1
    | merge => simpa only [Spec.run, inserted, Op.ins, or_false] using h1

/-- **what the relation holds after a merge**: total ∪ delta = inserted pairs plus all pairs `x ≠ y` connected by a chain
of inserted pairs — the transitive closure minus the derived `(x,x)` -/
theorem spec_after_merge (ops : List Op) (x y : Int) :
    let a := Spec.run Spec.init (ops ++ [Op.merge])
    (a.T x y ∨ a.D x y) ↔ (inserted ops x y ∨ (x ≠ y ∧ Reach (inserted ops) x y)) := by
  intro a
  have h := insInv_run ops Spec.init _ InsInv.init
  simp only [false_or] at h
  have ea : a = (Spec.run Spec.init ops).step .merge := Spec.run_append _ ops [.merge]
  exact ea ▸ h.after_merge x y

/-! ## findings as facts about the model (closed terms, by evaluation) -/

def runOps (ops : List Op) : Res St :=
  match St.init with
  | .ok s => St.run s ops
  | .panic => .panic

/-- F7: after inserting (1,2), (2,1) and merging, (1,1) is in no copy although 1 ⟶ 2 ⟶ 1 -/
theorem trrel_merge_antireflexive_witness :
    ∃ s, runOps [.add 1 2, .add 2 1, .merge] = .ok s ∧ s.dl.containsKey 1 2 = true ∧ s.dl.containsKey 2 1 = true ∧
      s.dl.containsKey 1 1 = false ∧ s.tt.containsKey 1 1 = false := by
  refine ⟨_, rfl, ?_⟩
  decide

/-- two rounds on a fresh ternary triple with both reverse maps: `(k,x,y)` in round 1, `(k',x',y')` in round 2 -/
def ternTwoRounds (a b : Int × Int × Int) : Res (Tern × Tern × Tern) := do
  let t0 := Tern.default true true
  let (n1, _) ← t0.insertIfNotPresent a.1 a.2.1 a.2.2
  let (n2, d1, t1) ← Tern.merge n1 t0 t0
  let (n3, _) ← n2.insertIfNotPresent b.1 b.2.1 b.2.2
  Tern.merge n3 d1 t1

/-- F23, view [1] and [1,2]: (0,1,2) in round 1, (0,2,3) in round 2: the delta holds the derived (0,1,3), but its views [1] and
[1,2] find nothing under 1 (the delta's `reverse_map1` knows only the column-1 value of this round's insert, 2) -/
theorem tern_delta_view1_loses_tuple :
    ∃ n d t, ternTwoRounds (0, 1, 2) (0, 2, 3) = .ok (n, d, t) ∧ d.containsKey 0 1 3 = true ∧
      d.get1 1 = .ok none ∧ d.get12 1 3 = .ok none ∧ d.get01 0 1 = some [3] := by
  refine ⟨_, _, _, rfl, ?_⟩
  decide

/-- F23, view [2]: (0,2,3) in round 1, (0,1,2) in round 2: the derived (0,1,3) is not found under column-2 value 3 -/
theorem tern_delta_view2_loses_tuple :
    ∃ n d t, ternTwoRounds (0, 2, 3) (0, 1, 2) = .ok (n, d, t) ∧ d.containsKey 0 1 3 = true ∧
      d.get2 3 = .ok none ∧ d.get12 1 3 = .ok none ∧ d.get02 0 3 = some [1] := by
  refine ⟨_, _, _, rfl, ?_⟩
  decide

/-- F24 (repaired in the code, `.max(1)`): `len_estimate` of the view [1,2] never divides by zero; whenever both reverse maps exist it
returns a number, for every content -/
theorem tern_lenEstimate12_total (t : Tern) (r1 r2) (h1 : t.rm1 = some r1) (h2 : t.rm2 = some r2) :
    ∃ n, t.lenEstimate12 = .ok n := by
  refine ⟨r1.length * r2.length / max (Nat.sqrt t.map.length) 1, ?_⟩
  simp [Tern.lenEstimate12, h1, h2, unwrap, bind, Res.bind, pure]

/-- the input of F24, a copy without keys, on which the code before the repair divided by zero: the estimate is 0 -/
theorem tern_lenEstimate12_empty : (Tern.default true true).lenEstimate12 = .ok 0 := by
  decide

/-- the hypotheses of `provider_contract_bin` are satisfiable for `[add 1 2, add 2 3, merge]` -/
example : ∃ s₀ s, St.init = .ok s₀ ∧ St.run s₀ [.add 1 2, .add 2 3, .merge] = .ok s := ⟨_, _, rfl, rfl⟩

/-- by the contract, after `add (1,2); add (2,3); merge` the delta holds the derived `(1,3)` and not `(3,1)` -/
example (s₀ s : St) (h₀ : St.init = .ok s₀) (h : St.run s₀ [.add 1 2, .add 2 3, .merge] = .ok s) :
    s.dl.Has 1 3 ∧ ¬ s.dl.Has 3 1 := by
  have sim := provider_contract_bin _ s₀ s h₀ h
  rw [sim.2.1, sim.2.1]
  simp only [Spec.run, Spec.step, Spec.init, DeltaSpec]
  constructor
  · refine ⟨Or.inr ⟨by decide, Reach.cons (y := 2) ?_ (Reach.one ?_)⟩, by simp⟩
    · simp
    · simp
  · rintro ⟨hh | ⟨_, r⟩, _⟩
    · simp at hh
    · cases r with
      | one h1 => simp at h1
      | cons h1 _ => simp at h1

#print axioms provider_contract_bin
#print axioms provider_no_variant_panic
#print axioms view0_spec
#print axioms view1_spec
#print axioms viewNone_spec
#print axioms provider_disjoint
#print axioms deltaSpec_eq_closure_of_acyclic
#print axioms spec_after_merge
#print axioms trrel_merge_antireflexive_witness
#print axioms tern_delta_view1_loses_tuple
#print axioms tern_delta_view2_loses_tuple
#print axioms tern_lenEstimate12_total
#print axioms tern_lenEstimate12_empty

end AscentVerif.TrRelInd
