import AscentVerif.Props.C13
/-!
# C14 — run_timeout stops only in a sound, resumable state

The deadline is an arbitrary oracle over the clock readings (one after every changing
iteration of every looping SCC, one at the end of every non-looping SCC), so the theorems
cover every point at which the deadline can strike, and any number of repeated interruptions.
Serial programs without aggregation and lattices (with aggregation: `Props/C13Agg.lean`, with lattices: `Props/C13L.lean`).
-/
namespace AscentVerif.Engine
open AscentVerif

variable {E B G P A : Type}

/-- `run_timeout` returned `true`: the relations equal the full fixed point -/
theorem timeout_true_complete (I : Interp E B G P A) (cfg : Config) (p : Program E B G P A) (order : SccOrder)
    (dl : Deadline) (s : St) (fuel : Nat) (ps : ProgSt)
    (hp : Relational p) (ho : validOrder p order = true) (hs : WFSt p s)
    (hrun : runTimeout I cfg p order dl fuel s = .done ps) :
    ∀ f, factsOf ps.st f ↔ Derivable I p.rules noAgg (stDB p s) f :=
  (run_ran I cfg p order dl s fuel ps hp ho hs hrun).2.facts

/-- `run_timeout` returned `false`, at whatever point the deadline struck: every tuple present
is derivable from the inputs, no input is lost, and the value is a well-formed program value -/
theorem timeout_false_sound (I : Interp E B G P A) (cfg : Config) (p : Program E B G P A) (order : SccOrder)
    (dl : Deadline) (s : St) (fuel : Nat) (ps : ProgSt)
    (hp : Relational p) (ho : validOrder p order = true) (hs : WFSt p s)
    (hrun : runTimeout I cfg p order dl fuel s = .timedOut ps) :
    WFSt p ps.st ∧ (∀ f, factsOf ps.st f → Derivable I p.rules noAgg (stDB p s) f) ∧
      (∀ f, stDB p s f → factsOf ps.st f) := by
  obtain ⟨h1, h2, h3⟩ := runTimeout_sound I cfg p order dl s fuel ps hp ho hs (Or.inr hrun)
  exact ⟨h1, h2, fun f hf => h3 f hf.1 hf.2⟩

/-- a history of interrupted calls: each starts where the previous one stopped -/
inductive Interrupted (I : Interp E B G P A) (cfg : Config) (p : Program E B G P A) (order : SccOrder) : St → St → Prop where
  | refl (s : St) : Interrupted I cfg p order s s
  | step {s t u : St} (dl : Deadline) (fuel : Nat) (ps : ProgSt) :
      Interrupted I cfg p order s t → runTimeout I cfg p order dl fuel t = .timedOut ps → u = ps.st →
      Interrupted I cfg p order s u

/-- after any number of interruptions at any points the state is still between the input and its least model -/
theorem interrupted_between (I : Interp E B G P A) (cfg : Config) (p : Program E B G P A) (order : SccOrder)
    (hp : Relational p) (ho : validOrder p order = true) {s t : St} (hs : WFSt p s)
    (h : Interrupted I cfg p order s t) :
    WFSt p t ∧ Rows.Between I p.rules noAgg (stDB p s) (stDB p t) := by
  induction h with
  | refl => exact ⟨hs, .refl⟩
  | step dl fuel ps _ hrun hu ih =>
    subst hu
    obtain ⟨hw', hsound', hkeep'⟩ := timeout_false_sound I cfg p order dl _ fuel ps hp ho ih.1 hrun
    exact ⟨hw', ih.2.trans ⟨fun f hf => hsound' f hf.2, fun f hf => ⟨hf.1, hkeep' f hf⟩⟩⟩

/-- **resumption completes to exactly the uninterrupted fixed point**: after any sequence of
interrupted `run_timeout` calls, a call that runs to completion (`run()`, or a `run_timeout`
that returns `true`) leaves exactly the least model of the ORIGINAL inputs -/
theorem resume_complete (I : Interp E B G P A) (cfg : Config) (p : Program E B G P A) (order : SccOrder)
    (hp : Relational p) (ho : validOrder p order = true) {s t : St} (hs : WFSt p s)
    (h : Interrupted I cfg p order s t) (dl : Deadline) (fuel : Nat) (ps : ProgSt)
    (hrun : runTimeout I cfg p order dl fuel t = .done ps) :
    ∀ f, factsOf ps.st f ↔ Derivable I p.rules noAgg (stDB p s) f :=
  have hb := interrupted_between I cfg p order hp ho hs h
  (run_ran I cfg p order dl t fuel ps hp ho hb.1 hrun).2.resume hb.2

/-- non-vacuity: the deadline that strikes at the very first reading is a legal oracle, and so is `never` -/
example : (fun k => k == 0 : Deadline) 0 = true ∧ never 5 = false := by decide

end AscentVerif.Engine
