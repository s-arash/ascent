import AscentVerif.Proofs.Rows
import AscentVerif.Proofs.EnvSim
/-!
# C06 — results are invariant under reordering and consistent renaming

Invariance theorems for the least model (`Derivable`); `run_eq_of_derivable_iff` (from `run_eq_leastModel`, C01) carries them to
what `run()` of the abstract engine computes (stated for permuted rules and input rows, renamed variables and swapped items:
`run_perm_invariant`, `run_rename_vars_invariant`, `run_swap_indep_invariant`; Props/C06Phys.lean: the generated code).
Each is obtained by comparing one-step consequences (`derivable_of_cons_imp`, `derivable_image`).  Renaming the variables
and mapping the constants are one theorem (`derivable_sim`): both are relations on environments that body evaluation
respects item by item (Proofs/EnvSim.lean).  For the order of rules, head clauses and input rows and for renaming relations
and constants the property says what is to be proved; for "names of variables" and "mutually independent body items" the
statements are formulated here: α-renaming under `RenSound` (`derivable_rename_vars`, aggregation included), and
swapping adjacent items that are `Indep`endent relative to the variables bound before them, for an interpretation that
only looks up the variables it declares (`VarsSound`; `sat_swap_indep`, `derivable_swap_indep`); the swap rests on the
frame calculus (`Framed`, `Frame`), which the desugaring proofs use as well (Proofs/DesugarPWNBase.lean).
The vocabulary of these statements — the renamed rule `Rule.ren` (`Arg.ren`, `Cond.ren`, `AggArg.ren`, `Item.ren`), `renEnv`, what an
item mentions and binds (`Item.mentions`, `Item.binds`) — is defined in Proofs/EnvSim.lean, where the traversal is stated.
-/
namespace AscentVerif.Engine
open AscentVerif

variable {E B G P A : Type}

section Transfer
variable {I I' : Interp E B G P A} {rules rules' : List (Rule E B G P A)} {agg agg' : RelId → List Tuple} {inp : DB}

theorem derivable_of_cons_imp (h : ∀ D f, Cons I rules agg D f → Cons I' rules' agg' D f) :
    ∀ f, Derivable I rules agg inp f → Derivable I' rules' agg' inp f :=
  fun _ hf D hD => hf D ⟨hD.1, fun g hg => hD.2 g (h D g hg)⟩

/-- the least model commutes with an injective map `φ` of the facts when the one-step consequences do -/
theorem derivable_image {φ : Fact → Fact} (hφ : Function.Injective φ)
    (h : ∀ D g', Cons I' rules' agg' (fun g => ∃ f, D f ∧ g = φ f) g' ↔ ∃ g, Cons I rules agg D g ∧ g' = φ g) :
    ∀ f, Derivable I rules agg inp f ↔ Derivable I' rules' agg' (fun g => ∃ f', inp f' ∧ g = φ f') (φ f) := by
  intro f
  constructor
  · -- pull a closed database back along `φ`: the image of the pulled-back database lies in the database
    intro hf D' hD'
    exact hf (fun f => D' (φ f)) ⟨fun g hg => hD'.1 _ ⟨g, hg, rfl⟩, fun g hg => hD'.2 _
      (Cons.mono (fun _ ⟨_, hd, e⟩ => e ▸ hd) ((h _ _).mpr ⟨g, hg, rfl⟩))⟩
  · -- the image of the least model is closed
    intro hf
    obtain ⟨f', hf', he⟩ := hf (fun g => ∃ f', Derivable I rules agg inp f' ∧ g = φ f')
      ⟨fun g hg => hg.imp fun _ h => ⟨derivable_input h.1, h.2⟩,
       fun g hg => ((h _ g).mp hg).imp fun _ h => ⟨derivable_cons h.1, h.2⟩⟩
    rw [hφ he]
    exact hf'

end Transfer

/-! ## textual order of rules, head clauses, input rows -/

/-- the one-step consequences depend only on the set of (body, head clause) pairs of the rules -/
theorem cons_of_pairs_le {I : Interp E B G P A} {rules rules' : List (Rule E B G P A)} {agg : RelId → List Tuple}
    (h : ∀ r ∈ rules, ∀ hd ∈ r.heads, ∃ r' ∈ rules', r'.body = r.body ∧ hd ∈ r'.heads) :
    ∀ D f, Cons I rules agg D f → Cons I rules' agg D f := by
  rintro D g ⟨r, hr, ρ, hs, hd, hhd, rfl⟩
  obtain ⟨r', hr', hb, hh⟩ := h r hr hd hhd
  exact ⟨r', hr', ρ, hb ▸ hs, hd, hh, rfl⟩

theorem cons_of_rules_le {I : Interp E B G P A} {rules rules' : List (Rule E B G P A)} {agg : RelId → List Tuple}
    (h : ∀ r ∈ rules, ∃ r' ∈ rules', r.body = r'.body ∧ r.heads.Perm r'.heads) :
    ∀ D f, Cons I rules agg D f → Cons I rules' agg D f :=
  cons_of_pairs_le fun r hr _ hhd => (h r hr).imp fun _ h' => ⟨h'.1, h'.2.1.symm, h'.2.2.mem_iff.mp hhd⟩

theorem derivable_perm_rules (I : Interp E B G P A) (rules rules' : List (Rule E B G P A)) (agg : RelId → List Tuple)
    (inp : DB) (h : rules.Perm rules') : ∀ f, Derivable I rules agg inp f ↔ Derivable I rules' agg inp f :=
  fun f => ⟨derivable_of_cons_imp (cons_of_rules_le fun r hr => ⟨r, h.mem_iff.mp hr, rfl, .refl _⟩) f,
    derivable_of_cons_imp (cons_of_rules_le fun r hr => ⟨r, h.mem_iff.mpr hr, rfl, .refl _⟩) f⟩

theorem derivable_perm_heads (I : Interp E B G P A) (rules rules' : List (Rule E B G P A)) (agg : RelId → List Tuple) (inp : DB)
    (hlen : rules.length = rules'.length)
    (h : ∀ i (hi : i < rules.length) (hi' : i < rules'.length), rules[i].body = rules'[i].body ∧ rules[i].heads.Perm rules'[i].heads) :
    ∀ f, Derivable I rules agg inp f ↔ Derivable I rules' agg inp f := by
  intro f
  constructor
  · refine derivable_of_cons_imp (cons_of_rules_le fun r hr => ?_) f
    obtain ⟨i, hi, rfl⟩ := List.getElem_of_mem hr
    exact ⟨rules'[i]'(hlen ▸ hi), List.getElem_mem _, h i hi (hlen ▸ hi)⟩
  · refine derivable_of_cons_imp (cons_of_rules_le fun r' hr' => ?_) f
    obtain ⟨i, hi', rfl⟩ := List.getElem_of_mem hr'
    obtain ⟨hb, hp⟩ := h i (hlen ▸ hi') hi'
    exact ⟨rules[i]'(hlen ▸ hi'), List.getElem_mem _, hb.symm, hp.symm⟩

theorem derivable_input_ext (I : Interp E B G P A) (rules : List (Rule E B G P A)) (agg : RelId → List Tuple) (inp inp' : DB)
    (h : ∀ f, inp f ↔ inp' f) : ∀ f, Derivable I rules agg inp f ↔ Derivable I rules agg inp' f :=
  derivable_congr_input h

theorem inputDB_perm (p : Program E B G P A) (inp inp' : RelId → List Tuple) (h : ∀ r, (inp r).Perm (inp' r)) :
    ∀ f, inputDB p inp f ↔ inputDB p inp' f := by
  intro f
  unfold inputDB
  rw [(h f.rel).mem_iff]

theorem relational_perm {p p' : Program E B G P A} (hrels : p'.rels = p.rels) (hrules : p'.rules.Perm p.rules)
    (hp : Relational p) : Relational p' := by
  obtain ⟨h1, h2, h3⟩ := hp
  refine ⟨fun r hr => h1 r (hrules.mem_iff.mp hr), fun d hd => h2 d (hrels ▸ hd), fun r hr hd hhd => ?_⟩
  rw [hrels]; exact h3 r (hrules.mem_iff.mp hr) hd hhd

/-- any two programs of C01's fragment with the same least model compute the same relations -/
theorem run_eq_of_derivable_iff (I I' : Interp E B G P A) (cfg cfg' : Config) (p p' : Program E B G P A) (order order' : SccOrder)
    (inp inp' : RelId → List Tuple) (fuel fuel' : Nat) (ps ps' : ProgSt)
    (hp : Relational p) (hp' : Relational p') (ho : validOrder p order = true) (ho' : validOrder p' order' = true)
    (hrun : run I cfg p order fuel (initSt p inp) = .done ps)
    (hrun' : run I' cfg' p' order' fuel' (initSt p' inp') = .done ps')
    (h : ∀ f, Derivable I p.rules noAgg (inputDB p inp) f ↔ Derivable I' p'.rules noAgg (inputDB p' inp') f) :
    ∀ f, factsOf ps.st f ↔ factsOf ps'.st f := fun f => by
  rw [run_eq_leastModel I cfg p order inp fuel ps hp ho hrun f,
    run_eq_leastModel I' cfg' p' order' inp' fuel' ps' hp' ho' hrun' f]
  exact h f

/-- **engine level**: permuting the rules (the declarations stay), shuffling the input vectors and choosing any valid SCC
orders gives the same relations -/
theorem run_perm_invariant (I : Interp E B G P A) (cfg cfg' : Config) (p p' : Program E B G P A) (order order' : SccOrder)
    (inp inp' : RelId → List Tuple) (fuel fuel' : Nat) (ps ps' : ProgSt)
    (hrels : p.rels = p'.rels) (hrules : p.rules.Perm p'.rules) (hinp : ∀ r, (inp r).Perm (inp' r))
    (hp : Relational p) (ho : validOrder p order = true) (ho' : validOrder p' order' = true)
    (hrun : run I cfg p order fuel (initSt p inp) = .done ps)
    (hrun' : run I cfg' p' order' fuel' (initSt p' inp') = .done ps') :
    ∀ f, factsOf ps.st f ↔ factsOf ps'.st f := by
  refine run_eq_of_derivable_iff I I cfg cfg' p p' order order' inp inp' fuel fuel' ps ps' hp
    (relational_perm hrels.symm hrules.symm hp) ho ho' hrun hrun' fun f => ?_
  rw [derivable_perm_rules I p.rules p'.rules noAgg _ hrules f]
  apply derivable_congr_input
  intro g
  rw [inputDB_perm p inp inp' hinp g]
  unfold inputDB
  rw [hrels]

/-! ## renaming relations -/

def Item.mapRel (π : RelId → RelId) : Item E B G P A → Item E B G P A
  | .clause r args conds => .clause (π r) args conds
  | .agg a => .agg { a with rel := π a.rel }
  | i => i
def Rule.mapRel (π : RelId → RelId) (r : Rule E B G P A) : Rule E B G P A :=
  { heads := r.heads.map fun h => { h with rel := π h.rel }, body := r.body.map (Item.mapRel π) }
def Fact.mapRel (π : RelId → RelId) (f : Fact) : Fact := ⟨π f.rel, f.args⟩

section MapRel
variable {I : Interp E B G P A} (π : RelId → RelId) {D D' : DB} (h : ∀ r t, D' ⟨π r, t⟩ ↔ D ⟨r, t⟩)
include h

/-- renaming the relation of a clause is all `Item.mapRel` does: no aggregated relation is consulted (`noAgg`) -/
private theorem step_mapRel (a : Item E B G P A) (ρ ρ₁ : Env) : Step I D' noAgg (Item.mapRel π a) ρ ρ₁ ↔ Step I D noAgg a ρ ρ₁ := by
  cases a with
  | clause r args conds => simp only [Item.mapRel, Step, h]
  | cond c => exact Iff.rfl
  | gen v g => exact Iff.rfl
  | agg a => exact Iff.rfl

private theorem sat_mapRel (items : List (Item E B G P A)) {ρ ρ' : Env} :
    Sat I D' noAgg (items.map (Item.mapRel π)) ρ ρ' ↔ Sat I D noAgg items ρ ρ' := by
  induction items generalizing ρ with
  | nil => simp only [List.map_nil, sat_nil_iff]
  | cons a rest ih => simp only [List.map_cons, sat_cons_iff, step_mapRel π h, ih]

end MapRel

private theorem Fact.mapRel_injective {π : RelId → RelId} (hπ : Function.Injective π) : Function.Injective (Fact.mapRel π) := by
  rintro ⟨r, t⟩ ⟨r', t'⟩ h
  simp only [Fact.mapRel, Fact.mk.injEq] at h
  rw [hπ h.1, h.2]

/-- consistently renaming relations renames the least model (aggregation-free rules) -/
theorem derivable_rename_rels (I : Interp E B G P A) (rules : List (Rule E B G P A)) (inp : DB) (π : RelId → RelId)
    (hπ : Function.Injective π) (haf : ∀ r ∈ rules, r.aggFree = true) :
    ∀ f, Derivable I rules noAgg inp f ↔
      Derivable I (rules.map (Rule.mapRel π)) noAgg (fun g => ∃ f', inp f' ∧ g = Fact.mapRel π f') (Fact.mapRel π f) := by
  have _ := haf -- not needed: with `noAgg` an aggregation reads the same (empty) list before and after renaming
  refine derivable_image (Fact.mapRel_injective hπ) fun D g' => ?_
  have hD : ∀ r t, (∃ f, D f ∧ (⟨π r, t⟩ : Fact) = Fact.mapRel π f) ↔ D ⟨r, t⟩ := by
    refine fun r t => ⟨?_, fun h => ⟨_, h, rfl⟩⟩
    rintro ⟨f', hf', he⟩
    rw [Fact.mapRel_injective hπ (a₁ := ⟨r, t⟩) he]
    exact hf'
  constructor
  · rintro ⟨r', hr', ρ, hs, hd', hhd', rfl⟩
    obtain ⟨r, hr, rfl⟩ := List.mem_map.mp hr'
    obtain ⟨hd, hhd, rfl⟩ := List.mem_map.mp hhd'
    exact ⟨headFact I hd ρ, ⟨r, hr, ρ, (sat_mapRel π hD r.body).mp hs, hd, hhd, rfl⟩, rfl⟩
  · rintro ⟨_, ⟨r, hr, ρ, hs, hd, hhd, rfl⟩, rfl⟩
    exact ⟨Rule.mapRel π r, List.mem_map_of_mem hr, ρ, (sat_mapRel π hD r.body).mpr hs,
      { hd with rel := π hd.rel }, List.mem_map_of_mem (f := fun h : HeadClause E => { h with rel := π h.rel }) hhd, rfl⟩

/-! ## renaming the variables and mapping the constants -/

def mapEnv (σ : Val → Val) (ρ : Env) : Env := ρ.map fun vx => (vx.1, σ vx.2)
def Fact.mapVal (σ : Val → Val) (f : Fact) : Fact := ⟨f.rel, f.args.map σ⟩

/-- interpretation `I'` is interpretation `I` seen through the constant map `σ` — what "no interpreted
functions" amounts to: variables and (mapped) constants, (in)equality tests -/
structure Commutes (σ : Val → Val) (I I' : Interp E B G P A) : Prop where
  expr : ∀ e ρ, I'.expr e (mapEnv σ ρ) = σ (I.expr e ρ)
  test : ∀ b ρ, I'.test b (mapEnv σ ρ) = I.test b ρ
  gen : ∀ g ρ, I'.gen g (mapEnv σ ρ) = (I.gen g ρ).map σ
  pat : ∀ q x, I'.pat q (σ x) = (I.pat q x).map (List.map σ)

/-- `rE`, `rB`, `rG` rename the variables inside the embedded Rust expressions, tests and generators
according to `τ`: evaluating the renamed expression in the renamed environment gives the old value.
(Patterns and aggregators do not see the environment, so they need no renaming.) -/
structure RenSound (τ : Var → Var) (I : Interp E B G P A) (rE : E → E) (rB : B → B) (rG : G → G) : Prop where
  expr : ∀ e ρ, I.expr (rE e) (renEnv τ ρ) = I.expr e ρ
  test : ∀ b ρ, I.test (rB b) (renEnv τ ρ) = I.test b ρ
  gen : ∀ g ρ, I.gen (rG g) (renEnv τ ρ) = I.gen g ρ

private theorem Fact.mapVal_injective {σ : Val → Val} (hσ : Function.Injective σ) : Function.Injective (Fact.mapVal σ) := by
  rintro ⟨r, t⟩ ⟨r', t'⟩ h
  simp only [Fact.mapVal, Fact.mk.injEq] at h
  rw [h.1, (List.map_inj_right (fun x y hxy => hσ hxy)).mp h.2]

section Sim
variable {τ : Var → Var} {s : Val → Val} {R : Env → Env → Prop} {I I' : Interp E B G P A} {rE : E → E} {rB : B → B} {rG : G → G}
  (hs : Function.Injective s) (hE : EnvSim τ s (fun _ => True) R)
  (hI : InterpSim s (fun _ => True) R I I' rE rB (fun _ => []) (fun _ => []))
  (hG : ∀ {ρ σ : Env} (g : G), R ρ σ → I'.gen (rG g) σ = (I.gen g ρ).map s) (hnil : R [] [])
  {agg agg' : RelId → List Tuple} (rules : List (Rule E B G P A))
  (hagg : ∀ r ∈ rules, ∀ c, .agg c ∈ r.body → Surface.Sim R R (fun ρ ρ₁ => ρ₁ ∈ aggEnvs I c ρ (agg c.rel))
    fun σ σ₁ => σ₁ ∈ aggEnvs I' (AggClause.ren τ rE c) σ (agg' c.rel))
include hs hE hI hG hnil hagg

/-- the hypothesis of `derivable_image` at `φ = Fact.mapVal s` -/
theorem cons_sim (D : DB) (g' : Fact) :
    Cons I' (rules.map (Rule.ren τ rE rB rG)) agg' (fun g => ∃ f, D f ∧ g = Fact.mapVal s f) g' ↔
      ∃ g, Cons I rules agg D g ∧ g' = Fact.mapVal s g := by
  have hD : ∀ r t', (∃ f, D f ∧ (⟨r, t'⟩ : Fact) = Fact.mapVal s f) ↔ ∃ t, D ⟨r, t⟩ ∧ t' = t.map s := by
    intro r t'
    constructor
    · rintro ⟨⟨r', t⟩, hf, he⟩
      cases he
      exact ⟨t, hf, rfl⟩
    · rintro ⟨t, hd, rfl⟩
      exact ⟨⟨r, t⟩, hd, rfl⟩
  have hb := fun r (hr : r ∈ rules) => sim_sat (Item.ren τ rE rB rG) (l := r.body) fun a ha =>
    step_sim (D := D) (D' := fun g => ∃ f, D f ∧ g = Fact.mapVal s f) (agg := agg) (agg' := agg') (varsG := fun _ => [])
      hs hE hI hD (fun g h _ => hG g h) a (fun _ _ => trivial) fun c e => hagg r hr c (e ▸ ha)
  have hh : ∀ {ρ σ : Env}, R ρ σ → ∀ h : HeadClause E,
      headFact I' { h with args := h.args.map rE } σ = Fact.mapVal s (headFact I h ρ) := fun hR h => by
    simp [headFact, Fact.mapVal, hI.expr hR]
  constructor
  · rintro ⟨r', hr', σ, hsat, hd', hhd', rfl⟩
    obtain ⟨r, hr, rfl⟩ := List.mem_map.mp hr'
    obtain ⟨hd, hhd, rfl⟩ := List.mem_map.mp hhd'
    obtain ⟨ρ, hsat₀, hR⟩ := (hb r hr [] [] hnil).2 σ hsat
    exact ⟨_, ⟨r, hr, ρ, hsat₀, hd, hhd, rfl⟩, hh hR hd⟩
  · rintro ⟨_, ⟨r, hr, ρ, hsat, hd, hhd, rfl⟩, rfl⟩
    obtain ⟨σ, hsat', hR⟩ := (hb r hr [] [] hnil).1 ρ hsat
    exact ⟨_, List.mem_map_of_mem hr, σ, hsat', _,
      List.mem_map_of_mem (f := fun h : HeadClause E => { h with args := h.args.map rE }) hhd, (hh hR hd).symm⟩

/-- **the least model is natural** along a renaming of the variables and an injective map of the constants -/
theorem derivable_sim (inp : DB) : ∀ f, Derivable I rules agg inp f ↔
    Derivable I' (rules.map (Rule.ren τ rE rB rG)) agg' (fun g => ∃ f', inp f' ∧ g = Fact.mapVal s f') (Fact.mapVal s f) :=
  derivable_image (Fact.mapVal_injective hs) (cons_sim hs hE hI hG hnil rules hagg)

end Sim

theorem Rule.ren_id (r : Rule E B G P A) : Rule.ren id id id id r = r := by
  obtain ⟨heads, body⟩ := r
  simp only [Rule.ren, Item.ren_id, List.map_id, Rule.mk.injEq, and_true]
  exact List.map_id'' (fun _ => rfl) heads

/-! ### the constants: `σ = mapEnv s ρ`, the syntax stays -/

theorem get?_mapEnv (σ : Val → Val) (ρ : Env) (v : Var) : Env.get? (mapEnv σ ρ) v = (ρ.get? v).map σ := by
  induction ρ with
  | nil => rfl
  | cons p ρ ih =>
    obtain ⟨w, x⟩ := p
    show Env.get? ((w, σ x) :: mapEnv σ ρ) v = _
    simp only [Env.get?]
    split
    · rfl
    · exact ih

theorem envSim_mapEnv (s : Val → Val) : EnvSim id s (fun _ => True) fun ρ σ => σ = mapEnv s ρ :=
  ⟨fun h _ => h ▸ get?_mapEnv s _ _, fun h _ _ => h ▸ rfl⟩

theorem Commutes.interpSim {s : Val → Val} {I I' : Interp E B G P A} (hc : Commutes s I I') :
    InterpSim s (fun _ => True) (fun ρ σ => σ = mapEnv s ρ) I I' id id (fun _ => []) (fun _ => []) :=
  ⟨fun h _ => h ▸ hc.expr _ _, fun h _ => h ▸ hc.test _ _, hc.pat⟩

/-- the least model commutes with every injective map on the constant domain
(e.g. small integers → large integers → strings), for aggregation-free rules -/
theorem derivable_rename_consts (σ : Val → Val) (hσ : Function.Injective σ) (I I' : Interp E B G P A) (hc : Commutes σ I I')
    (rules : List (Rule E B G P A)) (inp : DB) (haf : ∀ r ∈ rules, r.aggFree = true) :
    ∀ f, Derivable I rules noAgg inp f ↔
      Derivable I' rules noAgg (fun g => ∃ f', inp f' ∧ g = Fact.mapVal σ f') (Fact.mapVal σ f) := by
  have h := derivable_sim hσ (envSim_mapEnv σ) hc.interpSim (rG := id) (fun g h => h ▸ hc.gen g _) rfl (agg := noAgg)
    (agg' := noAgg) rules (fun r hr c hcm => by have := List.all_eq_true.mp (haf r hr) _ hcm; cases this) inp
  rwa [List.map_congr_left (fun r _ => Rule.ren_id r), List.map_id'] at h

/-! ### the variables (α-renaming): `σ = renEnv τ ρ` (`Surface.Sem.RenOn` with every variable allowed), same constants and interpretation -/

theorem get?_renEnv {τ : Var → Var} (hτ : Function.Injective τ) (ρ : Env) (v : Var) :
    Env.get? (renEnv τ ρ) (τ v) = ρ.get? v :=
  Surface.Sem.get?_renEnv_on (.of_injective hτ fun _ => True) (fun _ _ => trivial) trivial

theorem RenSound.interpSim {τ : Var → Var} {I : Interp E B G P A} {rE : E → E} {rB : B → B} {rG : G → G}
    (hr : RenSound τ I rE rB rG) :
    InterpSim id (fun _ => True) (Surface.Sem.RenOn τ fun _ => True) I I rE rB (fun _ => []) (fun _ => []) :=
  ⟨fun h _ => h.1 ▸ hr.expr _ _, fun h _ => h.1 ▸ hr.test _ _, pat_map_id I⟩

/-- **α-renaming**: consistently renaming the variables of the rules with an injective `τ` does not change the least model.
Works for all rules, including aggregation (whose bound variables and result variables are renamed too) and for every
aggregated-relation oracle `agg`. -/
theorem derivable_rename_vars {τ : Var → Var} (hτ : Function.Injective τ) (I : Interp E B G P A) {rE : E → E} {rB : B → B} {rG : G → G}
    (hr : RenSound τ I rE rB rG) (rules : List (Rule E B G P A)) (agg : RelId → List Tuple) (inp : DB) :
    ∀ f, Derivable I (rules.map (Rule.ren τ rE rB rG)) agg inp f ↔ Derivable I rules agg inp f := by
  intro f
  have hid : ∀ g : Fact, Fact.mapVal id g = g := fun g => by simp [Fact.mapVal]
  have hE := Surface.Sem.envSim_renOn (Surface.Sem.InjOn.of_injective hτ fun _ => True)
  rw [derivable_sim (s := id) (fun _ _ h => h) hE hr.interpSim (fun g h => by rw [h.1, hr.gen, List.map_id]) ⟨rfl, .nil _⟩ rules
    (fun _ _ c _ => aggEnvs_sim hE hr.interpSim ⟨rfl, .nil _⟩ c (fun _ _ => trivial) (fun _ _ => trivial)
      (fun _ _ => trivial) (fun _ _ => trivial) (agg c.rel)) inp f, hid]
  exact derivable_congr_input (fun g => ⟨fun h => ⟨g, h, (hid g).symm⟩, fun ⟨_, h, e⟩ => by rwa [e, hid]⟩) f

/-! ## swapping independent adjacent body items -/

/-- the same look-ups (`Plan.EnvEq` of Proofs/PlanBasic.lean is the same relation under another name) -/
def EnvEqv (ρ ρ' : Env) : Prop := ∀ v, ρ.get? v = ρ'.get? v

def Agree (vs : List Var) (ρ σ : Env) : Prop := ∀ v ∈ vs, ρ.get? v = σ.get? v

/-- `varsE e` (`varsB b`, `varsG g`) lists the free variables of the embedded Rust expression: the
interpretation only looks these variables up (it does not inspect the order or shadowed part of the environment) -/
structure VarsSound (I : Interp E B G P A) (varsE : E → List Var) (varsB : B → List Var) (varsG : G → List Var) : Prop where
  expr : ∀ e ρ ρ', Agree (varsE e) ρ ρ' → I.expr e ρ = I.expr e ρ'
  test : ∀ b ρ ρ', Agree (varsB b) ρ ρ' → I.test b ρ = I.test b ρ'
  gen : ∀ g ρ ρ', Agree (varsG g) ρ ρ' → I.gen g ρ = I.gen g ρ'

/-- **independence** of two body items (relative to the variables bound before them): neither binds a variable the other mentions -/
def Indep (varsE : E → List Var) (varsB : B → List Var) (varsG : G → List Var) (bound : List Var) (a b : Item E B G P A) : Prop :=
  (∀ v ∈ Item.binds bound a, v ∉ Item.mentions varsE varsB varsG b) ∧
  (∀ v ∈ Item.binds bound b, v ∉ Item.mentions varsE varsB varsG a)

instance (varsE : E → List Var) (varsB : B → List Var) (varsG : G → List Var) (bound : List Var) (a b : Item E B G P A) :
    Decidable (Indep varsE varsB varsG bound a b) := by unfold Indep; infer_instance

theorem Indep.symm {varsE : E → List Var} {varsB : B → List Var} {varsG : G → List Var} {bound : List Var} {a b : Item E B G P A}
    (h : Indep varsE varsB varsG bound a b) : Indep varsE varsB varsG bound b a := ⟨h.2, h.1⟩

theorem agree_append {vs ws : List Var} {ρ σ : Env} : Agree (vs ++ ws) ρ σ ↔ Agree vs ρ σ ∧ Agree ws ρ σ :=
  ⟨fun h => ⟨fun v hv => h v (List.mem_append_left ws hv), fun v hv => h v (List.mem_append_right vs hv)⟩,
   fun h v hv => (List.mem_append.mp hv).elim (h.1 v) (h.2 v)⟩

theorem Agree.append {vs : List Var} {ρ σ : Env} (h : Agree vs ρ σ) (n : Env) : Agree vs (n ++ ρ) (n ++ σ) := by
  intro v hv
  rw [get?_append, get?_append, h v hv]

theorem Agree.mono {vs ws : List Var} {ρ σ : Env} (h : Agree vs ρ σ) (hsub : ∀ v ∈ ws, v ∈ vs) : Agree ws ρ σ :=
  fun v hv => h v (hsub v hv)

theorem Agree.symm {vs : List Var} {ρ σ : Env} (h : Agree vs ρ σ) : Agree vs σ ρ := fun v hv => (h v hv).symm

theorem agree_append_left {vs : List Var} {n : Env} (h : ∀ p ∈ n, p.1 ∉ vs) (ρ : Env) : Agree vs (n ++ ρ) ρ := by
  intro v hv
  rw [get?_append, get?_none_of_keys (fun p hp he => h p hp (he ▸ hv))]
  rfl

theorem EnvEqv.agree {ρ σ : Env} (h : EnvEqv ρ σ) (vs : List Var) : Agree vs ρ σ := fun v _ => h v

theorem EnvEqv.append {ρ σ : Env} (h : EnvEqv ρ σ) (n : Env) : EnvEqv (n ++ ρ) (n ++ σ) := by
  intro v
  rw [get?_append, get?_append, h v]

theorem EnvEqv.refl (ρ : Env) : EnvEqv ρ ρ := fun _ => rfl
theorem EnvEqv.trans {ρ σ τ : Env} (h : EnvEqv ρ σ) (h' : EnvEqv σ τ) : EnvEqv ρ τ := fun v => (h v).trans (h' v)

/-! ### frames: an item adds a block `n` of new bindings in front of the environment; the block only depends on the variables
the item mentions, and its keys are variables the item binds (`Framed`, of one transition; `Frame vs R`, of every transition
of `R`, with one list `vs` for what is read and what is bound) -/

/-- `ρ'` is `ρ` with a block `n` of new bindings in front: the keys of `n` lie in `ks`, every variable of `bs` is bound in `ρ'`,
and the transition `R` adds the same block to every environment that agrees with `ρ` on `ms` -/
def Framed (R : Env → Env → Prop) (ks bs ms : List Var) (ρ ρ' : Env) : Prop :=
  ∃ n, ρ' = n ++ ρ ∧ (∀ p ∈ n, p.1 ∈ ks) ∧ (∀ v ∈ bs, Env.get? ρ' v ≠ none) ∧ ∀ σ, Agree ms ρ σ → R σ (n ++ σ)

section Framed
variable {R S T : Env → Env → Prop} {ks ks' bs bs' ms ms' : List Var} {ρ ρ₁ ρ' : Env}

theorem Framed.nil (hb : ∀ v ∈ bs, Env.get? ρ v ≠ none) (h : ∀ σ, Agree ms ρ σ → R σ σ) : Framed R ks bs ms ρ ρ :=
  ⟨[], rfl, fun _ hp => absurd hp List.not_mem_nil, hb, h⟩

theorem Framed.one {v : Var} {x : Val} (hk : v ∈ ks) (h : ∀ σ, Agree ms ρ σ → R σ ((v, x) :: σ)) :
    Framed R ks [v] ms ρ ((v, x) :: ρ) := by
  refine ⟨[(v, x)], rfl, fun p hp => ?_, fun w hw => ?_, h⟩
  · cases List.mem_singleton.mp hp
    exact hk
  · cases List.mem_singleton.mp hw
    rw [get?_cons, if_pos rfl]
    exact Option.some_ne_none x

theorem Framed.zip {vs : List Var} {xs : List Val} (hl : xs.length = vs.length)
    (h : ∀ σ, Agree ms ρ σ → R σ (vs.zip xs ++ σ)) : Framed R vs vs ms ρ (vs.zip xs ++ ρ) :=
  ⟨vs.zip xs, rfl, fun _ hq => (List.of_mem_zip hq).1, fun _ hv => get?_append_left_ne_none (get?_zip_ne_none hl hv) ρ, h⟩

theorem Framed.bound (h : Framed R ks bs ms ρ ρ') {v : Var} (hv : Env.get? ρ v ≠ none) : Env.get? ρ' v ≠ none := by
  obtain ⟨n, rfl, _⟩ := h
  exact get?_append_ne_none hv n

theorem Framed.mono (h : Framed R ks bs ms ρ ρ') (hk : ∀ v ∈ ks, v ∈ ks') (hb : ∀ v ∈ bs', v ∈ bs) (hm : ∀ v ∈ ms, v ∈ ms') :
    Framed R ks' bs' ms' ρ ρ' := by
  obtain ⟨n, e, hkn, hbn, hf⟩ := h
  exact ⟨n, e, fun p hp => hk _ (hkn p hp), fun v hv => hbn v (hb v hv), fun σ hσ => hf σ (hσ.mono hm)⟩

theorem Framed.comp (h₁ : Framed R ks bs ms ρ ρ₁) (h₂ : Framed S ks' bs' ms' ρ₁ ρ')
    (hT : ∀ σ σ₁ σ₂, Agree (ms ++ ms') ρ σ → R σ σ₁ → S σ₁ σ₂ → T σ σ₂) :
    Framed T (ks ++ ks') (bs ++ bs') (ms ++ ms') ρ ρ' := by
  obtain ⟨n₁, rfl, hk₁, hb₁, hf₁⟩ := h₁
  obtain ⟨n₂, rfl, hk₂, hb₂, hf₂⟩ := h₂
  refine ⟨n₂ ++ n₁, (List.append_assoc n₂ n₁ ρ).symm, fun p hp => ?_, fun v hv => ?_, fun σ hσ => ?_⟩
  · exact List.mem_append.mpr ((List.mem_append.mp hp).symm.imp (hk₁ p) (hk₂ p))
  · exact (List.mem_append.mp hv).elim (fun hv => get?_append_ne_none (hb₁ v hv) n₂) (hb₂ v)
  · obtain ⟨hσ₁, hσ₂⟩ := agree_append.mp hσ
    rw [List.append_assoc]
    exact hT σ _ _ hσ (hf₁ σ hσ₁) (hf₂ (n₁ ++ σ) (hσ₂.append n₁))

end Framed

/-- every transition of `R` reads the variables `vs` only and pushes a block of bindings of variables of `vs` -/
def Frame (vs : List Var) (R : Env → Env → Prop) : Prop := ∀ ρ ρ', R ρ ρ' → Framed R vs [] vs ρ ρ'

theorem Frame.mono {vs ws : List Var} {R : Env → Env → Prop} (h : Frame vs R) (hsub : ∀ v ∈ vs, v ∈ ws) : Frame ws R :=
  fun ρ ρ' hR => (h ρ ρ' hR).mono hsub nofun hsub

theorem Frame.comp {vs ws : List Var} {R S : Env → Env → Prop} (h₁ : Frame vs R) (h₂ : Frame ws S) :
    Frame (vs ++ ws) (fun ρ ρ' => ∃ ρ₁, R ρ ρ₁ ∧ S ρ₁ ρ') :=
  fun ρ ρ' ⟨ρ₁, hR, hS⟩ => (h₁ ρ ρ₁ hR).comp (h₂ ρ₁ ρ' hS) fun _ σ₁ _ _ h1 h2 => ⟨σ₁, h1, h2⟩

theorem Frame.bind {vs ws : List Var} {F H : Env → Option Env} (h₁ : Frame vs (F · = some ·)) (h₂ : Frame ws (H · = some ·)) :
    Frame (vs ++ ws) (fun ρ ρ' => (F ρ).bind H = some ρ') := by
  simp only [Option.bind_eq_some_iff]
  exact h₁.comp h₂

theorem Frame.pure (vs : List Var) : Frame vs (fun ρ ρ' => some ρ = some ρ') := by
  rintro ρ _ ⟨⟩
  exact .nil nofun fun _ _ => rfl

theorem Frame.fail (vs : List Var) : Frame vs (fun _ ρ' => none = some ρ') := by
  intro _ _ h
  cases h

/-- a relation on environments that implies agreement on `vs` and survives a block of bindings of variables of `vs` -/
def FrameRel (vs : List Var) (Q : Env → Env → Prop) : Prop :=
  ∀ ρ σ, Q ρ σ → Agree vs ρ σ ∧ ∀ n : Env, (∀ p ∈ n, p.1 ∈ vs) → Q (n ++ ρ) (n ++ σ)

theorem envEqv_frameRel (vs : List Var) : FrameRel vs EnvEqv := fun _ _ he => ⟨he.agree vs, fun n _ => he.append n⟩

theorem Frame.sim {vs : List Var} {R Q : Env → Env → Prop} (h : Frame vs R) (hQ : FrameRel vs Q) : Surface.Sim Q Q R R := by
  intro ρ σ hq
  constructor
  · intro ρ₁ hR
    obtain ⟨n, rfl, hk, _, hf⟩ := h ρ ρ₁ hR
    exact ⟨n ++ σ, hf σ (hQ ρ σ hq).1, (hQ ρ σ hq).2 n hk⟩
  · intro σ₁ hR
    obtain ⟨n, rfl, hk, _, hf⟩ := h σ σ₁ hR
    exact ⟨n ++ ρ, hf ρ (hQ ρ σ hq).1.symm, (hQ ρ σ hq).2 n hk⟩

theorem Frame.optRel {vs : List Var} {F : Env → Option Env} {Q : Env → Env → Prop} (h : Frame vs (F · = some ·))
    (hQ : FrameRel vs Q) {ρ σ : Env} (hq : Q ρ σ) : Surface.OptRel Q (F ρ) (F σ) :=
  Surface.sim_fun_iff.1 (h.sim hQ) ρ σ hq

/-- a frame commutes with a block of bindings of variables it does not mention -/
theorem Frame.push {vs : List Var} {F : Env → Option Env} (h : Frame vs (F · = some ·)) {m : Env} (hm : ∀ p ∈ m, p.1 ∉ vs)
    (ρ : Env) : Surface.OptRel EnvEqv ((F ρ).bind fun ρ₁ => some (m ++ ρ₁)) (F (m ++ ρ)) := by
  have hswap : ∀ n : Env, (∀ p ∈ n, p.1 ∈ vs) → EnvEqv (m ++ (n ++ ρ)) (n ++ (m ++ ρ)) := fun n hn =>
    get?_append_comm (fun p hp q hq he => hm p hp (he ▸ hn q hq)) ρ
  refine Surface.optRel_iff.2 ⟨fun a ha => ?_, fun b hb => ?_⟩
  · obtain ⟨ρ₁, hF, he⟩ := Option.bind_eq_some_iff.1 ha
    cases he
    obtain ⟨n, rfl, hk, _, hf⟩ := h ρ ρ₁ hF
    exact ⟨_, hf (m ++ ρ) (agree_append_left hm ρ).symm, hswap n hk⟩
  · obtain ⟨n, rfl, hk, _, hf⟩ := h _ b hb
    exact ⟨_, by rw [hf ρ (agree_append_left hm ρ)]; rfl, hswap n hk⟩

theorem binds_subset_mentions (varsE : E → List Var) (varsB : B → List Var) (varsG : G → List Var) (bound : List Var)
    (a : Item E B G P A) : ∀ v ∈ Item.binds bound a, v ∈ Item.mentions varsE varsB varsG a := by
  have hc : ∀ c : Cond E B P, ∀ v ∈ Cond.binds c, v ∈ Cond.vars varsE varsB c := by
    intro c v hv
    cases c with
    | ifc b => exact absurd hv List.not_mem_nil
    | letc w e => exact List.mem_cons.mpr (.inl (List.mem_singleton.mp hv))
    | ifLet p vs e => exact List.mem_append_left _ hv
  intro v hv
  cases a with
  | clause r args conds =>
    simp only [Item.binds, Item.mentions, List.mem_append, List.mem_filter, List.mem_flatMap] at hv ⊢
    rcases hv with ⟨⟨x, hx, hvx⟩, _⟩ | ⟨c, hcm, hvc⟩
    · refine .inl ⟨x, hx, ?_⟩
      cases x with
      | var w => exact hvx
      | expr e => exact absurd hvx List.not_mem_nil
    · exact .inr ⟨c, hcm, hc c v hvc⟩
  | cond c => exact hc c v hv
  | gen w g => exact List.mem_cons.mpr (.inl (List.mem_singleton.mp hv))
  | agg a => exact List.mem_append_left _ hv

section Frame
variable {I : Interp E B G P A} {varsE : E → List Var} {varsB : B → List Var} {varsG : G → List Var}
  (hV : VarsSound I varsE varsB varsG)
include hV

/-- a variable argument that is bound already (in particular every variable of `bound`) is a test, not a binding -/
theorem matchArg_frame (bound : List Var) (a : Arg E) (x : Val) (ρ₀ ρ ρ' : Env) (hb : ∀ v ∈ bound, Env.get? ρ v ≠ none)
    (h : matchArg I ρ₀ a x ρ = some ρ') :
    Framed (fun σ σ' => ∀ σ₀, Agree (Arg.vars varsE a) ρ₀ σ₀ → matchArg I σ₀ a x σ = some σ')
      ((Arg.bvars a).filter fun v => decide (v ∉ bound)) (Arg.bvars a) (Arg.vars varsE a) ρ ρ' := by
  cases a with
  | var v =>
    simp only [matchArg] at h
    cases hg : ρ.get? v with
    | some y =>
      simp only [hg] at h
      split at h
      · next hxy =>
        cases h
        refine .nil (fun w hw => ?_) fun σ hσ σ₀ _ => ?_
        · cases List.mem_singleton.mp hw
          exact fun hn => nomatch hg.symm.trans hn
        · simp only [matchArg, ← hσ v (List.mem_singleton_self v), hg, hxy, if_true]
      · cases h
    | none =>
      simp only [hg] at h
      cases h
      refine .one (List.mem_filter.mpr ⟨List.mem_singleton_self v, decide_eq_true fun hvb => hb v hvb hg⟩)
        fun σ hσ σ₀ _ => ?_
      simp only [matchArg, ← hσ v (List.mem_singleton_self v), hg]
  | expr e =>
    simp only [matchArg] at h
    split at h
    · next hex =>
      cases h
      exact .nil (fun _ hw => nomatch hw) fun σ _ σ₀ h₀ => by simp only [matchArg, ← hV.expr e ρ₀ σ₀ h₀, hex, if_true]
    · cases h

theorem matchArgs_frame (bound : List Var) (args : List (Arg E)) (t : Tuple) (ρ₀ ρ ρ' : Env)
    (hb : ∀ v ∈ bound, Env.get? ρ v ≠ none) (h : matchArgs I ρ₀ args t ρ = some ρ') :
    Framed (fun σ σ' => ∀ σ₀, Agree (args.flatMap (Arg.vars varsE)) ρ₀ σ₀ → matchArgs I σ₀ args t σ = some σ')
      ((args.flatMap Arg.bvars).filter fun v => decide (v ∉ bound)) (args.flatMap Arg.bvars)
      (args.flatMap (Arg.vars varsE)) ρ ρ' := by
  induction args generalizing t ρ with
  | nil =>
    cases t with
    | nil =>
      cases h
      exact .nil (fun _ hw => nomatch hw) fun _ _ _ _ => rfl
    | cons x xs => cases h
  | cons a as ih =>
    cases t with
    | nil => rw [matchArgs_cons_nil] at h; cases h
    | cons x xs =>
      rw [matchArgs_cons] at h
      obtain ⟨ρ₁, h₁, h₂⟩ := Option.bind_eq_some_iff.mp h
      have f₁ := matchArg_frame hV bound a x ρ₀ ρ ρ₁ hb h₁
      simp only [List.flatMap_cons, List.filter_append]
      refine f₁.comp (ih xs ρ₁ (fun v hv => f₁.bound (hb v hv)) h₂) fun σ σ₁ σ₂ _ h1 h2 σ₀ h₀ => ?_
      obtain ⟨h₀a, h₀as⟩ := agree_append.mp h₀
      rw [matchArgs_cons, h1 σ₀ h₀a]
      exact h2 σ₀ h₀as

theorem satCond_frame (c : Cond E B P) (ρ ρ' : Env) (h : satCond I c ρ = some ρ') :
    Framed (fun σ σ' => satCond I c σ = some σ') (Cond.binds c) (Cond.binds c) (Cond.vars varsE varsB c) ρ ρ' := by
  cases c with
  | ifc b =>
    simp only [satCond] at h
    split at h
    · next hb =>
      cases h
      exact .nil (fun _ hv => nomatch hv) fun σ hσ => by simp only [satCond, ← hV.test b ρ σ hσ, hb, if_true]
    · cases h
  | letc v e =>
    simp only [satCond, Option.some.injEq] at h
    subst h
    exact .one (List.mem_singleton_self v) fun σ hσ => by
      simp only [satCond, ← hV.expr e ρ σ (fun w hw => hσ w (List.mem_cons_of_mem v hw))]
  | ifLet p vs e =>
    simp only [satCond] at h
    cases hp : I.pat p (I.expr e ρ) with
    | none => rw [hp] at h; cases h
    | some xs =>
      simp only [hp, Option.bind_some] at h
      split at h
      · next hl =>
        cases h
        exact .zip hl fun σ hσ => by
          simp only [satCond, Cond.binds, ← hV.expr e ρ σ (agree_append.mp hσ).2, hp, Option.bind_some, hl, if_true]
      · cases h

theorem satConds_frame (cs : List (Cond E B P)) (ρ ρ' : Env) (h : satConds I cs ρ = some ρ') :
    Framed (fun σ σ' => satConds I cs σ = some σ') (cs.flatMap Cond.binds) (cs.flatMap Cond.binds)
      (cs.flatMap (Cond.vars varsE varsB)) ρ ρ' := by
  induction cs generalizing ρ with
  | nil =>
    cases h
    exact .nil (fun _ hv => nomatch hv) fun _ _ => rfl
  | cons c cs ih =>
    obtain ⟨ρ₁, hc, h⟩ := Option.bind_eq_some_iff.mp (h : (satCond I c ρ).bind (satConds I cs) = some ρ')
    simp only [List.flatMap_cons]
    refine (satCond_frame hV c ρ ρ₁ hc).comp (ih ρ₁ h) fun σ σ₁ σ₂ _ h1 h2 => ?_
    show (satCond I c σ).bind (satConds I cs) = _
    rw [h1]
    exact h2

theorem matchAggArgs_agree (args : List (AggArg E)) (t : Tuple) (ρ σ acc : Env)
    (h : Agree (args.flatMap (AggArg.keyVars varsE)) ρ σ) :
    matchAggArgs I ρ args t acc = matchAggArgs I σ args t acc := by
  induction args generalizing t acc with
  | nil => cases t <;> rfl
  | cons a as ih =>
    cases t with
    | nil => rw [matchAggArgs_cons_nil, matchAggArgs_cons_nil]
    | cons x xs =>
      rw [List.flatMap_cons] at h
      obtain ⟨ha, has⟩ := agree_append.mp h
      -- only a key looks at the environment
      have h1 : matchAggArg I ρ a x acc = matchAggArg I σ a x acc := by
        cases a with
        | wild => rfl
        | bound v => rfl
        | key e => simp only [matchAggArg, matchArg, hV.expr e ρ σ ha]
      rw [matchAggArgs_cons, matchAggArgs_cons, h1]
      cases matchAggArg I σ a x acc with
      | none => rfl
      | some acc₁ => exact ih xs acc₁ has

theorem step_frame {D : DB} {agg : RelId → List Tuple} (bound : List Var)
    (a : Item E B G P A) {ρ ρ' : Env} (hb : ∀ v ∈ bound, Env.get? ρ v ≠ none) (h : Step I D agg a ρ ρ') :
    Framed (Step I D agg a) (Item.binds bound a) (Item.binds [] a) (Item.mentions varsE varsB varsG a) ρ ρ' := by
  cases a with
  | clause r args conds =>
    obtain ⟨t, ρ₁, hd, hm, hc⟩ := h
    refine ((matchArgs_frame hV bound args t ρ ρ ρ₁ hb hm).comp (satConds_frame hV conds ρ₁ ρ' hc)
      fun σ σ₁ σ₂ hσ h1 h2 => ⟨t, σ₁, hd, h1 σ (agree_append.mp hσ).1, h2⟩).mono (fun _ h => h) (fun v hv => ?_) fun _ h => h
    exact (List.mem_append.mp hv).elim (fun h => List.mem_append_left _ (List.mem_filter.mp h).1) (List.mem_append_right _)
  | cond c => exact satCond_frame hV c ρ ρ' h
  | gen v g =>
    obtain ⟨x, hx, rfl⟩ := h
    exact .one (List.mem_singleton_self v) fun σ hσ =>
      ⟨x, hV.gen g ρ σ (fun w hw => hσ w (List.mem_cons_of_mem v hw)) ▸ hx, rfl⟩
  | agg a =>
    simp only [Step, aggEnvs, List.mem_filterMap] at h
    obtain ⟨out, hout, ho⟩ := h
    split at ho
    · next hl =>
      cases ho
      refine .zip hl fun σ hσ => ?_
      -- the bag handed to the aggregator only depends on the key expressions
      have hbag : aggBag I a σ (agg a.rel) = aggBag I a ρ (agg a.rel) := by
        unfold aggBag
        congr 1
        funext t
        rw [matchAggArgs_agree hV a.args t ρ σ [] (agree_append.mp hσ).2]
      simp only [Step, aggEnvs, List.mem_filterMap]
      exact ⟨out, hbag ▸ hout, if_pos hl⟩
    · cases ho

theorem frame_step (D : DB) (agg : RelId → List Tuple) (it : Item E B G P A) :
    Frame (Item.mentions varsE varsB varsG it) (Step I D agg it) := fun _ _ h =>
  (step_frame hV [] it (fun _ hv => nomatch hv) h).mono (binds_subset_mentions varsE varsB varsG [] it) nofun fun _ h => h

theorem sat_envEqv (D : DB) (agg : RelId → List Tuple) (items : List (Item E B G P A)) :
    Surface.Sim EnvEqv EnvEqv (Sat I D agg items) (Sat I D agg items) := by
  have h := sim_sat id (l := items) fun a _ => (frame_step hV D agg a).sim (envEqv_frameRel _)
  rwa [List.map_id] at h

theorem sat_bound {D : DB} {agg : RelId → List Tuple} (pre : List (Item E B G P A)) {ρ ρ' : Env} (hs : Sat I D agg pre ρ ρ') :
    ∀ v, (Env.get? ρ v ≠ none ∨ v ∈ pre.flatMap (Item.binds [])) → Env.get? ρ' v ≠ none := by
  induction pre generalizing ρ with
  | nil => cases hs; simp
  | cons a pre ih =>
    obtain ⟨ρ₁, hst, hr⟩ := sat_cons_iff.mp hs
    obtain ⟨n, rfl, _, hbd, _⟩ := step_frame hV [] a (fun _ h => absurd h List.not_mem_nil) hst
    intro v hv
    apply ih hr
    simp only [List.flatMap_cons, List.mem_append] at hv
    rcases hv with hv | hv | hv
    · exact .inl (get?_append_ne_none hv n)
    · exact .inl (hbd v hv)
    · exact .inr hv

theorem headFact_agree (h : HeadClause E) {ρ σ : Env} (ha : ∀ e ∈ h.args, Agree (varsE e) ρ σ) :
    headFact I h ρ = headFact I h σ :=
  congrArg (Fact.mk h.rel) (List.map_congr_left fun e he => hV.expr e ρ σ (ha e he))

end Frame

/-- **two adjacent independent body items may be swapped**: every derivation of `a, b, rest` from `ρ` gives a
derivation of `b, a, rest` from `ρ` ending in an equivalent environment. `bound` is any set of variables known
to be bound in `ρ`; all item kinds are covered (clauses with attached conditions, conditions, generators, aggregations). -/
theorem sat_swap_indep {I : Interp E B G P A} {varsE : E → List Var} {varsB : B → List Var} {varsG : G → List Var}
    (hV : VarsSound I varsE varsB varsG) {D : DB} {agg : RelId → List Tuple} (bound : List Var)
    {a b : Item E B G P A} {rest : List (Item E B G P A)} {ρ ρ₁ : Env}
    (hb : ∀ v ∈ bound, Env.get? ρ v ≠ none) (hi : Indep varsE varsB varsG bound a b)
    (hs : Sat I D agg (a :: b :: rest) ρ ρ₁) :
    ∃ ρ₂, Sat I D agg (b :: a :: rest) ρ ρ₂ ∧ EnvEqv ρ₁ ρ₂ := by
  obtain ⟨ρa, hsta, hs'⟩ := sat_cons_iff.mp hs
  obtain ⟨ρb, hstb, hr⟩ := sat_cons_iff.mp hs'
  obtain ⟨na, rfl, hka, _, hfa⟩ := step_frame hV bound a hb hsta
  obtain ⟨nb, rfl, hkb, _, hfb⟩ := step_frame hV bound b (fun v hv => get?_append_ne_none (hb v hv) na) hstb
  -- `b` does not see the bindings of `a` …
  have hstb' : Step I D agg b ρ (nb ++ ρ) :=
    hfb ρ (agree_append_left (fun p hp => hi.1 _ (hka p hp)) ρ)
  -- … nor `a` those of `b`
  have hsta' : Step I D agg a (nb ++ ρ) (na ++ (nb ++ ρ)) :=
    hfa _ (agree_append_left (fun p hp => hi.2 _ (hkb p hp)) ρ).symm
  have heq : EnvEqv (nb ++ (na ++ ρ)) (na ++ (nb ++ ρ)) := get?_append_comm (fun p hp q hq he =>
    hi.2 _ (hkb p hp) (he ▸ binds_subset_mentions varsE varsB varsG bound a _ (hka q hq))) ρ
  obtain ⟨ρ₂, hr', he'⟩ := (sat_envEqv hV D agg rest _ _ heq).1 ρ₁ hr
  exact ⟨ρ₂, sat_cons_iff.mpr ⟨_, hstb', sat_cons_iff.mpr ⟨_, hsta', hr'⟩⟩, he'⟩

/-- the variables certainly bound after the body prefix `pre` (evaluated from the empty environment) -/
def boundAfter (pre : List (Item E B G P A)) : List Var := pre.flatMap (Item.binds [])

private theorem cons_swap_indep {I : Interp E B G P A} {varsE : E → List Var} {varsB : B → List Var} {varsG : G → List Var}
    (hV : VarsSound I varsE varsB varsG) (l₁ l₂ : List (Rule E B G P A)) (heads : List (HeadClause E))
    (pre : List (Item E B G P A)) (a b : Item E B G P A) (rest : List (Item E B G P A)) (agg : RelId → List Tuple)
    (hi : Indep varsE varsB varsG (boundAfter pre) a b) (D : DB) (f : Fact) :
    Cons I (l₁ ++ ⟨heads, pre ++ a :: b :: rest⟩ :: l₂) agg D f → Cons I (l₁ ++ ⟨heads, pre ++ b :: a :: rest⟩ :: l₂) agg D f := by
  rintro ⟨r, hr, ρ, hs, hd, hhd, rfl⟩
  simp only [List.mem_append, List.mem_cons] at hr
  rcases hr with hr | rfl | hr
  · exact ⟨r, by simp [hr], ρ, hs, hd, hhd, rfl⟩
  · obtain ⟨ρ₁, hpre, hs'⟩ := (sat_append_iff pre _).mp hs
    have hb : ∀ v ∈ boundAfter pre, Env.get? ρ₁ v ≠ none := fun v hv => sat_bound hV pre hpre v (.inr hv)
    obtain ⟨ρ₂, hs₂, he⟩ := sat_swap_indep hV (boundAfter pre) hb hi hs'
    exact ⟨⟨heads, pre ++ b :: a :: rest⟩, by simp, ρ₂, (sat_append_iff pre _).mpr ⟨ρ₁, hpre, hs₂⟩, hd, hhd,
      headFact_agree hV hd fun _ _ => he.agree _⟩
  · exact ⟨r, by simp [hr], ρ, hs, hd, hhd, rfl⟩

/-- **swapping two adjacent independent items in the body of one rule does not change the least model**.
Independence is relative to the variables bound by the items before them (`boundAfter pre`), so two clauses that
share an already-bound join variable are independent; everything else of the program (`l₁`, `l₂`, the heads,
the rest of the body) is arbitrary, aggregation included. -/
theorem derivable_swap_indep {I : Interp E B G P A} {varsE : E → List Var} {varsB : B → List Var} {varsG : G → List Var}
    (hV : VarsSound I varsE varsB varsG) (l₁ l₂ : List (Rule E B G P A)) (heads : List (HeadClause E))
    (pre : List (Item E B G P A)) (a b : Item E B G P A) (rest : List (Item E B G P A)) (agg : RelId → List Tuple) (inp : DB)
    (hi : Indep varsE varsB varsG (boundAfter pre) a b) :
    ∀ f, Derivable I (l₁ ++ ⟨heads, pre ++ a :: b :: rest⟩ :: l₂) agg inp f ↔
      Derivable I (l₁ ++ ⟨heads, pre ++ b :: a :: rest⟩ :: l₂) agg inp f :=
  fun f => ⟨derivable_of_cons_imp (cons_swap_indep hV l₁ l₂ heads pre a b rest agg hi) f,
            derivable_of_cons_imp (cons_swap_indep hV l₁ l₂ heads pre b a rest agg hi.symm) f⟩

/-- an interpretation that "only looks variables up" cannot tell equivalent environments apart; this follows from `VarsSound`
for any choice of the free-variable functions (`Plan.Ext` of Proofs/PlanStep.lean is the same condition, over `Plan.EnvEq`) -/
def ExtInterp (I : Interp E B G P A) : Prop :=
  (∀ e ρ ρ', EnvEqv ρ ρ' → I.expr e ρ = I.expr e ρ') ∧ (∀ b ρ ρ', EnvEqv ρ ρ' → I.test b ρ = I.test b ρ') ∧
  (∀ g ρ ρ', EnvEqv ρ ρ' → I.gen g ρ = I.gen g ρ')

theorem VarsSound.ext {I : Interp E B G P A} {varsE : E → List Var} {varsB : B → List Var} {varsG : G → List Var}
    (hV : VarsSound I varsE varsB varsG) : ExtInterp I :=
  ⟨fun e ρ ρ' h => hV.expr e ρ ρ' (h.agree _), fun b ρ ρ' h => hV.test b ρ ρ' (h.agree _),
   fun g ρ ρ' h => hV.gen g ρ ρ' (h.agree _)⟩

/-! ## engine level: renamed and swapped programs -/

/-- α-renaming the rules does not change what `run()` computes -/
theorem run_rename_vars_invariant {τ : Var → Var} (hτ : Function.Injective τ) (I : Interp E B G P A) {rE : E → E} {rB : B → B} {rG : G → G}
    (hr : RenSound τ I rE rB rG) (cfg cfg' : Config) (p : Program E B G P A) (order order' : SccOrder)
    (inp : RelId → List Tuple) (fuel fuel' : Nat) (ps ps' : ProgSt)
    (hp : Relational p) (hp' : Relational ⟨p.rels, p.rules.map (Rule.ren τ rE rB rG)⟩)
    (ho : validOrder p order = true) (ho' : validOrder ⟨p.rels, p.rules.map (Rule.ren τ rE rB rG)⟩ order' = true)
    (hrun : run I cfg p order fuel (initSt p inp) = .done ps)
    (hrun' : run I cfg' ⟨p.rels, p.rules.map (Rule.ren τ rE rB rG)⟩ order' fuel' (initSt ⟨p.rels, p.rules.map (Rule.ren τ rE rB rG)⟩ inp) = .done ps') :
    ∀ f, factsOf ps.st f ↔ factsOf ps'.st f :=
  run_eq_of_derivable_iff I I cfg cfg' p _ order order' inp inp fuel fuel' ps ps' hp hp' ho ho' hrun hrun'
    (fun f => (derivable_rename_vars hτ I hr p.rules noAgg (inputDB p inp) f).symm)

/-- swapping two independent adjacent body items does not change what `run()` computes -/
theorem run_swap_indep_invariant {I : Interp E B G P A} {varsE : E → List Var} {varsB : B → List Var} {varsG : G → List Var}
    (hV : VarsSound I varsE varsB varsG) (cfg cfg' : Config) (rels : List RelDecl) (l₁ l₂ : List (Rule E B G P A))
    (heads : List (HeadClause E)) (pre : List (Item E B G P A)) (a b : Item E B G P A) (rest : List (Item E B G P A))
    (order order' : SccOrder) (inp : RelId → List Tuple) (fuel fuel' : Nat) (ps ps' : ProgSt)
    (hi : Indep varsE varsB varsG (boundAfter pre) a b)
    (hp : Relational ⟨rels, l₁ ++ ⟨heads, pre ++ a :: b :: rest⟩ :: l₂⟩)
    (hp' : Relational ⟨rels, l₁ ++ ⟨heads, pre ++ b :: a :: rest⟩ :: l₂⟩)
    (ho : validOrder ⟨rels, l₁ ++ ⟨heads, pre ++ a :: b :: rest⟩ :: l₂⟩ order = true)
    (ho' : validOrder ⟨rels, l₁ ++ ⟨heads, pre ++ b :: a :: rest⟩ :: l₂⟩ order' = true)
    (hrun : run I cfg ⟨rels, l₁ ++ ⟨heads, pre ++ a :: b :: rest⟩ :: l₂⟩ order fuel (initSt ⟨rels, l₁ ++ ⟨heads, pre ++ a :: b :: rest⟩ :: l₂⟩ inp) = .done ps)
    (hrun' : run I cfg' ⟨rels, l₁ ++ ⟨heads, pre ++ b :: a :: rest⟩ :: l₂⟩ order' fuel' (initSt ⟨rels, l₁ ++ ⟨heads, pre ++ b :: a :: rest⟩ :: l₂⟩ inp) = .done ps') :
    ∀ f, factsOf ps.st f ↔ factsOf ps'.st f :=
  run_eq_of_derivable_iff I I cfg cfg' _ _ order order' inp inp fuel fuel' ps ps' hp hp' ho ho' hrun hrun'
    (fun f => derivable_swap_indep hV l₁ l₂ heads pre a b rest noAgg _ hi f)

theorem mapEnv_id (ρ : Env) : mapEnv id ρ = ρ := by
  induction ρ with
  | nil => rfl
  | cons p ρ ih => simp only [mapEnv, List.map_cons, id] at ih ⊢; rw [ih]

/-- non-vacuity of `Commutes`: the identity map commutes with every interpretation -/
example (I : Interp E B G P A) : Commutes id I I :=
  ⟨fun e ρ => by rw [mapEnv_id]; rfl, fun b ρ => by rw [mapEnv_id], fun g ρ => by rw [mapEnv_id, List.map_id],
   pat_map_id I⟩

namespace C06Example

/-- pure Datalog: an expression is a variable -/
def varInterp : Interp Var Unit Unit Unit Unit where
  expr v ρ := (ρ.get? v).getD .unit
  test _ _ := true
  gen _ _ := []
  pat _ _ := none
  agg _ _ := []
  joinMut _ a _ := (a, false)

def shift : Val → Val
  | .int n => .int (n + 1000)
  | v => v

theorem shift_injective : Function.Injective shift := by
  -- subtracting the 1000 again is a left inverse
  have inv : ∀ a, (match shift a with | .int n => Val.int (n - 1000) | v => v) = a := fun a => by
    cases a with
    | int n => exact congrArg Val.int (Int.add_sub_cancel n 1000)
    | _ => rfl
  intro a b h
  rw [← inv a, h, inv b]

/-- non-vacuity of `Commutes` with a map that is not the identity -/
theorem commutes_shift : Commutes shift varInterp varInterp :=
  ⟨fun e ρ => by
      show ((mapEnv shift ρ).get? e).getD .unit = shift ((ρ.get? e).getD .unit)
      rw [get?_mapEnv]; cases ρ.get? e <;> rfl,
   fun _ _ => rfl, fun _ _ => rfl, fun _ _ => rfl⟩

/-- `path(x, z) :- edge(x, y), path(y, z)` and `path(x, y) :- edge(x, y)` (edge = 0, path = 1; x, y, z = 0, 1, 2) -/
def tc : List (Rule Var Unit Unit Unit Unit) :=
  [⟨[⟨1, [0, 1]⟩], [.clause 0 [.var 0, .var 1] []]⟩,
   ⟨[⟨1, [0, 2]⟩], [.clause 0 [.var 0, .var 1] [], .clause 1 [.var 1, .var 2] []]⟩]

example : ∀ r ∈ tc, r.aggFree = true := by decide

/-- `derivable_rename_consts` applies to a concrete program and a non-identity map -/
example (inp : DB) (f : Fact) :
    Derivable varInterp tc noAgg inp f ↔
      Derivable varInterp tc noAgg (fun g => ∃ f', inp f' ∧ g = Fact.mapVal shift f') (Fact.mapVal shift f) :=
  derivable_rename_consts shift shift_injective _ _ commutes_shift tc inp (by decide) f

/-- `derivable_rename_rels` applies: the relations renumbered by `· + 5` -/
example (inp : DB) (f : Fact) :
    Derivable varInterp tc noAgg inp f ↔
      Derivable varInterp (tc.map (Rule.mapRel (· + 5))) noAgg (fun g => ∃ f', inp f' ∧ g = Fact.mapRel (· + 5) f')
        (Fact.mapRel (· + 5) f) :=
  derivable_rename_rels varInterp tc inp (· + 5) (fun a b h => by simpa using h) (by decide) f

/-- non-vacuity of `RenSound`: in `varInterp` renaming an expression is renaming the variable -/
theorem renSound_succ : RenSound (· + 7) varInterp (· + 7) id id :=
  ⟨fun e ρ => by
      show ((renEnv (· + 7) ρ).get? (e + 7)).getD .unit = (ρ.get? e).getD .unit
      rw [get?_renEnv (τ := (· + 7)) (fun a b h => by simpa using h)],
   fun _ _ => rfl, fun _ _ => rfl⟩

/-- the renamed program really is a different rule list … -/
example : (tc.map (Rule.ren (· + 7) (· + 7) id id)).map (·.heads.map (·.args)) = [[[7, 8]], [[7, 9]]] := by decide

/-- … with the same least model -/
example (inp : DB) (f : Fact) :
    Derivable varInterp (tc.map (Rule.ren (· + 7) (· + 7) id id)) noAgg inp f ↔ Derivable varInterp tc noAgg inp f :=
  derivable_rename_vars (fun a b h => by simpa using h) varInterp renSound_succ tc noAgg inp f

/-- non-vacuity of `VarsSound`: a variable expression depends on that variable only -/
theorem varsSound_var : VarsSound varInterp (fun v => [v]) (fun _ => []) (fun _ => []) :=
  ⟨fun e ρ ρ' h => by
      show (ρ.get? e).getD .unit = (ρ'.get? e).getD .unit
      rw [h e (by simp)],
   fun _ _ _ _ => rfl, fun _ _ _ _ => rfl⟩

/-- body `r(x), s(x, y), t(x, z)`: the last two clauses share only `x`, which `r(x)` has bound -/
def rx : Item Var Unit Unit Unit Unit := .clause 2 [.var 0] []
def sxy : Item Var Unit Unit Unit Unit := .clause 3 [.var 0, .var 1] []
def txz : Item Var Unit Unit Unit Unit := .clause 4 [.var 0, .var 2] []

example : boundAfter [rx] = [0] := by decide

/-- they are independent after `r(x)` … -/
theorem indep_sxy_txz : Indep (fun v => [v]) (fun _ => []) (fun _ => []) (boundAfter [rx]) sxy txz := by decide

/-- … but not at the start of a body, where whichever comes first binds `x` (the criterion is sufficient, not
necessary: it is relative to the `bound` set) -/
example : ¬ Indep (fun v : Var => [v]) (fun _ : Unit => []) (fun _ : Unit => []) [] sxy txz := by decide

/-- a clause and a `let` over different variables are independent; a `let` reading the clause's variable is not -/
example : Indep (fun v : Var => [v]) (fun _ : Unit => []) (fun _ : Unit => []) [0] sxy (.cond (.letc 5 0)) := by decide
example : ¬ Indep (fun v : Var => [v]) (fun _ : Unit => []) (fun _ : Unit => []) [0] sxy (.cond (.letc 5 1)) := by decide

/-- `derivable_swap_indep` on the concrete rule `h(x, y, z) :- r(x), s(x, y), t(x, z)` -/
example (inp : DB) (f : Fact) :
    Derivable varInterp ([] ++ ⟨[⟨5, [0, 1, 2]⟩], [rx] ++ sxy :: txz :: []⟩ :: tc) noAgg inp f ↔
      Derivable varInterp ([] ++ ⟨[⟨5, [0, 1, 2]⟩], [rx] ++ txz :: sxy :: []⟩ :: tc) noAgg inp f :=
  derivable_swap_indep varsSound_var [] tc _ [rx] sxy txz [] noAgg inp indep_sxy_txz f

end C06Example

#print axioms derivable_perm_rules
#print axioms derivable_perm_heads
#print axioms derivable_input_ext
#print axioms inputDB_perm
#print axioms run_perm_invariant
#print axioms derivable_rename_rels
#print axioms derivable_rename_consts
#print axioms derivable_rename_vars
#print axioms sat_swap_indep
#print axioms derivable_swap_indep
#print axioms run_eq_of_derivable_iff
#print axioms run_rename_vars_invariant
#print axioms run_swap_indep_invariant
#print axioms C06Example.commutes_shift
#print axioms C06Example.renSound_succ
#print axioms C06Example.varsSound_var
#print axioms C06Example.indep_sxy_txz

end AscentVerif.Engine
