import AscentVerif.Props.C07Phys
/-!
# The output of the desugaring model is a fixed point of `rule_desugar_repeated_vars`

`Hir.Desugared V r` (Proofs/PlanHir.lean) is a hypothesis of the plan-level and physical-engine theorems
(Props/C01Plan.lean, Props/C01Phys.lean, Props/C07Phys.lean): no clause argument of `r` mentions a variable that an
earlier argument of the same clause was the first to ground.  Here: every core rule that comes out of the front-end model
`desugarRule` (Model/Desugar.lean) has that property (`desugarRule_desugared`, `desugarRules_desugared`), so the hypothesis
can be dropped for programs that come out of the front end (`surface_to_physical'`).  The invariant relating the pass
`repItems` to the test `Hir.desugFrom` is `ClInv`.
-/
namespace AscentVerif.Surface
open AscentVerif AscentVerif.Engine
variable {E B G P A M : Type}

/-- the variables `repItems` compares or enters into its map -/
def FItem.repKeys (varsE : E → List Var) : FItem E B G P A → List Var
  | .clause _ as _ => as.flatMap (SArg.mentions varsE)
  | f => f.grounds

theorem repKeys_sub_mentions (varsE : E → List Var) (varsB : B → List Var) (varsG : G → List Var) (f : FItem E B G P A) :
    ∀ v ∈ FItem.repKeys varsE f, v ∈ FItem.mentions varsE varsB varsG f := by
  intro v hv
  cases f with
  | clause r as cs => exact List.mem_append_left _ hv
  | cond c => exact binds_subset_mentions varsE varsB varsG [] (.cond c : Item E B G P A) v hv
  | gen w g => exact List.mem_cons.2 (.inl (List.mem_singleton.1 hv))
  | agg a => exact List.mem_append_left _ (List.mem_append_left _ hv)
  | neg r as => cases hv

/-- passes 3–5 generate no `x_N` name at a place the repeated-variable pass looks at (no law of `ops` is needed: the
generated conditions `if let pat = __arg_pattern_N` are attached to their clause, where the pass does not look) -/
theorem pwn_repKeys (ops : Ops E B G A) (varsB : B → List Var) (varsG : G → List Var) (fs : List (FItem E B G P A))
    (hres : ∀ f ∈ fs, ∀ v ∈ FItem.mentions ops.varsE varsB varsG f, v < reservedBase) :
    ∀ f ∈ pwn ops fs, ∀ v ∈ FItem.repKeys ops.varsE f, ¬ GenOf gsRep v := by
  intro f hf v hv
  rcases pwn_mem ops fs f hf with ⟨r, as, cs, k, k', rfl, hmem⟩ | ⟨f₀, hf₀, rfl, hne⟩
  · obtain ⟨a, ha, hva⟩ := List.mem_flatMap.1 hv
    rcases pwn_args_mem ops as k k' a ha with ⟨j, rfl⟩ | ⟨j, rfl⟩ | ⟨ha₀, _⟩
    · exact List.mem_singleton.1 hva ▸ gs_disjoint (d := 1) (d' := 0) (by decide) ⟨j, rfl⟩
    · exact List.mem_singleton.1 hva ▸ gs_disjoint (d := 2) (d' := 0) (by decide) ⟨j, rfl⟩
    · exact not_gs_of_lt (d := 0) (hres _ hmem v (List.mem_append_left _ (List.mem_flatMap.2 ⟨a, ha₀, hva⟩)))
  · -- not a clause: the item is the user's
    refine not_gs_of_lt (d := 0) (hres f₀ hf₀ v (repKeys_sub_mentions _ _ _ f₀ v ?_))
    cases f₀ with
    | neg r as => cases hv
    | _ => exact hv

/-- between the `Grounded` map `g` of `repItems` (item index `i`, counter `c`), the list `dg` of `Hir.desugFrom` after the
already produced prefix and, inside a clause, the `here` list of `Hir.argsOk` (empty between two body items):
* `here_sub`: so an argument the pass keeps, none of whose variables has the entry `i`, mentions no variable of `here`;
* `sup`: so a kept variable that `Hir.hereStep` appends to `here`, being new to `dg`, is one the pass enters with index `i`;
* `fresh`: the pass does not enter the names it generates into its map; the HIR compiler sees them as ordinary variable
  columns. -/
structure ClInv (g : Grounded) (i c : Nat) (dg here : List Var) : Prop where
  here_sub : ∀ v ∈ here, ¬ GenOf gsRep v → g.lookup v = some i
  sup : ∀ v j, g.lookup v = some j → v ∈ dg ∨ v ∈ here
  fresh : ∀ k, gsRep k ∈ dg ∨ gsRep k ∈ here → k < c

theorem ClInv.nil (c : Nat) : ClInv [] 0 c [] [] where
  here_sub _ h := nomatch h
  sup _ _ h := nomatch h
  fresh _ h := h.elim (nomatch ·) (nomatch ·)

section
variable {g : Grounded} {i c : Nat} {dg here : List Var}

/-- the end of item `i`, which enters its binders `vs` (a clause: none); bracketed so that with `here = []` the new `dg` reduces
to `dg ++ vs` -/
theorem ClInv.item (h : ClInv g i c dg here) (vs : List Var) (hvs : ∀ v ∈ vs, ¬ GenOf gsRep v) :
    ClInv (orInsertAll g vs i) (i + 1) c (dg ++ (here ++ vs)) [] where
  here_sub _ hv := nomatch hv
  sup v j hl := .inl <| (lookup_orInsertAll.1 hl).elim
    (fun hl => (h.sup v j hl).elim (List.mem_append_left _) fun hm => List.mem_append_right _ (List.mem_append_left _ hm))
    fun hn => List.mem_append_right _ (List.mem_append_right _ hn.2.1)
  fresh k hk := hk.elim (fun hk => (List.mem_append.1 hk).elim (fun hk => h.fresh k (.inl hk))
    fun hk => (List.mem_append.1 hk).elim (fun hk => h.fresh k (.inr hk)) fun hm => absurd ⟨k, rfl⟩ (hvs _ hm)) (nomatch ·)

theorem ClInv.not_here (h : ClInv g i c dg here) {v : Var} (hl : g.lookup v ≠ some i) (hnr : ¬ GenOf gsRep v) : v ∉ here :=
  fun hv => hl (h.here_sub v hv hnr)

theorem ClInv.rep (h : ClInv g i c dg here) :
    here.contains (gsRep c) = false ∧ Hir.hereStep dg here (gsRep c) = here ++ [gsRep c] ∧
      ClInv g i (c + 1) dg (here ++ [gsRep c]) := by
  have hnew : ¬ (gsRep c ∈ dg ∨ gsRep c ∈ here) := fun hv => Nat.lt_irrefl c (h.fresh c hv)
  refine ⟨Bool.eq_false_iff.2 fun hc => hnew (.inr (List.contains_iff_mem.1 hc)),
    if_neg fun hc => hnew (.inl (List.contains_iff_mem.1 hc)), fun v hv hnr => ?_,
    fun v j hl => (h.sup v j hl).imp_right (List.mem_append_left _), fun k hk => ?_⟩
  · exact h.here_sub v ((List.mem_append.1 hv).resolve_right fun he => hnr ⟨c, List.mem_singleton.1 he⟩) hnr
  · rw [List.mem_append, List.mem_singleton, ← or_assoc] at hk
    exact hk.elim (fun hk => Nat.lt_succ_of_lt (h.fresh k hk)) fun he => gs_inj 0 _ _ he ▸ Nat.lt_succ_self c

/-- a variable column that is kept: where `hereStep` appends it to `here` it is new to `dg`, so the map had no entry for it -/
theorem ClInv.keepVar (h : ClInv g i c dg here) {v : Var} (hnr : ¬ GenOf gsRep v) :
    ClInv (g.orInsert v i) i c dg (Hir.hereStep dg here v) := by
  have look {w j} : (g.orInsert v i).lookup w = some j ↔ g.lookup w = some j ∨ (g.lookup w = none ∧ w ∈ [v] ∧ j = i) :=
    lookup_orInsertAll (vs := [v])
  refine ⟨fun w hw hnw => ?_, fun w j hw => ?_,
    fun k hk => h.fresh k <| hk.imp_right fun hk => (Hir.mem_hereStep hk).resolve_right fun he => hnr ⟨k, he.symm⟩⟩
  · by_cases hwh : w ∈ here
    · exact look.2 (.inl (h.here_sub w hwh hnw))
    · -- `w` is `v` itself, new to `dg`: the map has no entry for it
      obtain ⟨rfl, hd⟩ := (Hir.mem_hereStep_iff.1 hw).resolve_left hwh
      cases hg : g.lookup w with
      | none => exact look.2 (.inr ⟨hg, List.mem_singleton.2 rfl, rfl⟩)
      | some j => exact absurd ((h.sup w j hg).resolve_right hwh) hd
  · rcases look.1 hw with hw | hn
    · exact (h.sup w j hw).imp_right (Hir.mem_hereStep_iff.2 ∘ .inl)
    · cases List.mem_singleton.1 hn.2.1
      exact Classical.or_iff_not_imp_left.2 fun hd => Hir.mem_hereStep_iff.2 (.inr ⟨rfl, hd⟩)

end

theorem repArgs_argsOk (ops : Ops E B G A) (varsB : B → List Var) (i : Nat) (dg : List Var) :
    ∀ (as : List (SArg E P)) (g : Grounded) (c : Nat) (here : List Var) (as' : List (Arg E)),
      (∀ a ∈ as, ∀ v ∈ a.vars ops, ¬ GenOf gsRep v) → ClInv g i c dg here →
      (repArgs (B := B) ops i as g c).args.mapM SArg.toCore = some as' →
      Hir.argsOk ⟨ops.varsE, varsB⟩ dg as' here = true ∧
      ClInv (repArgs (B := B) ops i as g c).g i (repArgs (B := B) ops i as g c).c dg (Hir.hereOf dg as' here) := by
  intro as
  induction as with
  | nil =>
    intro g c here as' _ hinv hm
    simp only [repArgs, List.mapM_nil, Option.pure_def, Option.some.injEq] at hm
    subst hm
    exact ⟨rfl, hinv⟩
  | cons a as ih =>
    intro g c here as' hnr hinv hm
    have hnr' : ∀ b ∈ as, ∀ v ∈ b.vars ops, ¬ GenOf gsRep v := fun b hb => hnr b (List.mem_cons_of_mem _ hb)
    by_cases h : ((a.vars ops).any fun v => g.lookup v == some i) = true
    · rw [repArgs_cons_pos ops i a as g c h] at hm ⊢
      obtain ⟨b, bs, hb, hbs, rfl⟩ := mapM_cons_eq_some.mp hm
      cases hb
      obtain ⟨r1, r2, r3⟩ := hinv.rep
      obtain ⟨k1, k2⟩ := ih g (c + 1) _ bs hnr' r3 hbs
      simp only [Hir.argsOk, Hir.hereOf, r1, r2, Bool.not_false, Bool.true_and]
      exact ⟨k1, k2⟩
    · rw [repArgs_cons_neg ops i a as g c h] at hm ⊢
      obtain ⟨b, bs, hb, hbs, rfl⟩ := mapM_cons_eq_some.mp hm
      have hlk := any_lookup_false h
      have hnra := hnr a (by simp)
      cases a with
      | var v =>
        cases hb
        have hl : g.lookup v ≠ some i := hlk v (by simp [SArg.vars])
        have hv : ¬ GenOf gsRep v := hnra v (by simp [SArg.vars])
        have hnh : here.contains v = false := by
          cases hc : here.contains v with
          | false => rfl
          | true => exact absurd (List.contains_iff_mem.1 hc) (hinv.not_here hl hv)
        obtain ⟨k1, k2⟩ := ih (g.orInsert v i) c _ bs hnr' (hinv.keepVar hv) hbs
        simp only [Hir.argsOk, Hir.hereOf, hnh, Bool.not_false, Bool.true_and]
        exact ⟨k1, k2⟩
      | expr e =>
        cases hb
        have hnh : (ops.varsE e).any here.contains = false := by
          rw [List.any_eq_false]
          intro v hv hc
          exact hinv.not_here (hlk v hv) (hnra v hv) (List.contains_iff_mem.1 hc)
        obtain ⟨k1, k2⟩ := ih g c here bs hnr' hinv hbs
        simp only [Hir.argsOk, Hir.hereOf, hnh, Bool.not_false, Bool.true_and]
        exact ⟨k1, k2⟩
      | wild => cases hb
      | pat p vs => cases hb

theorem vars_sub_mentions (ops : Ops E B G A) (a : SArg E P) : ∀ v ∈ a.vars ops, v ∈ SArg.mentions ops.varsE a := by
  intro v hv
  cases a with
  | var w => exact hv
  | expr e => exact hv
  | wild => simp [SArg.vars] at hv
  | pat p vs => simp [SArg.vars] at hv

theorem desugFrom_step (V : Hir.VarsOf E B) (gd : List Var × List Var) (hgd : Hir.GdOk gd) (it : Item E B G P A)
    (its : List (Item E B G P A)) (vs : List Var) (hok : Hir.itemOk V gd it = true)
    (hstep : Hir.gdStep V gd it = (gd.1 ++ vs, gd.2 ++ vs))
    (ih : Hir.GdOk (gd.1 ++ vs, gd.2 ++ vs) → Hir.desugFrom V (gd.1 ++ vs, gd.2 ++ vs) its = true) :
    Hir.desugFrom V gd (it :: its) = true := by
  have hg := (Hir.gdStep_spec V gd hgd it hok).1
  rw [hstep] at hg
  simp only [Hir.desugFrom, hok, hstep, Bool.true_and]
  exact ih hg

theorem toCore_other_hir (V : Hir.VarsOf E B) (gd : List Var × List Var) {f : FItem E B G P A} {it : Item E B G P A}
    (hf : ∀ r as cs, f ≠ FItem.clause r as cs) (h : f.toCore = some it) :
    Hir.itemOk V gd it = true ∧ Hir.gdStep V gd it = (gd.1 ++ f.grounds, gd.2 ++ f.grounds) := by
  cases f with
  | clause r as cs => exact absurd rfl (hf r as cs)
  | cond cd => cases h; cases cd <;> exact ⟨rfl, rfl⟩
  | gen v gn => cases h; exact ⟨rfl, rfl⟩
  | agg a => cases h; exact ⟨rfl, rfl⟩
  | neg r as => cases h

theorem repItems_desugFrom (ops : Ops E B G A) (varsB : B → List Var) :
    ∀ (fs : List (FItem E B G P A)) (i : Nat) (g : Grounded) (c : Nat) (gd : List Var × List Var)
      (items : List (Item E B G P A)),
      (∀ f ∈ fs, ∀ v ∈ FItem.repKeys ops.varsE f, ¬ GenOf gsRep v) → ClInv g i c gd.2 [] → Hir.GdOk gd →
      (repItems ops fs i g c).1.mapM FItem.toCore = some items →
      Hir.desugFrom ⟨ops.varsE, varsB⟩ gd items = true := by
  intro fs
  induction fs with
  | nil =>
    intro i g c gd items _ _ _ hd
    simp only [repItems, List.mapM_nil, Option.pure_def, Option.some.injEq] at hd
    subst hd
    rfl
  | cons f fs ih =>
    intro i g c gd items hres hinv hgd hd
    have hres' : ∀ f' ∈ fs, ∀ v ∈ FItem.repKeys ops.varsE f', ¬ GenOf gsRep v :=
      fun f' hf' => hres f' (List.mem_cons_of_mem _ hf')
    have hf := hres f List.mem_cons_self
    by_cases hcl : ∃ r as cs, f = FItem.clause r as cs
    · obtain ⟨r, as, conds, rfl⟩ := hcl
      obtain ⟨it, its, hit, hits, rfl⟩ := mapM_cons_eq_some.mp
        (show (FItem.clause r (repArgs ops i as g c).args ((repArgs ops i as g c).conds ++ conds) :: _).mapM FItem.toCore = _ from hd)
      simp only [FItem.toCore, Option.map_eq_some_iff] at hit
      obtain ⟨as', has', rfl⟩ := hit
      obtain ⟨k1, k2⟩ := repArgs_argsOk ops varsB i gd.2 as g c [] as'
        (fun a ha v hv => hf v (List.mem_flatMap.2 ⟨a, ha, vars_sub_mentions ops a v hv⟩)) hinv has'
      have hg := (Hir.gdStep_spec _ gd hgd (Item.clause r as' ((repArgs ops i as g c).conds ++ conds) : Item E B G P A) k1).1
      simp only [Hir.desugFrom, Hir.itemOk, k1, Bool.true_and]
      refine ih (i + 1) _ _ _ its hres' ?_ hg hits
      -- the clause appends its `here` list to `dg`
      simp only [Hir.gdStep, Hir.scanOf_here _ gd hgd as' k1]
      have := k2.item [] nofun
      rw [List.append_nil] at this
      exact this
    · have hcl' := fun r as cs h => hcl ⟨r, as, cs, h⟩
      rw [repItems_cons_other ops hcl'] at hd
      obtain ⟨it, its, hit, hits, rfl⟩ := mapM_cons_eq_some.mp hd
      have hvs : ∀ v ∈ f.grounds, ¬ GenOf gsRep v := by
        cases f with
        | clause r as cs => exact absurd rfl (hcl' r as cs)
        | _ => exact hf
      obtain ⟨hok, hstep⟩ := toCore_other_hir ⟨ops.varsE, varsB⟩ gd hcl' hit
      exact desugFrom_step _ gd hgd it its f.grounds hok hstep
        (fun hg => ih (i + 1) _ c (gd.1 ++ f.grounds, gd.2 ++ f.grounds) its hres' (hinv.item _ hvs) hg hits)

theorem desugarFlat_desugared (ops : Ops E B G A) (varsB : B → List Var) (varsG : G → List Var)
    (c c' : Nat) (flat : List (FItem E B G P A)) (items : List (Item E B G P A))
    (hres : ∀ f ∈ flat, ∀ v ∈ FItem.mentions ops.varsE varsB varsG f, v < reservedBase)
    (hd : desugarFlat ops c flat = some (items, c')) :
    Hir.desugFrom ⟨ops.varsE, varsB⟩ ([], []) items = true := by
  exact repItems_desugFrom ops varsB (pwn ops flat) 0 [] c ([], []) items
    (pwn_repKeys ops varsB varsG flat hres) (ClInv.nil c) Hir.gdOk_nil (desugarFlat_eq_some hd)

/-- **every core rule produced by the desugaring pipeline is a fixed point of `rule_desugar_repeated_vars`**
(`WellScoped` is not needed; of `NoReservedNames` only the body half is used) -/
theorem desugarRule_desugared (ops : Ops E B G A) (varsB : B → List Var) (varsG : G → List Var)
    (c c' : Nat) (r : SRule E B G P A M) (rs : List (Rule E B G P A))
    (hres : NoReservedNames ops.varsE varsB varsG r)
    (hd : desugarRule ops c r = some (rs, c')) :
    ∀ r' ∈ rs, Hir.Desugared ⟨ops.varsE, varsB⟩ r' = true := by
  cases hm : r.heads.mapM SHead.toCore? with
  | none => simp [desugarRule, hm] at hd
  | some heads =>
    simp only [desugarRule, hm] at hd
    obtain ⟨sp1, _⟩ := desugarFlats_spec ops heads (productsS r.body) c c' rs hd
    intro r' hr'
    obtain ⟨flat, hflat, c₁, c₂, items, hdf, rfl⟩ := sp1 r' hr'
    exact desugarFlat_desugared ops varsB varsG c₁ c₂ flat items (hres.1 flat hflat) hdf

/-- whole programs (after macro expansion) -/
theorem desugarRules_desugared (ops : Ops E B G A) (varsB : B → List Var) (varsG : G → List Var)
    (srs : List (SRule E B G P A M)) (c c' : Nat) (rs : List (Rule E B G P A))
    (hres : ∀ r ∈ srs, NoReservedNames ops.varsE varsB varsG r)
    (hd : desugarRules ops srs c = some (rs, c')) :
    ∀ r' ∈ rs, Hir.Desugared ⟨ops.varsE, varsB⟩ r' = true := by
  intro r' hr'
  obtain ⟨r, hr, c₁, c₂, rs₁, hd₁, hmem⟩ := (desugarRules_spec ops srs c c' rs hd).1 r' hr'
  exact desugarRule_desugared ops varsB varsG c₁ c₂ r rs₁ (hres r hr) hd₁ r' hmem

/-- **`surface_to_physical` (Props/C07Phys.lean) without the `Desugared` half of its hypothesis `hcore`**: the core rules
come out of the desugaring model, which makes them fixed points of `rule_desugar_repeated_vars` -/
theorem surface_to_physical' (I : Interp E B G P A) (hI : Plan.Ext I)
    (ops : Ops E B G A) {varsB : B → List Var} {varsG : G → List Var}
    (hSupp : Plan.Supp I ⟨ops.varsE, varsB⟩)
    (hS : SugarSound I ops) (hV : VarsSound I ops.varsE varsB varsG)
    (rels : List RelDecl) (srs : List (SRule E B G P A M)) (c c' : Nat) (rs : List (Rule E B G P A))
    (hres : ∀ r ∈ srs, NoReservedNames ops.varsE varsB varsG r) (hws : ∀ r ∈ srs, WellScoped ops.varsE r)
    (hd : desugarRules ops srs c = some (rs, c'))
    (ix : Phys.IxSets) (order : SccOrder) (s : Phys.PSt) (fuel : Nat) (out : Phys.ProgSt)
    (hp : Relational (⟨rels, rs⟩ : Program E B G P A)) (ho : validOrder (⟨rels, rs⟩ : Program E B G P A) order = true)
    (hplan : Phys.planOk ⟨ops.varsE, varsB⟩ (⟨rels, rs⟩ : Program E B G P A) ix = true)
    (hcore : ∀ r ∈ rs, Plan.WellScoped ⟨ops.varsE, varsB⟩ r = true)
    (hs : Phys.WFPSt (⟨rels, rs⟩ : Program E B G P A) s)
    (hrun : Phys.run I ⟨ops.varsE, varsB⟩ (⟨rels, rs⟩ : Program E B G P A) ix order fuel s = some out) :
    ∀ f, Phys.factsOf out.st f ↔
      DerivableS I srs noAgg (fun g => g.rel < rels.length ∧ Phys.factsOf s g) f :=
  surface_to_physical I hI ⟨ops.varsE, varsB⟩ hSupp ops hS hV rels srs c c' rs hres hws hd ix order s fuel out hp ho hplan
    (fun r hr => ⟨desugarRules_desugared ops varsB varsG srs c c' rs hres hd r hr, hcore r hr⟩) hs hrun

namespace DesugaredEx
open AscentVerif.Std

/-- `out(x) <-- foo(x, x)` with x = 0; relations foo = 0, out = 1 -/
def rule1 : SRule Ex Bx Gx Px Ax Empty :=
  { heads := [.clause { rel := 1, args := [.var 0] }],
    body := .cons (.flat (.clause 0 [.var 0, .var 0] [])) .nil }

/-- `out(x) <-- foo(x, x + 1, _, y), let z = y, bar(z, z, y, x), (baz(y, y) | !baz(x, z))` -/
def rule2 : SRule Ex Bx Gx Px Ax Empty :=
  { heads := [.clause { rel := 9, args := [.var 0] }],
    body := .cons (.flat (.clause 0 [.var 0, .expr (.add (.var 0) (.const (.int 1))), .wild, .var 1] []))
      (.cons (.flat (.cond (.letc 2 (.var 1))))
        (.cons (.flat (.clause 1 [.var 2, .var 2, .var 1, .var 0] []))
          (.cons (.disj (.cons (.cons (.flat (.clause 2 [.var 1, .var 1] [])) .nil)
            (.cons (.cons (.flat (.neg 2 [.expr (.var 0), .expr (.var 2)])) .nil) .nil))) .nil))) }

def check (c : Nat) (r : SRule Ex Bx Gx Px Ax Empty) : Bool :=
  match desugarRule stdOps c r with
  | some (rs, _) => !rs.isEmpty && rs.all fun r' => Hir.Desugared ⟨varsEx, varsBx⟩ r'
  | none => false

example : check 0 rule1 = true := by decide +kernel
example : check 0 rule2 = true := by decide +kernel
example : check 5 rule2 = true := by decide +kernel

/-- the input of the pass is not a fixed point: `foo(x, x)` taken as a core clause -/
example : Hir.Desugared ⟨varsEx, varsBx⟩
    ({ heads := [{ rel := 1, args := [.var 0] }], body := [.clause 0 [.var 0, .var 0] []] } : Rule Ex Bx Gx Px Ax) = false := by
  decide

/-- `NoReservedNames` cannot be dropped (finding F10 again): in `out(x) <-- foo(x, x, y)` with `y` spelled like the name the
pass generates for the second `x`, the output `foo(x, x_, x_) if x_.eq(&(x))` is NOT a fixed point of the pass -/
def rule3 : SRule Ex Bx Gx Px Ax Empty :=
  { heads := [.clause { rel := 1, args := [.var 0] }],
    body := .cons (.flat (.clause 0 [.var 0, .var 0, .var (gsRep 0)] [])) .nil }

example : check 0 rule3 = false := by decide +kernel
example : check 1 rule3 = true := by decide +kernel

end DesugaredEx

end AscentVerif.Surface

section
open AscentVerif.Surface
#print axioms AscentVerif.Hir.scanOf_here
#print axioms pwn_repKeys
#print axioms repArgs_argsOk
#print axioms repItems_desugFrom
#print axioms desugarFlat_desugared
#print axioms desugarRule_desugared
#print axioms desugarRules_desugared
#print axioms surface_to_physical'
end
