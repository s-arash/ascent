import AscentVerif.Props.C13PhysParAgg
import AscentVerif.Props.C14PhysPar
import AscentVerif.Proofs.PhysParAggTimeout
/-!
# C14 at the level of the concurrent indices, for stratified `ascent_par!` programs with aggregation / negation

`Props/C14PhysPar.lean` proves the `run_timeout` theorems for the engine generated by `ascent_par!`
(`Model/EnginePhysParTimeout.lean`; its `iteration` evaluates aggregation items as `PhysPar.run` does) on aggregation-free
programs; `Props/C13PhysAgg.lean` proves them for the SERIAL physical engine on stratified programs with aggregation / negation.
This file proves the parallel counterparts of the latter under `CtxParA` (`Props/C05Phys.lean`), with the compiler's own index sets
(`ixSetsOfA`), every call under its OWN schedule, in its OWN pool, with its OWN deadline oracle and fuel:

* `timeout_never_panics_physPar_agg` — from every value `run()` may be called on;
* `timeout_true_complete_physPar_agg`, `timeout_true_model_physPar_agg` — returned `true`: exactly the facts of the reference
  result; from a value with duplicate-free row vectors, exactly the stratified model;
* `timeout_false_sound_physPar_agg` — returned `false`, from any value between the inputs and the reference result: the value
  left is again runnable, extends the original value and holds only facts of the reference result;
* `resume_complete_physPar_agg` — after ANY number of interrupted calls, a `run()` never panics and, if it returns, leaves exactly
  the facts of an uninterrupted `run()` from the original value.
-/
namespace AscentVerif.PhysPar
open AscentVerif AscentVerif.Engine AscentVerif.Index AscentVerif.Phys

variable {E B G P A : Type}

/-- **`run_timeout` never panics, and returned `false` is sound**: `oM` is a completed reference run from `s`; `t` extends `s` and
holds only facts of the reference result (e.g. `t = s`).  Whatever the schedule, the pool, the deadline oracle and the fuel,
`run_timeout` from `t` does not panic, and if it returned `false` the value left behind is again runnable (typed rows, every stored
index unfrozen), extends the original value and holds only facts of the reference result -/
theorem timeout_false_sound_physPar_agg (I : Interp E B G P A) (V : Hir.VarsOf E B) (p : Program E B G P A) (order : SccOrder)
    (c : CtxParA I V p order) (s t : PCSt) (σM σ : Sched E B G P A) (threadsM threads fuelM fuel : Nat) (dl : Deadline)
    (oM : ProgSt) (hs : WFPCSt p s) (ht : WFPCSt p t)
    (hM : run I V p (ixSetsOfA V p) order σM threadsM fuelM s = .ok (some oM))
    (hext : ExtendsPC p s t) (hsound : ∀ f, factsOf t f → factsOf oM.st f) :
    ∃ out, runTimeout I V p (ixSetsOfA V p) order σ threads dl fuel t = .ok out ∧
      ∀ o, out = .timedOut o →
        WFPCSt p o.st ∧ ExtendsPC p s o.st ∧ (∀ f, factsOf o.st f → factsOf oM.st f) :=
  timeout_false_physParA I c.ext V c.supp c.perm p _ order c.rel c.valid c.strat c.bodyDecl (planOk_ixSetsOfA V p c.arity)
    (aggPlanOk_ixSetsOfA V p c.aggArity) c.rules s t σM σ threadsM threads fuelM fuel dl oM hs ht hM hext hsound

/-- the same for a call known to have returned `false`: literally the statement of `Phys.timeout_false_sound_phys_agg` -/
theorem timeout_false_sound_physPar_agg' (I : Interp E B G P A) (V : Hir.VarsOf E B) (p : Program E B G P A) (order : SccOrder)
    (c : CtxParA I V p order) (s t : PCSt) (σM σ : Sched E B G P A) (threadsM threads fuelM fuel : Nat) (dl : Deadline)
    (oM : ProgSt) (o : ProgStT) (hs : WFPCSt p s) (ht : WFPCSt p t)
    (hM : run I V p (ixSetsOfA V p) order σM threadsM fuelM s = .ok (some oM))
    (hext : ExtendsPC p s t) (hsound : ∀ f, factsOf t f → factsOf oM.st f)
    (hrun : runTimeout I V p (ixSetsOfA V p) order σ threads dl fuel t = .ok (.timedOut o)) :
    WFPCSt p o.st ∧ ExtendsPC p s o.st ∧ (∀ f, factsOf o.st f → factsOf oM.st f) :=
  spec_of_ok (timeout_false_sound_physPar_agg I V p order c s t σM σ threadsM threads fuelM fuel dl oM hs ht hM hext hsound) hrun
    o rfl

/-- **`run_timeout` never panics** on a stratified program with aggregation / negation, from every value `run()` may be called
on, whatever the schedule, the pool, the deadline oracle and the fuel (no reference run needed) -/
theorem timeout_never_panics_physPar_agg (I : Interp E B G P A) (V : Hir.VarsOf E B) (p : Program E B G P A) (order : SccOrder)
    (c : CtxParA I V p order) (σ : Sched E B G P A) (threads : Nat) (dl : Deadline) (fuel : Nat) (s : PCSt) (hs : WFPCSt p s) :
    ∃ out, runTimeout I V p (ixSetsOfA V p) order σ threads dl fuel s = .ok out :=
  (runTimeoutPar_linkA I c.ext V c.supp c.perm p (ixSetsOfA V p) order σ threads dl fuel s c.rel c.strat
    c.bodyDecl (planOk_ixSetsOfA V p c.arity) (aggPlanOk_ixSetsOfA V p c.aggArity) c.rules hs).imp fun _ h => h.1

theorem timeout_ne_panic_physPar_agg (I : Interp E B G P A) (V : Hir.VarsOf E B) (p : Program E B G P A) (order : SccOrder)
    (c : CtxParA I V p order) (σ : Sched E B G P A) (threads : Nat) (dl : Deadline) (fuel : Nat) (s : PCSt) (hs : WFPCSt p s) :
    runTimeout I V p (ixSetsOfA V p) order σ threads dl fuel s ≠ .panic := by
  obtain ⟨out, hout⟩ := timeout_never_panics_physPar_agg I V p order c σ threads dl fuel s hs
  rw [hout]
  exact fun h => by cases h

/-- **`run_timeout` returned `true`**: the value holds exactly the facts of the reference result (and is again one `run()` may be
called on, extending `t`) -/
theorem timeout_true_complete_physPar_agg (I : Interp E B G P A) (V : Hir.VarsOf E B) (p : Program E B G P A) (order : SccOrder)
    (c : CtxParA I V p order) (s t : PCSt) (σM σ : Sched E B G P A) (threadsM threads fuelM fuel : Nat) (dl : Deadline)
    (oM : ProgSt) (o : ProgStT) (hs : WFPCSt p s) (ht : WFPCSt p t)
    (hM : run I V p (ixSetsOfA V p) order σM threadsM fuelM s = .ok (some oM))
    (hext : ExtendsPC p s t) (hsound : ∀ f, factsOf t f → factsOf oM.st f)
    (hrun : runTimeout I V p (ixSetsOfA V p) order σ threads dl fuel t = .ok (.done o)) :
    WFPCSt p o.st ∧ ExtendsPC p t o.st ∧ ∀ f, factsOf o.st f ↔ factsOf oM.st f :=
  restart_of_linked I c.perm p _ order c.rel c.valid c.strat hs ht (c.linked_run hs hM) hext hsound
    (runTimeoutPar_done_linkA I c.ext V c.supp c.perm p _ order c.rel c.valid c.strat c.bodyDecl (planOk_ixSetsOfA V p c.arity)
      (aggPlanOk_ixSetsOfA V p c.aggArity) c.rules σ threads dl fuel t o ht hrun)

/-- **`run_timeout` returned `true` ⇒ the stratified model**: from a value `run()` may be called on whose row vectors are
duplicate-free, whatever the schedule, the pool, the deadline oracle and the fuel, the value holds exactly the stratified model of
the start rows (every aggregation over the final rows of its relation), each tuple once -/
theorem timeout_true_model_physPar_agg (I : Interp E B G P A) (V : Hir.VarsOf E B) (p : Program E B G P A) (order : SccOrder)
    (c : CtxParA I V p order) (σ : Sched E B G P A) (threads : Nat) (dl : Deadline) (fuel : Nat) (s : PCSt) (o : ProgStT)
    (hs : WFPCSt p s) (hnd : ∀ r, (pcrel s r).rows.Nodup)
    (hrun : runTimeout I V p (ixSetsOfA V p) order σ threads dl fuel s = .ok (.done o)) :
    WFPCSt p o.st ∧ (∀ r, (pcrel o.st r).rows.Nodup) ∧
    (∀ f, factsOf o.st f ↔
      Derivable I p.rules (fun r => (pcrel o.st r).rows) (fun g => g.rel < p.rels.length ∧ factsOf s g) f) := by
  obtain ⟨st', hrun', hsim⟩ := runTimeout_doneND I c.ext {} V c.supp p _ (.of_planOk c.perm c.rel c.bodyDecl
    (planOk_ixSetsOfA V p c.arity) (aggPlanOk_ixSetsOfA V p c.aggArity) c.rules) σ threads order c.strat dl fuel s o hs.1 hs.2.1 hrun
  obtain ⟨h1, h2, h3, _⟩ := aggModel_of_RunND I c.perm p _ order _ c.rel c.valid c.strat hs hnd hrun' hsim
  exact ⟨h1, h2, h3⟩

/-- a history of interrupted `run_timeout` calls, each under its own schedule, in its own pool, with its own deadline and fuel -/
inductive InterruptedParA (I : Interp E B G P A) (V : Hir.VarsOf E B) (p : Program E B G P A) (order : SccOrder) :
    PCSt → PCSt → Prop where
  | refl (s : PCSt) : InterruptedParA I V p order s s
  | step {s s₁ s₂ : PCSt} (σ : Sched E B G P A) (threads : Nat) (dl : Deadline) (fuel : Nat) (o : ProgStT) :
      InterruptedParA I V p order s s₁ →
      runTimeout I V p (ixSetsOfA V p) order σ threads dl fuel s₁ = .ok (.timedOut o) → s₂ = o.st →
      InterruptedParA I V p order s s₂

/-- after any number of interruptions the value is one `run()` may be called on, extends the original value and holds only facts
of the reference result -/
theorem interrupted_between_physPar_agg (I : Interp E B G P A) (V : Hir.VarsOf E B) (p : Program E B G P A) (order : SccOrder)
    (c : CtxParA I V p order) (s s' : PCSt) (σM : Sched E B G P A) (threadsM fuelM : Nat) (oM : ProgSt)
    (hs : WFPCSt p s)
    (hM : run I V p (ixSetsOfA V p) order σM threadsM fuelM s = .ok (some oM))
    (hi : InterruptedParA I V p order s s') :
    WFPCSt p s' ∧ ExtendsPC p s s' ∧ (∀ f, factsOf s' f → factsOf oM.st f) := by
  induction hi with
  | refl =>
    obtain ⟨_, hextM⟩ := run_wf_extends_physPar_agg I V p order c s σM threadsM fuelM oM hs hM
    exact ⟨hs, PCExt.refl p s, PCExt.facts hextM hs.1⟩
  | @step s₁ s₂ σ threads dl fuel' o' _ hrun hu ih =>
    obtain ⟨hw, hext, hsound⟩ := ih
    subst hu
    exact timeout_false_sound_physPar_agg' I V p order c s s₁ σM σ threadsM threads fuelM fuel' dl oM o' hs hw hM hext hsound hrun

/-- **resumption completes to exactly the uninterrupted result**: after ANY number of interrupted calls at any points (each under
its own schedule, in its own pool, with its own deadline and fuel), a `run()` under ANY schedule in ANY pool does not panic and,
if it returns, leaves exactly the facts of an uninterrupted `run()` from the original value -/
theorem resume_complete_physPar_agg (I : Interp E B G P A) (V : Hir.VarsOf E B) (p : Program E B G P A) (order : SccOrder)
    (c : CtxParA I V p order) (s s' : PCSt) (σM σ : Sched E B G P A) (threadsM threads fuelM fuel : Nat) (oM : ProgSt)
    (hs : WFPCSt p s)
    (hM : run I V p (ixSetsOfA V p) order σM threadsM fuelM s = .ok (some oM))
    (hi : InterruptedParA I V p order s s') :
    ∃ res, run I V p (ixSetsOfA V p) order σ threads fuel s' = .ok res ∧
      ∀ o, res = some o → WFPCSt p o.st ∧ ∀ f, factsOf o.st f ↔ factsOf oM.st f := by
  obtain ⟨hw, hext, hsound⟩ := interrupted_between_physPar_agg I V p order c s s' σM threadsM fuelM oM hs hM hi
  obtain ⟨res, hres, hsp⟩ := restart_physPar_agg I V p order c s s' σM σ threadsM threads fuelM fuel oM hs hw hM hext hsound
  exact ⟨res, hres, fun o ho => ⟨(hsp o ho).1, (hsp o ho).2.2⟩⟩

/-- the resumption may itself be a `run_timeout` that returns `true` -/
theorem resume_timeout_complete_physPar_agg (I : Interp E B G P A) (V : Hir.VarsOf E B) (p : Program E B G P A)
    (order : SccOrder) (c : CtxParA I V p order) (s s' : PCSt) (σM σ : Sched E B G P A) (threadsM threads fuelM fuel : Nat)
    (dl : Deadline) (oM : ProgSt) (o : ProgStT) (hs : WFPCSt p s)
    (hM : run I V p (ixSetsOfA V p) order σM threadsM fuelM s = .ok (some oM))
    (hi : InterruptedParA I V p order s s')
    (h : runTimeout I V p (ixSetsOfA V p) order σ threads dl fuel s' = .ok (.done o)) :
    ∀ f, factsOf o.st f ↔ factsOf oM.st f := by
  obtain ⟨hw, hext, hsound⟩ := interrupted_between_physPar_agg I V p order c s s' σM threadsM fuelM oM hs hM hi
  exact (timeout_true_complete_physPar_agg I V p order c s s' σM σ threadsM threads fuelM fuel dl oM o hs hw hM hext hsound h).2.2

/-! ## non-vacuity: the program `pNeg` of `Props/C04Phys.lean` (reachability, its complement by negation, out-degrees by `count`)
as an `ascent_par!` program (`sNegPar`, `σNeg`, `negParA_ctx` of `Props/C05Phys.lean`; `σNeg2` of `Props/C13PhysParAgg.lean`),
interrupted twice — in a pool of 3 under `σNeg`, then in a pool of 2 under `σNeg2` — and resumed -/

/-- the value the first interrupted call (pool of 3, deadline passed at the first reading) leaves -/
def sNegInt : PCSt :=
  (OutcomeSt (runTimeout exA Plan.exV pNeg (ixSetsOfA Plan.exV pNeg) [[0], [1], [2]] σNeg 3 (fun k => k == 0) 10 sNegPar)).getD []

/-- the value a second interrupted call (ANOTHER schedule, pool of 2, deadline passed at its first reading) leaves -/
def sNegInt2 : PCSt :=
  (OutcomeSt (runTimeout exA Plan.exV pNeg (ixSetsOfA Plan.exV pNeg) [[0], [1], [2]] σNeg2 2 (fun k => k == 0) 10 sNegInt)).getD []

/-- * the deadline passed at the first reading (after the first iteration of the recursive stratum): `false`, `reach` there,
  nothing downstream derived; every stored index of the value left is unfrozen;
* a second call on that value, under the other schedule in the pool of 2, deadline passed at ITS first reading (the recursive
  stratum now ends without a reading; the reading is after the negation stratum): `false`, `unreach` there, no out-degrees;
* deadline passed at the third reading from the start value: `false` with everything derived; never passed: `true`;
* a `run()` from the first interrupted value under `σNeg2` in a pool of 2 ends with the rows of the stratified model (the
  out-degree rows in ANOTHER order than the uninterrupted run under `σNeg`: the same set of facts); a `run()` from the second
  interrupted value under `σNeg` in a pool of 3 as well -/
theorem negPar_timeout :
    outcomeRows (runTimeout exA Plan.exV pNeg (ixSetsOfA Plan.exV pNeg) [[0], [1], [2]] σNeg 3 (fun k => k == 0) 10 sNegPar) =
      .ok (some (false, [[[.int 1], [.int 2], [.int 3]], [[.int 1, .int 2]], [[.int 1], [.int 2]], [], []])) ∧
    indexShape sNegInt = [(false, 3, [(false, 1, 3)]), (false, 0, [(false, 0, 0)]), (false, 0, []), (false, 0, []), (false, 0, [])] ∧
    outcomeRows (runTimeout exA Plan.exV pNeg (ixSetsOfA Plan.exV pNeg) [[0], [1], [2]] σNeg2 2 (fun k => k == 0) 10 sNegInt) =
      .ok (some (false, [[[.int 1], [.int 2], [.int 3]], [[.int 1, .int 2]], [[.int 1], [.int 2]], [[.int 3]], []])) ∧
    outcomeRows (runTimeout exA Plan.exV pNeg (ixSetsOfA Plan.exV pNeg) [[0], [1], [2]] σNeg 3 (fun k => k == 2) 10 sNegPar) =
      .ok (some (false, [[[.int 1], [.int 2], [.int 3]], [[.int 1, .int 2]], [[.int 1], [.int 2]], [[.int 3]],
        [[.int 1, .int 1], [.int 2, .int 0], [.int 3, .int 0]]])) ∧
    outcomeRows (runTimeout exA Plan.exV pNeg (ixSetsOfA Plan.exV pNeg) [[0], [1], [2]] σNeg 3 (fun _ => false) 10 sNegPar) =
      .ok (some (true, [[[.int 1], [.int 2], [.int 3]], [[.int 1, .int 2]], [[.int 1], [.int 2]], [[.int 3]],
        [[.int 1, .int 1], [.int 2, .int 0], [.int 3, .int 0]]])) ∧
    obsA (run exA Plan.exV pNeg (ixSetsOfA Plan.exV pNeg) [[0], [1], [2]] σNeg2 2 10 sNegInt) =
      .ok (some ([[[.int 1], [.int 2], [.int 3]], [[.int 1, .int 2]], [[.int 1], [.int 2]], [[.int 3]],
        [[.int 2, .int 0], [.int 1, .int 1], [.int 3, .int 0]]], [1, 1, 1])) ∧
    obsA (run exA Plan.exV pNeg (ixSetsOfA Plan.exV pNeg) [[0], [1], [2]] σNeg 3 10 sNegInt2) =
      .ok (some ([[[.int 1], [.int 2], [.int 3]], [[.int 1, .int 2]], [[.int 1], [.int 2]], [[.int 3]],
        [[.int 1, .int 1], [.int 2, .int 0], [.int 3, .int 0]]], [1, 1, 1])) := by
  decide_conj

/-- the two interrupted calls of the example are a two-step history from `sNegPar` to `sNegInt2` -/
theorem negPar_interrupted : InterruptedParA exA Plan.exV pNeg [[0], [1], [2]] sNegPar sNegInt ∧
    InterruptedParA exA Plan.exV pNeg [[0], [1], [2]] sNegPar sNegInt2 := by
  have step : ∀ (σ : Sched Plan.Ex Plan.Bx Plan.Ex Unit Bool) (threads : Nat) (s : PCSt) (x : List (List Tuple)),
      InterruptedParA exA Plan.exV pNeg [[0], [1], [2]] sNegPar s →
      outcomeRows (runTimeout exA Plan.exV pNeg (ixSetsOfA Plan.exV pNeg) [[0], [1], [2]] σ threads (fun k => k == 0) 10 s) = .ok (some (false, x)) →
      InterruptedParA exA Plan.exV pNeg [[0], [1], [2]] sNegPar
        ((OutcomeSt (runTimeout exA Plan.exV pNeg (ixSetsOfA Plan.exV pNeg) [[0], [1], [2]] σ threads (fun k => k == 0) 10 s)).getD []) := by
    intro σ threads s x hi h1
    cases hout : runTimeout exA Plan.exV pNeg (ixSetsOfA Plan.exV pNeg) [[0], [1], [2]] σ threads (fun k => k == 0) 10 s with
    | panic => rw [hout] at h1; simp [outcomeRows] at h1
    | ok out =>
      rw [hout] at h1
      cases out with
      | done o => simp [outcomeRows] at h1
      | outOfFuel => simp [outcomeRows] at h1
      | timedOut o => exact .step σ threads _ 10 o hi hout rfl
  have h1 := step σNeg 3 sNegPar _ (.refl _) negPar_timeout.1
  exact ⟨h1, step σNeg2 2 sNegInt _ h1 negPar_timeout.2.2.1⟩

/-- the theorems apply to that history: the first run of `Props/C13PhysParAgg.lean` (`negPar_first_run`, value `sNeg1`) is the
reference run; after the two interruptions the value is runnable, extends the start value and holds only facts of `sNeg1`; a
`run()` under ANY schedule in ANY pool with any fuel does not panic and, if it returns, holds exactly the facts of `sNeg1`; and
`run_timeout` from it never panics -/
theorem negPar_resume_applies (σ : Sched Plan.Ex Plan.Bx Plan.Ex Unit Bool) (threads fuel : Nat) (dl : Deadline) :
    WFPCSt pNeg sNegInt2 ∧ ExtendsPC pNeg sNegPar sNegInt2 ∧ (∀ f, factsOf sNegInt2 f → factsOf sNeg1 f) ∧
    (∃ res, run exA Plan.exV pNeg (ixSetsOfA Plan.exV pNeg) [[0], [1], [2]] σ threads fuel sNegInt2 = .ok res ∧
      ∀ o, res = some o → ∀ f, factsOf o.st f ↔ factsOf sNeg1 f) ∧
    (∃ out, runTimeout exA Plan.exV pNeg (ixSetsOfA Plan.exV pNeg) [[0], [1], [2]] σ threads dl fuel sNegInt2 = .ok out) := by
  obtain ⟨o₁, h₁, e₁⟩ := negPar_first_run
  obtain ⟨hw, hext, hsound⟩ := interrupted_between_physPar_agg exA Plan.exV pNeg _ negParA_ctx sNegPar sNegInt2 σNeg 3 10 o₁
    wf_sNegPar h₁ negPar_interrupted.2
  obtain ⟨res, hres, hsp⟩ := resume_complete_physPar_agg exA Plan.exV pNeg _ negParA_ctx sNegPar sNegInt2 σNeg σ 3 threads 10
    fuel o₁ wf_sNegPar h₁ negPar_interrupted.2
  rw [e₁] at hsound hsp
  exact ⟨hw, hext, hsound, ⟨res, hres, fun o ho => (hsp o ho).2⟩,
    timeout_never_panics_physPar_agg exA Plan.exV pNeg _ negParA_ctx σ threads dl fuel sNegInt2 hw⟩

#print axioms timeout_never_panics_physPar_agg
#print axioms timeout_ne_panic_physPar_agg
#print axioms timeout_false_sound_physPar_agg
#print axioms timeout_false_sound_physPar_agg'
#print axioms timeout_true_complete_physPar_agg
#print axioms timeout_true_model_physPar_agg
#print axioms interrupted_between_physPar_agg
#print axioms resume_complete_physPar_agg
#print axioms resume_timeout_complete_physPar_agg
#print axioms negPar_timeout
#print axioms negPar_interrupted
#print axioms negPar_resume_applies

end AscentVerif.PhysPar
