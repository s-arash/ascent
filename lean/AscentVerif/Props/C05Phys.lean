import AscentVerif.Props.C13Phys
import AscentVerif.Props.C13PhysAgg
import AscentVerif.Props.C13PhysPar
import AscentVerif.Props.C02PhysAgg
/-!
# C05 at the level of the physical indices: relations are sets, inputs are never lost

`Props/C05.lean` proves for the abstract engine that a tuple is inserted exactly once and that no input row is lost.  Here the
same is read off what a returned `run()` is proved to leave in the four models of the GENERATED code (serial / `ascent_par!`,
relational / with aggregation and negation): `runPhys_ran` and `runPhysPar_ran` (the least-model theorems of C01 / C02 in the
form `Rows.Ran`), `runPhys_agg_compiled_eq_model`, `runPhysPar_agg_eq_model`.  Each of them gives a `Returned` (the rows are the
model's facts; every row vector is the old one followed by new, pairwise distinct rows), and the C05 statements are the
consequences of `Returned`.

They are about EVERY relation identifier (an undeclared one has the empty row vector before and after) and start from ANY
program value `run()` may be called on (fresh, re-run, pushed into, resumed).  "Exactly once" is `List.count t rows = 1`.
In the relational models, without the hypothesis that the start rows are duplicate-free, `…_count` still gives every
multiplicity in the result, so (`…_dup_from_input`) a duplicate in the result is a duplicate the caller supplied.
-/
namespace AscentVerif.RowsExt
open AscentVerif

/-- what `run()` does to a row vector: `new` is `old` followed by pairwise distinct rows none of which occurs in `old` -/
def Ext (old new : List Tuple) : Prop :=
  ∃ derived, new = old ++ derived ∧ derived.Nodup ∧ ∀ t ∈ derived, t ∉ old

theorem Ext.refl_nil : Ext [] [] := ⟨[], rfl, List.nodup_nil, fun _ h => by cases h⟩

theorem Ext.nodup {old new : List Tuple} (h : Ext old new) (hn : old.Nodup) : new.Nodup := by
  obtain ⟨d, hd, hnd, hdis⟩ := h
  rw [hd]
  exact List.nodup_append.mpr ⟨hn, hnd, fun a ha b hb hab => hdis b hb (hab ▸ ha)⟩

theorem Ext.prefix {old new : List Tuple} (h : Ext old new) : old <+: new := by
  obtain ⟨d, hd, _, _⟩ := h
  rw [hd]
  exact List.prefix_append old d

theorem Ext.getElem? {old new : List Tuple} (h : Ext old new) (i : Nat) (hi : i < old.length) : new[i]? = old[i]? := by
  obtain ⟨d, hd, _, _⟩ := h
  rw [hd, List.getElem?_append_left hi]

theorem Ext.mem_old {old new : List Tuple} (h : Ext old new) {t : Tuple} (ht : t ∈ old) : t ∈ new := by
  obtain ⟨d, hd, _, _⟩ := h
  rw [hd]
  exact List.mem_append_left _ ht

theorem Ext.count {old new : List Tuple} (h : Ext old new) (t : Tuple) :
    new.count t = if t ∈ old then old.count t else if t ∈ new then 1 else 0 := by
  obtain ⟨d, hd, hnd, hdis⟩ := h
  subst hd
  rw [List.count_append]
  by_cases ho : t ∈ old
  · have hd' : t ∉ d := fun hd' => hdis t hd' ho
    rw [if_pos ho, List.count_eq_zero_of_not_mem hd', Nat.add_zero]
  · rw [if_neg ho, List.count_eq_zero_of_not_mem ho, Nat.zero_add, hnd.count]
    by_cases hd' : t ∈ d
    · rw [if_pos hd', if_pos (List.mem_append_right _ hd')]
    · rw [if_neg hd', if_neg (fun hm => (List.mem_append.mp hm).elim ho hd')]

theorem Ext.count_eq_one {old new : List Tuple} (h : Ext old new) (hn : old.Nodup) {t : Tuple} (ht : t ∈ new) :
    new.count t = 1 := by
  rw [(h.nodup hn).count, if_pos ht]

theorem Ext.dup_from_old {old new : List Tuple} (h : Ext old new) {t : Tuple} (ht : 1 < new.count t) :
    t ∈ old ∧ old.count t = new.count t := by
  have hc := h.count t
  by_cases ho : t ∈ old
  · rw [if_pos ho] at hc
    exact ⟨ho, hc.symm⟩
  · rw [if_neg ho] at hc
    exfalso
    by_cases hn : t ∈ new
    · rw [if_pos hn] at hc; omega
    · rw [if_neg hn] at hc; omega

/-- what a returned `run()` leaves: `old` are the row vectors of the start value, `new` those of the result, `M` the model the
least-model theorem of the engine names -/
structure Returned (old new : RelId → List Tuple) (M : Fact → Prop) : Prop where
  facts : ∀ f, f.args ∈ new f.rel ↔ M f
  ext : ∀ r, Ext (old r) (new r)

theorem Returned.inputs_kept {old new : RelId → List Tuple} {M : Fact → Prop} (h : Returned old new M) (r : RelId) :
    old r <+: new r ∧ ∀ i, i < (old r).length → (new r)[i]? = (old r)[i]? :=
  ⟨(h.ext r).prefix, (h.ext r).getElem?⟩

theorem Returned.fact_once {old new : RelId → List Tuple} {M : Fact → Prop} (h : Returned old new M) {f : Fact}
    (hn : (old f.rel).Nodup) (hf : M f) : (new f.rel).count f.args = 1 :=
  (h.ext f.rel).count_eq_one hn ((h.facts f).mpr hf)

theorem Returned.nonfact_absent {old new : RelId → List Tuple} {M : Fact → Prop} (h : Returned old new M) {f : Fact}
    (hf : ¬ M f) : (new f.rel).count f.args = 0 :=
  List.count_eq_zero_of_not_mem fun hin => hf ((h.facts f).mp hin)

end AscentVerif.RowsExt

namespace AscentVerif.Phys
open AscentVerif AscentVerif.Engine AscentVerif.Index AscentVerif.RowsExt

variable {E B G P A : Type}

/-- from the per-relation statement of the least-model theorems (declared relations) to every relation identifier -/
theorem ext_all {p : Program E B G P A} {s o : PSt} (hs : s.length = p.rels.length) (ho : o.length = p.rels.length)
    (h : ∀ r, r < p.rels.length → ∃ derived, (prel o r).rows = (prel s r).rows ++ derived ∧
      derived.Nodup ∧ ∀ t ∈ derived, t ∉ (prel s r).rows) :
    ∀ r, Ext (prel s r).rows (prel o r).rows := by
  intro r
  rcases Nat.lt_or_ge r p.rels.length with hr | hr
  · exact h r hr
  · rw [prel_of_ge s r (by rw [hs]; exact hr), prel_of_ge o r (by rw [ho]; exact hr)]
    exact Ext.refl_nil

theorem runPhys_returned (I : Interp E B G P A) (V : Hir.VarsOf E B) (p : Program E B G P A) (order : SccOrder)
    (c : Ctx I V p order) (s : PSt) (fuel : Nat) (o : ProgSt) (hs : WFPSt p s)
    (h : run I V p (ixSetsOf V p) order fuel s = some o) :
    Returned (fun r => (prel s r).rows) (fun r => (prel o.st r).rows) (Derivable I p.rules noAgg (stDB p s)) := by
  obtain ⟨hw, hr⟩ := runPhys_ran I V p order c s fuel o hs h
  exact ⟨hr.facts, ext_all hs.1 hw.1 hr.ext⟩

/-- **the rows a `run()` adds are pairwise distinct and distinct from all start rows**, for EVERY relation identifier and with
no hypothesis on the start rows -/
theorem runPhys_rows_set (I : Interp E B G P A) (V : Hir.VarsOf E B) (p : Program E B G P A) (order : SccOrder)
    (c : Ctx I V p order) (s : PSt) (fuel : Nat) (o : ProgSt) (hs : WFPSt p s)
    (h : run I V p (ixSetsOf V p) order fuel s = some o) :
    ∀ r, ∃ derived, (prel o.st r).rows = (prel s r).rows ++ derived ∧ derived.Nodup ∧ ∀ t ∈ derived, t ∉ (prel s r).rows :=
  (runPhys_returned I V p order c s fuel o hs h).ext

/-- **relations are sets**: a relation whose start row vector is duplicate-free has a duplicate-free row vector after the run -/
theorem runPhys_rows_nodup (I : Interp E B G P A) (V : Hir.VarsOf E B) (p : Program E B G P A) (order : SccOrder)
    (c : Ctx I V p order) (s : PSt) (fuel : Nat) (o : ProgSt) (hs : WFPSt p s)
    (h : run I V p (ixSetsOf V p) order fuel s = some o) :
    ∀ r, (prel s r).rows.Nodup → (prel o.st r).rows.Nodup :=
  fun r => ((runPhys_returned I V p order c s fuel o hs h).ext r).nodup

/-- **inputs are never lost**: every start row is still there, unmodified and at its old position -/
theorem runPhys_inputs_kept (I : Interp E B G P A) (V : Hir.VarsOf E B) (p : Program E B G P A) (order : SccOrder)
    (c : Ctx I V p order) (s : PSt) (fuel : Nat) (o : ProgSt) (hs : WFPSt p s)
    (h : run I V p (ixSetsOf V p) order fuel s = some o) :
    ∀ r, (prel s r).rows <+: (prel o.st r).rows ∧
      ∀ i, i < (prel s r).rows.length → (prel o.st r).rows[i]? = (prel s r).rows[i]? :=
  (runPhys_returned I V p order c s fuel o hs h).inputs_kept

/-- **every derivable fact is stored exactly once**: if the start rows of its relation are duplicate-free, a fact of the least
model of the start value's rows occurs at exactly one position of its relation's row vector -/
theorem runPhys_each_fact_once (I : Interp E B G P A) (V : Hir.VarsOf E B) (p : Program E B G P A) (order : SccOrder)
    (c : Ctx I V p order) (s : PSt) (fuel : Nat) (o : ProgSt) (hs : WFPSt p s)
    (h : run I V p (ixSetsOf V p) order fuel s = some o) :
    ∀ f, (prel s f.rel).rows.Nodup → Derivable I p.rules noAgg (stDB p s) f → (prel o.st f.rel).rows.count f.args = 1 :=
  fun _ => (runPhys_returned I V p order c s fuel o hs h).fact_once

/-- … and nothing else is stored: a fact that is not derivable occurs nowhere -/
theorem runPhys_nonfact_absent (I : Interp E B G P A) (V : Hir.VarsOf E B) (p : Program E B G P A) (order : SccOrder)
    (c : Ctx I V p order) (s : PSt) (fuel : Nat) (o : ProgSt) (hs : WFPSt p s)
    (h : run I V p (ixSetsOf V p) order fuel s = some o) :
    ∀ f, ¬ Derivable I p.rules noAgg (stDB p s) f → (prel o.st f.rel).rows.count f.args = 0 :=
  fun _ => (runPhys_returned I V p order c s fuel o hs h).nonfact_absent

/-- **the multiplicity of every tuple after the run**, without any hypothesis on the start rows: that of the start vector for a
start row, `1` for a tuple the run derived, `0` otherwise -/
theorem runPhys_count (I : Interp E B G P A) (V : Hir.VarsOf E B) (p : Program E B G P A) (order : SccOrder)
    (c : Ctx I V p order) (s : PSt) (fuel : Nat) (o : ProgSt) (hs : WFPSt p s)
    (h : run I V p (ixSetsOf V p) order fuel s = some o) :
    ∀ r t, (prel o.st r).rows.count t =
      if t ∈ (prel s r).rows then (prel s r).rows.count t else if t ∈ (prel o.st r).rows then 1 else 0 :=
  fun r => ((runPhys_returned I V p order c s fuel o hs h).ext r).count

/-- **a duplicate in the result is a duplicate the caller supplied**: a tuple stored more than once after the run was a start
row, stored as many times before the run -/
theorem runPhys_dup_from_input (I : Interp E B G P A) (V : Hir.VarsOf E B) (p : Program E B G P A) (order : SccOrder)
    (c : Ctx I V p order) (s : PSt) (fuel : Nat) (o : ProgSt) (hs : WFPSt p s)
    (h : run I V p (ixSetsOf V p) order fuel s = some o) :
    ∀ r t, 1 < (prel o.st r).rows.count t → t ∈ (prel s r).rows ∧ (prel s r).rows.count t = (prel o.st r).rows.count t :=
  fun r _ => ((runPhys_returned I V p order c s fuel o hs h).ext r).dup_from_old

/-! With aggregation / negation the start rows are assumed duplicate-free throughout: it is a hypothesis of
`runPhys_agg_compiled_eq_model` (the aggregators count rows). -/

theorem runPhys_agg_returned (I : Interp E B G P A) (V : Hir.VarsOf E B) (p : Program E B G P A) (order : SccOrder)
    (c : CtxA I V p order) (s : PSt) (fuel : Nat) (o : ProgSt) (hs : WFPSt p s) (hnd : ∀ r, (prel s r).rows.Nodup)
    (h : run I V p (ixSetsOfA V p) order fuel s = some o) :
    Returned (fun r => (prel s r).rows) (fun r => (prel o.st r).rows)
      (Derivable I p.rules (fun r => (prel o.st r).rows) (stDB p s)) := by
  obtain ⟨hw, _, hm, hr⟩ := runPhys_agg_compiled_eq_model I c.ext V c.supp c.perm p order s fuel o c.rel c.valid c.strat c.arity
    c.aggArity c.rules hs hnd h
  exact ⟨hm, ext_all hs.1 hw.1 hr⟩

/-- the rows the run adds are pairwise distinct and distinct from all start rows -/
theorem runPhys_agg_rows_set (I : Interp E B G P A) (V : Hir.VarsOf E B) (p : Program E B G P A) (order : SccOrder)
    (c : CtxA I V p order) (s : PSt) (fuel : Nat) (o : ProgSt) (hs : WFPSt p s) (hnd : ∀ r, (prel s r).rows.Nodup)
    (h : run I V p (ixSetsOfA V p) order fuel s = some o) :
    ∀ r, ∃ derived, (prel o.st r).rows = (prel s r).rows ++ derived ∧ derived.Nodup ∧ ∀ t ∈ derived, t ∉ (prel s r).rows :=
  (runPhys_agg_returned I V p order c s fuel o hs hnd h).ext

/-- **relations are sets**, aggregation and negation included -/
theorem runPhys_agg_rows_nodup (I : Interp E B G P A) (V : Hir.VarsOf E B) (p : Program E B G P A) (order : SccOrder)
    (c : CtxA I V p order) (s : PSt) (fuel : Nat) (o : ProgSt) (hs : WFPSt p s) (hnd : ∀ r, (prel s r).rows.Nodup)
    (h : run I V p (ixSetsOfA V p) order fuel s = some o) :
    ∀ r, (prel o.st r).rows.Nodup :=
  fun r => ((runPhys_agg_returned I V p order c s fuel o hs hnd h).ext r).nodup (hnd r)

/-- **inputs are never lost** -/
theorem runPhys_agg_inputs_kept (I : Interp E B G P A) (V : Hir.VarsOf E B) (p : Program E B G P A) (order : SccOrder)
    (c : CtxA I V p order) (s : PSt) (fuel : Nat) (o : ProgSt) (hs : WFPSt p s) (hnd : ∀ r, (prel s r).rows.Nodup)
    (h : run I V p (ixSetsOfA V p) order fuel s = some o) :
    ∀ r, (prel s r).rows <+: (prel o.st r).rows ∧
      ∀ i, i < (prel s r).rows.length → (prel o.st r).rows[i]? = (prel s r).rows[i]? :=
  (runPhys_agg_returned I V p order c s fuel o hs hnd h).inputs_kept

/-- **every fact of the stratified model is stored exactly once** (the model: the least model in which every aggregation reads
the final rows of its relation) -/
theorem runPhys_agg_each_fact_once (I : Interp E B G P A) (V : Hir.VarsOf E B) (p : Program E B G P A) (order : SccOrder)
    (c : CtxA I V p order) (s : PSt) (fuel : Nat) (o : ProgSt) (hs : WFPSt p s) (hnd : ∀ r, (prel s r).rows.Nodup)
    (h : run I V p (ixSetsOfA V p) order fuel s = some o) :
    ∀ f, Derivable I p.rules (fun r => (prel o.st r).rows) (stDB p s) f → (prel o.st f.rel).rows.count f.args = 1 :=
  fun f => (runPhys_agg_returned I V p order c s fuel o hs hnd h).fact_once (hnd f.rel)

theorem runPhys_agg_nonfact_absent (I : Interp E B G P A) (V : Hir.VarsOf E B) (p : Program E B G P A) (order : SccOrder)
    (c : CtxA I V p order) (s : PSt) (fuel : Nat) (o : ProgSt) (hs : WFPSt p s) (hnd : ∀ r, (prel s r).rows.Nodup)
    (h : run I V p (ixSetsOfA V p) order fuel s = some o) :
    ∀ f, ¬ Derivable I p.rules (fun r => (prel o.st r).rows) (stDB p s) f → (prel o.st f.rel).rows.count f.args = 0 :=
  fun _ => (runPhys_agg_returned I V p order c s fuel o hs hnd h).nonfact_absent

/-! Non-vacuity: transitive closure (`pTC`, `sTC` of `Props/C01Phys`, `tc_ctx` of `Props/C13Phys`), and a start value with a duplicate `edge` row. -/

/-- the row vectors of a run that was evaluated together with its `scc_iters` (`tc_hyps`) -/
theorem rows_of_obs {α β γ : Type} {x : Option α} {f : α → β} {g : α → γ} {b : β} {c : γ}
    (h : x.map (fun a => (f a, g a)) = some (b, c)) : x.map f = some b := by
  cases x with
  | none => cases h
  | some a => cases h; rfl

theorem sTC_nodup : ∀ r, (prel sTC r).rows.Nodup :=
  nodup_initSt (by decide)

/-- the theorems apply to the example: every hypothesis holds -/
example (o : ProgSt) (h : run Plan.exI Plan.exV pTC (ixSetsOf Plan.exV pTC) [[0], [1]] 10 sTC = some o) :
    (∀ r, (prel o.st r).rows.Nodup) ∧
    (∀ r, (prel sTC r).rows <+: (prel o.st r).rows) ∧
    (∀ f, Derivable Plan.exI pTC.rules noAgg (stDB pTC sTC) f → (prel o.st f.rel).rows.count f.args = 1) :=
  ⟨fun r => runPhys_rows_nodup Plan.exI Plan.exV pTC _ tc_ctx sTC 10 o wf_sTC h r (sTC_nodup r),
   fun r => (runPhys_inputs_kept Plan.exI Plan.exV pTC _ tc_ctx sTC 10 o wf_sTC h r).1,
   fun f => runPhys_each_fact_once Plan.exI Plan.exV pTC _ tc_ctx sTC 10 o wf_sTC h f (sTC_nodup f.rel)⟩

/-- … and the run does return: `path` holds each of its three tuples once, `edge` is unchanged -/
example :
    (run Plan.exI Plan.exV pTC (ixSetsOf Plan.exV pTC) [[0], [1]] 10 sTC).map (fun o => o.st.map (·.rows)) =
      some [[[.int 1, .int 2], [.int 2, .int 3]], [[.int 1, .int 2], [.int 2, .int 3], [.int 1, .int 3]]] ∧
    ([[Val.int 1, .int 2], [.int 2, .int 3], [.int 1, .int 3]] : List Tuple).count [.int 1, .int 3] = 1 :=
  ⟨rows_of_obs tc_hyps.2.2.2.2.2.2.2.2, by decide⟩

/-- `edge` pushed with the row `(1, 2)` twice -/
def sTCdup : PSt := initSt pTC fun r => if r = 0 then [[.int 1, .int 2], [.int 1, .int 2], [.int 2, .int 3]] else []

theorem wf_sTCdup : WFPSt pTC sTCdup :=
  wfPSt_initSt (by decide)

/-- the duplicate the caller supplied stays (`run()` never removes a row), but the run adds none: `path(1, 2)`, derived from
both copies of `edge(1, 2)`, is stored once -/
example :
    (run Plan.exI Plan.exV pTC (ixSetsOf Plan.exV pTC) [[0], [1]] 10 sTCdup).map (fun o => o.st.map (·.rows)) =
      some [[[.int 1, .int 2], [.int 1, .int 2], [.int 2, .int 3]], [[.int 1, .int 2], [.int 2, .int 3], [.int 1, .int 3]]] := by
  decide +kernel

example (o : ProgSt) (h : run Plan.exI Plan.exV pTC (ixSetsOf Plan.exV pTC) [[0], [1]] 10 sTCdup = some o) :
    (prel o.st 1).rows.Nodup ∧
    ∀ r t, 1 < (prel o.st r).rows.count t → t ∈ (prel sTCdup r).rows ∧ (prel sTCdup r).rows.count t = (prel o.st r).rows.count t :=
  ⟨runPhys_rows_nodup Plan.exI Plan.exV pTC _ tc_ctx sTCdup 10 o wf_sTCdup h 1 (by decide),
   runPhys_dup_from_input Plan.exI Plan.exV pTC _ tc_ctx sTCdup 10 o wf_sTCdup h⟩

/-! Non-vacuity with aggregation / negation: the program of `Props/C04Phys.lean` (`pNeg`, `sNeg`; `negA_ctx` of `Props/C13PhysAgg`). -/

theorem wf_sNeg : WFPSt pNeg sNeg :=
  wfPSt_initSt (by decide)

theorem sNeg_nodup : ∀ r, (prel sNeg r).rows.Nodup :=
  nodup_initSt (by decide)

example (o : ProgSt) (h : run exA Plan.exV pNeg (ixSetsOfA Plan.exV pNeg) [[0], [1], [2]] 10 sNeg = some o) :
    (∀ r, (prel o.st r).rows.Nodup) ∧
    (∀ r, (prel sNeg r).rows <+: (prel o.st r).rows) ∧
    (∀ f, Derivable exA pNeg.rules (fun r => (prel o.st r).rows) (stDB pNeg sNeg) f → (prel o.st f.rel).rows.count f.args = 1) :=
  ⟨runPhys_agg_rows_nodup exA Plan.exV pNeg _ negA_ctx sNeg 10 o wf_sNeg sNeg_nodup h,
   fun r => (runPhys_agg_inputs_kept exA Plan.exV pNeg _ negA_ctx sNeg 10 o wf_sNeg sNeg_nodup h r).1,
   runPhys_agg_each_fact_once exA Plan.exV pNeg _ negA_ctx sNeg 10 o wf_sNeg sNeg_nodup h⟩

#print axioms runPhys_rows_set
#print axioms runPhys_rows_nodup
#print axioms runPhys_inputs_kept
#print axioms runPhys_each_fact_once
#print axioms runPhys_nonfact_absent
#print axioms runPhys_count
#print axioms runPhys_dup_from_input
#print axioms runPhys_agg_rows_set
#print axioms runPhys_agg_rows_nodup
#print axioms runPhys_agg_inputs_kept
#print axioms runPhys_agg_each_fact_once
#print axioms runPhys_agg_nonfact_absent

end AscentVerif.Phys

namespace AscentVerif.PhysPar
open AscentVerif AscentVerif.Engine AscentVerif.Index AscentVerif.Phys AscentVerif.RowsExt

variable {E B G P A : Type}

theorem ext_allPar {p : Program E B G P A} {s o : PCSt} (hs : s.length = p.rels.length) (ho : o.length = p.rels.length)
    (h : ∀ r, r < p.rels.length → ∃ derived, (pcrel o r).rows = (pcrel s r).rows ++ derived ∧
      derived.Nodup ∧ ∀ t ∈ derived, t ∉ (pcrel s r).rows) :
    ∀ r, Ext (pcrel s r).rows (pcrel o r).rows := by
  intro r
  rcases Nat.lt_or_ge r p.rels.length with hr | hr
  · exact h r hr
  · rw [pcrel_of_ge s r (by rw [hs]; exact hr), pcrel_of_ge o r (by rw [ho]; exact hr)]
    exact Ext.refl_nil

theorem runPhysPar_returned (I : Interp E B G P A) (V : Hir.VarsOf E B) (p : Program E B G P A) (order : SccOrder)
    (c : CtxPar I V p order) (σ : Sched E B G P A) (threads fuel : Nat) (s : PCSt) (o : ProgSt) (hs : WFPCSt p s)
    (h : run I V p (ixSetsOf V p) order σ threads fuel s = .ok (some o)) :
    Returned (fun r => (pcrel s r).rows) (fun r => (pcrel o.st r).rows) (Derivable I p.rules noAgg (stDB p s)) := by
  obtain ⟨hw, hr⟩ := spec_of_ok (runPhysPar_ran I V p order c σ threads fuel s hs) h o rfl
  exact ⟨hr.facts, ext_allPar hs.1 hw.1 hr.ext⟩

/-- **the rows a parallel `run()` adds are pairwise distinct and distinct from all start rows**, under every schedule, in every
pool (no hypothesis on the start rows) -/
theorem runPhysPar_rows_set (I : Interp E B G P A) (V : Hir.VarsOf E B) (p : Program E B G P A) (order : SccOrder)
    (c : CtxPar I V p order) (σ : Sched E B G P A) (threads fuel : Nat) (s : PCSt) (o : ProgSt) (hs : WFPCSt p s)
    (h : run I V p (ixSetsOf V p) order σ threads fuel s = .ok (some o)) :
    ∀ r, ∃ derived, (pcrel o.st r).rows = (pcrel s r).rows ++ derived ∧ derived.Nodup ∧ ∀ t ∈ derived, t ∉ (pcrel s r).rows :=
  (runPhysPar_returned I V p order c σ threads fuel s o hs h).ext

/-- **relations are sets** under every schedule, in every pool: however many workers derive a tuple at the same time -/
theorem runPhysPar_rows_nodup (I : Interp E B G P A) (V : Hir.VarsOf E B) (p : Program E B G P A) (order : SccOrder)
    (c : CtxPar I V p order) (σ : Sched E B G P A) (threads fuel : Nat) (s : PCSt) (o : ProgSt) (hs : WFPCSt p s)
    (h : run I V p (ixSetsOf V p) order σ threads fuel s = .ok (some o)) :
    ∀ r, (pcrel s r).rows.Nodup → (pcrel o.st r).rows.Nodup :=
  fun r => ((runPhysPar_returned I V p order c σ threads fuel s o hs h).ext r).nodup

/-- **inputs are never lost**: every start row is still there, unmodified and at its old position -/
theorem runPhysPar_inputs_kept (I : Interp E B G P A) (V : Hir.VarsOf E B) (p : Program E B G P A) (order : SccOrder)
    (c : CtxPar I V p order) (σ : Sched E B G P A) (threads fuel : Nat) (s : PCSt) (o : ProgSt) (hs : WFPCSt p s)
    (h : run I V p (ixSetsOf V p) order σ threads fuel s = .ok (some o)) :
    ∀ r, (pcrel s r).rows <+: (pcrel o.st r).rows ∧
      ∀ i, i < (pcrel s r).rows.length → (pcrel o.st r).rows[i]? = (pcrel s r).rows[i]? :=
  (runPhysPar_returned I V p order c σ threads fuel s o hs h).inputs_kept

/-- **every derivable fact is stored exactly once** -/
theorem runPhysPar_each_fact_once (I : Interp E B G P A) (V : Hir.VarsOf E B) (p : Program E B G P A) (order : SccOrder)
    (c : CtxPar I V p order) (σ : Sched E B G P A) (threads fuel : Nat) (s : PCSt) (o : ProgSt) (hs : WFPCSt p s)
    (h : run I V p (ixSetsOf V p) order σ threads fuel s = .ok (some o)) :
    ∀ f, (pcrel s f.rel).rows.Nodup → Derivable I p.rules noAgg (stDB p s) f → (pcrel o.st f.rel).rows.count f.args = 1 :=
  fun _ => (runPhysPar_returned I V p order c σ threads fuel s o hs h).fact_once

theorem runPhysPar_nonfact_absent (I : Interp E B G P A) (V : Hir.VarsOf E B) (p : Program E B G P A) (order : SccOrder)
    (c : CtxPar I V p order) (σ : Sched E B G P A) (threads fuel : Nat) (s : PCSt) (o : ProgSt) (hs : WFPCSt p s)
    (h : run I V p (ixSetsOf V p) order σ threads fuel s = .ok (some o)) :
    ∀ f, ¬ Derivable I p.rules noAgg (stDB p s) f → (pcrel o.st f.rel).rows.count f.args = 0 :=
  fun _ => (runPhysPar_returned I V p order c σ threads fuel s o hs h).nonfact_absent

/-- **the multiplicity of every tuple after the run**, without any hypothesis on the start rows -/
theorem runPhysPar_count (I : Interp E B G P A) (V : Hir.VarsOf E B) (p : Program E B G P A) (order : SccOrder)
    (c : CtxPar I V p order) (σ : Sched E B G P A) (threads fuel : Nat) (s : PCSt) (o : ProgSt) (hs : WFPCSt p s)
    (h : run I V p (ixSetsOf V p) order σ threads fuel s = .ok (some o)) :
    ∀ r t, (pcrel o.st r).rows.count t =
      if t ∈ (pcrel s r).rows then (pcrel s r).rows.count t else if t ∈ (pcrel o.st r).rows then 1 else 0 :=
  fun r => ((runPhysPar_returned I V p order c σ threads fuel s o hs h).ext r).count

/-- **a duplicate in the result is a duplicate the caller supplied** -/
theorem runPhysPar_dup_from_input (I : Interp E B G P A) (V : Hir.VarsOf E B) (p : Program E B G P A) (order : SccOrder)
    (c : CtxPar I V p order) (σ : Sched E B G P A) (threads fuel : Nat) (s : PCSt) (o : ProgSt) (hs : WFPCSt p s)
    (h : run I V p (ixSetsOf V p) order σ threads fuel s = .ok (some o)) :
    ∀ r t, 1 < (pcrel o.st r).rows.count t → t ∈ (pcrel s r).rows ∧ (pcrel s r).rows.count t = (pcrel o.st r).rows.count t :=
  fun r _ => ((runPhysPar_returned I V p order c σ threads fuel s o hs h).ext r).dup_from_old

/-- the standing hypotheses of `runPhysPar_agg_eq_model`: those of `Phys.CtxA` plus declared body relations -/
structure CtxParA (I : Interp E B G P A) (V : Hir.VarsOf E B) (p : Program E B G P A) (order : SccOrder) : Prop where
  ext : Plan.Ext I
  supp : Plan.Supp I V
  perm : AggPermInvariant I
  rel : RelationalAgg p
  valid : validOrder p order = true
  strat : Stratified p order
  arity : arityOk p = true
  aggArity : aggArityOk p = true
  decl : bodyDeclared p = true
  rules : ∀ r ∈ p.rules, Hir.Desugared V r = true ∧ Plan.WellScoped V r = true

theorem CtxParA.toCtxA {I : Interp E B G P A} {V : Hir.VarsOf E B} {p : Program E B G P A} {order : SccOrder}
    (c : CtxParA I V p order) : Phys.CtxA I V p order :=
  ⟨c.ext, c.supp, c.perm, c.rel, c.valid, c.strat, c.arity, c.aggArity, c.rules⟩

theorem runPhysPar_agg_returned (I : Interp E B G P A) (V : Hir.VarsOf E B) (p : Program E B G P A) (order : SccOrder)
    (c : CtxParA I V p order) (σ : Sched E B G P A) (threads fuel : Nat) (s : PCSt) (o : ProgSt) (hs : WFPCSt p s)
    (hnd : ∀ r, (pcrel s r).rows.Nodup)
    (h : run I V p (ixSetsOfA V p) order σ threads fuel s = .ok (some o)) :
    Returned (fun r => (pcrel s r).rows) (fun r => (pcrel o.st r).rows)
      (Derivable I p.rules (fun r => (pcrel o.st r).rows) (stDB p s)) := by
  obtain ⟨hw, _, hm, hr⟩ := spec_of_ok (runPhysPar_agg_eq_model I c.ext V c.supp c.perm p order σ threads fuel s c.rel c.valid
    c.strat c.arity c.aggArity c.decl c.rules hs hnd) h o rfl
  exact ⟨hm, ext_allPar hs.1 hw.1 hr⟩

theorem runPhysPar_agg_rows_set (I : Interp E B G P A) (V : Hir.VarsOf E B) (p : Program E B G P A) (order : SccOrder)
    (c : CtxParA I V p order) (σ : Sched E B G P A) (threads fuel : Nat) (s : PCSt) (o : ProgSt) (hs : WFPCSt p s)
    (hnd : ∀ r, (pcrel s r).rows.Nodup)
    (h : run I V p (ixSetsOfA V p) order σ threads fuel s = .ok (some o)) :
    ∀ r, ∃ derived, (pcrel o.st r).rows = (pcrel s r).rows ++ derived ∧ derived.Nodup ∧ ∀ t ∈ derived, t ∉ (pcrel s r).rows :=
  (runPhysPar_agg_returned I V p order c σ threads fuel s o hs hnd h).ext

/-- **relations are sets**, aggregation and negation included, under every schedule, in every pool -/
theorem runPhysPar_agg_rows_nodup (I : Interp E B G P A) (V : Hir.VarsOf E B) (p : Program E B G P A) (order : SccOrder)
    (c : CtxParA I V p order) (σ : Sched E B G P A) (threads fuel : Nat) (s : PCSt) (o : ProgSt) (hs : WFPCSt p s)
    (hnd : ∀ r, (pcrel s r).rows.Nodup)
    (h : run I V p (ixSetsOfA V p) order σ threads fuel s = .ok (some o)) :
    ∀ r, (pcrel o.st r).rows.Nodup :=
  fun r => ((runPhysPar_agg_returned I V p order c σ threads fuel s o hs hnd h).ext r).nodup (hnd r)

/-- **inputs are never lost** -/
theorem runPhysPar_agg_inputs_kept (I : Interp E B G P A) (V : Hir.VarsOf E B) (p : Program E B G P A) (order : SccOrder)
    (c : CtxParA I V p order) (σ : Sched E B G P A) (threads fuel : Nat) (s : PCSt) (o : ProgSt) (hs : WFPCSt p s)
    (hnd : ∀ r, (pcrel s r).rows.Nodup)
    (h : run I V p (ixSetsOfA V p) order σ threads fuel s = .ok (some o)) :
    ∀ r, (pcrel s r).rows <+: (pcrel o.st r).rows ∧
      ∀ i, i < (pcrel s r).rows.length → (pcrel o.st r).rows[i]? = (pcrel s r).rows[i]? :=
  (runPhysPar_agg_returned I V p order c σ threads fuel s o hs hnd h).inputs_kept

/-- **every fact of the stratified model is stored exactly once** -/
theorem runPhysPar_agg_each_fact_once (I : Interp E B G P A) (V : Hir.VarsOf E B) (p : Program E B G P A) (order : SccOrder)
    (c : CtxParA I V p order) (σ : Sched E B G P A) (threads fuel : Nat) (s : PCSt) (o : ProgSt) (hs : WFPCSt p s)
    (hnd : ∀ r, (pcrel s r).rows.Nodup)
    (h : run I V p (ixSetsOfA V p) order σ threads fuel s = .ok (some o)) :
    ∀ f, Derivable I p.rules (fun r => (pcrel o.st r).rows) (stDB p s) f → (pcrel o.st f.rel).rows.count f.args = 1 :=
  fun f => (runPhysPar_agg_returned I V p order c σ threads fuel s o hs hnd h).fact_once (hnd f.rel)

theorem runPhysPar_agg_nonfact_absent (I : Interp E B G P A) (V : Hir.VarsOf E B) (p : Program E B G P A) (order : SccOrder)
    (c : CtxParA I V p order) (σ : Sched E B G P A) (threads fuel : Nat) (s : PCSt) (o : ProgSt) (hs : WFPCSt p s)
    (hnd : ∀ r, (pcrel s r).rows.Nodup)
    (h : run I V p (ixSetsOfA V p) order σ threads fuel s = .ok (some o)) :
    ∀ f, ¬ Derivable I p.rules (fun r => (pcrel o.st r).rows) (stDB p s) f → (pcrel o.st f.rel).rows.count f.args = 0 :=
  fun _ => (runPhysPar_agg_returned I V p order c σ threads fuel s o hs hnd h).nonfact_absent

theorem nodup_initStPar {threads0 : Nat} {p : Program E B G P A} {ix : IxSets} {inp : RelId → List Tuple}
    (h : ∀ r, r < p.rels.length → (inp r).Nodup) (r : RelId) : (pcrel (initSt threads0 p ix inp) r).rows.Nodup := by
  rw [pcrel_initSt_rows]
  split
  · next hr => exact h r hr
  · exact List.nodup_nil

/-! Non-vacuity: transitive closure as an `ascent_par!` program (`sTCpar`, `σTC` of `Props/C02Phys`, `tc_ctxPar` of
`Props/C14PhysPar`), under ANY schedule / pool and then run under `σTC` in a pool of 3 workers. -/

theorem sTCpar_nodup : ∀ r, (pcrel sTCpar r).rows.Nodup :=
  nodup_initStPar (by decide)

/-- the theorems apply to the example under every schedule, pool size and fuel -/
example (σ : Sched Plan.Ex Plan.Bx Plan.Ex Unit Unit) (threads fuel : Nat) (o : ProgSt)
    (h : run Plan.exI Plan.exV pTC (ixSetsOf Plan.exV pTC) [[0], [1]] σ threads fuel sTCpar = .ok (some o)) :
    (∀ r, (pcrel o.st r).rows.Nodup) ∧
    (∀ r, (pcrel sTCpar r).rows <+: (pcrel o.st r).rows) ∧
    (∀ f, Derivable Plan.exI pTC.rules noAgg (stDB pTC sTCpar) f → (pcrel o.st f.rel).rows.count f.args = 1) :=
  ⟨fun r => runPhysPar_rows_nodup Plan.exI Plan.exV pTC _ tc_ctxPar σ threads fuel sTCpar o wf_sTCpar h r (sTCpar_nodup r),
   fun r => (runPhysPar_inputs_kept Plan.exI Plan.exV pTC _ tc_ctxPar σ threads fuel sTCpar o wf_sTCpar h r).1,
   fun f => runPhysPar_each_fact_once Plan.exI Plan.exV pTC _ tc_ctxPar σ threads fuel sTCpar o wf_sTCpar h f
     (sTCpar_nodup f.rel)⟩

/-- … and under `σTC` in a pool of 3 workers the run returns, with `path` holding each of its three tuples once -/
example :
    obs (run Plan.exI Plan.exV pTC (ixSetsOf Plan.exV pTC) [[0], [1]] σTC 3 10 sTCpar) =
      .ok (some ([[[.int 1, .int 2], [.int 2, .int 3]], [[.int 1, .int 2], [.int 2, .int 3], [.int 1, .int 3]]], [1, 2])) :=
  tcPar_hyps.2.2

/-! Non-vacuity with aggregation / negation: the program of `Props/C04Phys.lean` as an `ascent_par!` program. -/

def sNegPar : PCSt :=
  initSt 2 pNeg (ixSetsOfA Plan.exV pNeg) fun r =>
    if r = 0 then [[.int 1], [.int 2], [.int 3]] else if r = 1 then [[.int 1, .int 2]] else if r = 2 then [[.int 1]] else []

theorem wf_sNegPar : WFPCSt pNeg sNegPar :=
  wfPCSt_initSt (by decide)

theorem sNegPar_nodup : ∀ r, (pcrel sNegPar r).rows.Nodup :=
  nodup_initStPar (by decide)

theorem negParA_ctx : CtxParA exA Plan.exV pNeg [[0], [1], [2]] :=
  { ext := exA_ext, supp := exA_supp, perm := exA_perm, rel := neg_hyps.1, valid := neg_hyps.2.1, strat := neg_hyps.2.2.1,
    arity := by decide, aggArity := by decide, decl := by decide, rules := neg_hyps.2.2.2.2.2.1 }

/-- the theorems apply under every schedule, pool size and fuel -/
example (σ : Sched Plan.Ex Plan.Bx Plan.Ex Unit Bool) (threads fuel : Nat) (o : ProgSt)
    (h : run exA Plan.exV pNeg (ixSetsOfA Plan.exV pNeg) [[0], [1], [2]] σ threads fuel sNegPar = .ok (some o)) :
    (∀ r, (pcrel o.st r).rows.Nodup) ∧
    (∀ r, (pcrel sNegPar r).rows <+: (pcrel o.st r).rows) ∧
    (∀ f, Derivable exA pNeg.rules (fun r => (pcrel o.st r).rows) (stDB pNeg sNegPar) f →
      (pcrel o.st f.rel).rows.count f.args = 1) :=
  ⟨runPhysPar_agg_rows_nodup exA Plan.exV pNeg _ negParA_ctx σ threads fuel sNegPar o wf_sNegPar sNegPar_nodup h,
   fun r => (runPhysPar_agg_inputs_kept exA Plan.exV pNeg _ negParA_ctx σ threads fuel sNegPar o wf_sNegPar sNegPar_nodup h r).1,
   runPhysPar_agg_each_fact_once exA Plan.exV pNeg _ negParA_ctx σ threads fuel sNegPar o wf_sNegPar sNegPar_nodup h⟩

/-- a schedule for the example: rows and head updates in reverse order, the `n`-th insert to worker `n % 3`, every other join swapped -/
def σNeg : Sched Plan.Ex Plan.Bx Plan.Ex Unit Bool :=
  { permRows := fun _ l => l.reverse, permRows_perm := fun _ l => List.reverse_perm l
    permTasks := fun _ l => l.reverse, permTasks_perm := fun _ l => List.reverse_perm l
    tid := fun n => n % 3, swap := fun n => n % 2 == 0 }

/-- … and under `σNeg` in a pool of 3 workers the run returns, every relation duplicate-free -/
theorem negPar_run :
    (run exA Plan.exV pNeg (ixSetsOfA Plan.exV pNeg) [[0], [1], [2]] σNeg 3 10 sNegPar).map
        (fun o => o.map fun ps => ps.st.map fun pr => (decide pr.rows.Nodup, pr.rows.length)) =
      .ok (some [(true, 3), (true, 1), (true, 2), (true, 1), (true, 3)]) := by
  decide +kernel

#print axioms runPhysPar_rows_set
#print axioms runPhysPar_rows_nodup
#print axioms runPhysPar_inputs_kept
#print axioms runPhysPar_each_fact_once
#print axioms runPhysPar_nonfact_absent
#print axioms runPhysPar_count
#print axioms runPhysPar_dup_from_input
#print axioms runPhysPar_agg_rows_set
#print axioms runPhysPar_agg_rows_nodup
#print axioms runPhysPar_agg_inputs_kept
#print axioms runPhysPar_agg_each_fact_once
#print axioms runPhysPar_agg_nonfact_absent
#print axioms negParA_ctx
#print axioms negPar_run

end AscentVerif.PhysPar
