import AscentVerif.Props.C01
import AscentVerif.Props.C19
/-!
# C05 — relations are sets: a tuple is inserted exactly once, inputs are never lost

Serial half: corollaries of the engine invariants (`run_from_eq_leastModel`), from ANY
well-formed start value (fresh, re-run, resumed).  Parallel half: the head update of
`ascent_par!` pushes a row iff `insert_if_not_present` on the `new` full index returns true;
by C19's race theorem exactly one of the workers racing on a tuple gets `true`, in every
interleaving of the (shard-locked, hence atomic) steps.
-/
namespace AscentVerif.Engine
open AscentVerif

variable {E B G P A : Type}

/-- the row vector after `run()` is the previous row vector followed by pairwise distinct new
tuples, none of which was present before: nothing is inserted twice, whatever the number of
rules, variants and iterations deriving it, and whether it was an input or derived earlier -/
theorem rows_set (I : Interp E B G P A) (cfg : Config) (p : Program E B G P A) (order : SccOrder)
    (s : St) (fuel : Nat) (ps : ProgSt)
    (hp : Relational p) (ho : validOrder p order = true) (hs : WFSt p s)
    (hrun : run I cfg p order fuel s = .done ps) :
    ∀ r, r < p.rels.length → ∃ derived, (relSt ps.st r).rows = (relSt s r).rows ++ derived ∧
      derived.Nodup ∧ ∀ t ∈ derived, t ∉ (relSt s r).rows :=
  (run_from_eq_leastModel I cfg p order s fuel ps hp ho hs hrun).2.2

/-- every input tuple is still present, unmodified and at its original position -/
theorem inputs_kept (I : Interp E B G P A) (cfg : Config) (p : Program E B G P A) (order : SccOrder)
    (s : St) (fuel : Nat) (ps : ProgSt)
    (hp : Relational p) (ho : validOrder p order = true) (hs : WFSt p s)
    (hrun : run I cfg p order fuel s = .done ps) :
    ∀ r, r < p.rels.length → ∀ i, i < (relSt s r).rows.length →
      (relSt ps.st r).rows[i]? = (relSt s r).rows[i]? := by
  intro r hr i hi
  obtain ⟨derived, hd, _, _⟩ := rows_set I cfg p order s fuel ps hp ho hs hrun r hr
  rw [hd, List.getElem?_append_left hi]

/-- duplicate-free inputs give duplicate-free row vectors: the only duplicates are those the caller put in -/
theorem rows_count (I : Interp E B G P A) (cfg : Config) (p : Program E B G P A) (order : SccOrder)
    (inp : RelId → List Tuple) (fuel : Nat) (ps : ProgSt)
    (hp : Relational p) (ho : validOrder p order = true) (hnd : ∀ r, (inp r).Nodup)
    (hrun : run I cfg p order fuel (initSt p inp) = .done ps) :
    ∀ r, r < p.rels.length → (relSt ps.st r).rows.Nodup := by
  intro r hr
  obtain ⟨derived, hd, hn, hdisj⟩ := run_rows_set I cfg p order inp fuel ps hp ho hrun r hr
  rw [hd]
  exact List.nodup_append.mpr ⟨hnd r, hn, fun a ha b hb hab => hdisj b hb (hab ▸ ha)⟩

/-- **parallel head update**: among any number of workers that derive the same not-yet-present
tuple at the same time, in every interleaving exactly one wins `insert_if_not_present` (and
pushes the row); if the tuple is present nobody does -/
theorem par_exactly_one_push (c cf : Index.CFullIdx Unit) (hn : 0 < c.shards.length)
    (attempts : List (Int × Unit)) (rs : List Bool) (h : Index.raceRun c attempts = some (cf, rs)) (tuple : Int) :
    ((attempts.zip rs).filter (fun ar => ar.1.1 = tuple ∧ ar.2 = true)).length =
      (if (c.getCloned tuple).isSome then 0 else if attempts.any (fun a => a.1 = tuple) then 1 else 0) :=
  (Index.CFullIdx.race_one_winner c cf hn attempts rs h tuple).2.1

example : ([1, 2, 3] : List Nat).Nodup := by decide

end AscentVerif.Engine
