import AscentVerif.Props.C19
import AscentVerif.Model.Engine
/-!
# Bridge between C19 and the engine model: an index lookup is a filter

The engine model (`Model/Engine.lean`) evaluates a clause by scanning the row numbers of an index
version and matching each row; the generated code instead looks the bound columns up in a hash
index built by `update_indices` (and by head updates) with `index_insert(projection of the row
on the index columns, row number)`.  This file proves that the two coincide: for the index model of
C19, after inserting every row under its projection, a lookup returns exactly the row numbers
whose projection equals the key, each once, in insertion order — i.e. the filter the engine uses.
-/
namespace AscentVerif.Index
open AscentVerif

def proj (cols : List Nat) (t : Tuple) : List Val := cols.map fun c => t.getD c .unit

/-- `update_indices` for one index of one relation: insert every row number under the row's projection -/
def buildIdx (cols : List Nat) (rows : List Tuple) : Idx (List Val) Nat :=
  ((List.range rows.length).map fun i => (proj cols (Engine.rowAt rows i), i)).foldl
    (fun m kv => Idx.insert m kv.1 kv.2) []

/-- **index_get = filter**: the row numbers returned for a key are exactly those of the rows whose
projection on the index columns equals the key (in row order, each once); `None` iff there is none -/
theorem buildIdx_get (cols : List Nat) (rows : List Tuple) (key : List Val) :
    (buildIdx cols rows).get key =
      (let hits := (List.range rows.length).filter fun i => proj cols (Engine.rowAt rows i) = key
       if hits = [] then none else some hits) := by
  unfold buildIdx
  rw [Idx.get_of_inserts]
  have : ((List.map (fun i => (proj cols (Engine.rowAt rows i), i)) (List.range rows.length)).filter (fun kv => kv.1 = key)).map (·.2) =
      (List.range rows.length).filter fun i => proj cols (Engine.rowAt rows i) = key := by
    generalize List.range rows.length = l
    induction l with
    | nil => rfl
    | cons x xs ih =>
      simp only [List.map_cons, List.filter_cons]
      by_cases h : proj cols (Engine.rowAt rows x) = key
      · simp [h, ih]
      · simp [h, ih]
  simp only [this]

/-- iteration over the whole index (`iter_all`) visits every row number exactly once -/
theorem buildIdx_entries (cols : List Nat) (rows : List Tuple) :
    ((buildIdx cols rows).entries.map (·.2)).Perm (List.range rows.length) := by
  unfold buildIdx
  have h := Idx.entries_of_inserts ((List.range rows.length).map fun i => (proj cols (Engine.rowAt rows i), i))
  have := h.map (·.2)
  simpa [List.map_map, Function.comp_def] using this

example : (buildIdx [0] [[.int 1, .int 2], [.int 3, .int 4], [.int 1, .int 5]]).get [.int 1] = some [0, 2] := by decide

end AscentVerif.Index
