import AscentVerif.Props.C04
import AscentVerif.Props.C03
import AscentVerif.Proofs.AggLatInv
/-!
# C04 over lattices — an aggregation / negation that ranges over a LATTICE relation sees one row per
key, carrying the FINAL value of the lower stratum

`Props/C04.lean` covers aggregation without lattices, `Props/C03.lean` lattices without aggregation.
Here: programs with BOTH (abstract engine `Model/Engine.lean`, serial mode), in particular
`cnt(k, n) <-- key(k), agg n = count() in best(k, _)`, `agg m = min(v) in dist(x, v)`, `!best(k, _)`.

What is proved here is the structural half (the semantic characterisation of the final database of a mixed program is
`Props/C04LatSem.lean`); helper development `Proofs/AggLatInv.lean`:

* `run_mixed_lattice_key_unique` / `run_mixed_lattice_view_once`: for EVERY program (any mix of
  lattices, aggregation, negation, generators; no stratification needed), after a completed `run()`
  every lattice relation has one row per key and the list an aggregation item over it reads
  (`latAggView`) is a duplicate-free enumeration of exactly its rows: one row per key.
* `agg_over_lattice_one_row_per_key`: for a stratified program, when the SCC containing an aggregation
  over lattice `l` starts, what the item reads for `l` has one row per key, is a permutation of the rows
  `l` has in the FINAL result, and is literally the list the item would read from the final value.
* `agg_item_reads_view`, `agg_item_reads_view_iter`: every state of the evaluation of that SCC hands
  exactly this list to the aggregator.
-/
namespace AscentVerif.Engine
open AscentVerif

variable {E B G P A : Type}

/-- the only requirement on the program: every head relation is declared -/
def MixedProg (p : Program E B G P A) : Prop := ∀ r ∈ p.rules, ∀ h ∈ r.heads, h.rel < p.rels.length

/-- the caller put at most one row per key into each lattice relation -/
def LatInputKeys (p : Program E B G P A) (inp : RelId → List Tuple) : Prop :=
  ∀ r, r < p.rels.length → (declOf p r).lat = true → ((inp r).map keyOf).Nodup

/-- the list of tuples the engine hands to the aggregation machinery for an item over relation `r`
when `r` is read from program value `st` (`aggTuples` for a lattice relation: the set-valued index
entries, each row number once, no tuple deduplication) -/
def latAggView (p : Program E B G P A) (st : St) (r : RelId) : List Tuple :=
  (readBag {} (declOf p r) (relSt st r).idx).map (rowAt (relSt st r).rows)

/-- `latAggView` IS what `evalBody`'s `.agg` case reads (`aggTuples`), in any SCC state that kept the
relation as the program value had it -/
theorem aggTuples_lattice_eq (p : Program E B G P A) (s : SccSt) (st : St) (a : AggClause E A)
    (hlat : (declOf p a.rel).lat = true) (hkeep : relSt s.rels a.rel = relSt st a.rel) :
    aggTuples {} p s a = latAggView p st a.rel := by
  simp [aggTuples, latAggView, hkeep, hlat]

private theorem view_of_KPInv {p : Program E B G P A} {st : St} (hp : AggLat.KPInv p st) (r : RelId)
    (hlat : (declOf p r).lat = true) :
    ((latAggView p st r).map keyOf).Nodup ∧ (latAggView p st r).Perm (relSt st r).rows := by
  have hv : latAggView p st r = ((relSt st r).idx.eraseDups).map (rowAt (relSt st r).rows) := by
    simp [latAggView, readBag, setLike, hlat]
  have h1 : ((relSt st r).idx.eraseDups).Perm (List.range (relSt st r).rows.length) := by
    rw [List.perm_ext_iff_of_nodup (nodup_eraseDups _) List.nodup_range]
    intro i
    rw [List.mem_eraseDups, List.mem_range]
    exact (hp.idxAll r i).symm
  have h2 : (latAggView p st r).Perm (relSt st r).rows := by
    rw [hv]
    exact (h1.map (rowAt (relSt st r).rows)).trans (.of_eq (bagTuples_range _))
  exact ⟨(h2.map keyOf).nodup_iff.mpr (hp.keys r hlat), h2⟩

/-- **one row per lattice key, for programs WITH aggregation / negation** (`run_lattice_key_unique`
of C03 without its `aggFree` hypothesis; no stratification hypothesis is needed either) -/
theorem run_mixed_lattice_key_unique (I : Interp E B G P A) (p : Program E B G P A) (order : SccOrder)
    (inp : RelId → List Tuple) (fuel : Nat) (ps : ProgSt)
    (hp : MixedProg p) (hi : LatInputKeys p inp)
    (hrun : run I {} p order fuel (initSt p inp) = .done ps) :
    ∀ r, r < p.rels.length → (declOf p r).lat = true → ((relSt ps.st r).rows.map keyOf).Nodup :=
  fun r _ hl => (AggLat.runSccs_K hp never fuel order _ ps (AggLat.KPInv_start inp hi) hrun).keys r hl

/-- **the aggregation view of a lattice after `run()`**: one entry per key, exactly the rows (what a
later `run()`'s aggregation, or a program reading this one, is handed) -/
theorem run_mixed_lattice_view_once (I : Interp E B G P A) (p : Program E B G P A) (order : SccOrder)
    (inp : RelId → List Tuple) (fuel : Nat) (ps : ProgSt)
    (hp : MixedProg p) (hi : LatInputKeys p inp)
    (hrun : run I {} p order fuel (initSt p inp) = .done ps) :
    ∀ r, (declOf p r).lat = true →
      ((latAggView p ps.st r).map keyOf).Nodup ∧ (latAggView p ps.st r).Perm (relSt ps.st r).rows :=
  fun r hl => view_of_KPInv (AggLat.runSccs_K hp never fuel order _ ps (AggLat.KPInv_start inp hi) hrun) r hl

/-- … from any program value of the right length whose lattice relations hold one row per key
(second and later runs, runs after pushes) -/
theorem run_mixed_lattice_view_once_from (I : Interp E B G P A) (p : Program E B G P A) (order : SccOrder)
    (s : St) (fuel : Nat) (ps : ProgSt)
    (hp : MixedProg p) (hlen : s.length = p.rels.length)
    (hk : ∀ r, (declOf p r).lat = true → ((relSt s r).rows.map keyOf).Nodup)
    (hrun : run I {} p order fuel s = .done ps) :
    ∀ r, (declOf p r).lat = true →
      ((relSt ps.st r).rows.map keyOf).Nodup ∧
      ((latAggView p ps.st r).map keyOf).Nodup ∧ (latAggView p ps.st r).Perm (relSt ps.st r).rows := by
  intro r hl
  have h := AggLat.runSccs_K hp never fuel order _ ps (AggLat.KPInv_updateIndices s hlen hk) hrun
  exact ⟨h.keys r hl, view_of_KPInv h r hl⟩

/-- **C04 for an aggregation over a lattice of a lower stratum.**  `ps` is the program value when the
SCC `scc` (which contains the item `a` over lattice relation `a.rel`) starts, `ps'` the final value.
The list the item reads (1) has pairwise distinct keys, (2) is a permutation of the rows `a.rel` has
in the FINAL result — every key once, with its final value — and (3) is literally the list the item
would read from the final value; (4) rows and stored index of `a.rel` are final. -/
theorem agg_over_lattice_one_row_per_key (I : Interp E B G P A) (p : Program E B G P A)
    (inp : RelId → List Tuple) (dl : Deadline) (fuel : Nat)
    (pre post : SccOrder) (scc : List Nat) (ps ps' : ProgSt)
    (hp : MixedProg p) (ho : validOrder p (pre ++ scc :: post) = true) (hs : Stratified p (pre ++ scc :: post))
    (hi : LatInputKeys p inp)
    (hpre : runSccs I {} p dl fuel pre { st := updateIndices (initSt p inp), checks := 0, iters := [] } = .done ps)
    (hpost : runSccs I {} p dl fuel (scc :: post) ps = .done ps')
    (rule : Rule E B G P A) (hrule : rule ∈ sccRules p scc) (a : AggClause E A) (ha : Item.agg a ∈ rule.body)
    (hlat : (declOf p a.rel).lat = true) :
    ((latAggView p ps.st a.rel).map keyOf).Nodup ∧
    (latAggView p ps.st a.rel).Perm (relSt ps'.st a.rel).rows ∧
    latAggView p ps'.st a.rel = latAggView p ps.st a.rel ∧
    relSt ps'.st a.rel = relSt ps.st a.rel := by
  have hk := AggLat.runSccs_K hp dl fuel pre _ ps (AggLat.KPInv_start inp hi) hpre
  have hfin : relSt ps'.st a.rel = relSt ps.st a.rel :=
    Agg.sccsG_stable (Agg.detPass_frame' I p) a.rel (Agg.runSccs_sccsG I {} p hpost)
      (Agg.agg_rel_not_later p pre post scc ho hs rule hrule a ha)
  obtain ⟨h1, h2⟩ := view_of_KPInv hk a.rel hlat
  refine ⟨h1, ?_, ?_, hfin⟩
  · rw [hfin]; exact h2
  · simp only [latAggView, hfin]

/-- every SCC state reached from the entry of the SCC by head updates and `shift`s (`Agg.Keeps`: they touch dynamic
relations only) hands `latAggView` of the entry value to an aggregation over a lattice that is not a head of the SCC -/
theorem agg_item_reads_view (p : Program E B G P A) (dynR : List RelId) (st : St) (s : SccSt)
    (hk : Agg.Keeps (enterScc st dynR) s) (a : AggClause E A) (hlat : (declOf p a.rel).lat = true)
    (hnd : dynR.contains a.rel = false) :
    aggTuples {} p s a = latAggView p st a.rel :=
  aggTuples_lattice_eq p s st a hlat (by rw [(hk a.rel (by rw [findDyn_enter, hnd]; rfl)).2, enterScc_rels])

/-- the state at the start of the `k`-th iteration of an SCC (`k = 0`: `enterScc`) -/
def iterSt (I : Interp E B G P A) (p : Program E B G P A) (scc : List Nat) (st : St) : Nat → SccSt
  | 0 => enterScc st (dynRels p scc)
  | k + 1 => shift (evalRules I {} p (dynRels p scc) (sccRules p scc) { iterSt I p scc st k with changed := false })

set_option linter.unusedVariables false in
/-- **during the SCC**: at the start of every iteration, and after the rules `sccRules.take j` of that
iteration have been evaluated, an aggregation item of a stratified SCC over a lattice reads the same
list `latAggView p st a.rel` — the one characterised by `agg_over_lattice_one_row_per_key`.
(`hp` and `hst` are not needed: the frame argument holds from any state.) -/
theorem agg_item_reads_view_iter (I : Interp E B G P A) (p : Program E B G P A) (scc : List Nat) (st : St)
    (hp : MixedProg p) (hst : AggLat.KPInv p st) (hs : aggOverDynamic p scc = false)
    (rule : Rule E B G P A) (hrule : rule ∈ sccRules p scc) (a : AggClause E A) (ha : Item.agg a ∈ rule.body)
    (hlat : (declOf p a.rel).lat = true) (k j : Nat) :
    aggTuples {} p (iterSt I p scc st k) a = latAggView p st a.rel ∧
    aggTuples {} p (evalRules I {} p (dynRels p scc) ((sccRules p scc).take j)
      { iterSt I p scc st k with changed := false }) a = latAggView p st a.rel := by
  have hnd := Agg.aggOverDynamic_false p scc hs rule hrule a ha
  have hall : ∀ k, Agg.Keeps (enterScc st (dynRels p scc)) (iterSt I p scc st k) := by
    intro k
    induction k with
    | zero => exact Agg.Keeps.refl _
    | succ k ih => exact (ih.trans (Agg.detPass_frame' I p _ _ _ _ rfl)).trans (Agg.keeps_shift _)
  exact ⟨agg_item_reads_view p _ st _ (hall k) a hlat hnd,
    agg_item_reads_view p _ st _ ((hall k).trans (Agg.detPass_frame' I p _ _ _ _ rfl)) a hlat hnd⟩

/-! ## non-vacuity: shortest distances (a `Dual<i64>` lattice), then `count` / `max` over them -/

/-- relations: 0 `edge(x, y, w)`, 1 `lattice dist(x, Dual<i64>)`, 2 `far(n)`, 3 `maxd(m)`;
`dist(y, v + w) <-- dist(x, v), edge(x, y, w)`; `far(n) <-- agg n = count() in dist(_, _)`;
`maxd(m) <-- agg m = max(v) in dist(_, v)` -/
def pDistAgg : Program Std.Ex Std.Bx Std.Gx Std.Px Std.Ax :=
  { rels := [⟨3, false⟩, ⟨2, true⟩, ⟨1, false⟩, ⟨1, false⟩]
    rules := [{ heads := [⟨1, [.var 1, .add (.var 2) (.var 3)]⟩],
                body := [.clause 1 [.var 0, .var 2] [], .clause 0 [.var 0, .var 1, .var 3] []] },
              { heads := [⟨2, [.var 0]⟩],
                body := [.agg { outs := [0], fn := .count, boundArgs := [], rel := 1, args := [.wild, .wild] }] },
              { heads := [⟨3, [.var 0]⟩],
                body := [.agg { outs := [0], fn := .max, boundArgs := [1], rel := 1, args := [.wild, .bound 1] }] }] }

/-- node 3 is first reached with distance 9 (edge 1→3, iteration 1), then lowered in place to 7 (iteration 2) -/
def inpDistAgg : RelId → List Tuple := fun r =>
  if r = 0 then [[.int 1, .int 3, .int 9], [.int 1, .int 2, .int 3], [.int 2, .int 3, .int 4]]
  else if r = 1 then [[.int 1, .int 0]] else []

def distAggI : Interp Std.Ex Std.Bx Std.Gx Std.Px Std.Ax := Std.interp fun _ => .minInt

def distAggDoneSt : Outcome ProgSt → Option St
  | .done ps => some ps.st
  | _ => none

theorem distAgg_hyps :
    MixedProg pDistAgg ∧ validOrder pDistAgg [[0], [1], [2]] = true ∧ Stratified pDistAgg [[0], [1], [2]] ∧
    ((inpDistAgg 1).map keyOf).Nodup := by
  refine ⟨by unfold MixedProg; decide +kernel, by decide +kernel, by unfold Stratified; decide +kernel, by decide +kernel⟩

theorem distAgg_inputKeys : LatInputKeys pDistAgg inpDistAgg := by
  have h : ∀ r, r < 4 → (declOf pDistAgg r).lat = true → ((inpDistAgg r).map keyOf).Nodup := by decide
  exact h

/-- the final program value of the run (the stored index of `dist` holds row 1 twice: it was re-queued when its value was
lowered) -/
theorem distAgg_final :
    distAggDoneSt (run distAggI {} pDistAgg [[0], [1], [2]] 10 (initSt pDistAgg inpDistAgg)) =
      some [⟨[[.int 1, .int 3, .int 9], [.int 1, .int 2, .int 3], [.int 2, .int 3, .int 4]], [0, 1, 2]⟩,
            ⟨[[.int 1, .int 0], [.int 3, .int 7], [.int 2, .int 3]], [0, 1, 2, 1]⟩,
            ⟨[[.int 3]], [0]⟩, ⟨[[.int 7]], [0]⟩] := by
  decide +kernel

/-- the run: `dist` ends with one row per node carrying the shortest distance (`[3, 7]`, not 9),
and the aggregations of the later strata saw exactly these three rows: `far(3)`, `maxd(7)` -/
theorem distAgg_run :
    (distAggDoneSt (run distAggI {} pDistAgg [[0], [1], [2]] 10 (initSt pDistAgg inpDistAgg))).map
        (fun st => (st.map (·.rows), latAggView pDistAgg st 1)) =
      some ([[[.int 1, .int 3, .int 9], [.int 1, .int 2, .int 3], [.int 2, .int 3, .int 4]],
             [[.int 1, .int 0], [.int 3, .int 7], [.int 2, .int 3]],
             [[.int 3]], [[.int 7]]],
            [[.int 1, .int 0], [.int 3, .int 7], [.int 2, .int 3]]) := by
  rw [distAgg_final]
  rfl

/-- the intermediate value of `dist(3, _)` really was different (9) after the first iteration of the
SCC `[0]` (the `dist` rule); no aggregate saw it -/
theorem distAgg_intermediate :
    (iterSt distAggI pDistAgg [0] (updateIndices (initSt pDistAgg inpDistAgg)) 1).rels.map (·.rows) =
      [[[.int 1, .int 3, .int 9], [.int 1, .int 2, .int 3], [.int 2, .int 3, .int 4]],
       [[.int 1, .int 0], [.int 3, .int 9], [.int 2, .int 3]], [], []] := by
  decide +kernel

/-- the theorems apply to the example -/
example (ps : ProgSt) (h : run distAggI {} pDistAgg [[0], [1], [2]] 10 (initSt pDistAgg inpDistAgg) = .done ps) :
    ((relSt ps.st 1).rows.map keyOf).Nodup ∧ (latAggView pDistAgg ps.st 1).Perm (relSt ps.st 1).rows :=
  ⟨run_mixed_lattice_key_unique distAggI pDistAgg _ inpDistAgg 10 ps distAgg_hyps.1 distAgg_inputKeys h 1 (by decide) rfl,
   (run_mixed_lattice_view_once distAggI pDistAgg _ inpDistAgg 10 ps distAgg_hyps.1 distAgg_inputKeys h 1 rfl).2⟩

/-- … and `agg_over_lattice_one_row_per_key` applies to the `count` item of SCC `[1]` -/
example (ps ps' : ProgSt)
    (hpre : runSccs distAggI {} pDistAgg never 10 [[0]]
      { st := updateIndices (initSt pDistAgg inpDistAgg), checks := 0, iters := [] } = .done ps)
    (hpost : runSccs distAggI {} pDistAgg never 10 [[1], [2]] ps = .done ps') :
    ((latAggView pDistAgg ps.st 1).map keyOf).Nodup ∧ (latAggView pDistAgg ps.st 1).Perm (relSt ps'.st 1).rows :=
  have h := agg_over_lattice_one_row_per_key distAggI pDistAgg inpDistAgg never 10 [[0]] [[2]] [1] ps ps'
    distAgg_hyps.1 distAgg_hyps.2.1 distAgg_hyps.2.2.1 distAgg_inputKeys hpre hpost
    (pDistAgg.rules.getD 1 ⟨[], []⟩) ((mem_sccRules _ _ _).mpr ⟨1, List.mem_singleton_self 1, rfl⟩)
    { outs := [0], fn := .count, boundArgs := [], rel := 1, args := [.wild, .wild] } (List.Mem.head _) rfl
  ⟨h.1, h.2.1⟩

#print axioms aggTuples_lattice_eq
#print axioms run_mixed_lattice_key_unique
#print axioms run_mixed_lattice_view_once
#print axioms run_mixed_lattice_view_once_from
#print axioms agg_over_lattice_one_row_per_key
#print axioms agg_item_reads_view
#print axioms agg_item_reads_view_iter
#print axioms distAgg_hyps
#print axioms distAgg_run
#print axioms distAgg_intermediate
#print axioms distAgg_inputKeys

end AscentVerif.Engine
