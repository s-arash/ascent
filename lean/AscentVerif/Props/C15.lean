import AscentVerif.Proofs.C15Core
/-!
# C15 — ill-formed programs are rejected at compile time, never miscompiled

Statements over the model `Check.check` (Model/Check.lean) of the static checks of the macro front end; the declarative
predicates are in Spec/CheckSpec.lean.  `Rejected s` = the macro answers with an error and emits no code; `Reaches s` =
this macro invocation compiles the program itself (it parses, has no `include_source!`, is not an `ascent_source!`).

* for every violation class K: `IllFormed_K → Rejected`, for a violation at ANY rule / position / nesting; the rebind
  class includes the bound arguments of aggregations (fix 4509942, finding FM2);
* `WellFormedCore → check = ok` (`wellFormedCore_accepted`); an accepted program is in none of the classes
  (`accepted_is_wellFormed`; it need not satisfy `WellFormedCore.attrsPlain`: of several attributes with one name only
  the first is inspected);
* macro expansion is total (structural recursion on the depth budget) and stops at the FIRST error everywhere (fix
  deae510, finding FM8).  Every macro of a set closed under "invokes a member again", and every macro from which an
  empty disjunction is reached, is rejected from every invocation at every position, whatever the budget; an invocation
  whose call tree fits the budget succeeds;
* the pipeline NEVER panics (`check_never_panics`): the `panic!` sites guarding against leftovers of desugaring are
  unreachable, and the four formerly reachable sites are gone (FM7: fix 71f89c5; FM5: fix 5862f99, the error
  `aggBoundArg` of the HIR pass; FM6: fix dfbe0be, the errors `sigName` / `sigGenerics` in front of the stratification
  test); an empty disjunction is a parse error of its rule, resp. an error of the expansion of the macro whose body
  contains it (FM4: fix 361e42e);
* re-declared relations: the declaration-level classes speak about the declarations that survive
  `dedup_all_keep_last_by` (`Summary.effDecls`, characterised by `mem_effDecls_iff`);
* the findings that still make a full-strength statement false (FM1 residue, FM10) are witnessed by closed terms, as
  is the behaviour of the repaired ones.
-/
namespace AscentVerif.Check
open AscentVerif AscentVerif.Engine

theorem illFormed_undeclared_rejected (s : Summary) (rules : List CoreRule) (hr : Reaches s)
    (hd : desugar s.macros s.rules = .ok rules) (h : IllFormedUndeclared s rules) : Rejected s :=
  rejected_of_desugar hr hd fun p => by
    obtain ⟨r, hr', o, ho, hnone⟩ := h
    obtain ⟨_, hsome, _⟩ := p.declared r hr' o ho
    cases hnone.symm.trans hsome

theorem illFormed_arity_rejected (s : Summary) (rules : List CoreRule) (hr : Reaches s)
    (hd : desugar s.macros s.rules = .ok rules) (h : IllFormedArity s rules) : Rejected s :=
  rejected_of_desugar hr hd fun p => by
    obtain ⟨r, hr', o, ho, _, hf, hne⟩ := h
    obtain ⟨_, hf', ha⟩ := p.declared r hr' o ho
    exact hne (Option.some.inj (hf.symm.trans hf') ▸ ha)

theorem illFormed_rebind_rejected (s : Summary) (rules : List CoreRule) (hr : Reaches s)
    (hd : desugar s.macros s.rules = .ok rules) (h : IllFormedRebind rules) : Rejected s :=
  rejected_of_desugar hr hd fun p => not_rebind_of_fresh p.fresh h

theorem illFormed_stratification_rejected (s : Summary) (rules : List CoreRule) (hr : Reaches s)
    (hd : desugar s.macros s.rules = .ok rules) (h : IllFormedStrat s rules) : Rejected s :=
  rejected_of_desugar hr hd fun p => p.stratified h

/-- an aggregation over a variable that is not an argument of the aggregated relation (`agg m = min(z) in a(y)`),
in any rule and at any position of its body (fix 5862f99; formerly the panic of finding FM5) -/
theorem illFormed_aggBound_rejected (s : Summary) (rules : List CoreRule) (hr : Reaches s)
    (hd : desugar s.macros s.rules = .ok rules) (h : IllFormedAggBound rules) : Rejected s :=
  rejected_of_desugar hr hd fun p => p.aggBound h

/-- `struct Foo; impl Bar;`, `struct Foo<T>; impl<T> Foo<U>;` (fix dfbe0be; formerly the panics of finding FM6) -/
theorem illFormed_signature_rejected (s : Summary) (hr : Reaches s) (h : IllFormedSig s) : Rejected s :=
  rejected_unless hr fun _ _ p => p.sigOk h

/-- a rule that contains an empty disjunction `()` — at any position of its body, at any depth of nested
disjunctions — is rejected by every one of the five macros (fix 361e42e; formerly the rule and every violation
in it disappeared: finding FM4).  The hypothesis excludes the programs that an `include_source!` hands over,
unparsed, to another macro invocation. -/
theorem illFormed_emptyDisj_rejected (s : Summary) (hn : ∀ n, Top.incl n ∉ s.items) (h : IllFormedEmptyDisj s) :
    Rejected s := by
  unfold Rejected check
  cases hp : parseItems s.items with
  | error e => exact ⟨e, rfl⟩
  | ok p =>
    cases p with
    | whole => exact absurd h (not_emptyDisj_of_whole hp)
    | deferred =>
      obtain ⟨n, hm⟩ := (parseItems_sat s.items).of_ok hp
      exact absurd hm (hn n)

theorem illFormed_include_rejected (s : Summary) (h : IllFormedInclude s) : Rejected s := by
  obtain ⟨hk, n, hn⟩ := h
  unfold Rejected check
  cases hp : parseItems s.items with
  | error e => exact ⟨e, rfl⟩
  | ok p =>
    cases p with
    | whole => exact absurd hn (((parseItems_sat s.items).of_ok hp).2 n)
    | deferred => exact ⟨.includeInSource, by simp [hk]⟩

theorem illFormed_dsLattice_rejected (s : Summary) (hr : Reaches s) (h : IllFormedDsLattice s) : Rejected s :=
  rejected_unless hr fun _ _ p => by
    obtain ⟨d, hd, hlat, a, ha, hn⟩ := h
    exact (p.declDs d hd).2 hlat a ha hn

theorem illFormed_twoDs_rejected (s : Summary) (hr : Reaches s) (h : IllFormedTwoDs s) : Rejected s :=
  rejected_unless hr fun _ _ p =>
    h.elim (not_hasTwoDs_of_dsOk p.progDs) fun ⟨d, hd, h⟩ => not_hasTwoDs_of_dsOk (p.declDs d hd).1 h

theorem illFormed_unknownAttr_rejected (s : Summary) (hr : Reaches s) (h : IllFormedUnknownAttr s) : Rejected s :=
  rejected_unless hr fun _ _ p => by
    obtain ⟨a, ha, hn⟩ := h
    exact hn (p.attrsKnown a ha)

theorem illFormed_parOnlyAttr_rejected (s : Summary) (hr : Reaches s) (h : IllFormedParOnlyAttr s) : Rejected s :=
  rejected_unless hr fun _ _ p => Bool.false_ne_true (h.1.symm.trans (p.parOnly h.2))

/-! ### re-declared relations

`relation r(i32); .. relation r(i32);` is legal: `dedup_all_keep_last_by` (utils.rs, called in ascent_hir.rs) removes every declaration
that has a later declaration of the same identity (name, columns, `lattice` or not), the LAST copy is the declaration
of the relation.  `Summary.effDecls` is the list after that step; `IllFormedDsLattice`, `IllFormedTwoDs` and
`WellFormedCore.declDs` speak about it.  The statements below say which declarations it contains without
mentioning how `dedupKeepLast` traverses the list. -/

theorem effDecls_sub_decls (s : Summary) (d : Decl) (h : d ∈ s.effDecls) : d ∈ s.decls :=
  let ⟨_, _, heq, _⟩ := mem_dedupKeepLast_iff.1 h
  heq ▸ List.mem_append_right _ List.mem_cons_self

theorem mem_effDecls_iff (s : Summary) (d : Decl) :
    d ∈ s.effDecls ↔ ∃ pre post, s.decls = pre ++ d :: post ∧ ∀ e ∈ post, d.sameIdentity e = false :=
  mem_dedupKeepLast_iff

theorem effDecls_eq_decls (s : Summary) (h : s.decls.Pairwise fun d e => d.sameIdentity e = false) :
    s.effDecls = s.decls :=
  dedupKeepLast_eq_self h

/-- relation lookup (`prog_get_relation`: by name, the last one, over ALL declarations) and the dedup agree: the
declaration a rule is resolved against is an effective one -/
theorem findDecl_effDecls (s : Summary) (n : Name) : findDecl s.effDecls n = findDecl s.decls n :=
  findDecl_dedupKeepLast s.decls n

/-- a `#[ds(..)] lattice` that is the last declaration of its identity is rejected, whatever else the program
re-declares: in particular after a duplicated relation (the shape `relation r(..); relation r(..); #[ds(p)] lattice l(..);`) -/
theorem illFormed_dsLattice_lastDecl_rejected (s : Summary) (hr : Reaches s) (pre post : List Decl) (d : Decl)
    (hs : s.decls = pre ++ d :: post) (hlast : ∀ e ∈ post, d.sameIdentity e = false)
    (hlat : d.lat = true) (hds : ∃ a ∈ d.attrs, a.name = "ds") : Rejected s :=
  illFormed_dsLattice_rejected s hr ⟨d, (mem_effDecls_iff s d).2 ⟨pre, post, hs, hlast⟩, hlat, hds⟩

/-- a failure of desugaring (macro expansion) is a rejection as well: together with the theorems above,
a program that reaches compilation and is ill-formed in one of the senses above is rejected whether or
not its macros expand -/
theorem desugar_error_rejected (s : Summary) (hr : Reaches s) (e : Err) (hd : desugar s.macros s.rules = .error e) :
    Rejected s :=
  rejected_unless hr fun _ hd' _ => nomatch hd.symm.trans hd'

/-- the body of a macro DEFINITION is only parsed when the macro is invoked: every rule that invokes (at any
position, at any depth of disjunctions) a macro from which an empty disjunction is reached — in its own body or
through further invocations — is rejected, whatever the budget -/
theorem illFormed_macroEmptyDisj_rejected (s : Summary) (D : Name → Prop) (hr : Reaches s)
    (hD : ReachesEmptyDisj s.macros D) (h : ∃ r ∈ s.rules, ∃ it ∈ r.body, ∃ m, D m ∧ Invokes it m) : Rejected s := by
  obtain ⟨r, hr', hbody⟩ := h
  exact rejected_of_not_expands hr hr' (not_ruleExpands_of_reachesEmptyDisj hD hbody)

/-- every macro that reaches itself from an invocation is rejected, at any position, for any budget -/
theorem self_referential_macro_rejected (s : Summary) (D : Name → Prop) (hr : Reaches s) (hD : Diverging s.macros D)
    (h : ∃ r ∈ s.rules, ∃ it ∈ r.body, ∃ m, D m ∧ Invokes it m) : Rejected s :=
  illFormed_macroEmptyDisj_rejected s D hr (reachesEmptyDisj_of_diverging hD) h

theorem self_referential_head_macro_rejected (s : Summary) (D : Name → Prop) (hr : Reaches s) (hD : HDiverging s.macros D)
    (h : ∃ r ∈ s.rules, ∃ hd ∈ r.heads, ∃ m, D m ∧ HInvokes hd m) : Rejected s := by
  obtain ⟨r, hr', hheads⟩ := h
  exact rejected_of_not_expands hr hr' (not_ruleExpands_of_hDiverging hD hheads)

theorem direct_recursive_macro_rejected (s : Summary) (m : Name) (hr : Reaches s)
    (hself : ∀ d, lookupMacro s.macros m = some d → ∃ it ∈ d.body, Invokes it m)
    (h : ∃ r ∈ s.rules, ∃ it ∈ r.body, Invokes it m) : Rejected s := by
  refine self_referential_macro_rejected s (fun n => n = m) hr ?_ ?_
  · intro n hn d hd
    subst hn
    obtain ⟨it, hit, hinv⟩ := hself d hd
    exact ⟨it, hit, n, rfl, hinv⟩
  · obtain ⟨r, hr', it, hit, hinv⟩ := h
    exact ⟨r, hr', it, hit, m, rfl, hinv⟩

theorem mutual_recursive_macro_rejected (s : Summary) (a b : Name) (hr : Reaches s)
    (hab : ∀ d, lookupMacro s.macros a = some d → ∃ it ∈ d.body, Invokes it b)
    (hba : ∀ d, lookupMacro s.macros b = some d → ∃ it ∈ d.body, Invokes it a)
    (h : ∃ r ∈ s.rules, ∃ it ∈ r.body, Invokes it a) : Rejected s := by
  refine self_referential_macro_rejected s (fun n => n = a ∨ n = b) hr ?_ ?_
  · intro n hn d hd
    rcases hn with hn | hn
    · subst hn
      obtain ⟨it, hit, hinv⟩ := hab d hd
      exact ⟨it, hit, b, Or.inr rfl, hinv⟩
    · subst hn
      obtain ⟨it, hit, hinv⟩ := hba d hd
      exact ⟨it, hit, a, Or.inl rfl, hinv⟩
  · obtain ⟨r, hr', it, hit, hinv⟩ := h
    exact ⟨r, hr', it, hit, a, Or.inl rfl, hinv⟩

/-- expansion inside the budget: a finite call tree of depth ≤ 100 in which every disjunction has an alternative
expands (full strength since fix 71f89c5; before it the `flatten_punctuated` panic of finding FM7 was a possible
outcome; since fix 361e42e `Fits` asks for non-empty disjunctions) -/
theorem expandItem_succeeds_within_budget (ms : List MacroDef) (n : Nat) (it : Item) (h : Fits ms n it)
    (hn : n ≤ depthBudget) (σ : Env) (π : List Nat) :
    ∃ its, expandItem ms depthBudget σ π it = .ok its :=
  (expandItem_decides ms depthBudget σ π it).ok_iff.2 (expands_of_fits ms h hn)

theorem wellFormedCore_accepted (s : Summary) (rules : List CoreRule) (hr : Reaches s)
    (hd : desugar s.macros s.rules = .ok rules) (h : WellFormedCore s rules) : check s = .ok () :=
  (check_of_reaches hr).trans ((compile_ok_iff s).2 ⟨rules, hd, h.passes⟩)

/-- and only such programs are accepted (of several attributes with one name the real code inspects the first) -/
theorem accepted_is_wellFormed (s : Summary) (hr : Reaches s) (h : check s = .ok ()) :
    ∃ rules, desugar s.macros s.rules = .ok rules ∧
      (∀ r ∈ rules, ∀ o ∈ r.occurrences, ∃ d, findDecl s.decls o.1 = some d ∧ d.arity = o.2) ∧
      ¬ IllFormedRebind rules ∧ ¬ IllFormedStrat s rules ∧ ¬ IllFormedDsLattice s ∧ ¬ IllFormedTwoDs s ∧
      ¬ IllFormedUnknownAttr s ∧ ¬ IllFormedParOnlyAttr s ∧
      ¬ IllFormedAggBound rules ∧ ¬ IllFormedSig s ∧ ¬ IllFormedEmptyDisj s :=
  have hnr : ¬ Rejected s := fun ⟨_, he⟩ => nomatch h.symm.trans he
  have ⟨rules, hd, p⟩ := (compile_ok_iff s).1 ((check_of_reaches hr).symm.trans h)
  ⟨rules, hd, p.declared, not_rebind_of_fresh p.fresh, p.stratified,
    fun hi => hnr (illFormed_dsLattice_rejected s hr hi), fun hi => hnr (illFormed_twoDs_rejected s hr hi),
    fun hi => hnr (illFormed_unknownAttr_rejected s hr hi), fun hi => hnr (illFormed_parOnlyAttr_rejected s hr hi),
    p.aggBound, p.sigOk, not_emptyDisj_of_whole hr.1⟩

theorem stratError_is_illFormedStrat (s : Summary) (rules : List CoreRule) :
    stratError (skeleton s.decls rules) = true ↔ IllFormedStrat s rules := stratError_iff (skeleton s.decls rules)

/-- the breadth-first search behind `sameScc` is complete: rules that reach each other along dependency
paths lie in one class (so `IllFormedStrat` covers every aggregation inside a dependency cycle) -/
theorem dependency_cycle_is_one_class (p : Skel) (i j : Nat) (h1 : Path p i j) (h2 : Path p j i) : sameScc p i j = true := by
  unfold sameScc
  rw [reaches_of_path p i j h1, reaches_of_path p j i h2]
  rfl

/-- the model of the macro pipeline NEVER panics: whatever the program, the answer is `ok` or a proper error (since
the fixes 71f89c5 (`flatten_punctuated`), 5862f99 (aggregated variable) and dfbe0be (signatures)).  Every error lies in
the class of the stage that returned it (`check_errs`), and no class contains a panic. -/
theorem check_never_panics (s : Summary) (e : Err) (h : check s = .error e) : e.isPanic = false := by
  have := (check_errs s).of_error h
  unfold Err.isPanic
  split
  · revert this
    decide
  · revert this
    decide
  · rfl

theorem leftover_panics_unreachable (s : Summary) : check s ≠ .error .panicLeftover :=
  fun h => Bool.noConfusion (check_never_panics s _ h)

/-! ## non-vacuity and findings (closed witnesses) -/

instance {α : Type} [DecidableEq α] : DecidableEq (Except Err α)
  | .ok a, .ok b => if h : a = b then isTrue (by rw [h]) else isFalse (by intro hh; cases hh; exact h rfl)
  | .ok _, .error _ => isFalse (by intro h; cases h)
  | .error _, .ok _ => isFalse (by intro h; cases h)
  | .error a, .error b => if h : a = b then isTrue (by rw [h]) else isFalse (by intro hh; cases hh; exact h rfl)

/-- the outcome is this error (decidable without an equality test on the success value) -/
def failsWith {α : Type} (r : Except Err α) (e : Err) : Bool :=
  match r with
  | .error e' => e' == e
  | .ok _ => false

private def x : Var := { name := "x" }
private def y : Var := { name := "y" }
private def rel (n : Name) (k : Nat) : Top := .rel ⟨n, k, false, false, []⟩
private def rule (heads : List HItem) (body : List Item) : Top := .rule 0 ⟨heads, false, body⟩
private def prog (items : List Top) : Summary := { kind := .ascent, attrs := [], sig := none, items := items }

/-- `relation a(i32); relation b(i32); b(x) <-- a(x);` -/
def wGood : Summary := prog [rel "a" 1, rel "b" 1, rule [.clause "b" 1] [.clause "a" [.var x] []]]
theorem wGood_accepted : check wGood = .ok () := by decide +kernel

/-- `c(x) <-- a(x);` with `c` undeclared -/
def wUndeclared : Summary := prog [rel "a" 1, rule [.clause "c" 1] [.clause "a" [.var x] []]]
theorem wUndeclared_rejected : check wUndeclared = .error .undefRel := by decide +kernel

/-- `b(x) <-- a(x, y);` -/
def wArity : Summary := prog [rel "a" 1, rel "b" 1, rule [.clause "b" 1] [.clause "a" [.var x, .var y] []]]
theorem wArity_rejected : check wArity = .error .arity := by decide +kernel

/-- `b(x) <-- a(x), let x = 3;` -/
def wRebind : Summary := prog [rel "a" 1, rel "b" 1, rule [.clause "b" 1] [.clause "a" [.var x] [], .binder ⟨[x], []⟩]]
theorem wRebind_rejected : check wRebind = .error .shadow := by decide +kernel

/-- `b(x) <-- a(x), !b(x);` -/
def wStrat : Summary := prog [rel "a" 1, rel "b" 1, rule [.clause "b" 1] [.clause "a" [.var x] [], .neg "b" 1]]
theorem wStrat_rejected : check wStrat = .error .strat := by decide +kernel

/-- `b(x) <-- a(x); c(x) <-- b(x); b(x) <-- a(x), agg () = .. in c(x)` : through another rule -/
def wStratMutual : Summary := prog [rel "a" 1, rel "b" 1, rel "c" 1, rule [.clause "c" 1] [.clause "b" [.var x] []],
  rule [.clause "b" 1] [.clause "a" [.var x] [], .neg "c" 1]]
theorem wStratMutual_rejected : check wStratMutual = .error .strat := by decide +kernel

private def macroM (body : List Item) : Top := .mac 0 { name := "m", params := ["$p"], trailing := false, isHead := false, body := body, hbody := [] }
private def px : Var := { name := "$p", param := true }

/-- `macro m($p: ident) { a($p), m!($p) }  b(x) <-- m!(x);` -/
def wRecMacro : Summary := prog [rel "a" 1, rel "b" 1, macroM [.clause "a" [.var px] [], .mac "m" [.var px]],
  rule [.clause "b" 1] [.mac "m" [.var x]]]
theorem wRecMacro_rejected : check wRecMacro = .error .recMacro := by decide +kernel

/-- the same macro, never invoked: accepted (macros are expanded on use) -/
def wRecMacroUnused : Summary := prog [rel "a" 1, rel "b" 1, macroM [.clause "a" [.var px] [], .mac "m" [.var px]],
  rule [.clause "b" 1] [.clause "a" [.var x] []]]
theorem wRecMacroUnused_accepted : check wRecMacroUnused = .ok () := by decide +kernel

/-- `ascent_source! { s: relation a(i32); include_source!(t); }` -/
def wInclude : Summary := { kind := .source, attrs := [], sig := none, items := [rel "a" 1, .incl 0] }
theorem wInclude_rejected : check wInclude = .error .includeInSource := by decide +kernel

/-- `#[ds(p)] lattice a(i32);` and `#[ds(p)] #[ds(q)] relation a(i32);` -/
def wDsLattice : Summary := prog [.rel ⟨"a", 1, true, false, [⟨"ds", .list⟩]⟩]
theorem wDsLattice_rejected : check wDsLattice = .error .dsLattice := by decide +kernel
def wTwoDs : Summary := prog [.rel ⟨"a", 1, false, false, [⟨"ds", .list⟩, ⟨"ds", .list⟩]⟩]
theorem wTwoDs_rejected : check wTwoDs = .error .multiDs := by decide +kernel

/-- `relation r(i32); relation r(i32); #[ds(p)] lattice l(i32);` — a relation declared twice (identically) in front
of the offending lattice: the dedup removes the first `r`, the `ds` test looks at the attributes of `l` itself.
(The shape on which an implementation that pairs the de-duplicated declarations with attributes collected BEFORE the
dedup accepts the program.) -/
def wDsLatticeAfterDup : Summary := prog [rel "r" 1, rel "r" 1, .rel ⟨"l", 1, true, false, [⟨"ds", .list⟩]⟩]
theorem wDsLatticeAfterDup_rejected : check wDsLatticeAfterDup = .error .dsLattice := by decide +kernel

/-- `#[ds(p)] lattice l(i32); lattice l(i32);` — the first declaration is REPLACED by the identical re-declaration
behind it and takes no part in the program (none of its attributes is looked at): accepted.  This is the documented
behaviour of the real code (`dedup_all_keep_last_by`: the last copy is the declaration), observed on the unchanged
macro by the tie (c15: "ds on a replaced lattice declaration").  The program has a declaration that is a lattice with
a `ds` attribute, but it is not ill-formed in the sense of `IllFormedDsLattice`. -/
def wDsLatticeReplaced : Summary :=
  prog [.rel ⟨"l", 1, true, false, [⟨"ds", .list⟩]⟩, .rel ⟨"l", 1, true, false, []⟩]
theorem wDsLatticeReplaced_accepted : check wDsLatticeReplaced = .ok () := by decide +kernel
theorem wDsLatticeReplaced_not_illFormed :
    (∃ d ∈ wDsLatticeReplaced.decls, d.lat = true ∧ ∃ a ∈ d.attrs, a.name = "ds") ∧
    ¬ IllFormedDsLattice wDsLatticeReplaced := by
  refine ⟨⟨⟨"l", 1, true, false, [⟨"ds", .list⟩]⟩, by decide, rfl, ⟨"ds", .list⟩, by decide, rfl⟩, ?_⟩
  intro h
  have := illFormed_dsLattice_rejected wDsLatticeReplaced (by constructor <;> decide) h
  obtain ⟨e, he⟩ := this
  rw [wDsLatticeReplaced_accepted] at he
  cases he

/-- non-vacuity of `illFormed_dsLattice_rejected` on a program with a duplicated declaration: `wDsLatticeAfterDup`
satisfies its hypotheses (and those of `illFormed_dsLattice_lastDecl_rejected`: `pre = [r, r]`, `post = []`) -/
example : Reaches wDsLatticeAfterDup ∧ IllFormedDsLattice wDsLatticeAfterDup :=
  ⟨by constructor <;> decide,
   ⟨⟨"l", 1, true, false, [⟨"ds", .list⟩]⟩, by decide, rfl, ⟨"ds", .list⟩, by decide, rfl⟩⟩

example : wDsLatticeAfterDup.decls.length = 3 ∧ wDsLatticeAfterDup.effDecls.length = 2 := by decide +kernel

/-- two `ds` attributes on a replaced declaration are not looked at either; on the effective copy they are -/
theorem twoDs_dup :
    check (prog [.rel ⟨"r", 1, false, false, [⟨"ds", .list⟩, ⟨"ds", .list⟩]⟩, rel "r" 1]) = .ok () ∧
    check (prog [rel "r" 1, .rel ⟨"r", 1, false, false, [⟨"ds", .list⟩, ⟨"ds", .list⟩]⟩]) = .error .multiDs := by
  constructor <;> decide +kernel

/-- `#![foo]`, and `#![inter_rule_parallelism]` under `ascent!` -/
def wUnknownAttr : Summary := { wGood with attrs := [⟨"foo", .path⟩] }
theorem wUnknownAttr_rejected : check wUnknownAttr = .error .unknownAttr := by decide +kernel
def wParOnly : Summary := { wGood with attrs := [⟨"inter_rule_parallelism", .path⟩] }
theorem wParOnly_rejected : check wParOnly = .error .parOnlyAttr := by decide +kernel
theorem wParOnly_par_accepted : check { wParOnly with kind := .ascentPar } = .ok () := by decide +kernel

/-! ### findings: where the full-strength statement is false for the model (= for the real code: FM1 residue, FM10), and
the behaviour of the repaired ones -/

/-- FM1 (fixed by f47e99d for its only known source, parenthesised patterns: `pattern_get_vars` now descends
into `Pat::Paren`, and the tie's generator reports such variables as `seen`).  What remains is a statement about
the model only: a variable that a pattern binds WITHOUT `pattern_get_vars` reporting it (`hidden`: e.g. bound by
a macro in pattern position, which no syntactic analysis can see) is not recognised as a rebind -/
def wHidden : Summary := prog [rel "a" 1, rel "b" 1, rule [.clause "b" 1] [.clause "a" [.var x] [], .binder ⟨[], [x]⟩]]
theorem hidden_rebind_accepted :
    check wHidden = .ok () ∧ IllFormedRebindFull [⟨[⟨"b", 1⟩], [.clause "a" [.var x] [], .binder ⟨[], [x]⟩]⟩] := by
  refine ⟨by decide +kernel, ⟨_, List.mem_singleton.2 rfl, [.clause "a" [.var x] []], .binder ⟨[], [x]⟩, [], rfl, x, ?_, ?_⟩⟩
  · decide
  · decide

/-- FM2 (fixed by 4509942). `b(y) <-- c(y), agg m = min(y) in a(y);` — the bound argument `y` of the aggregation is
already grounded: rejected like every other rebind (formerly accepted, `y` was shadowed inside the aggregation); the
program is ill-formed in the sense of `IllFormedRebind` -/
def wAggBound : Summary := prog [rel "a" 1, rel "b" 1, rel "c" 1,
  rule [.clause "b" 1] [.clause "c" [.var y] [], .agg "a" [.var y] ⟨[{ name := "m" }], []⟩ [y]]]
theorem aggBound_shadow_rejected :
    check wAggBound = .error .shadow ∧
    IllFormedRebind [⟨[⟨"b", 1⟩], [.clause "c" [.var y] [], .agg "a" [.var y] ⟨[{ name := "m" }], []⟩ [y]]⟩] := by
  refine ⟨by decide +kernel, ⟨_, List.mem_singleton.2 rfl, [.clause "c" [.var y] []], .agg "a" [.var y] ⟨[{ name := "m" }], []⟩ [y], [],
    rfl, Or.inr (Or.inr (Or.inr ⟨y, ?_, ?_⟩))⟩⟩
  · decide
  · decide

/-- the place of the new test in the `Agg` arm: after the test of the aggregated variables (`c(y), agg m = min(y, z) in a(y)`
is still answered `aggBoundArg`), before the shadowing test of the pattern and before `prog_get_relation`
(`c(y), agg m = min(y) in zz(y)` with `zz` undeclared is answered `shadow`); a repeated bound argument is a rebind as
well (`agg m = f(y, y) in a(y)`) -/
theorem aggBound_shadow_order :
    check (prog [rel "a" 1, rel "b" 1, rel "c" 1, rule [.clause "b" 1]
      [.clause "c" [.var y] [], .agg "a" [.var y] ⟨[{ name := "m" }], []⟩ [y, { name := "z" }]]]) = .error .aggBoundArg ∧
    check (prog [rel "a" 1, rel "b" 1, rel "c" 1, rule [.clause "b" 1]
      [.clause "c" [.var y] [], .agg "zz" [.var y] ⟨[{ name := "m" }], []⟩ [y]]]) = .error .shadow ∧
    check (prog [rel "a" 1, rel "b" 1, rule [.clause "b" 1]
      [.agg "a" [.var y] ⟨[{ name := "m" }], []⟩ [y, y]]]) = .error .shadow := by
  refine ⟨?_, ?_, ?_⟩ <;> decide +kernel

/-- the bound arguments stay local to the aggregation: `b(m) <-- agg m = min(y) in a(y), let y = 3;` and
`b(m) <-- agg m = min(y) in a(y), agg k = min(y) in a(y);` are accepted (the name is free again behind the aggregation),
and so is `b(y) <-- agg y = min(y) in a(y);` (the pattern is tested against the variables grounded BEFORE the item) -/
theorem aggBound_local_accepted :
    check (prog [rel "a" 1, rel "b" 1, rule [.clause "b" 1]
      [.agg "a" [.var y] ⟨[{ name := "m" }], []⟩ [y], .binder ⟨[y], []⟩]]) = .ok () ∧
    check (prog [rel "a" 1, rel "b" 1, rule [.clause "b" 1]
      [.agg "a" [.var y] ⟨[{ name := "m" }], []⟩ [y], .agg "a" [.var y] ⟨[{ name := "k" }], []⟩ [y]]]) = .ok () ∧
    check (prog [rel "a" 1, rel "b" 1, rule [.clause "b" 1]
      [.agg "a" [.var y] ⟨[y], []⟩ [y]]]) = .ok () := by
  refine ⟨?_, ?_, ?_⟩ <;> decide +kernel

/-- FM4 (fixed by 361e42e). `zz(x) <-- a(x), ();` — the empty disjunction is a parse error of the rule (formerly
the rule disappeared, and the undeclared relation `zz` with it); at any depth: `b(x) <-- a(x), (a(x) | (()));` -/
def wEmptyDisj : Summary := prog [rel "a" 1, rule [.clause "zz" 1] [.clause "a" [.var x] [], .disj []]]
theorem emptyDisj_rejected : check wEmptyDisj = .error .emptyDisj := by decide +kernel
def wEmptyDisjDeep : Summary := prog [rel "a" 1, rel "b" 1,
  rule [.clause "b" 1] [.clause "a" [.var x] [], .disj [[.clause "a" [.var x] []], [.disj [[.disj []]]]]]]
theorem emptyDisj_deep_rejected : check wEmptyDisjDeep = .error .emptyDisj := by decide +kernel

/-- `macro m($p: ident) { a($p), () }`: rejected where it is invoked (`b(x) <-- m!(x);`), accepted when nothing
invokes it (the body of a macro definition is a token stream) -/
def wEmptyDisjMacro (body : List Item) : Summary := prog [rel "a" 1, rel "b" 1,
  macroM [.clause "a" [.var px] [], .disj []], rule [.clause "b" 1] body]
theorem emptyDisj_in_macro_rejected :
    check (wEmptyDisjMacro [.mac "m" [.var x]]) = .error .emptyDisj ∧
    check (wEmptyDisjMacro [.clause "a" [.var x] []]) = .ok () := by
  constructor <;> decide +kernel

/-- FM5 (fixed by 5862f99). `b(x) <-- a(x), agg m = min(z) in a(y);` is an error of the rule compiler (formerly
a panic in code generation); the test comes first in the `Agg` arm: `agg x = min(z) in zz(y)` — which also
rebinds `x` and aggregates over an undeclared relation — gets the same answer -/
def wAggBoundMissing : Summary := prog [rel "a" 1, rel "b" 1,
  rule [.clause "b" 1] [.clause "a" [.var x] [], .agg "a" [.var y] ⟨[{ name := "m" }], []⟩ [{ name := "z" }]]]
theorem aggBoundMissing_rejected : check wAggBoundMissing = .error .aggBoundArg := by decide +kernel
def wAggBoundMissingFirst : Summary := prog [rel "a" 1, rel "b" 1,
  rule [.clause "b" 1] [.clause "a" [.var x] [], .agg "zz" [.var y] ⟨[x], []⟩ [{ name := "z" }]]]
theorem aggBoundMissing_first_rejected : check wAggBoundMissingFirst = .error .aggBoundArg := by decide +kernel

/-- FM6 (fixed by dfbe0be). `struct Foo; impl Bar;` and `struct Foo<T>; impl<T> Foo<U>;` are errors (formerly
`assert_eq!` panics), reported BEFORE the stratification error (`struct Foo; impl Bar; .. b(x) <-- a(x), !b(x);`) -/
theorem sigMismatch_rejected :
    check { wGood with sig := some ⟨"Foo", some "Bar", true⟩ } = .error .sigName ∧
    check { wGood with sig := some ⟨"Foo", some "Foo", false⟩ } = .error .sigGenerics ∧
    check { wStrat with sig := some ⟨"Foo", some "Bar", true⟩ } = .error .sigName := by
  refine ⟨?_, ?_, ?_⟩ <;> decide +kernel

/-- FM7 (fixed by 71f89c5). `macro e() { }  e!(), b(x) <-- a(x);` is accepted: the empty expansion contributes nothing -/
def wEmptyHeadMacro : Summary := prog [rel "a" 1, rel "b" 1,
  .mac 0 { name := "e", params := [], trailing := false, isHead := true, body := [], hbody := [] },
  rule [.mac "e" [], .clause "b" 1] [.clause "a" [.var x] []]]
theorem emptyMacro_accepted : check wEmptyHeadMacro = .ok () := by decide +kernel

/-- FM8 (fixed by deae510). `macro h($p: ident) { h!($p), h!($p) }  h!(x) <-- a(x);` — a head macro that invokes
itself twice: expansion stops at the first error, the answer `recursively defined Ascent macro` is reached after 100
steps along the leftmost branch (formerly all 2^100 invocations were expanded first) -/
def wBranchHead : Summary := prog [rel "a" 1, rel "b" 1,
  .mac 0 { name := "h", params := ["$p"], trailing := false, isHead := true, body := [], hbody := [.mac "h" [.var px], .mac "h" [.var px]] },
  rule [.mac "h" [.var x]] [.clause "a" [.var x] []]]
theorem branchingHeadMacro_rejected : check wBranchHead = .error .recMacro := by decide +kernel

/-- `macro m($p: ident) { (m!($p) | m!($p)) }  b(x) <-- m!(x);` — the same through a disjunction (an invocation and a
disjunction each cost one unit of the budget: formerly 2^50 expansions) -/
def wBranchDisj : Summary := prog [rel "a" 1, rel "b" 1,
  macroM [.disj [[.mac "m" [.var px]], [.mac "m" [.var px]]]],
  rule [.clause "b" 1] [.mac "m" [.var x]]]
theorem branchingDisjMacro_rejected : check wBranchDisj = .error .recMacro := by decide +kernel

/-- .. and behind a first alternative / a first head item that expands: `macro m($p: ident) { (a($p) | m!($p)), m!($p) }`,
`macro h($p: ident) { b($p), h!($p), h!($p) }` -/
theorem branchingMacro_later_rejected :
    check (prog [rel "a" 1, rel "b" 1,
      macroM [.disj [[.clause "a" [.var px] []], [.mac "m" [.var px]]], .mac "m" [.var px]],
      rule [.clause "b" 1] [.mac "m" [.var x]]]) = .error .recMacro ∧
    check (prog [rel "a" 1, rel "b" 1,
      .mac 0 { name := "h", params := ["$p"], trailing := false, isHead := true, body := [],
               hbody := [.clause "b" 1, .mac "h" [.var px], .mac "h" [.var px]] },
      rule [.mac "h" [.var x]] [.clause "a" [.var x] []]]) = .error .recMacro := by
  constructor <;> decide +kernel

/-- FM9 (fixed by 9d3a18a). `lattice a(i32, i32,);` (well-formed) is accepted; `lattice a();` is still rejected -/
theorem latticeTrailingComma_accepted : check (prog [.rel ⟨"a", 2, true, true, []⟩]) = .ok () := by decide +kernel
theorem emptyLattice_rejected : check (prog [.rel ⟨"a", 0, true, false, []⟩]) = .error .emptyLattice := by decide +kernel

/-- FM10. the budget counts disjunction nesting: an item below 100 levels of parentheses is reported as a
recursive macro although the program has no macro -/
def nestDisj : Nat → Item → Item
  | 0, it => it
  | n + 1, it => .disj [[nestDisj n it]]
theorem deepNesting_rejected :
    failsWith (expandItem [] depthBudget Env.top [0] (nestDisj 100 (.clause "a" [] []))) .recMacro = true ∧
    failsWith (expandItem [] depthBudget Env.top [0] (nestDisj 99 (.clause "a" [] []))) .recMacro = false := by
  constructor <;> decide +kernel

end AscentVerif.Check

#print axioms AscentVerif.Check.illFormed_undeclared_rejected
#print axioms AscentVerif.Check.illFormed_arity_rejected
#print axioms AscentVerif.Check.illFormed_rebind_rejected
#print axioms AscentVerif.Check.illFormed_stratification_rejected
#print axioms AscentVerif.Check.illFormed_include_rejected
#print axioms AscentVerif.Check.illFormed_dsLattice_rejected
#print axioms AscentVerif.Check.illFormed_twoDs_rejected
#print axioms AscentVerif.Check.illFormed_unknownAttr_rejected
#print axioms AscentVerif.Check.illFormed_parOnlyAttr_rejected
#print axioms AscentVerif.Check.desugar_error_rejected
#print axioms AscentVerif.Check.self_referential_macro_rejected
#print axioms AscentVerif.Check.self_referential_head_macro_rejected
#print axioms AscentVerif.Check.direct_recursive_macro_rejected
#print axioms AscentVerif.Check.mutual_recursive_macro_rejected
#print axioms AscentVerif.Check.expandItem_succeeds_within_budget
#print axioms AscentVerif.Check.wellFormedCore_accepted
#print axioms AscentVerif.Check.accepted_is_wellFormed
#print axioms AscentVerif.Check.stratError_is_illFormedStrat
#print axioms AscentVerif.Check.dependency_cycle_is_one_class
#print axioms AscentVerif.Check.leftover_panics_unreachable
#print axioms AscentVerif.Check.check_never_panics
#print axioms AscentVerif.Check.illFormed_aggBound_rejected
#print axioms AscentVerif.Check.illFormed_signature_rejected
#print axioms AscentVerif.Check.illFormed_emptyDisj_rejected
#print axioms AscentVerif.Check.illFormed_macroEmptyDisj_rejected
#print axioms AscentVerif.Check.hidden_rebind_accepted
#print axioms AscentVerif.Check.aggBound_shadow_rejected
#print axioms AscentVerif.Check.aggBound_shadow_order
#print axioms AscentVerif.Check.aggBound_local_accepted
#print axioms AscentVerif.Check.branchingHeadMacro_rejected
#print axioms AscentVerif.Check.branchingDisjMacro_rejected
#print axioms AscentVerif.Check.branchingMacro_later_rejected
#print axioms AscentVerif.Check.emptyDisj_rejected
#print axioms AscentVerif.Check.emptyDisj_deep_rejected
#print axioms AscentVerif.Check.emptyDisj_in_macro_rejected
#print axioms AscentVerif.Check.aggBoundMissing_rejected
#print axioms AscentVerif.Check.aggBoundMissing_first_rejected
#print axioms AscentVerif.Check.sigMismatch_rejected
#print axioms AscentVerif.Check.deepNesting_rejected
#print axioms AscentVerif.Check.effDecls_sub_decls
#print axioms AscentVerif.Check.mem_effDecls_iff
#print axioms AscentVerif.Check.effDecls_eq_decls
#print axioms AscentVerif.Check.findDecl_effDecls
#print axioms AscentVerif.Check.illFormed_dsLattice_lastDecl_rejected
#print axioms AscentVerif.Check.wDsLatticeAfterDup_rejected
#print axioms AscentVerif.Check.wDsLatticeReplaced_accepted
#print axioms AscentVerif.Check.wDsLatticeReplaced_not_illFormed
#print axioms AscentVerif.Check.twoDs_dup
