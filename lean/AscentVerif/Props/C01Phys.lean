import AscentVerif.Model.EnginePhys
import AscentVerif.Proofs.NDEngine
import AscentVerif.Props.C01Plan
import AscentVerif.Props.C19
import AscentVerif.Proofs.PhysAggRun
/-!
# C01 at the level of the physical indices: the generated code over hash indices computes the least model

`Model/EnginePhys.lean` models what the generated code really executes for a serial program over plain relations: a full
index (hash set of the rows) and one value-keyed hash index per further column set, three versions of each inside an SCC,
`update_indices`, the head update through `insert_if_not_present`, the merges with their size-based swaps, index look-ups
through the compilation plan (`Hir.compileRule`), the "some body relation is empty" guard and the `len_estimate` choice
between the two copies of a reorderable simple join.  This file is about its aggregation-free programs.

`runPhys_eq_leastModel`: for every interpretation that sees environments only through look-up (`Ext`, `Supp`), every
program whose rules are desugared and well-scoped (`Desugared`, `WellScoped`: what `rule_desugar_repeated_vars` and `rustc`
guarantee) and whose plan is usable (`planOk`: a decidable condition on `Hir.compileRule`'s output, evaluated by the
driver on every generated program of the tie), every valid SCC order, every typed start value and every fuel: if the
physical engine returns, the relations hold exactly the least model, the old rows are a prefix and every new tuple is
appended once.  Proof: forward simulation onto the nondeterministic engine of `Proofs/NDEngine.lean` (`runTimeout_exec` of
`Proofs/PhysAggRun.lean`, of which an aggregation-free program is an instance: `Relational.toAgg`; `run()` is `run_timeout` under the
deadline that never passes), then `runND_eq_leastModel` for the execution (`Exec.leastModel`).
-/
namespace AscentVerif.Phys
open AscentVerif AscentVerif.Engine AscentVerif.Index

variable {E B G P A : Type}

/-- a call of `run_timeout` on an aggregation-free program that returned `true`, under whatever deadline, is an execution of the
nondeterministic engine -/
theorem runTimeoutPhys_exec (I : Interp E B G P A) (hI : Plan.Ext I) (V : Hir.VarsOf E B) (hS : Plan.Supp I V)
    (p : Program E B G P A) (ix : IxSets) (order : SccOrder) (dl : Deadline) (s : PSt) (fuel : Nat) (o : ProgStT)
    (hp : Relational p) (hplan : planOk V p ix = true)
    (hd : ∀ r ∈ p.rules, Hir.Desugared V r = true ∧ Plan.WellScoped V r = true)
    (hs : WFPSt p s) (hrun : runTimeout I V p ix order dl fuel s = .done o) : Exec I p ix order s o.st := by
  obtain ⟨hpa, hst, hR, hperm⟩ := Relational.toAgg hp (ruleFit_of_planOk V p ix hp hplan hd) I order
  exact runTimeout_exec I hI V hS p ix order dl s fuel o hpa hst hR hperm hs hrun

/-- the value an execution on an aggregation-free program ends in holds exactly the least model -/
theorem Exec.leastModel {I : Interp E B G P A} {p : Program E B G P A} {ix : IxSets} {order : SccOrder} {s o : PSt}
    (h : Exec I p ix order s o) (hp : Relational p) (ho : validOrder p order = true) (hs : WFPSt p s) :
    WFPSt p o ∧
    (∀ f, factsOf o f ↔ Derivable I p.rules noAgg (fun g => g.rel < p.rels.length ∧ factsOf s g) f) ∧
    (∀ r, r < p.rels.length → ∃ derived, (prel o r).rows = (prel s r).rows ++ derived ∧
      derived.Nodup ∧ ∀ t ∈ derived, t ∉ (prel s r).rows) := by
  obtain ⟨st', hnd, hsim⟩ := h
  obtain ⟨hwf', hfacts, hrows⟩ := runND_eq_leastModel I {} p order (absSt s) st' hp ho (wfSt'_absSt p s hs) hnd
  refine ⟨hsim.wfP hwf'.1, ?_, fun r hr => ?_⟩
  · rw [← hsim.facts, ← factsOf_absSt s]
    exact hfacts
  · rw [← hsim.rows r, ← relSt_absSt s r]
    exact hrows r hr

/-- **the generated code over its physical indices computes exactly the least model** -/
theorem runPhys_eq_leastModel (I : Interp E B G P A) (hI : Plan.Ext I) (V : Hir.VarsOf E B) (hS : Plan.Supp I V)
    (p : Program E B G P A) (ix : IxSets) (order : SccOrder) (s : PSt) (fuel : Nat) (out : ProgSt)
    (hp : Relational p) (ho : validOrder p order = true)
    (hplan : planOk V p ix = true)
    (hd : ∀ r ∈ p.rules, Hir.Desugared V r = true ∧ Plan.WellScoped V r = true)
    (hs : WFPSt p s)
    (hrun : run I V p ix order fuel s = some out) :
    WFPSt p out.st ∧
    (∀ f, factsOf out.st f ↔ Derivable I p.rules noAgg (fun g => g.rel < p.rels.length ∧ factsOf s g) f) ∧
    (∀ r, r < p.rels.length → ∃ derived, (prel out.st r).rows = (prel s r).rows ++ derived ∧
      derived.Nodup ∧ ∀ t ∈ derived, t ∉ (prel s r).rows) :=
  let ⟨_, hk⟩ := run_never hrun
  (runTimeoutPhys_exec I hI V hS p ix order never s fuel _ hp hplan hd hs hk).leastModel hp ho hs

/-- the index sets the compiler allocates (`ixSetsOf`) make every clause's index exist -/
theorem ixSetsOf_covers (V : Hir.VarsOf E B) (p : Program E B G P A) (r : Rule E B G P A) (hr : r ∈ p.rules)
    (i : Nat) (rel : RelId) (cols : List Nat) (dp : Bool)
    (h : (Hir.compileRule V r).items[i]? = some (.clause rel cols dp)) (hne : cols.length ≠ arityOf p rel) :
    cols ∈ ixSetsOf V p rel := by
  unfold ixSetsOf
  simp only
  rw [List.mem_eraseDups, List.mem_flatMap]
  refine ⟨r, hr, ?_⟩
  rw [List.mem_filterMap]
  refine ⟨.clause rel cols dp, List.mem_of_getElem? h, ?_⟩
  simp [hne]

/-! ## non-vacuity: transitive closure over the concrete interpretation of `Props/C01Plan.lean`

`path(x, y) <-- edge(x, y);  path(x, z) <-- edge(x, y), path(y, z)`: the second rule is compiled to a reorderable simple
join (`edge` indexed on column 1, `path` on column 0); the compiler allocates the index sets `[]`, `[1]` for `edge` and
`[0]` for `path`.  Every hypothesis of `runPhys_eq_leastModel` holds (by evaluation), and the physical engine returns. -/

def pTC : Program Plan.Ex Plan.Bx Plan.Ex Unit Unit :=
  { rels := [⟨2, false⟩, ⟨2, false⟩]
    rules := [{ heads := [⟨1, [.var 0, .var 1]⟩], body := [.clause 0 [.var 0, .var 1] []] },
              { heads := [⟨1, [.var 0, .var 2]⟩],
                body := [.clause 0 [.var 0, .var 1] [], .clause 1 [.var 1, .var 2] []] }] }

def sTC : PSt := initSt pTC fun r => if r = 0 then [[.int 1, .int 2], [.int 2, .int 3]] else []

/-! Fresh program values: what holds of the input vectors of the declared relations holds of `initSt`. -/

theorem prel_initSt_rows (p : Program E B G P A) (inp : RelId → List Tuple) (r : RelId) :
    (prel (initSt p inp) r).rows = if r < p.rels.length then inp r else [] := by
  unfold initSt
  split
  · next hr => rw [prel_rangeMap _ _ _ hr]
  · next hr => rw [prel_rangeMap_ge _ _ _ (Nat.le_of_not_lt hr)]

theorem wfPSt_initSt {p : Program E B G P A} {inp : RelId → List Tuple}
    (h : ∀ r, r < p.rels.length → ∀ t ∈ inp r, t.length = arityOf p r) : WFPSt p (initSt p inp) := by
  refine ⟨by rw [initSt, List.length_map, List.length_range], fun r t ht => ?_⟩
  rw [prel_initSt_rows] at ht
  split at ht
  · next hr => exact h r hr t ht
  · cases ht

theorem nodup_initSt {p : Program E B G P A} {inp : RelId → List Tuple} (h : ∀ r, r < p.rels.length → (inp r).Nodup)
    (r : RelId) : (prel (initSt p inp) r).rows.Nodup := by
  rw [prel_initSt_rows]
  split
  · next hr => exact h r hr
  · exact List.nodup_nil

theorem wf_sTC : WFPSt pTC sTC :=
  wfPSt_initSt (by decide)

/-- `decide +kernel` on a conjunction as a whole: one evaluation by the kernel, in which what the conjuncts have in common (the
index sets of the plan, a call whose result a later call starts from) is evaluated once.  Instance synthesis gives up on the
`Decidable` instance of a long conjunction of equations between nested lists (`synthInstance.maxSize`), so the instance is put
together from those of the conjuncts. -/
macro "decide_conj" : tactic =>
  `(tactic| (refine @of_decide_eq_true _ ?inst ?_
             case inst => (repeat' refine @instDecidableAnd _ _ ?_ ?_) <;> infer_instance
             decide +kernel))

theorem tc_hyps :
    Relational pTC ∧ validOrder pTC [[0], [1]] = true ∧ planOk Plan.exV pTC (ixSetsOf Plan.exV pTC) = true ∧
    (∀ r ∈ pTC.rules, Hir.Desugared Plan.exV r = true ∧ Plan.WellScoped Plan.exV r = true) ∧
    (Hir.compileRule Plan.exV (pTC.rules.getD 1 ⟨[], []⟩)).simpleJoinStart = some 0 ∧
    Plan.reorderable (Hir.compileRule Plan.exV (pTC.rules.getD 1 ⟨[], []⟩)) = true ∧
    ixSetsOf Plan.exV pTC 0 = [[], [1]] ∧ ixSetsOf Plan.exV pTC 1 = [[0]] ∧
    (run Plan.exI Plan.exV pTC (ixSetsOf Plan.exV pTC) [[0], [1]] 10 sTC).map (fun o => (o.st.map (·.rows), o.iters)) =
      some ([[[.int 1, .int 2], [.int 2, .int 3]], [[.int 1, .int 2], [.int 2, .int 3], [.int 1, .int 3]]], [1, 2]) := by
  unfold Relational
  decide_conj

/-- the theorem applies to the example: whatever the run returns holds exactly the least model -/
example (out : ProgSt) (h : run Plan.exI Plan.exV pTC (ixSetsOf Plan.exV pTC) [[0], [1]] 10 sTC = some out) :
    ∀ f, factsOf out.st f ↔
      Derivable Plan.exI pTC.rules noAgg (fun g => g.rel < pTC.rels.length ∧ factsOf sTC g) f :=
  (runPhys_eq_leastModel Plan.exI Plan.exI_ext Plan.exV Plan.exI_supp pTC _ _ sTC 10 out tc_hyps.1 tc_hyps.2.1
    tc_hyps.2.2.1 tc_hyps.2.2.2.1 wf_sTC h).2.1

#print axioms runPhys_eq_leastModel
#print axioms ixSetsOf_covers
#print axioms tc_hyps

end AscentVerif.Phys
