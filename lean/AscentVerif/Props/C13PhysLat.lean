import AscentVerif.Model.EnginePhysLatTimeout
import AscentVerif.Props.C03Phys
import AscentVerif.Props.C13L
import AscentVerif.Proofs.PhysLatFrom
/-!
# C13 / C14 at the level of the physical indices, for programs WITH lattice relations

`Props/C13L.lean` proves the re-run and `run_timeout` theorems for the abstract engine on lattice programs; `Props/C03Phys.lean`
proves the fixed-point theorem for the generated code with lattices over its physical indices from a FRESH value.  This file
proves, for the physical engine (`Model/EnginePhysLat.lean`, `Model/EnginePhysLatTimeout.lean`): the fixed-point theorem from ANY
legal program value (`WFXLat`, `Proofs/PhysLatFrom.lean`: typed rows, one row per lattice key, any stored indices — second and
later runs, runs after pushes, runs after an interrupted call), idempotence of `run()`, soundness of `run_timeout` whatever it
returns and at whatever point the deadline strikes, and completion of a resumed run.  Hypotheses on the program as in
`Props/C03Phys.lean` (`CtxL`).  An interrupted call is not described as a prefix of an execution: what is proved of the value it
leaves (legal, above the start value, below every closed key-unique database) is what a later call needs.
-/
namespace AscentVerif.PhysLat
open AscentVerif AscentVerif.Engine AscentVerif.Index AscentVerif.Phys

variable {E B G P A : Type}

/-- the facts a value holds in the declared relations: the input database of a run that starts from it -/
def stDBX (p : Program E B G P A) (s : XSt) : DB := fun g => g.rel < p.rels.length ∧ factsOf s g

/-- the hypotheses of `runPhysLat_spec` that do not speak of the start value -/
structure CtxL (I : Interp E B G P A) (V : Hir.VarsOf E B) (p : Program E B G P A) (ix : IxSets) (order : SccOrder) : Prop where
  ext : Plan.Ext I
  supp : Plan.Supp I V
  prog : LatticeProg p
  valid : validOrder p order = true
  plan : latPlanOk V p ix = true
  rules : ∀ r ∈ p.rules, Hir.Desugared V r = true ∧ Plan.WellScoped V r = true

theorem CtxL.fit {I : Interp E B G P A} {V : Hir.VarsOf E B} {p : Program E B G P A} {ix : IxSets} {order : SccOrder}
    (c : CtxL I V p ix order) : ProgFitL I V p ix :=
  progFitL_of_latPlanOk c.ext c.supp c.prog c.plan c.rules

section
variable {I : Interp E B G P A} (L : LatOrder I) {V : Hir.VarsOf E B} {p : Program E B G P A} {ix : IxSets} {order : SccOrder}
  (c : CtxL I V p ix order) {s : XSt} (hs : WFXLat p s)
include c hs

/-- **`run_timeout` with lattices over the physical indices, from any legal value, any deadline, whatever it returns**: a call
that finished left the fixed point; an interrupted one a legal value between the start value and every closed database -/
theorem physLat_outcome (dl : Deadline) (fuel : Nat) :
    match runTimeout I V p ix order dl fuel s with
    | .done o => WFXLat p o.st ∧ LClosed I L p (stDBX p s) (factsOf o.st) ∧
        (MonotoneProg I L p → ∀ M : DB, KeyUnique p M → LClosed I L p (stDBX p s) M → DBLe I L p (factsOf o.st) M)
    | .timedOut o => WFXLat p o.st ∧ DBLe I L p (stDBX p s) (factsOf o.st) ∧
        (MonotoneProg I L p → ∀ M : DB, KeyUnique p M → LClosed I L p (stDBX p s) M → DBLe I L p (factsOf o.st) M)
    | .outOfFuel => True := by
  have h := runTimeout_simL (order := order) (fuel := fuel) L hs c.fit dl
  revert h
  cases runTimeout I V p ix order dl fuel s with
  | done o =>
    rintro ⟨st', hnd, hsim⟩
    have h := legal_of_exec L hs c.fit c.valid (fun _ _ => rfl) hnd hsim
    exact ⟨h.1, h.2.1, h.2.2.1⟩
  | timedOut o =>
    rintro ⟨scc, hab⟩
    obtain ⟨a', hinv, hle, hl, hrows, hty⟩ := hab.spec
    have hf : FactsS a' = factsOf o.st := by
      funext f
      simp only [FactsS, rowsOf, factsOf, hrows]
    have hle := DBLe.trans (start_fromL (ix := ix) L hs).2.1 hle
    rw [hf, inDB_absStX] at hle
    refine ⟨⟨?_, hty, ?_⟩, hle, ?_⟩
    · rw [← hl]; exact hinv.wf.len
    · intro r _ hlat
      rw [← hrows]; exact hinv.keys r hlat
    · intro hm M hMk hM
      have := hinv.below M ⟨hm, hMk, by rw [inDB_absStX]; exact hM⟩
      rw [hf] at this
      exact this
  | outOfFuel => exact fun _ => trivial

end

/-- **C13: the fixed-point theorem of C03 over the physical indices, from any legal program value**: one row per key, closed over
the final values, least above the start value's facts for monotone programs -/
theorem runPhysLat_from (I : Interp E B G P A) (L : LatOrder I) (V : Hir.VarsOf E B) (p : Program E B G P A) (ix : IxSets)
    (order : SccOrder) (c : CtxL I V p ix order) (s : XSt) (fuel : Nat) (o : ProgSt) (hs : WFXLat p s)
    (hrun : run I V p ix order fuel s = some o) :
    WFXLat p o.st ∧ LClosed I L p (stDBX p s) (factsOf o.st) ∧
    (MonotoneProg I L p → ∀ M : DB, KeyUnique p M → LClosed I L p (stDBX p s) M → DBLe I L p (factsOf o.st) M) := by
  obtain ⟨k, hk⟩ := run_never hrun
  have := physLat_outcome L c hs never fuel
  rwa [hk] at this

/-- **C13: idempotence with lattices over the physical indices**: a second `run()` on an unmodified value changes no row, for
antisymmetric orders.  `hanti` speaks of ALL values: an order whose `join_mut` answers `false` on ill-typed arguments in both
directions (as those of `Std.interp` and `exL` do, e.g. on `.unit` and `.int 0`) relates them both ways by
`LatOrder.flag_false` and is not antisymmetric in this sense -/
theorem rerun_idempotent_physLat (I : Interp E B G P A) (L : LatOrder I)
    (hanti : ∀ r a b, L.le r a b → L.le r b a → a = b)
    (V : Hir.VarsOf E B) (p : Program E B G P A) (ix : IxSets) (order : SccOrder) (c : CtxL I V p ix order)
    (s : XSt) (fuel₁ fuel₂ : Nat) (o₁ o₂ : ProgSt) (hs : WFXLat p s)
    (h₁ : run I V p ix order fuel₁ s = some o₁) (h₂ : run I V p ix order fuel₂ o₁.st = some o₂) :
    ∀ r, r < p.rels.length → (xrel o₂.st r).rows = (xrel o₁.st r).rows := by
  intro r _
  obtain ⟨hw1, hcl1, _⟩ := runPhysLat_from I L V p ix order c s fuel₁ o₁ hs h₁
  obtain ⟨st₂, hnd, hsim⟩ := run_simL L hw1 c.fit h₂
  have hdb : DBof (rowsFn (absStX o₁.st)) = factsOf o₁.st := by
    funext f
    simp only [DBof, rowsFn, relSt_absStX, factsOf]
  have hsame := runNDL_same (L := L) hanti c.prog.1 c.prog.2.1 order (absStX o₁.st) st₂ hw1.wfAbs hw1.keysAbs
    (by
      -- a typed row of a lattice is not empty
      intro r hl h0
      rw [relSt_absStX] at h0
      have := hw1.typed r [] h0
      rw [List.length_nil] at this
      exact absurd this (Nat.ne_of_lt (c.fit.arity r hl)))
    (by rw [hdb]; exact hcl1.2) hnd
  rw [← hsim.rows, hsame r, relSt_absStX]

/-- **C14: run_timeout with lattices over the physical indices, any deadline**: whatever it returns, the value is a legal start value
again, dominates the start value (no input lost, no lattice value lowered) and — for monotone programs — is below every closed
key-unique database, i.e. below the final fixed point -/
theorem timeout_sound_physLat (I : Interp E B G P A) (L : LatOrder I) (V : Hir.VarsOf E B) (p : Program E B G P A) (ix : IxSets)
    (order : SccOrder) (c : CtxL I V p ix order) (dl : Deadline) (s : XSt) (fuel : Nat) (o : ProgStT) (hs : WFXLat p s)
    (hrun : runTimeout I V p ix order dl fuel s = .done o ∨ runTimeout I V p ix order dl fuel s = .timedOut o) :
    WFXLat p o.st ∧ DBLe I L p (stDBX p s) (factsOf o.st) ∧
    (MonotoneProg I L p → ∀ M : DB, KeyUnique p M → LClosed I L p (stDBX p s) M → DBLe I L p (factsOf o.st) M) := by
  have := physLat_outcome L c hs dl fuel
  rcases hrun with hrun | hrun
  · rw [hrun] at this
    exact ⟨this.1, this.2.1.1, this.2.2⟩
  · rw [hrun] at this
    exact this

/-- **C14: resumption completes**: an interrupted call followed by a completing `run()` ends closed over the ORIGINAL value's facts and
below every closed key-unique database (the least fixed point of the original value), for monotone programs -/
theorem resume_complete_physLat (I : Interp E B G P A) (L : LatOrder I) (V : Hir.VarsOf E B) (p : Program E B G P A) (ix : IxSets)
    (order : SccOrder) (c : CtxL I V p ix order) (dl : Deadline) (s : XSt) (fuel₁ fuel₂ : Nat) (mid : ProgStT) (o : ProgSt)
    (hs : WFXLat p s) (hm : MonotoneProg I L p)
    (h₁ : runTimeout I V p ix order dl fuel₁ s = .timedOut mid)
    (h₂ : run I V p ix order fuel₂ mid.st = some o) :
    LClosed I L p (stDBX p s) (factsOf o.st) ∧
    (∀ M : DB, KeyUnique p M → LClosed I L p (stDBX p s) M → DBLe I L p (factsOf o.st) M) := by
  obtain ⟨hw, hle, hbelow⟩ := timeout_sound_physLat I L V p ix order c dl s fuel₁ mid hs (Or.inr h₁)
  obtain ⟨_, hcl, hleast⟩ := runPhysLat_from I L V p ix order c mid.st fuel₂ o hw h₂
  have hmid : DBLe I L p (factsOf mid.st) (stDBX p mid.st) := by
    intro f hf
    apply Dominated.of_mem
    have hlt : f.rel < mid.st.length := by
      rcases Nat.lt_or_ge f.rel mid.st.length with h | h
      · exact h
      · have hf' : f.args ∈ (xrel mid.st f.rel).rows := hf
        rw [xrel_of_ge _ _ h] at hf'
        cases hf'
    rw [hw.len] at hlt
    exact ⟨hlt, hf⟩
  refine ⟨⟨DBLe.trans hle (DBLe.trans hmid hcl.1), hcl.2⟩, ?_⟩
  intro M hMk hM
  refine hleast hm M hMk ⟨?_, hM.2⟩
  intro f hf
  exact hbelow hm M hMk hM f hf.2

#print axioms runPhysLat_from
#print axioms rerun_idempotent_physLat
#print axioms timeout_sound_physLat
#print axioms resume_complete_physLat

end AscentVerif.PhysLat
