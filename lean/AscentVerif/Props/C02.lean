import AscentVerif.Proofs.NDEngine
/-!
# C02 — parallel evaluation equals serial evaluation under every schedule

For every aggregation-free relational program, every interpretation, every input, every valid SCC
order and EVERY schedule (any permutation of the iteration's tasks, with or without inter-rule
parallelism; a task is an environment of a rule variant, with the head updates of its rule in order):
if the parallel engine returns, the relations are exactly the least model — hence exactly what the
serial engine computes — no tuple is lost, none is inserted twice.  Interleavings that also separate the
head updates of one task (rules with several heads) are executions of the nondeterministic engine,
`Props/C02ND.lean`, with the same conclusion.
-/
namespace AscentVerif.Engine
open AscentVerif

variable {E B G P A : Type}

/-- **every schedule computes the least model** (from any well-formed start value) -/
theorem runPar_eq_leastModel (I : Interp E B G P A) (cfg : Config) (p : Program E B G P A) (order : SccOrder)
    (σ : Sched E B G P A) (s : St) (fuel : Nat) (ps : ParProgSt)
    (hp : Relational p) (ho : validOrder p order = true) (hs : WFSt p s)
    (hrun : runPar I cfg p order σ fuel s = some ps) :
    WFSt p ps.st ∧
    (∀ f, factsOf ps.st f ↔ Derivable I p.rules noAgg (fun g => g.rel < p.rels.length ∧ factsOf s g) f) ∧
    (∀ r, r < p.rels.length → ∃ derived, (relSt ps.st r).rows = (relSt s r).rows ++ derived ∧
      derived.Nodup ∧ ∀ t ∈ derived, t ∉ (relSt s r).rows) :=
  runND_eq_leastModel I cfg p order s ps.st hp ho hs (runPar_is_ND I cfg p order σ s fuel ps hp hrun)

/-- **parallel = serial, for every schedule**: same relation contents as sets -/
theorem par_eq_serial (I : Interp E B G P A) (cfg cfg' : Config) (p : Program E B G P A) (order order' : SccOrder)
    (σ : Sched E B G P A) (s : St) (fuel fuel' : Nat) (pp : ParProgSt) (ps : ProgSt)
    (hp : Relational p) (ho : validOrder p order = true) (ho' : validOrder p order' = true) (hs : WFSt p s)
    (hpar : runPar I cfg p order σ fuel s = some pp)
    (hser : run I cfg' p order' fuel' s = .done ps) :
    ∀ f, factsOf pp.st f ↔ factsOf ps.st f := fun f =>
  ((runPar_eq_leastModel I cfg p order σ s fuel pp hp ho hs hpar).2.1 f).trans
    ((run_from_eq_leastModel I cfg' p order' s fuel' ps hp ho' hs hser).2.1 f).symm

/-- two schedules (e.g. two thread counts, two interleavings) agree -/
theorem par_schedule_independent (I : Interp E B G P A) (cfg : Config) (p : Program E B G P A) (order : SccOrder)
    (σ σ' : Sched E B G P A) (s : St) (fuel fuel' : Nat) (pp pp' : ParProgSt)
    (hp : Relational p) (ho : validOrder p order = true) (hs : WFSt p s)
    (h : runPar I cfg p order σ fuel s = some pp) (h' : runPar I cfg p order σ' fuel' s = some pp') :
    ∀ f, factsOf pp.st f ↔ factsOf pp'.st f := fun f =>
  ((runPar_eq_leastModel I cfg p order σ s fuel pp hp ho hs h).2.1 f).trans
    ((runPar_eq_leastModel I cfg p order σ' s fuel' pp' hp ho hs h').2.1 f).symm

/-- non-vacuity of `Sched`: the identity schedule -/
example : (Sched.id : Sched E B G P A).perm 0 [] = [] := rfl

#print axioms runPar_eq_leastModel
#print axioms par_eq_serial
#print axioms par_schedule_independent

end AscentVerif.Engine
