import AscentVerif.Model.Aggregators
/-!
# C17 — library aggregators compute their mathematical definition and are total

Theorems about `Model/Aggregators.lean` for **every** finite list of inputs (the order in
which a hash index hands the tuples to the aggregator is arbitrary, hence the permutation
theorems), every honest `size_hint`, and every rational `p ∈ [0, 100]`.
-/
namespace AscentVerif.Agg

/-! ## min / max: `Iterator::reduce` with a function that keeps one of its two arguments -/

private def reduceStep (f : Int → Int → Int) (acc : Option Int) (y : Int) : Option Int :=
  match acc with
  | none => some y
  | some x => some (f x y)

section reduce
variable {f : Int → Int → Int} {r : Int → Int → Prop}

private theorem foldl_reduceStep (hf : ∀ x y, (f x y = x ∨ f x y = y) ∧ r (f x y) x ∧ r (f x y) y)
    (rr : ∀ a, r a a) (rt : ∀ a b c, r a b → r b c → r a c) (l : List Int) (a : Int) :
    ∃ m, l.foldl (reduceStep f) (some a) = some m ∧ m ∈ a :: l ∧ ∀ x ∈ a :: l, r m x := by
  induction l generalizing a with
  | nil => exact ⟨a, rfl, List.mem_cons_self, fun x hx => List.mem_singleton.1 hx ▸ rr a⟩
  | cons y ys ih =>
    obtain ⟨m, hm, hmem, hall⟩ := ih (f a y)
    obtain ⟨hsel, hfa, hfy⟩ := hf a y
    have hmf : r m (f a y) := hall _ List.mem_cons_self
    refine ⟨m, hm, ?_, ?_⟩
    · rcases List.mem_cons.1 hmem with e | h
      · rcases hsel with e2 | e2
        · rw [e, e2]; exact List.mem_cons_self
        · rw [e, e2]; exact List.mem_cons_of_mem _ List.mem_cons_self
      · exact List.mem_cons_of_mem _ (List.mem_cons_of_mem _ h)
    · intro x hx
      rcases List.mem_cons.1 hx with rfl | hx
      · exact rt _ _ _ hmf hfa
      rcases List.mem_cons.1 hx with rfl | hx
      · exact rt _ _ _ hmf hfy
      · exact hall x (List.mem_cons_of_mem _ hx)

private theorem reduce_eq_none_iff (hf : ∀ x y, (f x y = x ∨ f x y = y) ∧ r (f x y) x ∧ r (f x y) y)
    (rr : ∀ a, r a a) (rt : ∀ a b c, r a b → r b c → r a c) (l : List Int) :
    l.foldl (reduceStep f) none = none ↔ l = [] := by
  cases l with
  | nil => exact iff_of_true rfl rfl
  | cons a as =>
    obtain ⟨m, hm, -⟩ := foldl_reduceStep hf rr rt as a
    exact iff_of_false (fun h => Option.some_ne_none m (hm.symm.trans h)) (List.cons_ne_nil a as)

private theorem reduce_spec (hf : ∀ x y, (f x y = x ∨ f x y = y) ∧ r (f x y) x ∧ r (f x y) y)
    (rr : ∀ a, r a a) (rt : ∀ a b c, r a b → r b c → r a c) {l : List Int} {m : Int}
    (h : l.foldl (reduceStep f) none = some m) : m ∈ l ∧ ∀ x ∈ l, r m x := by
  cases l with
  | nil => cases h
  | cons a as =>
    obtain ⟨m', hm, hmem, hall⟩ := foldl_reduceStep hf rr rt as a
    cases hm.symm.trans h
    exact ⟨hmem, hall⟩

/-- for an antisymmetric `r` the result is determined by the members: it does not depend on their order -/
private theorem reduce_perm (hf : ∀ x y, (f x y = x ∨ f x y = y) ∧ r (f x y) x ∧ r (f x y) y)
    (rr : ∀ a, r a a) (rt : ∀ a b c, r a b → r b c → r a c) (ra : ∀ a b, r a b → r b a → a = b)
    {l l' : List Int} (hp : l.Perm l') : l.foldl (reduceStep f) none = l'.foldl (reduceStep f) none := by
  cases h : l.foldl (reduceStep f) none with
  | none =>
    rw [(reduce_eq_none_iff hf rr rt l).1 h] at hp
    rw [← hp.nil_eq]; rfl
  | some m =>
    cases h' : l'.foldl (reduceStep f) none with
    | none =>
      rw [(reduce_eq_none_iff hf rr rt l').1 h'] at hp
      rw [hp.eq_nil] at h; cases h
    | some m' =>
      obtain ⟨hm, hall⟩ := reduce_spec hf rr rt h
      obtain ⟨hm', hall'⟩ := reduce_spec hf rr rt h'
      rw [ra m m' (hall m' (hp.symm.subset hm')) (hall' m (hp.subset hm))]

end reduce

private theorem minSel (x y : Int) :
    ((if y < x then y else x) = x ∨ (if y < x then y else x) = y) ∧
      (if y < x then y else x) ≤ x ∧ (if y < x then y else x) ≤ y := by
  split <;> omega

private theorem maxSel (x y : Int) :
    ((if y < x then x else y) = x ∨ (if y < x then x else y) = y) ∧
      x ≤ (if y < x then x else y) ∧ y ≤ (if y < x then x else y) := by
  split <;> omega

theorem aggMin_nil : aggMin [] = none := rfl

theorem aggMin_eq_none_iff (l : List Int) : aggMin l = none ↔ l = [] :=
  reduce_eq_none_iff minSel Int.le_refl (fun _ _ _ => Int.le_trans) l

/-- `min` returns a member of the input that is a lower bound of the input -/
theorem aggMin_spec {l : List Int} {m : Int} (h : aggMin l = some m) : m ∈ l ∧ ∀ x ∈ l, m ≤ x :=
  reduce_spec minSel Int.le_refl (fun _ _ _ => Int.le_trans) h

theorem aggMin_perm {l l' : List Int} (hp : l.Perm l') : aggMin l = aggMin l' :=
  reduce_perm minSel Int.le_refl (fun _ _ _ => Int.le_trans) (fun _ _ => Int.le_antisymm) hp

theorem aggMax_eq_none_iff (l : List Int) : aggMax l = none ↔ l = [] :=
  reduce_eq_none_iff (r := fun m x => x ≤ m) maxSel Int.le_refl (fun _ _ _ h1 h2 => Int.le_trans h2 h1) l

/-- `max` returns a member of the input that is an upper bound of the input -/
theorem aggMax_spec {l : List Int} {m : Int} (h : aggMax l = some m) : m ∈ l ∧ ∀ x ∈ l, x ≤ m :=
  reduce_spec (r := fun m x => x ≤ m) maxSel Int.le_refl (fun _ _ _ h1 h2 => Int.le_trans h2 h1) h

theorem aggMax_perm {l l' : List Int} (hp : l.Perm l') : aggMax l = aggMax l' :=
  reduce_perm (r := fun m x => x ≤ m) maxSel Int.le_refl (fun _ _ _ h1 h2 => Int.le_trans h2 h1)
    (fun _ _ h1 h2 => Int.le_antisymm h2 h1) hp

private theorem foldl_add (l : List Int) (a : Int) : l.foldl (· + ·) a = a + l.sum := by
  induction l generalizing a with
  | nil => simp
  | cons x xs ih => simp [List.foldl_cons, ih]; omega

theorem aggSum_eq_sum (l : List Int) : aggSum l = l.sum := by
  simp [aggSum, foldl_add]

theorem aggSum_nil : aggSum [] = 0 := rfl

theorem aggSum_perm {l l' : List Int} (hp : l.Perm l') : aggSum l = aggSum l' := by
  rw [aggSum_eq_sum, aggSum_eq_sum]
  induction hp with
  | nil => rfl
  | cons x _ ih => simp [ih]
  | swap x y l => simp; omega
  | trans _ _ ih1 ih2 => exact ih1.trans ih2

/-- `count` returns the number of inputs for **every** honest `size_hint`, in particular
when it takes the `floor == ceiling` shortcut without consuming the iterator -/
theorem aggCount_eq_len (it : UnitIter) (h : it.Honest) : aggCount it = it.len := by
  obtain ⟨hlo, hhi⟩ := h
  unfold aggCount
  cases hh : it.hi with
  | none => rfl
  | some hv =>
    have := hhi hv hh
    by_cases he : it.lo = hv
    · simp [he]; omega
    · simp [he]

/-- `mean`: nothing on empty input, otherwise the exact fraction sum / cardinality -/
theorem aggMean_eq_none_iff (l : List Int) : aggMean l = none ↔ l = [] := by
  unfold aggMean; cases l <;> simp

theorem aggMean_spec {l : List Int} {s : Int} {n : Nat} (h : aggMean l = some (s, n)) :
    s = l.sum ∧ n = l.length ∧ 0 < n := by
  unfold aggMean at h
  by_cases hl : l.length = 0
  · simp [hl] at h
  · simp [hl, aggSum_eq_sum] at h
    omega

theorem aggMean_perm {l l' : List Int} (hp : l.Perm l') : aggMean l = aggMean l' := by
  unfold aggMean; rw [aggSum_perm hp, hp.length_eq]

/-- `not()` yields one unit exactly when there is no input -/
theorem aggNot_spec (n : Nat) : aggNot n = (if n = 0 then [()] else []) := rfl
theorem aggNot_length (n : Nat) : (aggNot n).length = 1 ↔ n = 0 := by
  unfold aggNot; by_cases h : n = 0 <;> simp [h]

/-! percentile: `sortInts` is the sorted vector, `pIndex` the clamped rank `min (len * p / 100) (len - 1)` -/

theorem insertSorted_perm (x : Int) (l : List Int) : (insertSorted x l).Perm (x :: l) := by
  induction l with
  | nil => simp [insertSorted]
  | cons y ys ih =>
    simp only [insertSorted]
    by_cases h : x ≤ y
    · simp [h]
    · simp only [h, if_false]
      exact (List.Perm.cons y ih).trans (List.Perm.swap x y ys)

theorem sortInts_perm (l : List Int) : (sortInts l).Perm l := by
  induction l with
  | nil => simp [sortInts]
  | cons x xs ih =>
    show (insertSorted x (sortInts xs)).Perm (x :: xs)
    exact (insertSorted_perm x _).trans (List.Perm.cons x ih)

theorem sortInts_length (l : List Int) : (sortInts l).length = l.length :=
  (sortInts_perm l).length_eq

theorem insertSorted_sorted (x : Int) (l : List Int) (h : l.Pairwise (· ≤ ·)) :
    (insertSorted x l).Pairwise (· ≤ ·) := by
  induction l with
  | nil => simp [insertSorted]
  | cons y ys ih =>
    simp only [insertSorted]
    rw [List.pairwise_cons] at h
    by_cases hxy : x ≤ y
    · simp only [hxy, if_true]
      refine List.pairwise_cons.mpr ⟨?_, List.pairwise_cons.mpr h⟩
      intro z hz
      rcases List.mem_cons.mp hz with rfl | hz
      · exact hxy
      · exact Int.le_trans hxy (h.1 z hz)
    · simp only [hxy, if_false]
      refine List.pairwise_cons.mpr ⟨?_, ih h.2⟩
      intro z hz
      have := (insertSorted_perm x ys).subset hz
      rcases List.mem_cons.mp this with rfl | hz'
      · omega
      · exact h.1 z hz'

theorem sortInts_sorted (l : List Int) : (sortInts l).Pairwise (· ≤ ·) := by
  induction l with
  | nil => simp [sortInts]
  | cons x xs ih => exact insertSorted_sorted x _ ih

/-- the sorted vector, hence the percentile, is a function of the input *multiset* -/
theorem sortInts_congr {l l' : List Int} (hp : l.Perm l') : sortInts l = sortInts l' :=
  List.Perm.eq_of_pairwise (fun _ _ _ _ => Int.le_antisymm) (sortInts_sorted l) (sortInts_sorted l')
    (((sortInts_perm l).trans hp).trans (sortInts_perm l').symm)

/-- the clamped index is always in range on non-empty input — **no panic for any `p`** -/
theorem pIndex_lt (len pnum pden : Nat) (h : 0 < len) : pIndex len pnum pden < len :=
  Nat.lt_of_le_of_lt (Nat.min_le_right _ _) (Nat.sub_lt h Nat.one_pos)

/-- for `p < 100` the raw index `len * p / 100` is in range already … -/
theorem pIndexRaw_lt (len pnum pden : Nat) (hp : pnum < 100 * pden) (h : 0 < len) :
    pIndexRaw len pnum pden < len := by
  unfold pIndexRaw
  apply Nat.div_lt_of_lt_mul
  calc len * pnum < len * (100 * pden) := Nat.mul_lt_mul_of_pos_left hp h
    _ = 100 * pden * len := Nat.mul_comm _ _

theorem pIndexRaw_hundred (len pden : Nat) (hden : 0 < pden) : pIndexRaw len (100 * pden) pden = len := by
  unfold pIndexRaw
  rw [Nat.mul_comm len]; exact Nat.mul_div_cancel_left len (by omega)

/-- … so the clamp to `len - 1` (the fix for `p = 100`) is inactive -/
theorem pIndex_eq_raw_of_lt (len pnum pden : Nat) (hp : pnum < 100 * pden) (h : 0 < len) :
    pIndex len pnum pden = pIndexRaw len pnum pden :=
  Nat.min_eq_left (Nat.le_sub_one_of_lt (pIndexRaw_lt len pnum pden hp h))

theorem pIndex_mono (len pden : Nat) {p q : Nat} (h : p ≤ q) : pIndex len p pden ≤ pIndex len q pden := by
  have : pIndexRaw len p pden ≤ pIndexRaw len q pden :=
    Nat.div_le_div_right (Nat.mul_le_mul_left len h)
  exact Nat.le_min.2 ⟨Nat.le_trans (Nat.min_le_left _ _) this, Nat.min_le_right _ _⟩

/-- what `percentile` computes, for every input: the element of clamped rank `pIndex` of the sorted input
(on `[]` both sides are `none`) -/
theorem aggPercentile_eq (pnum pden : Nat) (l : List Int) :
    aggPercentile pnum pden l = (sortInts l)[pIndex l.length pnum pden]? := by
  unfold aggPercentile
  rw [sortInts_length]
  split
  · next h => exact (List.getElem?_eq_none (by rw [sortInts_length, h]; exact Nat.zero_le _)).symm
  · rfl

theorem aggPercentilePreFix_eq (pnum pden : Nat) (l : List Int) :
    aggPercentilePreFix pnum pden l =
      if l.length = 0 then .ok none
      else match (sortInts l)[pIndexRaw l.length pnum pden]? with
        | some x => .ok (some x)
        | none => .panic := by
  unfold aggPercentilePreFix
  rw [sortInts_length]
  rfl

theorem pIndex_zero (len pden : Nat) : pIndex len 0 pden = 0 := by
  unfold pIndex pIndexRaw
  rw [Nat.mul_zero, Nat.zero_div]
  exact Nat.zero_min _

theorem pIndex_hundred (len pden : Nat) (hden : 0 < pden) : pIndex len (100 * pden) pden = len - 1 := by
  unfold pIndex
  rw [pIndexRaw_hundred _ _ hden]
  exact Nat.min_eq_right (Nat.sub_le _ _)

theorem aggPercentile_eq_none_iff (pnum pden : Nat) (l : List Int) :
    aggPercentile pnum pden l = none ↔ l = [] := by
  rw [aggPercentile_eq, List.getElem?_eq_none_iff, sortInts_length]
  constructor
  · intro h
    refine List.eq_nil_of_length_eq_zero (Nat.eq_zero_of_not_pos fun hpos => ?_)
    exact Nat.lt_irrefl _ (Nat.lt_of_lt_of_le (pIndex_lt _ pnum pden hpos) h)
  · rintro rfl
    exact Nat.zero_le _

/-- **percentile, total and of the prescribed rank**: on non-empty input, for every `p`
(in particular `p = 100`), the result is the element of rank `pIndex` of the sorted input:
it is a member of the input, at least `idx + 1` inputs are `≤` it (those at sorted
positions `0..idx`) and all inputs at sorted positions `≥ idx` are `≥` it. -/
theorem aggPercentile_spec (pnum pden : Nat) (l : List Int) (hl : l ≠ []) :
    ∃ x, aggPercentile pnum pden l = some x ∧ x ∈ l ∧
      (sortInts l)[pIndex l.length pnum pden]? = some x ∧
      (∀ j y, j ≤ pIndex l.length pnum pden → (sortInts l)[j]? = some y → y ≤ x) ∧
      (∀ j y, pIndex l.length pnum pden ≤ j → (sortInts l)[j]? = some y → x ≤ y) := by
  have hidx : pIndex l.length pnum pden < (sortInts l).length := by
    rw [sortInts_length]
    exact pIndex_lt _ pnum pden (List.length_pos_iff.mpr hl)
  have hget := List.getElem?_eq_getElem hidx
  -- in a sorted list, positions in order hold values in order
  have hs : ∀ i j (hi : i < (sortInts l).length) (hj : j < (sortInts l).length), i ≤ j →
      (sortInts l)[i] ≤ (sortInts l)[j] := by
    intro i j hi hj hij
    rcases Nat.lt_or_eq_of_le hij with hlt | rfl
    · exact (List.pairwise_iff_getElem.mp (sortInts_sorted l)) i j hi hj hlt
    · exact Int.le_refl _
  refine ⟨(sortInts l)[pIndex l.length pnum pden], (aggPercentile_eq ..).trans hget,
    (sortInts_perm l).subset (List.getElem_mem _), hget, fun j y hj hy => ?_, fun j y hj hy => ?_⟩
  · obtain ⟨hjlt, rfl⟩ := List.getElem?_eq_some_iff.1 hy
    exact hs _ _ hjlt hidx hj
  · obtain ⟨hjlt, rfl⟩ := List.getElem?_eq_some_iff.1 hy
    exact hs _ _ hidx hjlt hj

theorem aggPercentile_perm (pnum pden : Nat) {l l' : List Int} (hp : l.Perm l') :
    aggPercentile pnum pden l = aggPercentile pnum pden l' := by
  rw [aggPercentile_eq, aggPercentile_eq, sortInts_congr hp, hp.length_eq]

/-- end points: `p = 0` is the minimum, `p = 100` the maximum -/
theorem aggPercentile_zero (pden : Nat) (l : List Int) : aggPercentile 0 pden l = (sortInts l)[0]? := by
  rw [aggPercentile_eq, pIndex_zero]

set_option linter.unusedVariables false in
theorem aggPercentile_hundred (pden : Nat) (hden : 0 < pden) (l : List Int) (hl : l ≠ []) :
    aggPercentile (100 * pden) pden l = (sortInts l)[l.length - 1]? := by
  rw [aggPercentile_eq, pIndex_hundred _ _ hden]

/-- Finding F1 (pre-fix code): with the un-clamped index `percentile(100.0)` panics on
**every** non-empty input. Kept as the regression statement for the `fix:` commit. -/
theorem prefix_percentile_hundred_panics (pden : Nat) (hden : 0 < pden) (l : List Int) (hl : l ≠ []) :
    aggPercentilePreFix (100 * pden) pden l = .panic := by
  rw [aggPercentilePreFix_eq, if_neg (fun h => hl (List.eq_nil_of_length_eq_zero h)), pIndexRaw_hundred _ _ hden,
    List.getElem?_eq_none (by rw [sortInts_length]; exact Nat.le_refl _)]

set_option linter.unusedVariables false in
/-- for `p < 100` the pre-fix and the fixed code agree -/
theorem prefix_agrees_below_hundred (pnum pden : Nat) (hden : 0 < pden) (hp : pnum < 100 * pden) (l : List Int) :
    aggPercentilePreFix pnum pden l = .ok (aggPercentile pnum pden l) := by
  rw [aggPercentilePreFix_eq, aggPercentile_eq]
  split
  · next h => rw [List.eq_nil_of_length_eq_zero h]; rfl
  · next h =>
    have hpos : 0 < l.length := Nat.pos_of_ne_zero h
    rw [pIndex_eq_raw_of_lt _ _ _ hp hpos,
      List.getElem?_eq_getElem (by rw [sortInts_length]; exact pIndexRaw_lt _ pnum pden hp hpos)]

/-! ## non-vacuity: concrete instances of every hypothesis used above -/
example : aggMin [3, 1, 2] = some 1 ∧ aggMax [3, 1, 2] = some 3 ∧ aggSum [3, 1, 2] = 6 := by decide
example : (⟨3, 3, some 3⟩ : UnitIter).Honest ∧ (⟨3, 1, some 7⟩ : UnitIter).Honest ∧ (⟨3, 0, none⟩ : UnitIter).Honest := by
  refine ⟨⟨by decide, ?_⟩, ⟨by decide, ?_⟩, ⟨by decide, ?_⟩⟩ <;> intro h hh <;> cases hh <;> decide
example : aggPercentile 100 1 [1, 2, 3] = some 3 ∧ aggPercentile 50 1 [1, 2, 3] = some 2
    ∧ aggPercentile 25 2 [5, 4, 3, 2, 1, 0, 7, 6] = some 1 := by decide
example : aggPercentilePreFix 100 1 [1, 2, 3] = .panic := by decide

end AscentVerif.Agg
