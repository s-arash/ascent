import AscentVerif.Model.EnginePhysPar
import AscentVerif.Props.C01PhysPlan
import AscentVerif.Proofs.PhysParRun
import AscentVerif.Proofs.PhysAggTimeout
/-!
# C02 / C20 at the level of the physical indices: the code generated by `ascent_par!`

`Model/EnginePhysPar.lean` models what `ascent_par!` generates for a program over plain relations:
concurrent hash indices with their frozen / unfrozen protocol (every read `unwrap_frozen()`s, every write
`unwrap_unfrozen()`s, and panics otherwise), the per-thread-sharded `CRelNoIndex` constructed in the pool current at that
moment, a parallel `update_indices`, rule bodies evaluated over the frozen `total` / `delta`, and the head updates of
all workers interleaved.  A `Sched` fixes everything the run time leaves open: the order in which rows are indexed, the
order of an iteration's head updates (a permutation of the rule instances: the head clauses of one instance are applied
together, one head update is one step), the worker performing each insert, which copy of a reorderable simple join runs.

`runPhysPar_eq_leastModel` (aggregation-free programs; with aggregation / negation: `Props/C02PhysAgg.lean`): for EVERY
schedule, every pool size and every fuel, from every program value whose stored indices are unfrozen (what `Default`,
`update_indices` and a completed `run()` leave): the run **never panics** (no index is read while unfrozen or written while
frozen — the protocol whose violation on a second `run()` was finding F4), and if it returns, the relations hold exactly the
least model, old rows are a prefix, every new tuple is appended once, and the value is again one `run()` may be called on (so
re-runs in other pools are covered).
-/
namespace AscentVerif.PhysPar
open AscentVerif AscentVerif.Engine AscentVerif.Index AscentVerif.Phys

variable {E B G P A : Type}

/-- every relation a rule body mentions is declared (an undeclared relation is a compile error: C15) -/
def bodyDeclared (p : Program E B G P A) : Bool :=
  p.rules.all fun r => r.bodyRels.all fun b => decide (b < p.rels.length)

theorem bodyDeclared_of_check {p : Program E B G P A} (hb : bodyDeclared p = true) : BodyDeclared p :=
  fun rule hrule r hr => of_decide_eq_true (List.all_eq_true.mp (List.all_eq_true.mp hb rule hrule) r hr)

/-- what an execution of the nondeterministic engine simulated by the parallel physical engine ends with: a value `run()` may
be called on, holding exactly the least model, old rows a prefix, every new tuple appended once -/
theorem leastModel_of_RunND (I : Interp E B G P A) (p : Program E B G P A) (ix : IxSets) (order : SccOrder) (N : Nat)
    (hp : Relational p) (ho : validOrder p order = true) {s o : PCSt} {st' : St}
    (hlen : s.length = p.rels.length) (hty : ∀ r, ∀ t ∈ (pcrel s r).rows, t.length = arityOf p r)
    (hnd : RunND I {} p order (absSt (s.map PCRel.erase)) st') (hs' : SimStPar p ix N st' o) :
    WFPCSt p o ∧
      (∀ f, factsOf o f ↔ Derivable I p.rules noAgg (fun g => g.rel < p.rels.length ∧ factsOf s g) f) ∧
      (∀ r, r < p.rels.length → ∃ derived, (pcrel o r).rows = (pcrel s r).rows ++ derived ∧
        derived.Nodup ∧ ∀ t ∈ derived, t ∉ (pcrel s r).rows) := by
  -- on the erased values, the least-model theorem of the serial engine's executions
  obtain ⟨hw, h1, h2⟩ := Exec.leastModel (ix := ix) ⟨st', hnd, hs'.sim⟩ hp ho (wfPSt_erase p hlen hty)
  simp only [factsOf_erase, erase_rows] at h1 h2
  exact ⟨hs'.wf (hs'.sim.len.trans hw.1), h1, h2⟩

/-- the hypotheses of the theorems below, as the simulation asks for them -/
theorem progOk_ixSetsOf {I : Interp E B G P A} {V : Hir.VarsOf E B} {p : Program E B G P A} (hp : Relational p)
    (ha : arityOk p = true) (hb : bodyDeclared p = true)
    (hd : ∀ r ∈ p.rules, Hir.Desugared V r = true ∧ Plan.WellScoped V r = true) (order : SccOrder) :
    ProgOk I V p (ixSetsOf V p) ∧ Stratified p order :=
  ProgOk.of_relational hp (bodyDeclared_of_check hb) (ruleFit_of_planOk V p _ hp (planOk_ixSetsOf V p ha) hd) order

/-- the theorem below for ANY state of the stored indices: the model's `update_indices` rebuilds every index from `Default`
in the current pool, so neither the frozen flags nor the shard counts of the stored indices matter to `run` -/
theorem runPhysPar_eq_leastModel' (I : Interp E B G P A) (hI : Plan.Ext I) (V : Hir.VarsOf E B) (hS : Plan.Supp I V)
    (p : Program E B G P A) (order : SccOrder) (σ : Sched E B G P A) (threads fuel : Nat) (s : PCSt)
    (hp : Relational p) (ho : validOrder p order = true) (ha : arityOk p = true) (hb : bodyDeclared p = true)
    (hd : ∀ r ∈ p.rules, Hir.Desugared V r = true ∧ Plan.WellScoped V r = true)
    (hlen : s.length = p.rels.length) (hty : ∀ r, ∀ t ∈ (pcrel s r).rows, t.length = arityOf p r) :
    ∃ res, run I V p (ixSetsOf V p) order σ threads fuel s = .ok res ∧
      ∀ out, res = some out →
        WFPCSt p out.st ∧
        (∀ f, factsOf out.st f ↔ Derivable I p.rules noAgg (fun g => g.rel < p.rels.length ∧ factsOf s g) f) ∧
        (∀ r, r < p.rels.length → ∃ derived, (pcrel out.st r).rows = (pcrel s r).rows ++ derived ∧
          derived.Nodup ∧ ∀ t ∈ derived, t ∉ (pcrel s r).rows) := by
  obtain ⟨hok, hst⟩ := progOk_ixSetsOf (I := I) hp ha hb hd order
  obtain ⟨res, hres, hspec⟩ := run_simPar I hI {} V hS p (ixSetsOf V p) hok σ threads order hst fuel s hlen hty
  refine ⟨res, hres, fun out hout => ?_⟩
  obtain ⟨st', hnd, hs'⟩ := hspec out hout
  exact leastModel_of_RunND I p _ order _ hp ho hlen hty hnd hs'

/-- **every schedule, every pool: no panic, and exactly the least model** -/
theorem runPhysPar_eq_leastModel (I : Interp E B G P A) (hI : Plan.Ext I) (V : Hir.VarsOf E B) (hS : Plan.Supp I V)
    (p : Program E B G P A) (order : SccOrder) (σ : Sched E B G P A) (threads fuel : Nat) (s : PCSt)
    (hp : Relational p) (ho : validOrder p order = true) (ha : arityOk p = true) (hb : bodyDeclared p = true)
    (hd : ∀ r ∈ p.rules, Hir.Desugared V r = true ∧ Plan.WellScoped V r = true)
    (hs : WFPCSt p s) :
    ∃ res, run I V p (ixSetsOf V p) order σ threads fuel s = .ok res ∧
      ∀ out, res = some out →
        WFPCSt p out.st ∧
        (∀ f, factsOf out.st f ↔ Derivable I p.rules noAgg (fun g => g.rel < p.rels.length ∧ factsOf s g) f) ∧
        (∀ r, r < p.rels.length → ∃ derived, (pcrel out.st r).rows = (pcrel s r).rows ++ derived ∧
          derived.Nodup ∧ ∀ t ∈ derived, t ∉ (pcrel s r).rows) :=
  runPhysPar_eq_leastModel' I hI V hS p order σ threads fuel s hp ho ha hb hd hs.1 hs.2.1

/-- two runs of the same value under different schedules and pool sizes agree (schedule and pool independence) -/
theorem runPhysPar_schedule_pool_independent (I : Interp E B G P A) (hI : Plan.Ext I) (V : Hir.VarsOf E B) (hS : Plan.Supp I V)
    (p : Program E B G P A) (order order' : SccOrder) (σ σ' : Sched E B G P A) (threads threads' fuel fuel' : Nat) (s : PCSt)
    (out out' : ProgSt)
    (hp : Relational p) (ho : validOrder p order = true) (ho' : validOrder p order' = true) (ha : arityOk p = true)
    (hb : bodyDeclared p = true) (hd : ∀ r ∈ p.rules, Hir.Desugared V r = true ∧ Plan.WellScoped V r = true)
    (hs : WFPCSt p s)
    (h : run I V p (ixSetsOf V p) order σ threads fuel s = .ok (some out))
    (h' : run I V p (ixSetsOf V p) order' σ' threads' fuel' s = .ok (some out')) :
    ∀ f, factsOf out.st f ↔ factsOf out'.st f := by
  intro f
  rw [(spec_of_ok (runPhysPar_eq_leastModel I hI V hS p order σ threads fuel s hp ho ha hb hd hs) h out rfl).2.1 f,
    (spec_of_ok (runPhysPar_eq_leastModel I hI V hS p order' σ' threads' fuel' s hp ho' ha hb hd hs) h' out' rfl).2.1 f]

/-! ## non-vacuity: transitive closure (`pTC` of `Props/C01Phys.lean`) in a pool of 3 workers

The schedule indexes the rows and applies the head updates in REVERSE order, sends the `n`-th insert to worker `n % 3`
and runs the swapped copy of the reorderable simple join on every even evaluation; the program value was constructed in
a pool of 2 workers. -/

def σTC : Sched Plan.Ex Plan.Bx Plan.Ex Unit Unit :=
  { permRows := fun _ l => l.reverse, permRows_perm := fun _ l => List.reverse_perm l
    permTasks := fun _ l => l.reverse, permTasks_perm := fun _ l => List.reverse_perm l
    tid := fun n => n % 3, swap := fun n => n % 2 == 0 }

def sTCpar : PCSt :=
  initSt 2 pTC (ixSetsOf Plan.exV pTC) fun r => if r = 0 then [[.int 1, .int 2], [.int 2, .int 3]] else []

/-- what is compared: the row vectors and `scc_iters` -/
def obs (r : Res (Option ProgSt)) : Res (Option (List (List Tuple) × List Nat)) :=
  r.map fun o => o.map fun ps => (ps.st.map (·.rows), ps.iters)

theorem pcrel_initSt_rows (threads0 : Nat) (p : Program E B G P A) (ix : IxSets) (inp : RelId → List Tuple) (r : RelId) :
    (pcrel (initSt threads0 p ix inp) r).rows = if r < p.rels.length then inp r else [] := by
  unfold initSt
  split
  · next hr => rw [pcrel_rangeMap _ _ _ hr]
  · next hr => rw [pcrel_of_ge _ _ (by rw [List.length_map, List.length_range]; exact Nat.le_of_not_lt hr)]

/-- the indices of a fresh value are unfrozen whatever the pool it was constructed in -/
theorem wfPCSt_initSt {threads0 : Nat} {p : Program E B G P A} {ix : IxSets} {inp : RelId → List Tuple}
    (h : ∀ r, r < p.rels.length → ∀ t ∈ inp r, t.length = arityOf p r) : WFPCSt p (initSt threads0 p ix inp) := by
  refine ⟨by rw [initSt, List.length_map, List.length_range], fun r t ht => ?_, fun pr hpr => ?_⟩
  · rw [pcrel_initSt_rows] at ht
    split at ht
    · next hr => exact h r hr t ht
    · cases ht
  · obtain ⟨r, _, rfl⟩ := List.mem_map.mp hpr
    refine ⟨rfl, fun ci hci => ?_⟩
    obtain ⟨c, _, rfl⟩ := List.mem_map.mp hci
    exact isFrozen_new threads0 c

theorem wf_sTCpar : WFPCSt pTC sTCpar :=
  wfPCSt_initSt (by decide)

/-- the computable hypotheses of `runPhysPar_eq_leastModel` hold for the example, and the run returns the transitive closure -/
theorem tcPar_hyps :
    arityOk pTC = true ∧ bodyDeclared pTC = true ∧
    obs (run Plan.exI Plan.exV pTC (ixSetsOf Plan.exV pTC) [[0], [1]] σTC 3 10 sTCpar) =
      .ok (some ([[[.int 1, .int 2], [.int 2, .int 3]], [[.int 1, .int 2], [.int 2, .int 3], [.int 1, .int 3]]], [1, 2])) := by
  decide_conj

/-- the theorem applies to the example -/
example : ∃ res, run Plan.exI Plan.exV pTC (ixSetsOf Plan.exV pTC) [[0], [1]] σTC 3 10 sTCpar = .ok res ∧
    ∀ out, res = some out → ∀ f, factsOf out.st f ↔
      Derivable Plan.exI pTC.rules noAgg (fun g => g.rel < pTC.rels.length ∧ factsOf sTCpar g) f := by
  obtain ⟨res, h1, h2⟩ := runPhysPar_eq_leastModel Plan.exI Plan.exI_ext Plan.exV Plan.exI_supp pTC [[0], [1]] σTC 3 10
    sTCpar tc_hyps.1 tc_hyps.2.1 tcPar_hyps.1 tcPar_hyps.2.1 tc_hyps.2.2.2.1 wf_sTCpar
  exact ⟨res, h1, fun out ho => (h2 out ho).2.1⟩

/-! ## the unfreeze at SCC exit (fix 409a150), in this model

`leaveSccBad` puts the body-only indices back WITHOUT unfreezing them.  The value a run returns then holds frozen indices
(it is not `WFPCSt`) — but in THIS model a second `run()` on it does not panic, because the model's `update_indices`
(`updateRel`) rebuilds every index from `Default` (`PCFull.new`, `PCx.new threads`) instead of re-using the stored objects:
the third component of `WFPCSt` is not needed as a precondition (`runPhysPar_eq_leastModel'`). -/

def leaveSccBad (s : PCScc) : PCSt :=
  s.dyn.foldl (fun st d => setNth st d.rel { pcrel st d.rel with full := d.full.total, idxs := d.idxs.map fun ci => (ci.1, ci.2.total) }) s.rels

def runSccBad (I : Interp E B G P A) (V : Hir.VarsOf E B) (p : Program E B G P A) (σ : Sched E B G P A) (threads fuel : Nat)
    (scc : List Nat) (ps : ProgSt) : Res (Option ProgSt) := do
  let dyn := dynRels p scc
  let rules := sccRules p scc
  let s0 := enterScc threads p scc ps.st
  if isLooping p scc then
    let r ← sccLoop I V p σ dyn rules fuel { st := s0, clock := ps.clock, iters := 0 }
    pure (r.map fun rs => { st := leaveSccBad rs.st, clock := rs.clock, iters := ps.iters ++ [rs.iters] })
  else
    let s1 ← iteration I V p σ ps.clock dyn rules s0
    let s2 ← shiftPar s1
    let s3 ← shiftPar s2
    pure (some { st := leaveSccBad s3, clock := ps.clock + 1, iters := ps.iters ++ [1] })

def runSccsBad (I : Interp E B G P A) (V : Hir.VarsOf E B) (p : Program E B G P A) (σ : Sched E B G P A) (threads fuel : Nat) :
    SccOrder → ProgSt → Res (Option ProgSt)
  | [], ps => .ok (some ps)
  | scc :: rest, ps =>
    match runSccBad I V p σ threads fuel scc ps with
    | .ok (some ps') => runSccsBad I V p σ threads fuel rest ps'
    | other => other

def runBad (I : Interp E B G P A) (V : Hir.VarsOf E B) (p : Program E B G P A) (ix : IxSets) (order : SccOrder)
    (σ : Sched E B G P A) (threads fuel : Nat) (s : PCSt) : Res (Option ProgSt) := do
  let s0 ← updateIndices threads σ ix s
  runSccsBad I V p σ threads fuel order { st := s0, clock := 0, iters := [] }

/-- the program value the run without the unfreeze leaves -/
def afterBad : PCSt :=
  match runBad Plan.exI Plan.exV pTC (ixSetsOf Plan.exV pTC) [[0], [1]] σTC 3 10 sTCpar with
  | .ok (some ps) => ps.st
  | _ => []

/-- without the unfreeze the indices of `edge` (body-only in both SCCs) are stored back frozen; a second `run()` of the
MODEL nevertheless returns (its `update_indices` starts from fresh indices) -/
theorem leaveSccBad_witness :
    (afterBad.map fun pr => (pr.full.frozen, pr.idxs.map fun ci => ci.2.isFrozen)) =
      [(true, [true, true]), (false, [false])] ∧
    obs (run Plan.exI Plan.exV pTC (ixSetsOf Plan.exV pTC) [[0], [1]] σTC 3 10 afterBad) =
      .ok (some ([[[.int 1, .int 2], [.int 2, .int 3]], [[.int 1, .int 2], [.int 2, .int 3], [.int 1, .int 3]]], [1, 1])) := by
  decide_conj

/-- what does panic: any write to a frozen index, any read of an unfrozen one -/
example : (PCx.map true []).insert 0 [] [] = .panic ∧ (PCFull.mk true []).insertIfNotPresent [] = .panic ∧
    (PCFull.mk false []).containsKey [] = .panic ∧
    mergeFull ⟨⟨true, []⟩, ⟨false, []⟩, ⟨false, []⟩⟩ = .panic := ⟨rfl, rfl, rfl, rfl⟩

#print axioms runPhysPar_eq_leastModel'
#print axioms runPhysPar_eq_leastModel
#print axioms runPhysPar_schedule_pool_independent
#print axioms tcPar_hyps
#print axioms leaveSccBad_witness

end AscentVerif.PhysPar
