import AscentVerif.Spec.LatticeLaws
import AscentVerif.Proofs.LatticeBasic
/-!
# C16 (part 1): derived algebraic laws; linear orders; wrappers

`LawfulLat` (Spec/LatticeLaws) is the order-theoretic half of C16: `pcmp` is a partial order, `join`/`meet` are its least
upper / greatest lower bounds, and the in-place versions return that value with a truthful "changed" flag.  The algebraic
laws of the property statement follow from it once, for every type.  Then each shipped type is shown `LawfulLat` (`LawfulBLat`
where it has `top`/`bottom`), most by `lawful_transfer` to a type treated before; wrappers take the lawfulness of their argument,
so compositions of any depth are covered.  The structured types (`Product`, `Set`, `BoundedSet`) are in `C16Struct`.
-/
namespace AscentVerif.Lat

section
variable {α : Type} {WF : α → Prop}

theorem lawful_dual [Lat α] (h : LawfulLat α WF) : LawfulLat (Dual α) (fun d => WF d.val) := lawfulLat_dual h

end

section derived
variable {α : Type} [Lat α] {WF : α → Prop}

theorem join_comm (h : LawfulLat α WF) (a b : α) (ha : WF a) (hb : WF b) : join a b = join b a :=
  le_antisymm' h _ _ (h.join_wf a b ha hb) (h.join_wf b a hb ha)
    (h.join_le a b _ ha hb (h.join_wf b a hb ha) (h.le_join_right b a hb ha) (h.le_join_left b a hb ha))
    (h.join_le b a _ hb ha (h.join_wf a b ha hb) (h.le_join_right a b ha hb) (h.le_join_left a b ha hb))
theorem join_assoc (h : LawfulLat α WF) (a b c : α) (ha : WF a) (hb : WF b) (hc : WF c) :
    join (join a b) c = join a (join b c) := by
  have wab := h.join_wf a b ha hb
  have wbc := h.join_wf b c hb hc
  have wl := h.join_wf _ c wab hc
  have wr := h.join_wf a _ ha wbc
  apply le_antisymm' h _ _ wl wr
  · apply h.join_le _ _ _ wab hc wr
    · apply h.join_le _ _ _ ha hb wr
      · exact h.le_join_left a _ ha wbc
      · exact h.le_trans b (join b c) _ hb wbc wr (h.le_join_left b c hb hc) (h.le_join_right a _ ha wbc)
    · exact h.le_trans c (join b c) _ hc wbc wr (h.le_join_right b c hb hc) (h.le_join_right a _ ha wbc)
  · apply h.join_le _ _ _ ha wbc wl
    · exact h.le_trans a (join a b) _ ha wab wl (h.le_join_left a b ha hb) (h.le_join_left _ c wab hc)
    · apply h.join_le _ _ _ hb hc wl
      · exact h.le_trans b (join a b) _ hb wab wl (h.le_join_right a b ha hb) (h.le_join_left _ c wab hc)
      · exact h.le_join_right _ c wab hc
theorem meet_comm (h : LawfulLat α WF) (a b : α) (ha : WF a) (hb : WF b) : meet a b = meet b a :=
  congrArg Dual.val (join_comm (lawful_dual h) ⟨a⟩ ⟨b⟩ ha hb)
theorem meet_assoc (h : LawfulLat α WF) (a b c : α) (ha : WF a) (hb : WF b) (hc : WF c) :
    meet (meet a b) c = meet a (meet b c) :=
  congrArg Dual.val (join_assoc (lawful_dual h) ⟨a⟩ ⟨b⟩ ⟨c⟩ ha hb hc)
theorem join_idem (h : LawfulLat α WF) (a : α) (ha : WF a) : join a a = a :=
  join_eq_of_le h a a ha ha (le_refl' h a ha)
theorem meet_idem (h : LawfulLat α WF) (a : α) (ha : WF a) : meet a a = a :=
  meet_eq_of_le h a a ha ha (le_refl' h a ha)
theorem join_meet_absorb (h : LawfulLat α WF) (a b : α) (ha : WF a) (hb : WF b) : join a (meet a b) = a :=
  join_eq_of_ge h a _ ha (h.meet_wf a b ha hb) (h.meet_le_left a b ha hb)
theorem meet_join_absorb (h : LawfulLat α WF) (a b : α) (ha : WF a) (hb : WF b) : meet a (join a b) = a :=
  meet_eq_of_le h a _ ha (h.join_wf a b ha hb) (h.le_join_left a b ha hb)
/-- `a <= b  iff  join(a, b) = b  iff  meet(a, b) = a` -/
theorem le_iff_join_eq (h : LawfulLat α WF) (a b : α) (ha : WF a) (hb : WF b) : le a b = true ↔ join a b = b :=
  ⟨join_eq_of_le h a b ha hb, fun e => by have := h.le_join_left a b ha hb; rwa [e] at this⟩
theorem le_iff_meet_eq (h : LawfulLat α WF) (a b : α) (ha : WF a) (hb : WF b) : le a b = true ↔ meet a b = a :=
  ⟨meet_eq_of_le h a b ha hb, fun e => by have := h.meet_le_right a b ha hb; rwa [e] at this⟩
/-- `join_mut` leaves `join`'s value and returns `true` exactly when the receiver changed -/
theorem joinMut_truthful (h : LawfulLat α WF) (a b : α) (ha : WF a) (hb : WF b) :
    (joinMut a b).1 = join a b ∧ ((joinMut a b).2 = true ↔ (joinMut a b).1 ≠ a) := by
  refine ⟨h.joinMut_fst a b ha hb, ?_⟩
  rw [h.joinMut_fst a b ha hb]; exact h.joinMut_snd a b ha hb
theorem meetMut_truthful (h : LawfulLat α WF) (a b : α) (ha : WF a) (hb : WF b) :
    (meetMut a b).1 = meet a b ∧ ((meetMut a b).2 = true ↔ (meetMut a b).1 ≠ a) := by
  refine ⟨h.meetMut_fst a b ha hb, ?_⟩
  rw [h.meetMut_fst a b ha hb]; exact h.meetMut_snd a b ha hb
/-- a repeated `join_mut` with the same argument reports no change (what stops the engine's fixpoint loop) -/
theorem joinMut_idle (h : LawfulLat α WF) (a b : α) (ha : WF a) (hb : WF b) :
    (joinMut (joinMut a b).1 b).2 = false := by
  rw [h.joinMut_fst a b ha hb]
  have wab := h.join_wf a b ha hb
  have e : join (join a b) b = join a b :=
    join_eq_of_ge h _ b wab hb (h.le_join_right a b ha hb)
  have := h.joinMut_snd (join a b) b wab hb
  cases hx : (joinMut (join a b) b).2 with
  | false => rfl
  | true => exact absurd e (this.1 hx)
end derived

theorem lawfulLinOrd_int : LawfulLinOrd Int := lawfulLinOrd_of_ord fun _ _ => rfl
theorem lawfulLinOrd_nat : LawfulLinOrd Nat := lawfulLinOrd_of_ord fun _ _ => rfl
theorem lawfulLinOrd_bool : LawfulLinOrd Bool :=
  lawfulLinOrd_of_key lawfulLinOrd_nat Bool.toNat
    (fun a b e => by cases a <;> cases b <;> first | rfl | cases e) (fun _ _ => rfl)
theorem lawfulLinOrd_unit : LawfulLinOrd Unit :=
  ⟨fun _ => rfl, fun _ _ _ => rfl, fun _ _ => rfl, fun _ _ _ h _ => h⟩
theorem lawfulLinOrd_bint (lo hi : Int) : LawfulLinOrd (BInt lo hi) :=
  lawfulLinOrd_of_key lawfulLinOrd_int BInt.val (fun _ _ e => congrArg BInt.mk e) (fun _ _ => rfl)
/-- lexicographic order on tuples (right-nested pairs, any arity) -/
theorem lawfulLinOrd_prod {α β : Type} [LinOrd α] [LinOrd β] (ha : LawfulLinOrd α) (hb : LawfulLinOrd β) :
    LawfulLinOrd (α × β) := by
  have hc : ∀ a b : α × β, LinOrd.cmp a b = (LinOrd.cmp a.1 b.1).then (LinOrd.cmp a.2 b.2) := by
    intro a b; dsimp only [LinOrd.cmp]; cases LinOrd.cmp a.1 b.1 <;> rfl
  constructor
  · intro a; rw [hc, ha.cmp_refl, hb.cmp_refl]; rfl
  · intro a b e; rw [hc, Ordering.then_eq_eq] at e
    exact Prod.ext (ha.eq_of_cmp_eq _ _ e.1) (hb.eq_of_cmp_eq _ _ e.2)
  · intro a b; rw [hc, hc, ha.cmp_swap a.1 b.1, hb.cmp_swap a.2 b.2, Ordering.swap_then]
  · intro a b c; rw [hc, hc, hc]; simp only [Ordering.then_eq_lt]
    rintro (e1 | ⟨e1, h1⟩) (e2 | ⟨e2, h2⟩)
    · exact .inl (ha.lt_trans _ _ _ e1 e2)
    · rw [← ha.eq_of_cmp_eq _ _ e2]; exact .inl e1
    · rw [ha.eq_of_cmp_eq _ _ e1]; exact .inl e2
    · rw [ha.eq_of_cmp_eq _ _ e1]; exact .inr ⟨e2, hb.lt_trans _ _ _ h1 h2⟩

/-- `Dual<T: Ord>` as an `Ord` type: the reversed order is a linear order -/
theorem lawfulLinOrd_dualLin {α : Type} [LinOrd α] (h : LawfulLinOrd α) : LawfulLinOrd (DualLin α) where
  cmp_refl a := h.cmp_refl a.val
  eq_of_cmp_eq a b e := congrArg DualLin.mk (h.eq_of_cmp_eq b.val a.val e).symm
  cmp_swap a b := h.cmp_swap b.val a.val
  lt_trans a b c h1 h2 := h.lt_trans c.val b.val a.val h2 h1

/-! ## `OrdLattice<T: Ord>`: the lattice of a linear order -/
section ordLat
variable {α : Type} [LinOrd α]

theorem ordLat_le (a b : OrdLat α) : le a b = true ↔ LinOrd.cmp a.val b.val ≠ .gt :=
  le_of_pcmp_some rfl

/-- `Ord::max` keeps its first argument only when that is strictly greater -/
theorem ordLat_join_cases (a b : OrdLat α) :
    (LinOrd.cmp a.val b.val = .gt ∧ join a b = a) ∨ (LinOrd.cmp a.val b.val ≠ .gt ∧ join a b = b) := by
  dsimp only [join, ordMax]
  cases LinOrd.cmp a.val b.val
  · exact .inr ⟨nofun, rfl⟩
  · exact .inr ⟨nofun, rfl⟩
  · exact .inl ⟨rfl, rfl⟩

/-- `Ord::min` takes its second argument only when that is strictly smaller -/
theorem ordLat_meet_cases (a b : OrdLat α) :
    (LinOrd.cmp a.val b.val = .gt ∧ meet a b = b) ∨ (LinOrd.cmp a.val b.val ≠ .gt ∧ meet a b = a) := by
  dsimp only [meet, ordMin]
  cases LinOrd.cmp a.val b.val
  · exact .inr ⟨nofun, rfl⟩
  · exact .inr ⟨nofun, rfl⟩
  · exact .inl ⟨rfl, rfl⟩

end ordLat

theorem lawful_ordLat {α : Type} [LinOrd α] (h : LawfulLinOrd α) : LawfulLat (OrdLat α) AnyWF := by
  have hrefl : ∀ a : OrdLat α, le a a = true := fun a => (ordLat_le a a).2 (by rw [h.cmp_refl]; nofun)
  have hgt : ∀ a b : OrdLat α, LinOrd.cmp a.val b.val = .gt → le b a = true :=
    fun a b g => (ordLat_le b a).2 (by rw [(h.gt_iff _ _).1 g]; nofun)
  have heq : ∀ a b : OrdLat α, LinOrd.cmp a.val b.val = .eq → a = b :=
    fun a b e => congrArg OrdLat.mk (h.eq_of_cmp_eq a.val b.val e)
  have hne : ∀ a b : OrdLat α, LinOrd.cmp a.val b.val ≠ .eq → b ≠ a := by
    intro a b n e; subst e; exact n (h.cmp_refl _)
  exact
    { pcmp_refl := fun a _ => congrArg some (h.cmp_refl a.val)
      eq_of_pcmp_eq := fun a b _ _ e => heq a b (Option.some.inj e)
      pcmp_swap := fun a b _ _ => congrArg some (h.cmp_swap a.val b.val)
      le_trans := fun a b c _ _ _ h1 h2 => by
        rw [ordLat_le] at *; exact h.le_trans _ _ _ h1 h2
      join_wf := fun _ _ _ _ => trivial
      meet_wf := fun _ _ _ _ => trivial
      le_join_left := fun a b _ _ => by
        rcases ordLat_join_cases a b with ⟨_, e⟩ | ⟨n, e⟩ <;> rw [e]
        · exact hrefl a
        · exact (ordLat_le a b).2 n
      le_join_right := fun a b _ _ => by
        rcases ordLat_join_cases a b with ⟨g, e⟩ | ⟨_, e⟩ <;> rw [e]
        · exact hgt a b g
        · exact hrefl b
      join_le := fun a b c _ _ _ h1 h2 => by
        rcases ordLat_join_cases a b with ⟨_, e⟩ | ⟨_, e⟩ <;> rw [e] <;> assumption
      meet_le_left := fun a b _ _ => by
        rcases ordLat_meet_cases a b with ⟨g, e⟩ | ⟨_, e⟩ <;> rw [e]
        · exact hgt a b g
        · exact hrefl a
      meet_le_right := fun a b _ _ => by
        rcases ordLat_meet_cases a b with ⟨_, e⟩ | ⟨n, e⟩ <;> rw [e]
        · exact hrefl b
        · exact (ordLat_le a b).2 n
      le_meet := fun a b c _ _ _ h1 h2 => by
        rcases ordLat_meet_cases a b with ⟨_, e⟩ | ⟨_, e⟩ <;> rw [e] <;> assumption
      joinMut_fst := fun a b _ _ => by
        dsimp only [joinMut, join, ordMax]
        cases e : LinOrd.cmp a.val b.val
        · rfl
        · exact heq a b e
        · rfl
      joinMut_snd := fun a b _ _ => by
        dsimp only [joinMut, join, ordMax]
        cases e : LinOrd.cmp a.val b.val
        · exact iff_of_true rfl (hne a b (by rw [e]; nofun))
        · exact iff_of_false nofun (fun n => n (heq a b e).symm)
        · exact iff_of_false nofun (fun n => n rfl)
      meetMut_fst := fun a b _ _ => by
        dsimp only [meetMut, meet, ordMin]
        cases LinOrd.cmp a.val b.val <;> rfl
      meetMut_snd := fun a b _ _ => by
        dsimp only [meetMut, meet, ordMin]
        cases e : LinOrd.cmp a.val b.val
        · exact iff_of_false nofun (fun n => n rfl)
        · exact iff_of_false nofun (fun n => n rfl)
        · exact iff_of_true rfl (hne a b (by rw [e]; nofun)) }

/-- lexicographic tuple lattices `(T0, …, Tn)` -/
theorem lawful_lexTuple {β : Type} [LinOrd β] (h : LawfulLinOrd β) : LawfulLat (LexTuple β) AnyWF :=
  lawful_transfer (lawful_ordLat h) (fun a => ⟨a.val⟩)
    (fun _ _ e => congrArg (fun x : OrdLat β => LexTuple.mk x.val) e)
    (fun _ _ => rfl) (fun _ _ _ _ => rfl) (fun _ _ _ _ => rfl)
    (fun a b _ _ => by dsimp only [joinMut]; cases LinOrd.cmp a.val b.val <;> rfl)
    (fun a b _ _ => by dsimp only [meetMut]; cases LinOrd.cmp a.val b.val <;> rfl)

/-! ## primitive integers and `bool`: `ord_lattice_impl!` computes `OrdLattice` by comparisons -/
theorem lawful_prim {α : Type} [LinOrd α] (h : LawfulLinOrd α) : LawfulLat (Prim α) AnyWF :=
  lawful_transfer (lawful_ordLat h) (fun a => ⟨a.val⟩)
    (fun _ _ e => congrArg (fun x : OrdLat α => Prim.mk x.val) e)
    (fun _ _ => rfl)
    (fun a b _ _ => by
      dsimp only [join, ordMax]
      cases e : LinOrd.cmp a.val b.val
      · rfl
      · exact congrArg OrdLat.mk (h.eq_of_cmp_eq _ _ e)
      · rfl)
    (fun a b _ _ => by dsimp only [meet, ordMin]; cases LinOrd.cmp a.val b.val <;> rfl)
    (fun a b _ _ => by dsimp only [joinMut]; cases LinOrd.cmp a.val b.val <;> rfl)
    (fun a b _ _ => by dsimp only [meetMut]; cases LinOrd.cmp a.val b.val <;> rfl)

theorem prim_join_mem {α : Type} [LinOrd α] (a b : Prim α) : join a b = a ∨ join a b = b := by
  dsimp only [join]; split
  · exact .inr rfl
  · exact .inl rfl
theorem prim_meet_mem {α : Type} [LinOrd α] (a b : Prim α) : meet a b = a ∨ meet a b = b := by
  dsimp only [meet]; split
  · exact .inr rfl
  · exact .inl rfl

theorem lawfulB_prim_bint_needs_le :
    ¬ LawfulBLat (Prim (BInt 1 0)) (fun a => (1 : Int) ≤ a.val.val ∧ a.val.val ≤ 0) := by
  intro h
  have := h.top_wf
  exact absurd this.1 (by decide)

/-- a primitive integer type with `MIN ≤ MAX` (every Rust integer type). The hypothesis `lo ≤ hi` is needed:
without it `top`/`bottom` are not even values of the type (`lawfulB_prim_bint_needs_le`). -/
theorem lawfulB_prim_bint (lo hi : Int) (hlh : lo ≤ hi) :
    LawfulBLat (Prim (BInt lo hi)) (fun a => lo ≤ a.val.val ∧ a.val.val ≤ hi) := by
  have hl : LawfulLat (Prim (BInt lo hi)) (fun a => lo ≤ a.val.val ∧ a.val.val ≤ hi) := by
    apply lawful_restrict (lawful_prim (lawfulLinOrd_bint lo hi)) (fun _ _ => trivial)
    · intro a b ha hb; rcases prim_join_mem a b with e | e <;> rw [e] <;> assumption
    · intro a b ha hb; rcases prim_meet_mem a b with e | e <;> rw [e] <;> assumption
  have hle : ∀ a b : Prim (BInt lo hi), le a b = true ↔ a.val.val ≤ b.val.val := fun a b =>
    (le_of_pcmp_some (o := compare a.val.val b.val.val) rfl).trans
      ((not_congr Int.compare_eq_gt).trans Int.not_lt)
  exact
    { toLawfulLat := hl
      top_wf := ⟨hlh, Int.le_refl _⟩
      bottom_wf := ⟨Int.le_refl _, hlh⟩
      le_top := fun a ha => (hle a _).2 ha.2
      bottom_le := fun a ha => (hle _ a).2 ha.1 }

theorem lawfulB_prim_bool : LawfulBLat (Prim Bool) AnyWF :=
  { toLawfulLat := lawful_prim lawfulLinOrd_bool
    top_wf := trivial
    bottom_wf := trivial
    le_top := fun a _ => by rcases a with ⟨_ | _⟩ <;> rfl
    bottom_le := fun a _ => by rcases a with ⟨_ | _⟩ <;> rfl }

section wrappers
variable {α : Type} {WF : α → Prop}

section optionLemmas
variable [Lat α]
theorem opt_le_ss (x y : α) : le (some x) (some y) = le x y := rfl
theorem opt_le_n (b : Option α) : le none b = true := by cases b <;> rfl
theorem opt_le_sn (x : α) : le (some x) none = false := rfl
theorem opt_join_ss (x y : α) : join (some x) (some y) = some (joinMut x y).1 := rfl
theorem opt_join_ns (y : α) : join none (some y) = some y := rfl
theorem opt_join_n (a : Option α) : join a none = a := by cases a <;> rfl
theorem opt_meet_ss (x y : α) : meet (some x) (some y) = some (meetMut x y).1 := rfl
theorem opt_meet_sn (x : α) : meet (some x) none = none := rfl
theorem opt_meet_n (b : Option α) : meet none b = none := rfl
theorem opt_joinMut_ss (x y : α) : joinMut (some x) (some y) = (some (joinMut x y).1, (joinMut x y).2) := rfl
theorem opt_joinMut_ns (y : α) : joinMut none (some y) = (some y, true) := rfl
theorem opt_joinMut_n (a : Option α) : joinMut a none = (a, false) := by cases a <;> rfl
theorem opt_meetMut_ss (x y : α) : meetMut (some x) (some y) = (some (meetMut x y).1, (meetMut x y).2) := rfl
theorem opt_meetMut_sn (x : α) : meetMut (some x) none = (none, true) := rfl
theorem opt_meetMut_n (b : Option α) : meetMut none b = (none, false) := rfl

/-- on two `Some`s the by-value operations run the in-place ones of `T` -/
theorem opt_join_some (h : LawfulLat α WF) {x y : α} (hx : WF x) (hy : WF y) :
    join (some x) (some y) = some (join x y) := congrArg some (h.joinMut_fst x y hx hy)
theorem opt_meet_some (h : LawfulLat α WF) {x y : α} (hx : WF x) (hy : WF y) :
    meet (some x) (some y) = some (meet x y) := congrArg some (h.meetMut_fst x y hx hy)
end optionLemmas

/-- `None` is a new least element: the cases with a `None` compute, two `Some`s delegate to `T` -/
theorem lawful_option [Lat α] (h : LawfulLat α WF) : LawfulLat (Option α) (fun o => ∀ x, o = some x → WF x) where
  pcmp_refl a ha := by
    rcases a with _ | x
    · rfl
    · exact h.pcmp_refl x (ha x rfl)
  eq_of_pcmp_eq a b ha hb e := by
    rcases a with _ | x <;> rcases b with _ | y
    · rfl
    · cases e
    · cases e
    · exact congrArg some (h.eq_of_pcmp_eq x y (ha x rfl) (hb y rfl) e)
  pcmp_swap a b ha hb := by
    rcases a with _ | x <;> rcases b with _ | y
    · rfl
    · rfl
    · rfl
    · exact h.pcmp_swap x y (ha x rfl) (hb y rfl)
  le_trans a b c ha hb hc h1 h2 := by
    rcases a with _ | x
    · exact opt_le_n c
    rcases b with _ | y
    · cases h1
    rcases c with _ | z
    · cases h2
    · exact h.le_trans x y z (ha x rfl) (hb y rfl) (hc z rfl) h1 h2
  join_wf a b ha hb z hz := by
    rcases a with _ | x <;> rcases b with _ | y
    · cases hz
    · exact hb z hz
    · exact ha z hz
    · rw [opt_join_some h (ha x rfl) (hb y rfl)] at hz
      cases hz; exact h.join_wf x y (ha x rfl) (hb y rfl)
  meet_wf a b ha hb z hz := by
    rcases a with _ | x
    · cases hz
    rcases b with _ | y
    · cases hz
    · rw [opt_meet_some h (ha x rfl) (hb y rfl)] at hz
      cases hz; exact h.meet_wf x y (ha x rfl) (hb y rfl)
  le_join_left a b ha hb := by
    rcases a with _ | x
    · exact opt_le_n _
    rcases b with _ | y
    · exact le_refl' h x (ha x rfl)
    · rw [opt_join_some h (ha x rfl) (hb y rfl)]; exact h.le_join_left x y (ha x rfl) (hb y rfl)
  le_join_right a b ha hb := by
    rcases b with _ | y
    · exact opt_le_n _
    rcases a with _ | x
    · exact le_refl' h y (hb y rfl)
    · rw [opt_join_some h (ha x rfl) (hb y rfl)]; exact h.le_join_right x y (ha x rfl) (hb y rfl)
  join_le a b c ha hb hc h1 h2 := by
    rcases a with _ | x
    · rcases b with _ | y
      · exact opt_le_n c
      · exact h2
    rcases b with _ | y
    · exact h1
    rcases c with _ | z
    · cases h1
    · rw [opt_join_some h (ha x rfl) (hb y rfl)]
      exact h.join_le x y z (ha x rfl) (hb y rfl) (hc z rfl) h1 h2
  meet_le_left a b ha hb := by
    rcases a with _ | x
    · exact opt_le_n _
    rcases b with _ | y
    · exact opt_le_n _
    · rw [opt_meet_some h (ha x rfl) (hb y rfl)]; exact h.meet_le_left x y (ha x rfl) (hb y rfl)
  meet_le_right a b ha hb := by
    rcases a with _ | x
    · exact opt_le_n _
    rcases b with _ | y
    · exact opt_le_n _
    · rw [opt_meet_some h (ha x rfl) (hb y rfl)]; exact h.meet_le_right x y (ha x rfl) (hb y rfl)
  le_meet a b c ha hb hc h1 h2 := by
    rcases c with _ | z
    · exact opt_le_n _
    rcases a with _ | x
    · cases h1
    rcases b with _ | y
    · cases h2
    · rw [opt_meet_some h (ha x rfl) (hb y rfl)]
      exact h.le_meet x y z (ha x rfl) (hb y rfl) (hc z rfl) h1 h2
  joinMut_fst a b _ _ := by
    rcases a with _ | x <;> rcases b with _ | y <;> rfl
  joinMut_snd a b ha hb := by
    rcases b with _ | y
    · rw [opt_joinMut_n, opt_join_n]; exact iff_of_false nofun (fun n => n rfl)
    rcases a with _ | x
    · exact iff_of_true rfl nofun
    · rw [opt_join_some h (ha x rfl) (hb y rfl)]
      exact (h.joinMut_snd x y (ha x rfl) (hb y rfl)).trans (not_congr ⟨congrArg some, Option.some.inj⟩)
  meetMut_fst a b _ _ := by
    rcases a with _ | x <;> rcases b with _ | y <;> rfl
  meetMut_snd a b ha hb := by
    rcases a with _ | x
    · exact iff_of_false nofun (fun n => n rfl)
    rcases b with _ | y
    · exact iff_of_true rfl nofun
    · rw [opt_meet_some h (ha x rfl) (hb y rfl)]
      exact (h.meetMut_snd x y (ha x rfl) (hb y rfl)).trans (not_congr ⟨congrArg some, Option.some.inj⟩)

theorem lawfulB_option [BLat α] (h : LawfulBLat α WF) : LawfulBLat (Option α) (fun o => ∀ x, o = some x → WF x) :=
  { toLawfulLat := lawful_option h.toLawfulLat
    top_wf := fun _ hx => Option.some.inj hx ▸ h.top_wf
    bottom_wf := nofun
    le_top := fun
      | none, _ => rfl
      | some x, ha => h.le_top x (ha x rfl)
    bottom_le := fun a _ => opt_le_n a }

theorem lawful_boxed [Lat α] (h : LawfulLat α WF) : LawfulLat (Boxed α) (fun b => WF b.val) :=
  lawful_transfer h Boxed.val (fun _ _ e => congrArg Boxed.mk e) (fun _ _ => rfl)
    (fun _ _ ha hb => h.joinMut_fst _ _ ha hb) (fun _ _ ha hb => h.meetMut_fst _ _ ha hb)
    (fun _ _ _ _ => rfl) (fun _ _ _ _ => rfl)

section sharedLemmas
variable [Lat α]

/-- the compare-first `join_mut` of `Rc`/`Arc` returns what `T`'s own `join_mut` returns -/
theorem shared_joinMut (h : LawfulLat α WF) (a b : Shared α) (ha : WF a.val) (hb : WF b.val) :
    joinMut a b = (⟨(joinMut a.val b.val).1⟩, (joinMut a.val b.val).2) := by
  dsimp only [joinMut]
  split
  · next e => rw [joinMut_of_join_eq h ha hb (join_eq_of_ge h _ _ ha hb (le_of_pcmp_gt h ha hb e))]
  · next e =>
    have eab : b.val = a.val := (h.eq_of_pcmp_eq _ _ ha hb e).symm
    rw [joinMut_of_join_eq h ha hb (join_eq_of_ge h _ _ ha hb (le_of_eq' h _ _ hb eab))]
  · next e =>
    have ej : join a.val b.val = b.val := join_eq_of_le h _ _ ha hb (le_of_pcmp_lt e)
    rw [joinMut_of_join_ne h ha hb (by rw [ej]; exact ne_of_pcmp_lt h ha e), ej]
  · rfl

theorem shared_meetMut (h : LawfulLat α WF) (a b : Shared α) (ha : WF a.val) (hb : WF b.val) :
    meetMut a b = (⟨(meetMut a.val b.val).1⟩, (meetMut a.val b.val).2) := by
  dsimp only [meetMut]
  split
  · next e => rw [meetMut_of_meet_eq h ha hb (meet_eq_of_le h _ _ ha hb (le_of_pcmp_lt e))]
  · next e => rw [meetMut_of_meet_eq h ha hb (meet_eq_of_le h _ _ ha hb (le_of_pcmp_eq e))]
  · next e =>
    have em : meet a.val b.val = b.val := meet_eq_of_ge h _ _ ha hb (le_of_pcmp_gt h ha hb e)
    have hne : b.val ≠ a.val := fun e2 => by rw [e2, h.pcmp_refl _ ha] at e; cases e
    rw [meetMut_of_meet_ne h ha hb (by rw [em]; exact hne), em]
  · rfl

end sharedLemmas

/-- `Rc<T>` / `Arc<T>`: the compare-first code path computes the same lattice -/
theorem lawful_shared [Lat α] (h : LawfulLat α WF) : LawfulLat (Shared α) (fun b => WF b.val) :=
  lawful_transfer h Shared.val (fun _ _ e => congrArg Shared.mk e) (fun _ _ => rfl)
    (fun a b ha hb =>
      (congrArg (fun r : Shared α × Bool => r.1.val) (shared_joinMut h a b ha hb)).trans (h.joinMut_fst _ _ ha hb))
    (fun a b ha hb =>
      (congrArg (fun r : Shared α × Bool => r.1.val) (shared_meetMut h a b ha hb)).trans (h.meetMut_fst _ _ ha hb))
    (fun a b ha hb => by rw [shared_joinMut h a b ha hb])
    (fun a b ha hb => by rw [shared_meetMut h a b ha hb])

theorem lawfulB_dual [BLat α] (h : LawfulBLat α WF) : LawfulBLat (Dual α) (fun d => WF d.val) :=
  { toLawfulLat := lawful_dual h.toLawfulLat
    top_wf := h.bottom_wf
    bottom_wf := h.top_wf
    le_top := fun a ha => h.bottom_le a.val ha
    bottom_le := fun a ha => h.le_top a.val ha }

/-- `Reverse<T>` runs the same code as `Dual<T>` -/
theorem lawful_rev [Lat α] (h : LawfulLat α WF) : LawfulLat (Rev α) (fun d => WF d.val) :=
  lawful_transfer (lawful_dual h) (fun r : Rev α => ⟨r.val⟩) (fun _ _ e => congrArg (fun d : Dual α => Rev.mk d.val) e)
    (fun _ _ => rfl) (fun _ _ _ _ => rfl) (fun _ _ _ _ => rfl) (fun _ _ _ _ => rfl) (fun _ _ _ _ => rfl)

theorem lawfulB_rev [BLat α] (h : LawfulBLat α WF) : LawfulBLat (Rev α) (fun d => WF d.val) :=
  { toLawfulLat := lawful_rev h.toLawfulLat
    top_wf := h.bottom_wf
    bottom_wf := h.top_wf
    le_top := fun a ha => h.bottom_le a.val ha
    bottom_le := fun a ha => h.le_top a.val ha }

/-- `Dual` and `Reverse` swap the two operations and the order -/
theorem dual_swaps [Lat α] (a b : α) :
    join (⟨a⟩ : Dual α) ⟨b⟩ = ⟨meet a b⟩ ∧ meet (⟨a⟩ : Dual α) ⟨b⟩ = ⟨join a b⟩ ∧
    pcmp (⟨a⟩ : Dual α) ⟨b⟩ = pcmp b a ∧
    (joinMut (⟨a⟩ : Dual α) ⟨b⟩).2 = (meetMut a b).2 ∧ (meetMut (⟨a⟩ : Dual α) ⟨b⟩).2 = (joinMut a b).2 :=
  ⟨rfl, rfl, rfl, rfl, rfl⟩
theorem rev_swaps [Lat α] (a b : α) :
    join (⟨a⟩ : Rev α) ⟨b⟩ = ⟨meet a b⟩ ∧ meet (⟨a⟩ : Rev α) ⟨b⟩ = ⟨join a b⟩ ∧
    pcmp (⟨a⟩ : Rev α) ⟨b⟩ = pcmp b a :=
  ⟨rfl, rfl, rfl⟩
end wrappers

theorem lawfulB_unit : LawfulBLat Unit AnyWF :=
  { toLawfulLat := lawful_point () trivial (fun _ _ => rfl) rfl rfl rfl rfl rfl
    top_wf := trivial
    bottom_wf := trivial
    le_top := fun _ _ => rfl
    bottom_le := fun _ _ => rfl }

/-! ## `ConstPropagation<T>`: `Bottom ≤ Constant x ≤ Top`, constants pairwise incomparable -/
section constProp
variable {α : Type} [DecidableEq α]
open ConstProp

theorem cp_le_iff (a b : ConstProp α) : le a b = true ↔ a = .bottom ∨ b = .top ∨ a = b := by
  cases a <;> cases b <;> simp [le, pcmp]

theorem cp_le_refl (a : ConstProp α) : le a a = true := (cp_le_iff a a).2 (.inr (.inr rfl))
theorem cp_le_top (a : ConstProp α) : le a .top = true := (cp_le_iff a _).2 (.inr (.inl rfl))
theorem cp_bottom_le (a : ConstProp α) : le .bottom a = true := (cp_le_iff _ a).2 (.inl rfl)

theorem cp_pcmp_eq_iff (a b : ConstProp α) : pcmp a b = some .eq ↔ a = b := by
  cases a <;> cases b <;> simp [pcmp]

theorem cp_join_ub (a b : ConstProp α) : le a (join a b) = true ∧ le b (join a b) = true := by
  cases a with
  | bottom => exact ⟨cp_bottom_le _, cp_le_refl b⟩
  | top => exact ⟨cp_le_refl _, cp_le_top b⟩
  | const x =>
    cases b with
    | bottom => exact ⟨cp_le_refl _, cp_bottom_le _⟩
    | top => exact ⟨cp_le_top _, cp_le_refl _⟩
    | const y =>
      show le (const x) (if x = y then const x else top) = true ∧ le (const y) (if x = y then const x else top) = true
      split
      · next e => exact ⟨cp_le_refl _, e ▸ cp_le_refl _⟩
      · exact ⟨cp_le_top _, cp_le_top _⟩
theorem cp_meet_lb (a b : ConstProp α) : le (meet a b) a = true ∧ le (meet a b) b = true := by
  cases a with
  | bottom => exact ⟨cp_le_refl _, cp_bottom_le b⟩
  | top => exact ⟨cp_le_top b, cp_le_refl b⟩
  | const x =>
    cases b with
    | bottom => exact ⟨cp_bottom_le _, cp_le_refl _⟩
    | top => exact ⟨cp_le_refl _, cp_le_top _⟩
    | const y =>
      show le (if x = y then const x else bottom) (const x) = true ∧ le (if x = y then const x else bottom) (const y) = true
      split
      · next e => exact ⟨cp_le_refl _, e ▸ cp_le_refl _⟩
      · exact ⟨cp_bottom_le _, cp_bottom_le _⟩

theorem cp_join_bottom (a : ConstProp α) : join a .bottom = a := by cases a <;> rfl
theorem cp_meet_top (a : ConstProp α) : meet a .top = a := by cases a <;> rfl
theorem cp_join_self (a : ConstProp α) : join a a = a := by
  cases a
  · rfl
  · exact if_pos rfl
  · rfl
theorem cp_meet_self (a : ConstProp α) : meet a a = a := by
  cases a
  · rfl
  · exact if_pos rfl
  · rfl

theorem cp_joinMut (a b : ConstProp α) :
    (joinMut a b).1 = join a b ∧ ((joinMut a b).2 = true ↔ join a b ≠ a) := by
  cases a <;> cases b <;> simp [joinMut, join]
  next x y => by_cases e : x = y <;> simp [e]
theorem cp_meetMut (a b : ConstProp α) :
    (meetMut a b).1 = meet a b ∧ ((meetMut a b).2 = true ↔ meet a b ≠ a) := by
  cases a <;> cases b <;> simp [meetMut, meet]
  next x y => by_cases e : x = y <;> simp [e]

/-- `join` is least by what `le` means: if `c` bounds `a` and `b` then `c` is `Top`, or one of the two is
`Bottom`, or all three coincide; dually for `meet` -/
theorem lawful_constProp : LawfulLat (ConstProp α) AnyWF where
  pcmp_refl a _ := (cp_pcmp_eq_iff a a).2 rfl
  eq_of_pcmp_eq a b _ _ := (cp_pcmp_eq_iff a b).1
  pcmp_swap a b _ _ := by cases a <;> cases b <;> simp [pcmp, eq_comm]
  le_trans a b c _ _ _ h1 h2 := by
    rw [cp_le_iff] at *
    rcases h1 with rfl | rfl | rfl
    · exact .inl rfl
    · rcases h2 with h | rfl | rfl
      · cases h
      · exact .inr (.inl rfl)
      · exact .inr (.inl rfl)
    · exact h2
  join_wf _ _ _ _ := trivial
  meet_wf _ _ _ _ := trivial
  le_join_left a b _ _ := (cp_join_ub a b).1
  le_join_right a b _ _ := (cp_join_ub a b).2
  join_le a b c _ _ _ h1 h2 := by
    rw [cp_le_iff] at h1 h2
    rcases h1 with rfl | rfl | rfl
    · exact (cp_le_iff b c).2 h2
    · exact cp_le_top _
    · rcases h2 with rfl | rfl | rfl
      · rw [cp_join_bottom]; exact cp_le_refl a
      · exact cp_le_top _
      · rw [cp_join_self]; exact cp_le_refl b
  meet_le_left a b _ _ := (cp_meet_lb a b).1
  meet_le_right a b _ _ := (cp_meet_lb a b).2
  le_meet a b c _ _ _ h1 h2 := by
    rw [cp_le_iff] at h1 h2
    rcases h1 with rfl | rfl | rfl
    · exact cp_bottom_le _
    · rcases h2 with rfl | rfl | rfl
      · exact cp_bottom_le _
      · exact cp_le_top _
      · exact cp_le_refl c
    · rcases h2 with rfl | rfl | rfl
      · exact cp_bottom_le _
      · rw [cp_meet_top]; exact cp_le_refl c
      · rw [cp_meet_self]; exact cp_le_refl c
  joinMut_fst a b _ _ := (cp_joinMut a b).1
  joinMut_snd a b _ _ := (cp_joinMut a b).2
  meetMut_fst a b _ _ := (cp_meetMut a b).1
  meetMut_snd a b _ _ := (cp_meetMut a b).2
end constProp

theorem lawfulB_constProp {α : Type} [DecidableEq α] : LawfulBLat (ConstProp α) AnyWF :=
  { toLawfulLat := lawful_constProp
    top_wf := trivial
    bottom_wf := trivial
    le_top := fun a _ => cp_le_top a
    bottom_le := fun a _ => cp_bottom_le a }

/-! ## non-vacuity: a nested composition and concrete values -/
example : LawfulLat (Dual (Option (Shared (Prim Int)))) (fun d => ∀ x, d.val = some x → AnyWF x.val) :=
  lawful_dual (lawful_option (lawful_shared (lawful_prim lawfulLinOrd_int)))
example : join (some (⟨3⟩ : Prim Int)) none = some ⟨3⟩ ∧ (joinMut (none : Option (Prim Int)) (some ⟨3⟩)).2 = true := by decide
example : pcmp (ConstProp.const 1) (ConstProp.const 2) = none ∧ join (ConstProp.const 1) (ConstProp.const 2) = ConstProp.top := by decide

end AscentVerif.Lat

section audit
open AscentVerif.Lat
#print axioms join_comm
#print axioms meet_comm
#print axioms join_assoc
#print axioms meet_assoc
#print axioms join_idem
#print axioms meet_idem
#print axioms join_meet_absorb
#print axioms meet_join_absorb
#print axioms le_iff_join_eq
#print axioms le_iff_meet_eq
#print axioms joinMut_truthful
#print axioms meetMut_truthful
#print axioms joinMut_idle
#print axioms lawfulLinOrd_int
#print axioms lawfulLinOrd_nat
#print axioms lawfulLinOrd_bool
#print axioms lawfulLinOrd_unit
#print axioms lawfulLinOrd_bint
#print axioms lawfulLinOrd_prod
#print axioms lawful_prim
#print axioms lawfulB_prim_bint_needs_le
#print axioms lawfulB_prim_bint
#print axioms lawfulB_prim_bool
#print axioms lawful_option
#print axioms lawfulB_option
#print axioms lawful_boxed
#print axioms lawful_shared
#print axioms lawful_dual
#print axioms lawfulB_dual
#print axioms lawful_rev
#print axioms lawfulB_rev
#print axioms dual_swaps
#print axioms rev_swaps
#print axioms lawful_ordLat
#print axioms lawful_lexTuple
#print axioms lawfulB_unit
#print axioms lawfulB_constProp
end audit
